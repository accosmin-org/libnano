import NanoVerif.Proofs.Tuner
import NanoVerif.Proofs.TunerClosestTrial
import NanoVerif.Proofs.TunerReal
import NanoVerif.Proofs.TunerSurrogateStep
import NanoVerif.Proofs.TunerGenWalk
import Mathlib.Data.Int.Order.Basic
import Mathlib.Tactic.NormNum
/-!
  C13 — tuning evaluates grid points once and reports the true best trial: the property theorems.

  Models: `Model/Tuner.lean` (`tuner_t::optimize` of both tuners, `local_search`, `evaluate`) and `Model/Tune.lean`
  (`ml::tune`, `ml::result_t`). Quantifiers: every callback `c.f`, every finiteness predicate `c.fin`, every sort
  satisfying `SortSpec` (`std::sort`), every surrogate oracle `c.oracle` (also failing ones), every linear order of
  values, every number of grids and grid sizes, every `max_evals`, every amount of fuel; for `ml::tune` every model
  callback, every number of folds/trials and every order in which the pool runs the indices.
  The helper lemmas are in `Proofs/Tuner.lean`, `Proofs/TunerGrid.lean`, `Proofs/Tune.lean`, `Proofs/TunerSurrogate*.lean`,
  `Proofs/TunerSpace.lean`, `Proofs/TunerReal.lean`, `Proofs/TunerGen*.lean`.

  ## Coverage of the anchored code

  | code | status | Lean |
  |---|---|---|
  | tuner.cpp `tuner_t::optimize` | modelled | `Tuner.optimize`, `Tuner.tunerOptimize` (`run`, `step`, phase `coarse`) |
  | tuner.cpp `tuner_t::tuner_t` (domain of `tuner::max_evals`) | translated | `Gen/Consts.lean` |
  | tuner.cpp `tuner_t::all`, `clone`s of both tuners | outside | factory / clone semantics are C19 |
  | tuner/util.cpp `make_min_igrid` `make_max_igrid` `make_avg_igrid` | modelled | `minOf` `maxOf` `avgOf` |
  | tuner/util.cpp `map_to_grid` | modelled | `mapToGrid` |
  | tuner/util.cpp `local_search` | modelled | `localSearch` (`combos3`, `addScaled`, `inGrid`) |
  | tuner/util.cpp `evaluate` | modelled | `evaluate` (`std::sort` = any `SortSpec`) |
  | tuner/local.cpp `do_optimize` | modelled | `step` / `run`, `Kind.localSearch` |
  | tuner/surrogate.cpp `quadratic_surrogate_fit_t` ctor (feature map) | modelled | `quadTerms`, `pairIdx`, `quadLen` |
  | tuner/surrogate.cpp `quadratic_surrogate_fit_t::do_vgrad` (loss = mse, the only one the tuner uses) | modelled | `fitValue`, `fitGrad` |
  | tuner/surrogate.cpp `quadratic_surrogate_t` ctor | modelled | `quadSize?`, `quadDim` |
  | tuner/surrogate.cpp `quadratic_surrogate_t::do_vgrad` | modelled | `quadValue`, `quadGrad` (same order of operations) |
  | tuner/surrogate.cpp `surrogate_tuner_t::do_optimize` | modelled | `step` (`Kind.surrogate`) with `Cfg.oracle := surrogateCentre` (`fitData`, `toSurrogateVec`, `centreOf`) |
  | the two `solver->minimize` (L-BFGS) calls in it | oracle | `Tuner.Solver` (no contract; monitored at run time: a run reported converged ends at a point that meets the stopping criterion for the function AS DEFINED, a state reported valid is finite, fit / minimisation alternate) |
  | tuner/space.cpp `make_min` `make_max`, ctor | modelled | `minElem` `maxElem`, `Space.make?` |
  | tuner/space.cpp `to_surrogate` `from_surrogate` `closest_grid_point_from_surrogate` `closest_grid_value_from_surrogate` | modelled | `Space.toSurrogate` `Space.fromSurrogate` `Space.closestGridPoint` (`closestScan`) `Space.closestGridValue`; `std::log10` / `std::pow` = class `Log10` |
  | machine/tune.cpp `thread_callback` | modelled | `Tune.threadCallback` (`decode`, `closestTrial`, `Result.store`) |
  | machine/tune.cpp `tuner_callback` | modelled | `Tune.runBatch` (`Result.add`, then the tasks in ANY order) |
  | machine/tune.cpp splitter call / `pool_t::map` / `fit_params.log`, log files | oracle / outside | folds are C12's; "every index once" is C17's; logging is outside |
  | machine/result.cpp `result_t(spaces, folds)`, `add`, `store(trial, fold, …)`, `stats(trial, …)`, `extra(trial, fold)` | modelled | `Result.empty` `Result.add` `Result.store` `Result.get?` (`slot`); the 12 statistics of `store_stats` are an opaque payload (C20) |
  | machine/result.cpp `value`, `values`, `optimum_trial`, `closest_trial` | modelled | `Result.value`, `optimumTrial`, `closestTrial` (`argminScan`) |
  | machine/result.cpp `store(errors_losses, extra)`, `stats(value)`, `extra()`, `log_path`, `refit_log_path`, `make_random_path` | outside | refit bookkeeping and log paths: not used by `ml::tune`'s selection |
  | machine/params.h `params_t` | outside | a holder of tuner / solver / splitter / logger (clone semantics C19); `log` is logging |
  | core/combinatorial.h `combinatorial_iterator_t` | modelled for the counts `(3, …, 3)` the tuners use | `combos3`; other counts outside |
  | tuner/step.h `tuner_step_t`, `operator<` | modelled | `Step`, `SortSpec` (by value only), `step_order_strict_weak` |

  ## Translated fragments: regenerated from /repo on every check into `Gen/TunerSpace.lean` by
  tools/props/c13_translate.py; `Proofs/TunerGen.lean` proves the model text equal to the generated text (obligations `Tuner.model_…_is_generated`)

  | C++ | generated (`Gen.TunerSpace.`) | theorem (`Tuner.`) |
  |---|---|---|
  | space.h `enum class type` | `SpaceType` | (`SpaceKind.toGen`) |
  | space.cpp constructor: the four `critical`s in source order (`std::is_sorted`, `std::unique != end`, `*std::min_element` as parameters) | `ctorThrows` | `model_make_is_generated` |
  | space.cpp `to_surrogate` (range guard + `switch`) | `toSurrogate` | `model_toSurrogate_is_generated` |
  | space.cpp `from_surrogate` | `fromSurrogate` (`gclamp`) | `model_fromSurrogate_is_generated` |
  | space.cpp `closest_grid_point_from_surrogate` (initial values, loop body, returned variable) | `closestGridPointInit/Step`, `closestGridPoint` | `model_closestScan_is_generated`, `model_closestGridPoint_is_generated` |
  | space.cpp `closest_grid_value_from_surrogate` | `closestGridValue` | `model_closestGridValue_is_generated` |
  | util.cpp `make_min_igrid` / `make_max_igrid` / `make_avg_igrid` (fill value, `size - 1`, `size / 2`) | `minIgridCoord`, `maxIgridCoord`, `avgIgridCoord` | `model_minOf_is_generated`, `model_maxOf_is_generated`, `model_avgOf_is_generated` |
  | util.cpp `evaluate`: the equality test of the inner lambda, the condition of the `critical` (parsed); `find_if != end` / `remove_if + erase` / empty ⇒ `return false` / call back / `emplace_back` / `sort` / `return size != before` (recognised as whole statements in this order, else the translation is broken) | `evaluateSame`, `evaluateRejects`, `evaluateKnown`, `evaluateFresh` | `model_evaluate_is_generated` |
  | util.cpp `local_search`: trials per space, element-wise update, `continue` test | `trialsPerSpace`, `localSearchCoord`, `localSearchOutside` | `model_combos_is_generated`, `model_addScaled_is_generated`, `model_inGrid_is_generated` |
  | tuner.cpp `optimize`: `critical(spaces.empty(), …)`, then evaluate `avg_igrid` / coarse loop / `do_optimize` / `return steps` (order checked) | `optimizeRefuses` | `model_tunerOptimize_is_generated` |
  | tuner.cpp `optimize`: `for (radius = 2; !empty && size < max_evals / 2; radius *= 2)` | `coarseRadius0`, `coarseContinue`, `coarseNextRadius` | `model_optimize_is_generated`, `model_step_coarse_is_generated` |
  | local.cpp / surrogate.cpp `do_optimize`: loop condition, radius, centre argument | `localContinue`, `localRadius`, `surrogateContinue`, `surrogateRadius` | `model_step_main_is_generated`, `surrogate_header_is_local` |
  | surrogate.cpp fit ctor: `(p.cols() + 1) * (p.cols() + 2) / 2`, feature-map loop nest | `quadLen`, `featConst`, `featPairIdx`, `featTerm` | `model_quadLen_is_generated`, `model_featPairIdx_is_generated`, `model_quadTerms_is_generated` |
  | surrogate.cpp `quadratic_surrogate_t` ctor: dimension, asserts | `quadDim`, `QuadSizeOk` | `model_quadDim_is_generated`, `model_quadSize_is_generated` |
  | surrogate.cpp `quadratic_surrogate_t::do_vgrad`: both loop nests, `k` start values, per-pair updates | `gradK0`, `gradLin`, `gradPairIdx`, `gradTerm`, `valueInitIdx`, `valueK0`, `valueLin`, `valuePairIdx`, `valueTerm` | `model_gradPairIdx_is_generated`, `model_valuePairIdx_is_generated`, `model_quadGrad_is_generated`, `model_quadValue_is_generated` |
  | surrogate.cpp `do_vgrad`: the walk `m_model(k++)` itself, `k` threaded through the loops (value: both loops; gradient: the second-order nest) | `quadValueWalk`, `quadGradWalk2` | `walk_eq_zip`, `model_quadValue_is_generated_walk`, `model_quadGrad_is_generated_walk` (hypothesis: the walk stays inside the coefficient vector, `1 + n + #pairs ≤ m.size()`), `two_mul_pairIdx_length`, `model_quadValue_walk_of_assert`, `model_quadGrad_walk_of_assert` (hypothesis: the constructor's assert `m.size() = quadLen n`) |
  | machine/result.cpp `value(trial, …)`: accumulator, `sum_mean += stats.m_mean` over every fold, `/ static_cast<scalar_t>(folds())` | `trialValueInit`, `trialValueStep`, `trialValueFinish` | `model_trialValue_is_generated` |
  | machine/result.cpp `optimum_trial`, `closest_trial` (initial values, loop body, returned variable) | `optimumTrialInit/Step`, `optimumTrial`, `closestTrialInit/Step`, `closestTrial` | `model_optimumTrial_is_generated`, `model_closestTrial_is_generated` |
  | machine/tune.cpp `thread_callback`: `index % folds`, `index / folds`, `store(old_trials + trial, fold, …)`, `closest_trial(params, old_trials)`, `tpool.map(folds * new_trials, …)` | `tuneTrial`, `tuneFold`, `tuneStoreTrial`, `tuneStoreFold`, `tuneClosestMax`, `tuneTasks` | `model_threadCallback_is_generated`, `model_tune_counts_is_generated` |
  Hand-written only: `std::sort` inside `evaluate` (`SortSpec`), `map_to_grid`, `make_min` / `make_max` and the STL algorithms
  inside the constructor of `param_space_t` (`minElem`, `maxElem`, `isSortedL`, `hasAdjEq`), `fit_t::do_vgrad` (Eigen products + loss), `combinatorial_iterator_t`, the rest of machine/tune.cpp (`tuner_callback`, splitter, pool) and machine/result.cpp (`add`, `store`, `stats`, `values`: tensor bookkeeping).
-/

namespace NanoVerif.C13
open NanoVerif.Tuner

/-! ### the building blocks: `local_search`, `std::sort`, `evaluate` -/

/-- `local_search` only proposes points of the box -/
theorem localSearch_inGrid (mn mx src : IGrid) (r : Int) : ∀ g ∈ localSearch mn mx src r, inGrid mn mx g = true :=
  Tuner.localSearch_inGrid mn mx src r

/-- `local_search` proposes no point twice (radius ≠ 0; the tuners use 1, 2, 4, …) -/
theorem localSearch_nodup (mn mx src : IGrid) (r : Int) (hr : r ≠ 0) : (localSearch mn mx src r).Nodup :=
  Tuner.localSearch_nodup mn mx src r hr

/-- `local_search` proposes at most `3^d` points -/
theorem localSearch_length_le (mn mx src : IGrid) (r : Int) : (localSearch mn mx src r).length ≤ 3 ^ mn.length :=
  Tuner.localSearch_length_le mn mx src r

/-- the sort that is run in the driver is a sorted permutation -/
theorem mergeSort_sortSpec {α : Type} [LinearOrder α] : SortSpec (sortSteps : List (Step α) → List (Step α)) := by
  intro l
  refine ⟨List.mergeSort_perm l _, ?_⟩
  have h := List.pairwise_mergeSort (le := fun (a b : Step α) => !(decide (b.value < a.value)))
    (by
      intro a b c hab hbc
      simp only [Bool.not_eq_true', decide_eq_false_iff_not, not_lt] at *
      exact le_trans hab hbc)
    (by
      intro a b
      simp only [Bool.or_eq_true, Bool.not_eq_true', decide_eq_false_iff_not, not_lt]
      exact le_total _ _) l
  refine h.imp ?_
  intro a b hab
  simpa using hab

/-- so is the sort the driver uses to follow the implementation's order of equal values -/
theorem hintedSort_sortSpec {α : Type} [LinearOrder α] (hints : List (Nat × IGrid)) :
    SortSpec (hintedSort hints : List (Step α) → List (Step α)) := by
  intro l
  obtain ⟨hp, hs⟩ := mergeSort_sortSpec (α := α) l
  unfold hintedSort
  simp only
  split
  · rename_i g h rest hl hsort
    split
    · rename_i x hx
      split
      · exact ⟨hp, hs⟩
      · rename_i hne
        have hxh : x.value = h.value :=
          le_antisymm (not_lt.mp fun h1 => hne (Or.inr h1)) (not_lt.mp fun h1 => hne (Or.inl h1))
        refine ⟨(perm_cons_eraseP _ _ x hx).symm.trans hp,
          List.pairwise_cons.mpr ⟨fun y hy => ?_, hs.sublist List.eraseP_sublist⟩⟩
        -- `x` has the value of the head `h` of the sorted list, and nothing is below that
        have hy' : y ∈ h :: rest := hsort ▸ List.eraseP_sublist.subset hy
        rw [hsort] at hs
        rw [hxh]
        rcases List.mem_cons.mp hy' with rfl | hy''
        · exact lt_irrefl _
        · exact (List.pairwise_cons.mp hs).1 y hy''
    · exact ⟨hp, hs⟩
  · exact ⟨hp, hs⟩

/-- `evaluate` never makes a grid point appear twice among the steps (its proposals being duplicate-free) -/
theorem evaluate_nodup {α : Type} [LT α] (fin : α → Bool) (f : IGrid → α) (sortFn : List (Step α) → List (Step α))
    (hs : SortSpec sortFn) (igrids : List IGrid) (hig : igrids.Nodup) (steps : List (Step α))
    (hnd : (steps.map (·.igrid)).Nodup) (steps' : List (Step α)) (batch : List IGrid)
    (h : evaluate fin f sortFn igrids steps = .ok steps' batch) :
    (steps'.map (·.igrid)).Nodup ∧ (∀ g ∈ batch, g ∉ steps.map (·.igrid)) := by
  have hb := (evaluate_ok h).1
  exact ⟨(evaluate_ok_igrids hs h).nodup_iff.mpr (hb ▸ nodup_append_freshOf hnd hig),
    fun g hg => (mem_freshOf.mp (hb ▸ hg)).2⟩

/-- `evaluate` throws exactly when a not yet evaluated point gets a non-finite value -/
theorem nonfinite_rejected_evaluate {α : Type} (fin : α → Bool) (f : IGrid → α)
    (sortFn : List (Step α) → List (Step α)) (igrids : List IGrid) (steps : List (Step α)) :
    (∃ b, evaluate fin f sortFn igrids steps = .bad b) ↔
      ∃ g ∈ igrids, g ∉ steps.map (·.igrid) ∧ fin (f g) = false := by
  constructor
  · rintro ⟨b, hb⟩
    obtain ⟨rfl, g, hg, h⟩ := evaluate_bad hb
    exact ⟨g, (mem_freshOf.mp hg).1, (mem_freshOf.mp hg).2, h⟩
  · rintro ⟨g, h1, h2, hfin⟩
    have hg : g ∈ freshOf igrids steps := mem_freshOf.mpr ⟨h1, h2⟩
    refine ⟨freshOf igrids steps, ?_⟩
    exact (if_neg fun he => List.ne_nil_of_mem hg (List.isEmpty_iff.mp he)).trans
      (if_neg fun hall => Bool.false_ne_true (hfin ▸ List.all_eq_true.mp hall g hg))

/-! ### `tuner_t::optimize` (both tuners) -/

section optimize
variable {α : Type} [LinearOrder α] (c : Cfg α) (hs : SortSpec c.sortFn) (avg : IGrid)
  (havg : inGrid c.mn c.mx avg = true) (fuel : Nat)
include hs havg

/-- every returned step is a point of the grids -/
theorem steps_in_grid (steps : List (Step α)) (tr : List (List IGrid)) (h : optimize c avg fuel = .ok steps tr) :
    ∀ s ∈ steps, inGrid c.mn c.mx s.igrid = true :=
  ((optimize_good hs avg havg fuel).ok steps tr h).grid

/-- no grid point is returned (= was evaluated) twice -/
theorem steps_nodup (steps : List (Step α)) (tr : List (List IGrid)) (h : optimize c avg fuel = .ok steps tr) :
    (steps.map (·.igrid)).Nodup :=
  ((optimize_good hs avg havg fuel).ok steps tr h).nodup

/-- at most `max_evals + 3^d` evaluations -/
theorem steps_budget (steps : List (Step α)) (tr : List (List IGrid)) (h : optimize c avg fuel = .ok steps tr) :
    steps.length ≤ c.maxEvals + 3 ^ c.mn.length :=
  ((optimize_good hs avg havg fuel).ok steps tr h).budget

/-- every returned value is finite and is the value the callback returned for that grid point -/
theorem steps_true_values (steps : List (Step α)) (tr : List (List IGrid)) (h : optimize c avg fuel = .ok steps tr) :
    ∀ s ∈ steps, c.fin s.value = true ∧ s.value = c.f s.igrid :=
  ((optimize_good hs avg havg fuel).ok steps tr h).vals

/-- the returned steps are exactly the evaluations: their grid points are a permutation of everything the callback was
    handed -/
theorem steps_perm_trace (steps : List (Step α)) (tr : List (List IGrid)) (h : optimize c avg fuel = .ok steps tr) :
    (steps.map (·.igrid)).Perm tr.flatten :=
  ((optimize_good hs avg havg fuel).ok steps tr h).trace

/-- the returned steps are sorted by value, there is a first one, and it is the minimum over everything observed -/
theorem steps_sorted_first_min (steps : List (Step α)) (tr : List (List IGrid))
    (h : optimize c avg fuel = .ok steps tr) :
    steps.Pairwise (fun a b => a.value ≤ b.value) ∧
    ∃ first rest, steps = first :: rest ∧ first.value = c.f first.igrid ∧ first.igrid ∈ tr.flatten ∧
      ∀ g ∈ tr.flatten, first.value ≤ c.f g := by
  have hinv := (optimize_good hs avg havg fuel).ok steps tr h
  have hsorted : steps.Pairwise (fun a b => a.value ≤ b.value) := hinv.sorted.imp (fun h => not_lt.mp h)
  refine ⟨hsorted, ?_⟩
  cases steps with
  | nil =>
    -- the trace starts with the batch `[avg]`, so there is a step
    obtain ⟨suffix, rfl⟩ := optimize_first_batch avg fuel h
    exact absurd hinv.trace.length_eq (Nat.succ_ne_zero _).symm
  | cons first rest =>
    refine ⟨first, rest, rfl, (hinv.vals first List.mem_cons_self).2,
      hinv.trace.subset (List.mem_map_of_mem List.mem_cons_self), ?_⟩
    intro g hg
    have hg' : g ∈ (first :: rest).map (·.igrid) := hinv.trace.symm.subset hg
    obtain ⟨s, hsmem, rfl⟩ := List.mem_map.mp hg'
    rw [← (hinv.vals s hsmem).2]
    rcases List.mem_cons.mp hsmem with rfl | hs'
    · exact le_refl _
    · exact (List.pairwise_cons.mp hsorted).1 s hs'

/-- whatever the outcome (steps returned, non-finite value rejected, surrogate failure): the callback was only ever
    handed points of the grids … -/
theorem trace_in_grid : ∀ g ∈ (optimize c avg fuel).trace.flatten, inGrid c.mn c.mx g = true :=
  (optimize_good hs avg havg fuel).tinv.grid

/-- … never the same point twice … -/
theorem trace_nodup : (optimize c avg fuel).trace.flatten.Nodup :=
  (optimize_good hs avg havg fuel).tinv.nodup

/-- … and at most `max_evals + 3^d` points -/
theorem trace_budget : (optimize c avg fuel).trace.flatten.length ≤ c.maxEvals + 3 ^ c.mn.length :=
  (optimize_good hs avg havg fuel).tinv.budget

/-- non-finite values are rejected with an exception, and only they are: steps are returned only if every value the
    callback returned is finite, and the "invalid value" exception is raised only if one is not -/
theorem nonfinite_rejected :
    (∀ steps tr, optimize c avg fuel = .ok steps tr → ∀ g ∈ tr.flatten, c.fin (c.f g) = true) ∧
    (∀ tr, optimize c avg fuel = .bad tr → ∃ g ∈ tr.flatten, c.fin (c.f g) = false) := by
  refine ⟨?_, (optimize_good hs avg havg fuel).bad⟩
  intro steps tr h g hg
  have hinv := (optimize_good hs avg havg fuel).ok steps tr h
  have hg' : g ∈ steps.map (·.igrid) := hinv.trace.symm.subset hg
  obtain ⟨s, hsmem, rfl⟩ := List.mem_map.mp hg'
  have := hinv.vals s hsmem
  rw [← this.2]
  exact this.1

/-- the loops terminate: with fuel ≥ (number of grid points) + 2 the model never runs out of fuel -/
theorem optimize_terminates (hfuel : gridCard c.mn c.mx + 2 ≤ fuel) : optimize c avg fuel ≠ .fuel := by
  unfold optimize
  split
  · nofun
  · nofun
  · rename_i steps b hev
    obtain ⟨hinv, hgrow⟩ := inv_evaluate (tr := []) hs (inv_nil c) (proposal_single c avg havg)
      (first_within_budget c avg) hev
    refine run_fuel hs fuel ⟨steps, .coarse 2⟩ _ hinv (show (2 : Int) ≠ 0 by decide) ?_
    have h1 := inv_length_le_gridCard hinv
    rw [List.length_nil] at hgrow
    show gridCard c.mn c.mx - steps.length + 3 ≤ fuel
    omega

end optimize

/-- `tuner_t::optimize` on parameter spaces given by their lists of grid values (each with at least one value; the
    constructor of `param_space_t` insists on two): every returned step maps to hyper-parameter values that are values
    of the respective grids, and the run never ends for lack of fuel -/
theorem steps_params_on_grid {α β : Type} [LinearOrder α] (spaces : List (List β)) (hne : spaces ≠ [])
    (hsz : ∀ vals ∈ spaces, 1 ≤ vals.length) (kind : Kind) (maxEvals : Nat) (fin : α → Bool) (f : IGrid → α)
    (sortFn : List (Step α) → List (Step α)) (hs : SortSpec sortFn) (oracle : List (Step α) → Option IGrid) :
    tunerOptimize kind (spaces.map List.length) maxEvals fin f sortFn oracle ≠ .fuel ∧
    ∀ steps tr, tunerOptimize kind (spaces.map List.length) maxEvals fin f sortFn oracle = .ok steps tr →
      ∀ s ∈ steps, ∃ vs, mapToGrid spaces s.igrid = some vs ∧ List.Forall₂ (fun v vals => v ∈ vals) vs spaces := by
  have hsizes : ∀ n ∈ spaces.map List.length, 1 ≤ n := by
    intro n hn
    obtain ⟨vals, hv, rfl⟩ := List.mem_map.mp hn
    exact hsz vals hv
  have havg := avgOf_inGrid (spaces.map List.length) hsizes
  have hempty : (spaces.map List.length).isEmpty = false := by
    cases spaces with
    | nil => exact absurd rfl hne
    | cons _ _ => rfl
  unfold tunerOptimize
  simp only [hempty, Bool.false_eq_true, if_false]
  refine ⟨optimize_terminates ⟨kind, _, _, maxEvals, fin, f, sortFn, oracle⟩ hs _ havg _ (le_refl _), ?_⟩
  intro steps tr h s hsmem
  have hg := ((optimize_good (c := ⟨kind, _, _, maxEvals, fin, f, sortFn, oracle⟩) hs _ havg _).ok steps tr h).grid
    s hsmem
  exact mapToGrid_of_inGrid spaces s.igrid hg

/-! ### `ml::tune` / `ml::result_t` -/

open NanoVerif.Tune in
/-- indices `< trials * folds` ↔ pairs (trial, fold) -/
theorem decode_bijective (folds k : Nat) (hf : 0 < folds) :
    (∀ i, i < k * folds →
        (decode folds i).1 < k ∧ (decode folds i).2 < folds ∧ slot folds (decode folds i).1 (decode folds i).2 = i) ∧
    (∀ t f, t < k → f < folds → slot folds t f < k * folds ∧ decode folds (slot folds t f) = (t, f)) :=
  Tune.decode_bijective folds k hf

open NanoVerif.Tune in
/-- two different (trial, fold) never share a slot -/
theorem slots_disjoint (folds t f t' f' : Nat) (hf : f < folds) (hf' : f' < folds)
    (h : slot folds t f = slot folds t' f') : t = t' ∧ f = f' :=
  Tune.slots_disjoint folds t f t' f' hf hf' h

open NanoVerif.Tune in
/-- given that the pool runs every index exactly once (C17), in whatever order, the model callback is called exactly
    once per (trial, fold) of the batch and for nothing else -/
theorem tune_calls_once (folds k : Nat) (hf : 0 < folds) (order : List Nat)
    (hperm : order.Perm (List.range (k * folds))) :
    (∀ p ∈ callsOf folds order, p.1 < k ∧ p.2 < folds) ∧
    (∀ t f, t < k → f < folds → (callsOf folds order).count (t, f) = 1) :=
  Tune.tune_calls_once folds k hf order hperm

open NanoVerif.Tune in
/-- after a batch, slot (old + t, f) holds exactly what the model callback returned for (t, f), whatever the order -/
theorem batch_slots {σ : Type} (cb : Nat → Nat → Option σ → σ) (closest : Nat → Nat) (r0 : Result σ) (hwf : r0.wf)
    (k : Nat) (order : List Nat) (hperm : order.Perm (List.range (k * r0.folds))) :
    ∀ t f, t < k → f < r0.folds →
      (runBatch cb closest r0 k order).get? (r0.trials + t) f = some (cb t f ((r0.add k).get? (closest t) f)) :=
  Tune.batch_slots cb closest r0 hwf k order hperm

open NanoVerif.Tune in
/-- the statistics of the earlier trials are untouched by a batch -/
theorem batch_keeps_old {σ : Type} (cb : Nat → Nat → Option σ → σ) (closest : Nat → Nat) (r0 : Result σ) (hwf : r0.wf)
    (k : Nat) (order : List Nat) (hperm : order.Perm (List.range (k * r0.folds))) :
    ∀ t f, t < r0.trials → (runBatch cb closest r0 k order).get? t f = r0.get? t f :=
  Tune.batch_keeps_old cb closest r0 hwf k order hperm

open NanoVerif.Tune in
/-- `optimum_trial` is the first trial with the smallest value (values not NaN: a linear order; none above `top`) -/
theorem optimum_is_argmin {α : Type} [LinearOrder α] (top : α) (values : List α) (hne : values ≠ [])
    (htop : ∀ v ∈ values, v ≤ top) :
    ∃ hb : optimumTrial top values < values.length,
      (∀ j (hj : j < values.length), values[optimumTrial top values] ≤ values[j]) ∧
      (∀ j (hj : j < optimumTrial top values), values[optimumTrial top values] < values[j]) :=
  Tune.optimum_is_argmin top values hne htop

/-! ### non-vacuity: concrete runs the kernel evaluates (insertion sort satisfies `SortSpec`) -/

/-- one grid of 7 values, landscape 9 4 2 7 1 3 8 (minimum at index 4), `max_evals = 10` -/
def exLand : IGrid → Int
  | [0] => 9 | [1] => 4 | [2] => 2 | [3] => 7 | [4] => 1 | [5] => 3 | [6] => 8
  | _ => 100

def exCfg (kind : Kind) (oracle : List (Step Int) → Option IGrid) : Cfg Int :=
  ⟨kind, minOf [7], maxOf [7], 10, fun _ => true, exLand, insertionSort, oracle⟩

def summary : Res Int → List (List Int × Int) × List (List IGrid)
  | .ok steps tr => (steps.map fun s => (s.igrid, s.value), tr)
  | .bad tr => ([([-1], 0)], tr)
  | .fail tr => ([([-2], 0)], tr)
  | _ => ([], [])

-- local search: batches {3}, {1,5}, then around 5: {4,6}, around 4: nothing new; sorted by value, first = minimum
example : summary (optimize (exCfg .localSearch fun _ => none) (avgOf [7]) (gridCard (minOf [7]) (maxOf [7]) + 2)) =
    ([([4], 1), ([5], 3), ([1], 4), ([3], 7), ([6], 8)], [[[3]], [[1], [5]], [[4], [6]]]) := by decide

-- surrogate with an oracle that always proposes grid point 0: one more batch {0}, then nothing new
example : summary (optimize (exCfg .surrogate fun _ => some [0]) (avgOf [7]) 9) =
    ([([5], 3), ([1], 4), ([3], 7), ([0], 9)], [[[3]], [[1], [5]], [[0]]]) := by decide

-- a failing surrogate: exception after the coarse phase
example : summary (optimize (exCfg .surrogate fun _ => none) (avgOf [7]) 9) =
    ([([-2], 0)], [[[3]], [[1], [5]]]) := by decide

-- a callback value that is not finite is rejected in the batch in which it appears
example : summary (optimize { exCfg .localSearch (fun _ => none) with fin := fun v => v != 3 } (avgOf [7]) 9) =
    ([([-1], 0)], [[[3]], [[1], [5]]]) := by decide

-- the hypotheses of the theorems are satisfiable: the run above is covered by them
example : ∀ steps tr, optimize (exCfg .localSearch fun _ => none) (avgOf [7]) 9 = .ok steps tr →
    (steps.map (·.igrid)).Nodup ∧ steps.length ≤ 10 + 3 ^ 1 :=
  fun steps tr h =>
    ⟨steps_nodup _ insertionSort_sortSpec _ (by decide) _ steps tr h,
     steps_budget _ insertionSort_sortSpec _ (by decide) _ steps tr h⟩

-- too little fuel is reported as such (so `optimize_terminates` is not vacuous)
example : summary (optimize (exCfg .localSearch fun _ => none) (avgOf [7]) 2) = ([], []) := by decide

example : Tune.decode 3 7 = (2, 1) ∧ Tune.slot 3 2 1 = 7 := by decide
example : Tune.optimumTrial 100 [5, 3, 7, 3] = 1 ∧ Tune.optimumTrial 100 [100, 100] = 0 := by decide
example : (Tune.runBatch (fun t f _ => 10 * t + f) (fun _ => 0) (Tune.Result.empty 2) 2 [3, 0, 2, 1]).slots =
    [some 0, some 1, some 10, some 11] := by decide

/-! ### the quadratic surrogate: the two functions handed to L-BFGS (`Model/TunerSurrogate.lean`) -/

section surrogate
variable {α : Type} [Field α] [LinearOrder α] [IsStrictOrderedRing α]

/-- the fit objective (`quadratic_surrogate_fit_t`, mse loss) along every line `x + t d` is exactly
    value + `t`·⟨gradient as coded, d⟩ + `t²`·curvature -/
theorem fit_expand (rows : List (List α)) (ys x d : List α) (t : α) (hrows : ∀ row ∈ rows, row.length = x.length)
    (hd : d.length = x.length) :
    fitValue rows ys (vline x d t) =
      fitValue rows ys x + t * sdot (fitGrad rows ys x) d + t ^ 2 * fitCurv rows ys d :=
  Tuner.fit_expand rows ys x d t hrows hd

omit [LinearOrder α] [IsStrictOrderedRing α] in
theorem fit_rows_same_length (p q : List α) (h : p.length = q.length) : (quadTerms p).length = (quadTerms q).length := by
  simp [quadTerms, h]

/-- … lies above each of its tangent planes … -/
theorem fit_above_tangent (rows : List (List α)) (ys x d : List α) (hrows : ∀ row ∈ rows, row.length = x.length)
    (hd : d.length = x.length) :
    fitValue rows ys x + sdot (fitGrad rows ys x) d ≤ fitValue rows ys (vline x d 1) := by
  rw [fit_expand rows ys x d 1 hrows hd]
  exact quadratic_above_tangent _ _ (fitCurv_nonneg rows ys d)

/-- … is convex (along every line: below the chord) … -/
theorem fit_convex (rows : List (List α)) (ys x d : List α) (lam : α) (hrows : ∀ row ∈ rows, row.length = x.length)
    (hd : d.length = x.length) (h0 : 0 ≤ lam) (h1 : lam ≤ 1) :
    fitValue rows ys (vline x d lam) ≤ (1 - lam) * fitValue rows ys x + lam * fitValue rows ys (vline x d 1) :=
  Tuner.fit_convex rows ys x d lam hrows hd h0 h1

/-- … and a stationary point of it is a global minimiser: the best quadratic for the evaluated steps -/
theorem fit_stationary_is_min (rows : List (List α)) (ys x d : List α) (hrows : ∀ row ∈ rows, row.length = x.length)
    (hd : d.length = x.length) (hstat : ∀ g ∈ fitGrad rows ys x, g = 0) :
    fitValue rows ys x ≤ fitValue rows ys (vline x d 1) :=
  Tuner.fit_stationary_is_min rows ys x d hrows hd hstat

set_option linter.unusedSectionVars false
/-- the fitted quadratic (`quadratic_surrogate_t`) along every line: value + `t`·⟨gradient as coded, d⟩ + `t²`·curvature -/
theorem quad_expand (m x d : List α) (t : α) (hm : 1 + x.length ≤ m.length) (hd : d.length = x.length) :
    quadValue m (vline x d t) = quadValue m x + t * sdot (quadGrad m x) d + t ^ 2 * quadCurv m d :=
  Tuner.quad_expand m x d t hm hd

/-- a stationary point of the fitted quadratic is a minimiser when the curvature is not negative (nothing holds
    otherwise: the code rightly declares `convexity::no`, see the concave example below) -/
theorem quad_stationary_is_min (m x d : List α) (hm : 1 + x.length ≤ m.length) (hd : d.length = x.length)
    (hcurv : 0 ≤ quadCurv m d) (hstat : sdot (quadGrad m x) d = 0) :
    quadValue m x ≤ quadValue m (vline x d 1) :=
  Tuner.quad_stationary_is_min m x d hm hd hcurv hstat

/-- the value of the fitted quadratic at `p` is the fit's output for a sample at `p` -/
theorem quad_is_fit_output (m p : List α) (hm : 1 + p.length ≤ m.length) : quadValue m p = sdot (quadTerms p) m := by
  obtain ⟨m0, rest, rfl⟩ : ∃ m0 rest, m = m0 :: rest := by
    cases m with
    | nil => simp at hm
    | cons a b => exact ⟨a, b, rfl⟩
  have hrest : p.length ≤ rest.length := by simp at hm; omega
  have hsplit : rest = rest.take p.length ++ rest.drop p.length := (List.take_append_drop _ _).symm
  have hlen : (rest.take p.length).length = p.length := by rw [List.length_take]; omega
  simp only [quadValue, quadTerms, qterms, List.drop_succ_cons, List.drop_zero, List.getD_cons_zero,
    Nat.add_comm 1 p.length]
  rw [quadValueGo_eq, Cxx.foldl_add, sum_zipWith_mul, qform_qterms, sdot_cons]
  conv_rhs => rw [hsplit, sdot_append _ _ _ _ hlen.symm]
  rw [sdot_comm (rest.take p.length) p]
  ring

end surrogate

/-- `quadratic_surrogate_fit_t`: the gradient `do_vgrad` writes is the derivative of the value it returns (along every
    line, as in C06) -/
theorem fit_grad_is_deriv (rows : List (List ℝ)) (ys x d : List ℝ) (hrows : ∀ row ∈ rows, row.length = x.length)
    (hd : d.length = x.length) :
    HasDerivAt (fun t : ℝ => fitValue rows ys (vline x d t)) (sdot (fitGrad rows ys x) d) 0 :=
  Tuner.fit_grad_is_deriv rows ys x d hrows hd

/-- `quadratic_surrogate_t`: likewise -/
theorem quad_grad_is_deriv (m x d : List ℝ) (hm : 1 + x.length ≤ m.length) (hd : d.length = x.length) :
    HasDerivAt (fun t : ℝ => quadValue m (vline x d t)) (sdot (quadGrad m x) d) 0 :=
  Tuner.quad_grad_is_deriv m x d hm hd

/-- the dimension `quadratic_surrogate_t` recovers from the number of coefficients is the right one -/
theorem quadDim_quadLen (n : Nat) : quadDim (quadLen n) = n := Tuner.quadDim_quadLen n

/-- the constructor's `assert`s imply the length hypothesis of the theorems above -/
theorem quadSize_le {α : Type} (m : List α) (n : Nat) (h : quadSize? m = some n) :
    0 < n ∧ m.length = quadLen n ∧ 1 + n ≤ m.length := by
  simp only [quadSize?] at h
  split at h
  · rename_i hc
    cases Option.some.inj h
    exact ⟨hc.1, hc.2, (succ_le_quadLen _).trans hc.2.ge⟩
  · cases h

/-! ### parameter spaces (`param_space_t`) -/

section spaces
variable {α : Type} [Field α] [LinearOrder α] [IsStrictOrderedRing α]

/-- closest-point optimality: the grid point returned is a nearest one in surrogate coordinates, and the first such -/
theorem closest_point_optimal (top : α) (sg : List α) (v : α) (hne : sg ≠ []) (htop : ∀ g ∈ sg, |v - g| ≤ top) :
    ∃ hb : closestScan top sg v < sg.length,
      (∀ j (hj : j < sg.length), |v - sg[closestScan top sg v]| ≤ |v - sg[j]|) ∧
      (∀ j (hj : j < closestScan top sg v), |v - sg[closestScan top sg v]| < |v - sg[j]'(by omega)|) := by
  have h := Tune.argminScan_map top (fun g => fabs (v - g)) sg hne fun g hg => fabs_eq_abs (v - g) ▸ htop g hg
  simp only [closestScan, fabs_eq_abs] at h ⊢
  exact h

theorem closest_roundtrip (top : α) (sg : List α) (hinc : sg.Pairwise (· < ·)) (k : Nat) (hk : k < sg.length)
    (htop : ∀ g ∈ sg, |sg[k] - g| ≤ top) : closestScan top sg sg[k] = k := by
  obtain ⟨hb, h1, _⟩ := closest_point_optimal top sg sg[k] (List.ne_nil_of_length_pos (Nat.zero_lt_of_lt hk)) htop
  -- the answer is at distance `≤ |sg[k] - sg[k]| = 0` of `sg[k]`, and the coordinates are pairwise different
  have h := h1 k hk
  rw [sub_self, abs_zero, abs_nonpos_iff, sub_eq_zero] at h
  exact (List.Nodup.getElem_inj_iff (hinc.imp ne_of_lt)).mp h.symm

set_option linter.unusedSectionVars false
/-- what the constructor's four `critical`s guarantee -/
theorem space_make_spec (eps : α) (kind : SpaceKind) (grid : List α) (s : Space α)
    (h : Space.make? eps kind grid = some s) :
    s.kind = kind ∧ s.grid = grid ∧ 2 ≤ grid.length ∧ grid.Pairwise (· < ·) ∧
      grid.head? = some s.mn ∧ grid.getLast? = some s.mx ∧ s.mn < s.mx ∧ (kind = .log10 → eps ≤ s.mn) := by
  obtain ⟨mn, mx, hmn, hmx, hlen, hsorted, hdistinct, hlog, rfl⟩ := make?_eq_some h
  have hpw := pairwise_of_sorted_distinct grid hsorted hdistinct
  match grid, hlen, hpw, hmn, hmx with
  | a :: b :: rest, _, hpw, hmn, hmx =>
    have h1 : a = mn := by
      rw [← foldl_min_of_lt (b :: rest) a (List.pairwise_cons.mp hpw).1]; exact Option.some.inj hmn
    have h2 : (a :: b :: rest).getLast (List.cons_ne_nil _ _) = mx := by
      rw [← foldl_max_increasing a (b :: rest) hpw]; exact Option.some.inj hmx
    subst h1 h2
    have hmem : (a :: b :: rest).getLast (List.cons_ne_nil _ _) ∈ b :: rest := by
      rw [List.getLast_cons (List.cons_ne_nil b rest)]; exact List.getLast_mem _
    exact ⟨rfl, rfl, Nat.le_add_left 2 _, hpw, rfl, List.getLast?_eq_some_getLast (List.cons_ne_nil _ _),
      (List.pairwise_cons.mp hpw).1 _ hmem, hlog⟩

variable [Log10 α]

/-- `to_surrogate` throws exactly outside `[m_min, m_max]` -/
theorem toSurrogate_none_iff (s : Space α) (v : α) : s.toSurrogate v = none ↔ v < s.mn ∨ s.mx < v := by
  unfold Space.toSurrogate
  split <;> simp_all

/-- linear space: onto `[0, 1]` -/
theorem toSurrogate_linear (s : Space α) (hk : s.kind = .linear) (hlt : s.mn < s.mx) (v : α) (h1 : s.mn ≤ v)
    (h2 : v ≤ s.mx) :
    ∃ a, s.toSurrogate v = some a ∧ 0 ≤ a ∧ a ≤ 1 ∧ a = (v - s.mn) / (s.mx - s.mn) := by
  have hpos : 0 < s.mx - s.mn := sub_pos.mpr hlt
  refine ⟨_, ?_, div_nonneg (sub_nonneg.mpr h1) hpos.le, (div_le_one hpos).mpr (sub_le_sub_right h2 _), rfl⟩
  rw [toSurrogate_some s v h1 h2, hk]

/-- linear space: strictly increasing -/
theorem toSurrogate_linear_strictMono (s : Space α) (hk : s.kind = .linear) (hlt : s.mn < s.mx) (v w a b : α)
    (hv : s.toSurrogate v = some a) (hw : s.toSurrogate w = some b) (hvw : v < w) : a < b := by
  rw [(toSurrogate_linear_eq hk hv).2.2, (toSurrogate_linear_eq hk hw).2.2]
  exact div_lt_div_of_pos_right (sub_lt_sub_right hvw _) (sub_pos.mpr hlt)

/-- `from_surrogate` answers within `[m_min, m_max]` -/
theorem fromSurrogate_mem (s : Space α) (v : α) (h : s.mn ≤ s.mx) :
    s.mn ≤ s.fromSurrogate v ∧ s.fromSurrogate v ≤ s.mx := by
  unfold Space.fromSurrogate
  cases s.kind <;> exact Cxx.clamp_mem _ h

/-- linear space: `from_surrogate ∘ to_surrogate = id` -/
theorem fromSurrogate_toSurrogate_linear (s : Space α) (hk : s.kind = .linear) (hlt : s.mn < s.mx) (v a : α)
    (hv : s.toSurrogate v = some a) : s.fromSurrogate a = v := by
  obtain ⟨h1, h2, rfl⟩ := toSurrogate_linear_eq hk hv
  unfold Space.fromSurrogate
  rw [hk]
  show clamp (s.mn + (v - s.mn) / (s.mx - s.mn) * (s.mx - s.mn)) s.mn s.mx = v
  rw [div_mul_cancel₀ _ (sub_pos.mpr hlt).ne', add_sub_cancel, clamp_of_mem h1 h2]

/-- a space built by the constructor has surrogate coordinates for all its grid points (`to_surrogate` never throws there) -/
theorem sgrid_isSome (eps : α) (kind : SpaceKind) (grid : List α) (s : Space α)
    (h : Space.make? eps kind grid = some s) : ∃ sg, s.sgrid = some sg ∧ sg.length = grid.length := by
  obtain ⟨_, hg, _, hpw, hhead, hlast, _, _⟩ := space_make_spec eps kind grid s h
  unfold Space.sgrid
  rw [hg]
  refine mapM_isSome_of_forall s.toSurrogate grid fun v hv => ⟨_, toSurrogate_some s v ?_ ?_⟩
  · -- `m_min` is the head of the increasing grid
    match grid, hhead, hpw, hv with
    | a :: rest, hhead, hpw, hv =>
      cases Option.some.inj hhead
      rcases List.mem_cons.mp hv with rfl | hv
      · exact le_refl _
      · exact ((List.pairwise_cons.mp hpw).1 v hv).le
  · -- `m_max` its last element
    have hne := List.ne_nil_of_mem hv
    rw [List.getLast?_eq_some_getLast hne] at hlast
    exact Option.some.inj hlast ▸ le_getLast_of_increasing grid hne hpw v hv

omit [IsStrictOrderedRing α] in
theorem sgrid_increasing (s : Space α)
    (hmono : ∀ v w a b, s.toSurrogate v = some a → s.toSurrogate w = some b → v < w → a < b) (sg : List α)
    (hsg : s.sgrid = some sg) (hinc : s.grid.Pairwise (· < ·)) : sg.Pairwise (· < ·) := by
  obtain ⟨hl, hget⟩ := mapM_eq_some_spec s.toSurrogate s.grid sg hsg
  rw [List.pairwise_iff_getElem] at hinc ⊢
  intro i j hi hj hij
  exact hmono _ _ _ _ (hget i (hl ▸ hi) hi) (hget j (hl ▸ hj) hj) (hinc i j (hl ▸ hi) (hl ▸ hj) hij)

/-- `closest_grid_point_from_surrogate(to_surrogate(grid value k)) = k` for a strictly increasing grid (what the
    constructor insists on) and a strictly increasing `to_surrogate` -/
theorem closestGridPoint_roundtrip (top : α) (s : Space α)
    (hmono : ∀ v w a b, s.toSurrogate v = some a → s.toSurrogate w = some b → v < w → a < b)
    (hinc : s.grid.Pairwise (· < ·)) (sg : List α) (hsg : s.sgrid = some sg) (k : Nat) (hk' : k < sg.length)
    (htop : ∀ g ∈ sg, |sg[k] - g| ≤ top) : s.closestGridPoint top sg[k] = some k := by
  rw [Space.closestGridPoint, hsg, Option.map_some,
    closest_roundtrip top sg (sgrid_increasing s hmono sg hsg hinc) k hk' htop]

/-- linear space: `closest_grid_point_from_surrogate(to_surrogate(grid value k)) = k` -/
theorem closestGridPoint_roundtrip_linear (top : α) (s : Space α) (hk : s.kind = .linear) (hlt : s.mn < s.mx)
    (hinc : s.grid.Pairwise (· < ·)) (sg : List α) (hsg : s.sgrid = some sg) (k : Nat) (hk' : k < sg.length)
    (htop : ∀ g ∈ sg, |sg[k] - g| ≤ top) : s.closestGridPoint top sg[k] = some k :=
  closestGridPoint_roundtrip top s (toSurrogate_linear_strictMono s hk hlt) hinc sg hsg k hk' htop

/-- whatever the solver returned, the centre derived from it is a point of the grid box -/
theorem centreOf_inGrid (top : α) (spaces : List (Space α)) (x : List α) (c : IGrid)
    (hne : ∀ s ∈ spaces, s.grid ≠ []) (h : centreOf top spaces x = some c) :
    inGrid (minOf (spaces.map (·.grid.length))) (maxOf (spaces.map (·.grid.length))) c = true :=
  Tuner.centreOf_inGrid top spaces x c hne h

/-- **the surrogate tuner's batch** — the oracle is reduced to the two solver runs: the batch handed to the callback in
    an iteration of `surrogate_tuner_t::do_optimize` is the radius-1 neighbourhood (minus the evaluated points) of the
    grid point closest, coordinate by coordinate, to the minimiser `x` the solver returned for the quadratic `m` it had
    fitted to the quadratic features of ALL evaluated steps and their values, started at the best step. All the
    theorems on `optimize` above hold for this (as for every) oracle. -/
theorem surrogate_step_centre (c : Cfg α) (top : α) (spaces : List (Space α)) (solver : Solver α)
    (hkind : c.kind = .surrogate) (horacle : c.oracle = surrogateCentre top spaces solver)
    (hne : ∀ s ∈ spaces, s.grid ≠ []) (st st' : St α) (hmain : st.phase = .main) (batch : List IGrid)
    (hb : batch ≠ []) (h : step c st = .next st' batch) :
    ∃ x0 ps m x centre,
      fitData spaces st.steps = some (x0 :: ps, st.steps.map (·.value)) ∧
      solver.fit ((x0 :: ps).map quadTerms) (st.steps.map (·.value)) = some m ∧ solver.opt m x0 = some x ∧
      centreOf top spaces x = some centre ∧
      inGrid (minOf (spaces.map (·.grid.length))) (maxOf (spaces.map (·.grid.length))) centre = true ∧
      batch = freshOf (localSearch c.mn c.mx centre 1) st.steps :=
  Tuner.surrogate_step_centre c top spaces solver hkind horacle hne st st' hmain batch hb h

end spaces

/-- log10 space over ℝ (values ≥ epsilon > 0): strictly increasing -/
theorem toSurrogate_log10_strictMono (s : Space ℝ) (hk : s.kind = .log10) (hpos : 0 < s.mn) (v w a b : ℝ)
    (hv : s.toSurrogate v = some a) (hw : s.toSurrogate w = some b) (hvw : v < w) : a < b := by
  obtain ⟨rfl, hv1, _⟩ := toSurrogate_log10_eq s hk v a hv
  obtain ⟨rfl, _, _⟩ := toSurrogate_log10_eq s hk w b hw
  exact Real.logb_lt_logb (by norm_num) (lt_of_lt_of_le hpos hv1) hvw

/-- log10 space: `from_surrogate ∘ to_surrogate = id` -/
theorem fromSurrogate_toSurrogate_log10 (s : Space ℝ) (hk : s.kind = .log10) (hpos : 0 < s.mn) (v a : ℝ)
    (hv : s.toSurrogate v = some a) : s.fromSurrogate a = v := by
  obtain ⟨rfl, hv1, hv2⟩ := toSurrogate_log10_eq s hk v a hv
  unfold Space.fromSurrogate
  rw [hk]
  show clamp ((10 : ℝ) ^ Real.logb 10 v) s.mn s.mx = v
  rw [Real.rpow_logb (by norm_num) (by norm_num) (lt_of_lt_of_le hpos hv1), clamp_of_mem hv1 hv2]

/-- log10 space: `closest_grid_point_from_surrogate(to_surrogate(grid value k)) = k` -/
theorem closestGridPoint_roundtrip_log10 (top : ℝ) (s : Space ℝ) (hk : s.kind = .log10) (hpos : 0 < s.mn)
    (hinc : s.grid.Pairwise (· < ·)) (sg : List ℝ) (hsg : s.sgrid = some sg) (k : Nat) (hk' : k < sg.length)
    (htop : ∀ g ∈ sg, |sg[k] - g| ≤ top) : s.closestGridPoint top sg[k] = some k :=
  closestGridPoint_roundtrip top s (toSurrogate_log10_strictMono s hk hpos) hinc sg hsg k hk' htop

/-! ### warm starts of `ml::tune`: `result_t::closest_trial` -/

section closest
variable {α π : Type} [Field α] [LinearOrder α] [IsStrictOrderedRing α]
open NanoVerif.Tune

set_option linter.unusedSectionVars false
/-- `closest_trial(params, max_trials)` reads the first `max_trials` rows only -/
theorem closestTrial_frame (top : α) (dist : π → π → α) (rows rows' : List π) (p : π) (k : Nat)
    (h : rows.take k = rows'.take k) : closestTrial top dist rows p k = closestTrial top dist rows' p k :=
  Tune.closestTrial_frame top dist rows rows' p k h

/-- … answers a trial before `max_trials` … -/
theorem closestTrial_lt (top : α) (dist : π → π → α) (rows : List π) (p : π) (k : Nat) (hk : 0 < k)
    (hle : k ≤ rows.length) : closestTrial top dist rows p k < k :=
  Tune.closestTrial_lt top dist rows p k hk hle

/-- … (trial 0 when there is none: the very first batch) … -/
theorem closestTrial_zero (top : α) (dist : π → π → α) (rows : List π) (p : π) :
    closestTrial top dist rows p 0 = 0 := by
  rw [closestTrial, List.take_zero]; rfl

/-- … namely the first nearest one -/
theorem closestTrial_nearest (top : α) (dist : π → π → α) (rows : List π) (p : π) (k : Nat) (hk : 0 < k)
    (hle : k ≤ rows.length) (htop : ∀ row ∈ rows.take k, dist row p ≤ top) :
    ∃ hc : closestTrial top dist rows p k < rows.length,
      (∀ j (hj : j < k), dist rows[closestTrial top dist rows p k] p ≤ dist (rows[j]'(by omega)) p) ∧
      (∀ j (hj : j < closestTrial top dist rows p k), dist rows[closestTrial top dist rows p k] p <
        dist (rows[j]'(by omega)) p) := by
  have hlen : (rows.take k).length = k := List.length_take_of_le hle
  obtain ⟨hb, h1, h2⟩ := argminScan_map top (fun row => dist row p) (rows.take k)
    (List.ne_nil_of_length_pos (hk.trans_eq hlen.symm)) htop
  simp only [List.getElem_take] at h1 h2
  exact ⟨(hb.trans_eq hlen).trans_le hle, fun j hj => h1 j (hj.trans_eq hlen.symm), h2⟩

/-- in `ml::tune` (rows of the batch in flight already appended by `result.add`, `max_trials = old_trials > 0`) every
    task is handed the model data of a trial of an EARLIER batch, independent of the batch in flight, read from a slot
    no task of the batch writes -/
theorem tune_reads_only_earlier {σ : Type} (top : α) (dist : π → π → α) (r0 : Result σ) (hwf : r0.wf) (old new : List π)
    (hold : old.length = r0.trials) (hpos : 0 < r0.trials) (p : π) (f : Nat) :
    closestTrial top dist (old ++ new) p r0.trials < r0.trials ∧
    closestTrial top dist (old ++ new) p r0.trials = closestTrial top dist old p r0.trials ∧
    (r0.add new.length).get? (closestTrial top dist (old ++ new) p r0.trials) f =
      r0.get? (closestTrial top dist (old ++ new) p r0.trials) f :=
  Tune.tune_reads_only_earlier top dist r0 hwf old new hold hpos p f

end closest

/-! ### the order of the returned steps -/

/-- `operator<` of `tuner_step_t` (step.h:21-24, the value only) is a strict weak order on steps with values of a linear
    order (what `std::sort` requires; all stored values are finite, `steps_true_values`): irreflexive, transitive, and
    "neither is smaller" is transitive -/
theorem step_order_strict_weak {α : Type} [LinearOrder α] (a b c : Step α) :
    ¬ a.value < a.value ∧ (a.value < b.value → b.value < c.value → a.value < c.value) ∧
    ((¬ a.value < b.value ∧ ¬ b.value < a.value) → (¬ b.value < c.value ∧ ¬ c.value < b.value) →
      (¬ a.value < c.value ∧ ¬ c.value < a.value)) := by
  refine ⟨lt_irrefl _, lt_trans, ?_⟩
  rintro ⟨h1, h2⟩ ⟨h3, h4⟩
  have hab : a.value = b.value := le_antisymm (not_lt.mp h2) (not_lt.mp h1)
  have hbc : b.value = c.value := le_antisymm (not_lt.mp h4) (not_lt.mp h3)
  rw [hab, hbc]
  exact ⟨lt_irrefl _, lt_irrefl _⟩

/-! ### non-vacuity: the surrogate, the parameter spaces, `closest_trial` -/

-- the quadratic features, the fit and the fitted quadratic on concrete data (kernel-evaluated over ℤ; `1 / 2 = 0` there,
-- so only the parts without the `0.5` of the loss)
example : quadTerms [(2 : Int), 3] = [1, 2, 3, 4, 6, 9] := by decide
example : pairIdx 3 = [(0, 0), (0, 1), (0, 2), (1, 1), (1, 2), (2, 2)] := by decide
example : quadLen 1 = 3 ∧ quadLen 2 = 6 ∧ quadLen 3 = 10 ∧ quadDim 6 = 2 := ⟨by decide, by decide, by decide, quadDim_quadLen 2⟩
example : fitGrad [[1, 0, 0], [1, 1, 1]] [(5 : Int), 7] [1, 1, 1] = [-8, -4, -4] := by decide
-- f(x, y) = 1 + 2x + 3y + 4x² + 5xy + 6y² at (1, -1): value, gradient (2 + 8x + 5y, 3 + 5x + 12y)
example : quadValue [(1 : Int), 2, 3, 4, 5, 6] [1, -1] = 5 ∧ quadGrad [(1 : Int), 2, 3, 4, 5, 6] [1, -1] = [5, -4] := by
  decide
example : quadSize? [(1 : Int), 2, 3, 4, 5, 6] = some 2 := Tuner.quadSize_quadLen _ 2 (by decide) rfl
-- the surrogate is not convex in general: −x² is stationary at 0 and smaller everywhere else (the hypothesis `hcurv` of
-- `quad_stationary_is_min` is necessary; on the real code the L-BFGS run then leaves towards ±1e88 and the proposed
-- centre collapses to grid point 0 — corpus/C13/ops.txt, "concave surrogate")
example : quadGrad [(0 : Int), 0, -1] [0] = [0] ∧ quadValue [(0 : Int), 0, -1] [1] < quadValue [(0 : Int), 0, -1] [0] ∧
    quadCurv [(0 : Int), 0, -1] [1] < 0 := by decide
-- the hypotheses of the expansion theorems are satisfiable (two samples at p = 0 and p = 1, one hyper-parameter)
example : fitValue [quadTerms [0], quadTerms [1]] [(3 : ℝ), 5] (vline [1, 1, 1] [1, 0, 2] 2) =
    fitValue [quadTerms [0], quadTerms [1]] [3, 5] [1, 1, 1] +
      2 * sdot (fitGrad [quadTerms [0], quadTerms [1]] [3, 5] [1, 1, 1]) [1, 0, 2] +
      2 ^ 2 * fitCurv [quadTerms [0], quadTerms [1]] [3, 5] [1, 0, 2] :=
  fit_expand _ _ _ _ _ (by decide) rfl
example : HasDerivAt (fun t : ℝ => quadValue [1, 2, 3] (vline [4] [5] t)) (sdot (quadGrad [1, 2, 3] [4]) [5]) 0 :=
  quad_grad_is_deriv _ _ _ (by decide) rfl
-- parameter spaces: the constructor's guards, the maps, the closest grid point (ties go to the first; a distance above
-- `top` is never selected: the hypothesis `htop` of `closest_point_optimal` is necessary)
instance : Log10 Int := ⟨fun v => v, fun v => v⟩
example : (Space.make? (1 : Int) .linear [0, 2, 4]).map (fun s => (s.mn, s.mx)) = some (0, 4) := by decide
example : (Space.make? (1 : Int) .linear [0, 2, 2]).isNone ∧ (Space.make? (1 : Int) .linear [0, 3, 2]).isNone ∧
    (Space.make? (1 : Int) .linear [7]).isNone ∧ (Space.make? (1 : Int) .log10 [0, 3]).isNone := by decide
example : closestScan (100 : Int) [0, 2, 4] 3 = 1 ∧ closestScan (100 : Int) [0, 2, 4] 4 = 2 ∧
    closestScan (100 : Int) [0, 2, 4] 50 = 2 ∧ closestScan (1 : Int) [5, 3] 0 = 0 := by decide
example : centreOf (100 : Int) [⟨.log10, [1, 2, 3], 1, 3⟩, ⟨.log10, [1, 2], 1, 2⟩] [5, 1] = some [2, 0] := by decide
example : ∃ s : Space ℝ, Space.make? (1 / 4) .log10 [1, 10] = some s :=
  ⟨⟨.log10, [1, 10], 1, 10⟩, by norm_num [Space.make?, minElem, maxElem, isSortedL, hasAdjEq]⟩
-- the generated definitions compute (kernel-evaluated over ℤ): the regenerated loop body / loop nests give the model's answers
example : Gen.TunerSpace.closestGridPoint (fun v : Int => v) 100 .log10 0 4 [0, 2, 4] 3 = some 1 ∧
    Gen.TunerSpace.toSurrogate (fun v : Int => v) .linear 0 4 5 = none ∧
    Gen.TunerSpace.valuePairIdx 3 = [(0, 0), (0, 1), (0, 2), (1, 1), (1, 2), (2, 2)] ∧
    Gen.TunerSpace.localSearchOutside 3 0 2 = true ∧ Gen.TunerSpace.localSearchOutside 2 0 2 = false := by decide
-- the hypothesis of the walk theorems is satisfiable (6 coefficients, 2 variables), and the threaded walk computes
example : 1 + [(1 : Int), -1].length + (pairIdx [(1 : Int), -1].length).length ≤ [(1 : Int), 2, 3, 4, 5, 6].length ∧
    Gen.TunerSpace.quadValueWalk [(1 : Int), 2, 3, 4, 5, 6] [1, -1] = 5 ∧
    [(1 : Int), 2, 3, 4, 5, 6].length = quadLen [(1 : Int), -1].length := by decide
-- warm starts: the row of the batch in flight (distance 0) is not looked at
example : Tune.closestTrial (100 : Int) (fun a b => (a - b) * (a - b)) [5, 1, 9, 2] 2 3 = 1 := by decide
example : (Step.mk [0] (1 : Int)).value < (Step.mk [1] (2 : Int)).value := by decide

end NanoVerif.C13
