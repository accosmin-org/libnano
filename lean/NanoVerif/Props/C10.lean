import NanoVerif.Proofs.WLearnerBrute
import NanoVerif.Proofs.WLearnerTreeFit
import NanoVerif.Proofs.WLearnerTreeLeaves
import NanoVerif.Proofs.WLearnerKBestPredict
import NanoVerif.Proofs.WLearnerKSplitPredict
import NanoVerif.Proofs.WLearnerGen
import Mathlib.Algebra.Order.Field.Rat
import Mathlib.Tactic.NormNum
/-!
  C10 — weak learners fit residuals optimally in their class and predict consistently.

  Property theorems about `Model/WLearner.lean` (the model of `src/wlearner/*.cpp`, `include/nano/core/reduce.h`), for every
  linear ordered field `α` (exact arithmetic), every number of outputs `T`, every list of fitted samples (any subset,
  repetitions allowed: a `List`), every gradient tensor (residual `r = −g` per sample), every pattern of missing values.
  Conventions of the statements:
  * `hfin : ∀ y, FinTest.isFin y = true` — in exact arithmetic no computed score overflows (`std::isfinite(score)`);
  * `hbig : ∀ c ∈ cands, c.score < big` — `big` = `no_fit_score()` = `DBL_MAX` exceeds every computed score;
  * `hsort : SortSpec sort` — `std::sort` returns a sorted permutation (`mergeSort_sortSpec`: the driver's sort is one);
  * the criterion is `rss` (`make_score` = `cmax rss K`, `K` = `1e3·ε`) in the `*_fit_*` theorems; AIC/AICc/BIC need `log`: their
    formulas are tied to the source (`model_aic_is_generated`), `kbest_greedy_optimal_per_size` holds for every criterion, the rest is tested;
  * `cols` = the features a fit loops over, each with the rows (value, residual) of the fitted samples; every
    candidate remembers its feature; `fitSeq big cands` is what one thread returns, `fit_assignment_independent` makes
    the result independent of the thread assignment (ties included: `min_reduce_feature` breaks them by the feature index;
    `table_fit_assignment_independent`: the table learners' lexicographic caches need no order hypothesis;
    `old_fit_assignment_dependent`: the score-only rule before commit 62472c9 did depend on it).

  ## The model text is regenerated from the C++ source on every check
  `tools/props/c10_translate.py` extracts the functions below BY NAME from the tree under check and writes `Gen/WLearnerCriterion.lean`,
  `Gen/WLearnerAccumulator.lean`, `Gen/WLearnerSweep.lean`, `Gen/WLearnerTable.lean`; `Proofs/WLearnerGen.lean` proves the hand-written text of `Model/WLearner.lean`
  equal to the generated one (all obligations; for EVERY scalar type with the model's operations — so also at `Float`, where the driver
  runs — except the theorems marked (F), which need a linear ordered field).
  | C++ (file: function)                                              | generated                         | model definition = generated (theorem) |
  |-------------------------------------------------------------------|-----------------------------------|-----------------------------------------|
  | criterion.h: `enum class wlearner_criterion`                      | `Criterion`                       | `Crit.toGen`, wire code = declaration index (`model_crit_code_is_generated`) |
  | core/stats.h: `AIC`, `AICc`, `BIC` (asserts → `AICAsserts`, `BICAsserts`) | `AIC`, `AICc`, `BIC`       | `aic`, `aicc`, `bic` (`model_aic_is_generated`) |
  | criterion.cpp: `make_score` (floor `ε·1e+3`, `switch`)             | `scoreFloor`, `makeScore`         | `makeScore` (`model_score_is_generated`); the driver's `clampK` IS `scoreFloor 2^-52` |
  | accumulator.h: `fit_constant`, `rss_zero`, `rss_constant`          | `fitConstant`, `rssZeroTerm`, `rssConstantTerm` | `fitConstant` (`model_fitConstant_is_generated`), `vsum ms.r2` (`model_affineCand_is_generated`); `rss_constant` has no caller in the library |
  | accumulator.h: `update(vgrad)`, `update(value, vgrad)`             | `upd0_x0/r1/r2`, `upd_x1/x2/rx`   | `Mom.upd0`, `Mom.upd` (`model_upd_moments_is_generated`, `model_upd_residuals_is_generated` (F): gradient vs residual form) |
  | affine.cpp: `cache_t::constant`, `w`, `b`, `rss_affine`, `score` (rss, k) | `constant`, `w`, `b`, `rssAffineTerm`, `affineRss`, `affineK` | `affineConst`, `affineW`, `affineB`, `affineRss`, `affineCand` (`model_affineConst/W/B/Rss/Cand_is_generated`) |
  | affine.cpp / hinge.cpp: `do_predict` element `w * value + b`       | `affinePredict`, `hingePredict`   | `lin` (`model_lin_is_generated`) |
  | stump.cpp: `::score`, `x0_pos/r1_pos/r2_pos`, `output_neg/pos`, `cache_t::score` (rss, k) | `stumpScoreTerm`, `stump_*_pos`, `stumpOutput_*`, `stumpRss`, `stumpK` | `sideScore`, `Mom.sub`, `stumpCand` (`model_sideScore/momSub/stumpCand_is_generated`) |
  | stump.cpp / hinge.cpp `do_fit`: `if (ivalue1.first < ivalue2.first)`, `0.5 * (ivalue1.first + ivalue2.first)`, `if (std::isfinite(score) && score < cache.m_score)` | `stump/hingeDistinct`, `stump/hingeThreshold`, `stump/hingeAccept` | `sweep`, `pick` (`model_sweep_is_generated_stump/_hinge`, `model_pick_is_generated`) |
  | stump.cpp: `do_predict` (`value < m_threshold ? lo : hi`), `split` (`? 0 : 1`) | `stumpPredict`, `stumpGroup` | `eval (.stump …)` (`model_stump_predict_is_generated`) |
  | hinge.cpp: `::beta`, `::score`, `*_pos`, `score_neg/score_pos` (both overloads: rss, k), second table row `-threshold * array(0)` | `hingeBeta`, `hingeScoreTerm`, `hinge_*_pos`, `hingeScore_*`, `hingeRss_*`, `hingeK_*`, `hingeIntercept` | `hingeBeta`, `hingeSide`, `hingeCands` (`model_hingeBeta/hingeSide/hingeCands_is_generated`) |
  | hinge.cpp: `do_predict` conditions `value < m_threshold` / `value >= m_threshold` | `hingeActive_left/right` | `eval (.hinge …)` (`model_hinge_predict_is_generated` (F)) |
  | table.cpp: `cache_t::score(bin)`, `score_dense / score_kbest / score_ksplit` (k, table rows, per-cluster RSS, the acceptance rule `std::isfinite(score) && (score < m_score \|\| (score == m_score && feature < m_feature))`), accumulator.cpp: the key of `accumulator_t::sort` | `Gen/WLearnerTable.lean`: `binScoreTerm`, `denseK/kbestK/ksplitK`, `denseRow/kbestRow`, `ksplitScoreTerm`, `tableAccept`, `binDelta` | `binScore`, `binMean`, `binDelta`, `cluScore`, `denseCand`, `kbestCandOf`, `ksplitCands`, `pickLex` (`model_binScore/cluScore/tableK_is_generated`, `model_pickLex_is_generated` (F)) |
  Shape checks without a generated definition (a different text is `vlib.Broken("translate")`): the sample count `n` handed to `make_score`
  (a `double` sum cast to an integer; `Nat` in the model), `return make_score(criterion, rss, k, n)`, the arguments of the `::score` / `::beta`
  calls, `ivalue1/2 = m_ivalues[iv + 0/1]`, the running `m_acc_neg.update` before the distinct-values rule, which table row gets which output.
  Hand-written (tied by the differential run only): the loops of table.cpp (bins, prefix sums of the sorted deltas, the sorted kept bins,
  `update`, `process`), dtree.cpp, `accumulator_t::cluster`, the `std::sort` of `accumulator_t::sort`,
  `min_reduce_feature`, hashes, `scale` / `merge` of util.cpp, the loops around the element formulas (`clear`, the `loop_scalar` plumbing).
-/

namespace NanoVerif.WLearner
variable {α : Type} [Field α] [LinearOrder α] [IsStrictOrderedRing α]

/-! ### least squares in the classes -/

/-- The mean minimises `Σ_i Σ_o (r_io − c_o)²` and `Σ_o (r2_o − r1_o²/x0)` (the per-bin / per-side score computed from the
    accumulated moments) is that minimum — for every non-empty list of residual vectors. -/
theorem const_fit_optimal (T : Nat) (rs : List (Vec α)) (h : rs ≠ []) (c : Vec α) :
    binScore T (rs.foldl Mom.upd0 Mom.zero) ≤ lsum (rs.map fun r => sqErr T r c) ∧
    binScore T (rs.foldl Mom.upd0 Mom.zero)
      = lsum (rs.map fun r => sqErr T r (binMean (rs.foldl Mom.upd0 Mom.zero))) :=
  const_fit_vec T rs h c

/-- Regular branch of `cache_t::constant()` (`x2·x0 − x1² > ε₁·x2·x0`, which implies `x2·x0 − x1² > 0`): the closed form
    `(w, b)` of affine.cpp has the smallest RSS among all affine maps `w'·x + b'` of the feature (samples whose value is
    missing are predicted zero by every member of the class). -/
theorem affine_fit_optimal [Log α] {eps1 : α} (heps : 0 ≤ eps1) (T : Nat) (K : α) (crit : Crit) (f : Nat)
    (rows : List (Row α)) (hreg : affineConst eps1 ((present rows).foldl Item.upd Mom.zero) = false) (w' b' : Vec α) :
    0 < affineDen ((present rows).foldl Item.upd Mom.zero) ∧
    (affineCand eps1 T K crit f rows).rss ≤ rssOf T rows (affinePred w' b') := by
  replace hreg : affineConst eps1 (fullMom (present rows)) = false := hreg
  obtain ⟨hD, hx0⟩ := affineConst_false heps (present rows) hreg
  refine ⟨hD, ?_⟩
  rw [affineCand_rss, rssOf_affine, (affine_of_regular hreg).1, (affine_of_regular hreg).2]
  exact add_le_add (affineRss_le T _ (fun o => (affine_closed_form hD.ne').1)
    (fun o => (affine_closed_form hD.ne').2) hx0 hD.le w' b') (le_refl _)

/-- Degenerate branch: on a feature that is constant over the fitted samples (also: no value present) `constant()` holds,
    the learner stores `w = 0, b = mean residual`, and this is optimal in the affine class. -/
theorem affine_constant_branch_optimal [Log α] {eps1 : α} (heps : 0 ≤ eps1) (T : Nat) (K : α) (crit : Crit) (f : Nat)
    (rows : List (Row α)) (c : α) (hconst : ∀ it ∈ present rows, it.v = c) (w' b' : Vec α) :
    affineConst eps1 ((present rows).foldl Item.upd Mom.zero) = true ∧
    (affineCand eps1 T K crit f rows).rss ≤ rssOf T rows (affinePred w' b') := by
  show affineConst eps1 (fullMom (present rows)) = true ∧ _
  obtain ⟨h1, h2, hrx⟩ := fullMom_const (present rows) c hconst
  have hD : affineDen (fullMom (present rows)) = 0 := by unfold affineDen; rw [h1, h2]; ring
  have hc : affineConst eps1 (fullMom (present rows)) = true := by
    unfold affineConst
    simp only [Bool.not_eq_true', decide_eq_false_iff_not, not_lt]
    exact (le_of_eq hD).trans
      (mul_nonneg heps (mul_nonneg (fullMom_x2_nonneg (present rows)) (fullMom_x0_nonneg (present rows))))
  refine ⟨hc, ?_⟩
  rw [affineCand_rss, rssOf_affine]
  refine add_le_add ?_ (le_refl _)
  by_cases hne : present rows = []
  · rw [affineRss_eq, affineRss_eq, hne]; exact le_refl _
  · have hx0 : 0 < (fullMom (present rows)).x0 := by rw [fullMom_x0]; exact countOf_pos _ hne
    have hb : ∀ o, affineB eps1 (fullMom (present rows)) o
        = (fullMom (present rows)).r1 o / (fullMom (present rows)).x0 := fun o => by
      rw [(affine_of_const hc).2]; unfold fitConstant; rw [fullMom_x0, cmax_one_count _ hne]
    refine affineRss_le T _ (fun o => ?_) (fun o => ?_) hx0 (le_of_eq hD.symm) w' b'
    · rw [(affine_of_const hc).1, hb, h1, hrx]
      show _ * 0 + _ = _
      rw [mul_zero, zero_add, mul_assoc, mul_div_cancel₀ _ hx0.ne']
    · rw [(affine_of_const hc).1, hb]
      show _ * 0 + _ = _
      rw [mul_zero, zero_add, mul_div_cancel₀ _ hx0.ne']

/-! ### the sorted sweep -/

/-- The running accumulator of every candidate of the sweep equals the accumulator recomputed over a non-empty proper
    prefix of the sorted values, which is exactly the set of samples left of the candidate's threshold; the threshold is
    the mid-point of two distinct values and equals no value (any accumulator update, any start value). -/
theorem running_moments_eq_prefix (upd : Mom α → Item α → Mom α) (m0 : Mom α) (sorted : List (Item α))
    (hs : sorted.Pairwise (fun a b => a.v ≤ b.v)) (c : α × Mom α) (hc : c ∈ sweep upd m0 sorted) :
    (∃ l1 l2, sorted = l1 ++ l2 ∧ l1 ≠ [] ∧ l2 ≠ [] ∧ c.2 = l1.foldl upd m0) ∧
    c.2 = (sorted.filter fun it => decide (it.v < c.1)).foldl upd m0 ∧
    (∃ a b, a ∈ sorted ∧ b ∈ sorted ∧ a.v < b.v ∧ c.1 = half * (a.v + b.v)) ∧
    (∀ x ∈ sorted, x.v ≠ c.1) := by
  have h := sweep_spec upd m0 sorted hs c hc
  exact ⟨h.pfx, h.acc, h.mid, h.ne_thr⟩

/-! ### decision stump -/

/-- What `stump_wlearner_t::fit` returns with the RSS criterion. No candidate exists exactly when no feature has two
    distinct present values (then `no_fit_score()`); otherwise the selected candidate's score is `max(rss, K)` where
    `rss` is the RSS (from the definition) of the stored stump, and no stump — any feature, ANY threshold that has present
    values on both sides (not only mid-points), any two output vectors — has a smaller (clamped) RSS. -/
theorem stump_fit_optimal [FinTest α] [Log α] (hfin : ∀ y : α, FinTest.isFin y = true)
    (sort : List (Item α) → List (Item α)) (hsort : SortSpec sort) (T : Nat) (K big : α)
    (cols : List (Nat × List (Row α))) (hbig : ∀ c ∈ stumpAll sort T K cols, c.score < big) :
    (stumpAll sort T K cols = [] →
      fitSeq big (stumpAll sort T K cols) = noFit big ∧
      ∀ p ∈ cols, ∀ a ∈ present p.2, ∀ b ∈ present p.2, ¬ a.v < b.v) ∧
    (stumpAll sort T K cols ≠ [] →
      ∃ p ∈ cols, StumpCandSpec T K p.1 p.2 (fitSeq big (stumpAll sort T K cols)) ∧
        ∀ q ∈ cols, ∀ (t : α) (lo hi : Vec α), (∃ it ∈ present q.2, it.v < t) → (∃ it ∈ present q.2, ¬ it.v < t) →
          (fitSeq big (stumpAll sort T K cols)).score ≤ cmax (rssOf T q.2 (stumpPred t lo hi)) K) := by
  obtain ⟨hnil, hcons⟩ := fitSeq_min hfin big (stumpAll sort T K cols) hbig
  constructor
  · intro he
    refine ⟨hnil he, ?_⟩
    intro p hp a ha b hb hab
    obtain ⟨c, hc, _⟩ := stumpCands_complete sort hsort T K Crit.rss p.1 p.2 (half * (a.v + b.v))
      ⟨a, ha, lt_mid hab⟩ ⟨b, hb, not_lt.mpr (le_of_lt (mid_lt hab))⟩
    have : c ∈ stumpAll sort T K cols := List.mem_flatMap.mpr ⟨p, hp, hc⟩
    rw [he] at this; simp at this
  · intro hne
    obtain ⟨hmem, hmin⟩ := hcons hne
    obtain ⟨p, hp, hbest⟩ := List.mem_flatMap.mp hmem
    refine ⟨p, hp, stumpCands_spec sort hsort T K p.1 p.2 _ hbest, ?_⟩
    intro q hq t lo hi hl hr
    obtain ⟨c, hc, hsame⟩ := stumpCands_complete sort hsort T K Crit.rss q.1 q.2 t hl hr
    have hcs := stumpCands_spec sort hsort T K q.1 q.2 c hc
    have h1 := hmin c (List.mem_flatMap.mpr ⟨q, hq, hc⟩)
    have h2 : c.rss ≤ rssOf T q.2 (stumpPred t lo hi) := by
      rw [← hsame lo hi]; exact hcs.coeff_opt lo hi
    rw [hcs.score] at h1
    exact le_trans h1 (cmax_mono K h2)

/-- The same result as an equation: the reported score is `max(m, K)` where `m` is the brute-force minimum — over all
    features and all mid-points of two distinct present values — of the RSS, computed from the definition, of the stump
    whose two outputs are the means of its two sides. -/
theorem stump_fit_eq_brute [FinTest α] [Log α] (hfin : ∀ y : α, FinTest.isFin y = true)
    (sort : List (Item α) → List (Item α)) (hsort : SortSpec sort) (T : Nat) (K big : α)
    (cols : List (Nat × List (Row α))) (hbig : ∀ c ∈ stumpAll sort T K cols, c.score < big) :
    (stumpAll sort T K cols = [] → stumpBrute T (cols.map (·.2)) = none) ∧
    (stumpAll sort T K cols ≠ [] → ∃ m, stumpBrute T (cols.map (·.2)) = some m ∧
      (fitSeq big (stumpAll sort T K cols)).score = cmax m K) := by
  obtain ⟨hA, hB⟩ := stump_fit_optimal hfin sort hsort T K big cols hbig
  -- the brute-force list
  have hbl : ∀ e, e ∈ ((cols.map (·.2)).flatMap fun rows => (midpoints (presentVals rows)).map (stumpBruteAt T rows)) ↔
      ∃ p ∈ cols, ∃ a ∈ present p.2, ∃ b ∈ present p.2, a.v < b.v ∧ e = stumpBruteAt T p.2 (half * (a.v + b.v)) := by
    intro e
    simp only [List.mem_flatMap, List.mem_map]
    constructor
    · rintro ⟨rows, ⟨p, hp, rfl⟩, t, ht, rfl⟩
      obtain ⟨a, ha, b, hb, hab, rfl⟩ := (mem_midpoints _ t).mp ht
      rw [presentVals_eq] at ha hb
      obtain ⟨ia, hia, rfl⟩ := List.mem_map.mp ha
      obtain ⟨ib, hib, rfl⟩ := List.mem_map.mp hb
      exact ⟨p, hp, ia, hia, ib, hib, hab, rfl⟩
    · rintro ⟨p, hp, a, ha, b, hb, hab, rfl⟩
      refine ⟨p.2, ⟨p, hp, rfl⟩, half * (a.v + b.v), ?_, rfl⟩
      rw [mem_midpoints, presentVals_eq]
      exact ⟨a.v, List.mem_map.mpr ⟨a, ha, rfl⟩, b.v, List.mem_map.mpr ⟨b, hb, rfl⟩, hab, rfl⟩
  constructor
  · intro he
    obtain ⟨_, hno⟩ := hA he
    unfold stumpBrute
    apply (lmin?_spec _).1
    apply List.eq_nil_iff_forall_not_mem.mpr
    intro e hmem
    obtain ⟨p, hp, a, ha, b, hb, hab, _⟩ := (hbl e).mp hmem
    exact hno p hp a ha b hb hab
  · intro hne
    obtain ⟨p, hp, hspec, hopt⟩ := hB hne
    obtain ⟨a, b, ha, hb, hab, hthr⟩ := hspec.mid
    have hmem0 : stumpBruteAt T p.2 (half * (a.v + b.v)) ∈
        ((cols.map (·.2)).flatMap fun rows => (midpoints (presentVals rows)).map (stumpBruteAt T rows)) :=
      (hbl _).mpr ⟨p, hp, a, ha, b, hb, hab, rfl⟩
    obtain ⟨m, hm, hmmem, hmmin⟩ := (lmin?_spec _).2 (List.ne_nil_of_mem hmem0)
    refine ⟨m, hm, le_antisymm ?_ ?_⟩
    · -- the fitted score is below every brute-force entry
      obtain ⟨q, hq, a', ha', b', hb', hab', rfl⟩ := (hbl m).mp hmmem
      unfold stumpBruteAt
      exact hopt q hq _ _ _ ⟨a', ha', lt_mid hab'⟩ ⟨b', hb', not_lt.mpr (le_of_lt (mid_lt hab'))⟩
    · -- the brute-force entry at the fitted threshold is below the fitted RSS
      rw [hspec.score]
      apply cmax_mono
      obtain ⟨hl, hr⟩ := sides_of_midpoint (present p.2) a b ha hb hab
      have h1 := stumpBruteAt_le T p.2 (half * (a.v + b.v)) hl hr
        (tab (fitSeq big (stumpAll sort T K cols)).tables 0) (tab (fitSeq big (stumpAll sort T K cols)).tables 1)
      rw [← hthr, ← hspec.rss_eq] at h1
      rw [← hthr] at hmem0
      exact le_trans (hmmin _ hmem0) h1

/-! ### hinge -/

/-- What `hinge_wlearner_t::fit` returns with the RSS criterion: the selected candidate's score is `max(rss, K)`, `rss` is
    the RSS of the stored hinge `β·(x − t)₊ / β·(t − x)₋`, and it is the minimum over the class found by brute force: every
    feature, every mid-point `t` between two consecutive distinct present values, both directions, every slope vector. -/
theorem hinge_fit_eq_brute [FinTest α] [Log α] (hfin : ∀ y : α, FinTest.isFin y = true)
    (sort : List (Item α) → List (Item α)) (hsort : SortSpec sort) (T : Nat) (K big : α)
    (cols : List (Nat × List (Row α))) (hbig : ∀ c ∈ hingeAll sort T K cols, c.score < big) :
    (hingeAll sort T K cols = [] →
      fitSeq big (hingeAll sort T K cols) = noFit big ∧
      ∀ p ∈ cols, ∀ a ∈ present p.2, ∀ b ∈ present p.2, ¬ a.v < b.v) ∧
    (hingeAll sort T K cols ≠ [] →
      ∃ p ∈ cols, HingeCandSpec T K p.1 p.2 (fitSeq big (hingeAll sort T K cols)) ∧
        ∀ q ∈ cols, ∀ a ∈ present q.2, ∀ b ∈ present q.2, a.v < b.v →
          (∀ z ∈ present q.2, ¬ (a.v < z.v ∧ z.v < b.v)) → ∀ (left : Bool) (beta : Vec α),
          (fitSeq big (hingeAll sort T K cols)).score
            ≤ cmax (rssOf T q.2 (hingePred (half * (a.v + b.v)) left beta)) K) := by
  obtain ⟨hnil, hcons⟩ := fitSeq_min hfin big (hingeAll sort T K cols) hbig
  -- two distinct present values ⇒ two consecutive distinct present values ⇒ a candidate
  have hexists : ∀ p ∈ cols, ∀ a ∈ present p.2, ∀ b ∈ present p.2, a.v < b.v → hingeAll sort T K cols ≠ [] := by
    intro p hp a ha b hb hab
    have hperm := hsort.perm (present p.2)
    obtain ⟨sc, hsc, _⟩ := sweep_complete Item.upd (half * (a.v + b.v)) (sort (present p.2)) Mom.zero (hsort.sorted _)
      ⟨a, hperm.symm.subset ha, lt_mid hab⟩ ⟨b, hperm.symm.subset hb, not_lt.mpr (le_of_lt (mid_lt hab))⟩
    intro he
    have hex : ∃ c, c ∈ hingeCands T K Crit.rss p.1 ((present p.2).foldl Item.upd Mom.zero) (missRss T p.2)
        (missCnt p.2) sc := by
      simp only [hingeCands]; exact ⟨_, List.mem_cons_self⟩
    obtain ⟨c, hc⟩ := hex
    have : c ∈ hingeAll sort T K cols :=
      List.mem_flatMap.mpr ⟨p, hp, List.mem_flatMap.mpr ⟨sc, hsc, hc⟩⟩
    rw [he] at this; simp at this
  constructor
  · intro he
    refine ⟨hnil he, ?_⟩
    intro p hp a ha b hb hab
    exact hexists p hp a ha b hb hab he
  · intro hne
    obtain ⟨hmem, hmin⟩ := hcons hne
    obtain ⟨p, hp, hbest⟩ := List.mem_flatMap.mp hmem
    refine ⟨p, hp, hingeCands_spec sort hsort T K p.1 p.2 _ hbest, ?_⟩
    intro q hq a ha b hb hab hadj left beta
    obtain ⟨c, hc, hthr, hdir⟩ := hingeCands_complete sort hsort T K Crit.rss q.1 q.2 a b ha hb hab hadj
      (if left then 0 else 1) (by cases left <;> simp)
    have hcs := hingeCands_spec sort hsort T K q.1 q.2 c hc
    have h1 := hmin c (List.mem_flatMap.mpr ⟨q, hq, hc⟩)
    have h2 := hcs.coeff_opt beta
    rw [hthr, hdir] at h2
    have hl : ((if left then 0 else 1 : Nat) == 0) = left := by cases left <;> rfl
    rw [hl] at h2
    rw [hcs.score] at h1
    exact le_trans h1 (cmax_mono K h2)

/-! ### look-up tables -/

/-- What `dense_table_wlearner_t::fit` returns with the RSS criterion (at least one categorical feature): the score is
    `max(m, K)` where `m` is the brute-force minimum over the features of the RSS of the table of per-label-set means, the
    stored table is that table, and no table on any feature — any vector per label set — has a smaller (clamped) RSS. -/
theorem table_fit_eq_brute [FinTest α] [Log α] (hfin : ∀ y : α, FinTest.isFin y = true) (T : Nat) (K big : α)
    (cols : List (Nat × List (CRow α))) (hne : cols ≠ []) (hbig : ∀ c ∈ denseAll T K cols, c.score < big) :
    (∃ p ∈ cols, fitSeq big (denseAll T K cols) = denseCand T K Crit.rss p.1 p.2 ∧
      (fitSeq big (denseAll T K cols)).rss = rssOfC T p.2 (tablePred (denseTable p.2))) ∧
    (∀ q ∈ cols, ∀ tbl : Nat → Vec α,
      (fitSeq big (denseAll T K cols)).score ≤ cmax (rssOfC T q.2 (tablePred tbl)) K) ∧
    (∃ m, denseBrute T (cols.map (·.2)) = some m ∧ (fitSeq big (denseAll T K cols)).score = cmax m K) := by
  have hcne : denseAll T K cols ≠ [] := by
    unfold denseAll; simpa using hne
  obtain ⟨hmem, hmin⟩ := (fitSeq_min hfin big (denseAll T K cols) hbig).2 hcne
  obtain ⟨p, hp, hbest⟩ := List.mem_map.mp hmem
  have hopt : ∀ q ∈ cols, ∀ tbl : Nat → Vec α,
      (fitSeq big (denseAll T K cols)).score ≤ cmax (rssOfC T q.2 (tablePred tbl)) K := by
    intro q hq tbl
    have h1 := hmin _ (List.mem_map.mpr ⟨q, hq, rfl⟩)
    have h2 := (denseCand_spec T K Crit.rss q.1 q.2).2 tbl
    rw [denseCand_score] at h1
    exact le_trans h1 (cmax_mono K h2)
  have hbrute : ∀ rows : List (CRow α), denseBruteAt T rows = rssOfC T rows (tablePred (denseTable rows)) := by
    intro rows
    unfold denseBruteAt rssOfC
    apply lsum_map_congr; intro row _
    apply sqErr_congr; intro o
    cases row.h with
    | none => rfl
    | some h =>
      simp only [tablePred, denseTable]
      rw [meanOf_eq, binMom_eq]; rfl
  refine ⟨⟨p, hp, hbest.symm, ?_⟩, hopt, ?_⟩
  · rw [← hbest]; exact (denseCand_spec T K Crit.rss p.1 p.2).1
  · have hlne : (cols.map (·.2)).map (denseBruteAt T) ≠ [] := by simpa using hne
    obtain ⟨m, hm, hmmem, hmmin⟩ := (lmin?_spec _).2 hlne
    refine ⟨m, hm, le_antisymm ?_ ?_⟩
    · obtain ⟨rows, hrows, rfl⟩ := List.mem_map.mp hmmem
      obtain ⟨q, hq, rfl⟩ := List.mem_map.mp hrows
      rw [hbrute]; exact hopt q hq _
    · rw [← hbest, denseCand_score]
      apply cmax_mono
      have : denseBruteAt T p.2 ∈ (cols.map (·.2)).map (denseBruteAt T) :=
        List.mem_map.mpr ⟨p.2, List.mem_map.mpr ⟨p, hp, rfl⟩, rfl⟩
      have h1 := hmmin _ this
      rw [hbrute] at h1
      rw [(denseCand_spec T K Crit.rss p.1 p.2).1]
      exact h1

/-- What `dstep_table_wlearner_t::fit` returns with the RSS criterion (as the code is since 0bb37f2: a feature without any
    present value yields no candidate): the stored one-row table is on a label set present among the fitted samples, its
    reported RSS is the RSS of its predictions, and no one-label-set table — any feature, any label set, any vector — has a
    smaller (clamped) RSS. -/
theorem dstep_fit_optimal [FinTest α] [Log α] (hfin : ∀ y : α, FinTest.isFin y = true) (T : Nat) (K big : α)
    (cols : List (Nat × List (CRow α))) (hbig : ∀ c ∈ dstepAll T K cols, c.score < big) :
    (dstepAll T K cols = [] → fitSeq big (dstepAll T K cols) = noFit big ∧ ∀ p ∈ cols, hashesOf p.2 = []) ∧
    (dstepAll T K cols ≠ [] →
      (∃ p ∈ cols, ∃ h0 ∈ hashesOf p.2, fitSeq big (dstepAll T K cols) = dstepCandOf T K Crit.rss p.1 p.2 h0 ∧
        (fitSeq big (dstepAll T K cols)).rss
          = rssOfC T p.2 (stepPred h0 (tab (fitSeq big (dstepAll T K cols)).tables 0))) ∧
      ∀ q ∈ cols, hashesOf q.2 ≠ [] → ∀ (h' : Nat) (c' : Vec α),
        (fitSeq big (dstepAll T K cols)).score ≤ cmax (rssOfC T q.2 (stepPred h' c')) K) := by
  obtain ⟨hnil, hcons⟩ := fitSeq_min hfin big (dstepAll T K cols) hbig
  have hmemAll : ∀ q ∈ cols, hashesOf q.2 ≠ [] → ∃ h0 ∈ hashesOf q.2,
      dstepCandOf T K Crit.rss q.1 q.2 h0 ∈ dstepAll T K cols ∧
      ∀ (h' : Nat) (c' : Vec α), (dstepCandOf T K Crit.rss q.1 q.2 h0).rss ≤ rssOfC T q.2 (stepPred h' c') := by
    intro q hq hh
    obtain ⟨h0, hm0, hc, hopt⟩ := (dstepCand_spec T K Crit.rss q.1 q.2).2 hh
    exact ⟨h0, hm0, List.mem_flatMap.mpr ⟨q, hq, by rw [hc]; simp⟩, hopt⟩
  constructor
  · intro he
    refine ⟨hnil he, ?_⟩
    intro p hp
    by_contra hh
    obtain ⟨h0, _, hm, _⟩ := hmemAll p hp hh
    rw [he] at hm; simp at hm
  · intro hne
    obtain ⟨hmem, hmin⟩ := hcons hne
    obtain ⟨p, hp, hbest⟩ := List.mem_flatMap.mp hmem
    constructor
    · cases hd : dstepCand T K Crit.rss p.1 p.2 with
      | none => rw [hd] at hbest; simp at hbest
      | some c =>
        rw [hd] at hbest
        simp at hbest
        have hh : hashesOf p.2 ≠ [] := by
          intro e
          rw [(dstepCand_spec T K Crit.rss p.1 p.2).1 e] at hd; simp at hd
        obtain ⟨h0, hm0, hc, _⟩ := (dstepCand_spec T K Crit.rss p.1 p.2).2 hh
        rw [hd] at hc
        simp at hc
        refine ⟨p, hp, h0, hm0, by rw [hbest, hc], ?_⟩
        rw [hbest, hc]
        exact (dstepCandOf_spec T K Crit.rss p.1 p.2 h0 hm0).1
    · intro q hq hh h' c'
      obtain ⟨h0, _, hm, hopt⟩ := hmemAll q hq hh
      have h1 := hmin _ hm
      rw [dstepCandOf_score] at h1
      exact le_trans h1 (cmax_mono K (hopt h' c'))

/-! ### the fitted learner's predictions reproduce the reported RSS -/

/-- For every candidate a stump / hinge / affine / dense-table fit can select, the value handed to `make_score` is the RSS
    of the predictions (`predict` from zero outputs) of the learner that `fit` stores for it (`Cand.toStump` …), over the
    fitted samples. -/
theorem fit_predict_reproduces_rss [Log α] (sort : List (Item α) → List (Item α)) (hsort : SortSpec sort)
    (T : Nat) (K eps1 : α) (f : Nat) :
    (∀ (rows : List (Row α)), ∀ c ∈ stumpCands sort T K Crit.rss f rows, c.rss = predRss T c.toStump f rows) ∧
    (∀ (rows : List (Row α)), ∀ c ∈ hingeFeatureCands sort T K Crit.rss f rows, c.rss = predRss T c.toHinge f rows) ∧
    (∀ (rows : List (Row α)) (crit : Crit),
      (affineCand eps1 T K crit f rows).rss = predRss T (affineCand eps1 T K crit f rows).toAffine f rows) ∧
    (∀ (rows : List (CRow α)) (crit : Crit),
      (denseCand T K crit f rows).rss = predRssC T (denseCand T K crit f rows).toTable f rows) := by
  refine ⟨?_, ?_, ?_, ?_⟩
  · intro rows c hc
    have hs := stumpCands_spec sort hsort T K f rows c hc
    rw [hs.rss_eq]
    exact (predRss_eq T _ f rows _ fun ox o => by
      rw [Cand.toStump, contrib_stump c.feature c.thr c.tables _ ox (by rw [hs.feature]; exact sampleOf_self f _)]).symm
  · intro rows c hc
    have hs := hingeCands_spec sort hsort T K f rows c hc
    rw [hs.rss_eq]
    exact (predRss_eq T _ f rows _ fun ox o => by
      rw [Cand.toHinge, contrib_hinge c.feature c.thr (c.dir == 0) c.tables _ ox
        (by rw [hs.feature]; exact sampleOf_self f _) hs.offset o]).symm
  · intro rows crit
    rw [affineCand_rss_eq]
    exact (predRss_eq T _ f rows _ fun ox o => by
      rw [Cand.toAffine, contrib_affine _ _ _ ox (by exact sampleOf_self f _)]).symm
  · intro rows crit
    rw [(denseCand_spec T K crit f rows).1]
    unfold rssOfC predRssC
    apply lsum_map_congr; intro row hrow
    apply sqErr_congr; intro o
    rw [predictOne_zero]
    rw [dense_contrib T K crit f rows _ row.h (by exact sampleOf_self f _)
      (fun h hh => (mem_hashesOf rows h).mpr ⟨row, hrow, hh⟩)]

/-! ### threads -/

/-- `min_reduce_feature` over the per-thread caches (reduce.h, commit 62472c9) returns the candidate a single thread
    returns. `feats` = the features a fit loops over in increasing index order, each with its candidates in the order of its
    sweep, every candidate remembering its feature (`hidx`: `stumpCands … f rows`, `hingeFeatureCands`, `affineCand`,
    `denseCand`, `dstepCand` all set `feature := f`); `workers` = per worker, the features it processed, in its order.
    Every feature is processed by exactly one worker (`hperm`, the pool's contract C17) and every worker processes ITS
    features in increasing index order (`WorkersSorted`, decidable; what `pool_t::map` produces). NO hypothesis on the
    scores — exact ties between features / thresholds are allowed, non-finite scores and scores ≥ `big` too. Then for
    EVERY such assignment, any number of workers (none included):
      * the fit returns exactly what one thread seeing all features in order returns, and
      * that is the empty cache iff no candidate is storable (finite, below `no_fit_score()`), otherwise a storable candidate
        with the minimal score and, among those with the minimal score, the smallest feature index. -/
theorem fit_assignment_independent [FinTest α] (big : α) (feats : List (FeatC α)) (workers : List (List (FeatC α)))
    (hidx : ∀ p ∈ feats, ∀ c ∈ p.2, c.feature = p.1) (hinc : (feats.map Prod.fst).Pairwise (· < ·))
    (hperm : workers.flatten.Perm feats) (hsorted : WorkersSorted workers) :
    fitAssigned big (workers.map streamC) = fitSeq big (streamC feats) ∧
    ((fitSeq big (streamC feats) = noFit big ∧
        ∀ y ∈ streamC feats, ¬ (FinTest.isFin y.score = true ∧ y.score < big)) ∨
     (fitSeq big (streamC feats) ∈ streamC feats ∧
        (FinTest.isFin (fitSeq big (streamC feats)).score = true ∧ (fitSeq big (streamC feats)).score < big) ∧
        ∀ y ∈ streamC feats, (FinTest.isFin y.score = true ∧ y.score < big) →
          (fitSeq big (streamC feats)).score ≤ y.score ∧
          (y.score = (fitSeq big (streamC feats)).score → (fitSeq big (streamC feats)).feature ≤ y.feature))) := by
  have h1 := fitAssigned_sorted big feats workers hidx hinc hperm hsorted
  have h2 := fitSeq_sorted big feats hidx hinc
  exact ⟨bestC_unique big _ _ _ h1 h2, bestC_lexmin big feats hidx _ h2⟩

/-- The TABLE learners (dense, discrete-step; k-best / k-split use the same cache): since commit 5de0896 their per-thread
    caches use the lexicographic test of `min_reduce_feature` too (`pickLex`), because a table fit runs two loops (single-label,
    then multi-label features) into the same caches and a cache may see feature indices out of order. NO hypothesis on the
    order in which a worker sees its features and none on the scores: `feats` in any order with pairwise distinct indices,
    `workers` ANY distribution of them (`hperm`), each worker in ANY order. The fit returns what one cache seeing `feats` in
    the given order returns, and that is the lexicographic minimum of (score, feature index) over the storable candidates. -/
theorem table_fit_assignment_independent [FinTest α] (big : α) (feats : List (FeatC α)) (workers : List (List (FeatC α)))
    (hidx : ∀ p ∈ feats, ∀ c ∈ p.2, c.feature = p.1) (hnd : (feats.map Prod.fst).Nodup)
    (hperm : workers.flatten.Perm feats) :
    fitAssignedLex big (workers.map streamC) = fitSeqLex big (streamC feats) ∧
    ((fitSeqLex big (streamC feats) = noFit big ∧
        ∀ y ∈ streamC feats, ¬ (FinTest.isFin y.score = true ∧ y.score < big)) ∨
     (fitSeqLex big (streamC feats) ∈ streamC feats ∧
        (FinTest.isFin (fitSeqLex big (streamC feats)).score = true ∧ (fitSeqLex big (streamC feats)).score < big) ∧
        ∀ y ∈ streamC feats, (FinTest.isFin y.score = true ∧ y.score < big) →
          (fitSeqLex big (streamC feats)).score ≤ y.score ∧
          (y.score = (fitSeqLex big (streamC feats)).score → (fitSeqLex big (streamC feats)).feature ≤ y.feature))) := by
  have h1 := fitAssignedLex_any big feats workers hidx hnd hperm
  have h2 := fitSeqLex_any big feats hidx hnd
  exact ⟨bestC_unique big _ _ _ h1 h2, bestC_lexmin big feats hidx _ h2⟩

/-- On features visited in increasing index order (what the correspondence run feeds the model, and what the theorems
    `table_fit_eq_brute` / `dstep_fit_optimal` are stated about) the lexicographic cache of the table learners returns exactly
    what the first-best cache returns. -/
theorem table_cache_eq_first_best [FinTest α] (big : α) (feats : List (FeatC α))
    (hidx : ∀ p ∈ feats, ∀ c ∈ p.2, c.feature = p.1) (hinc : (feats.map Prod.fst).Pairwise (· < ·)) :
    fitSeqLex big (streamC feats) = fitSeq big (streamC feats) :=
  fitSeqLex_sorted_stream big feats hidx hinc

/-- The rule BEFORE commit 62472c9 (`min_reduce`: score only, `fitAssignedOld`) depends on the assignment under an exact
    tie, on index-sorted workers: features 0 and 2 tie on the minimal score 1 and sit on different workers — the cache of
    the lower worker id wins, whichever feature it holds; the present rule gives feature 0 both times. -/
theorem old_fit_assignment_dependent :
    ∃ (_ : FinTest ℚ) (feats : List (FeatC ℚ)) (workers workers' : List (List (FeatC ℚ))),
      (∀ p ∈ feats, ∀ c ∈ p.2, c.feature = p.1) ∧ (feats.map Prod.fst).Pairwise (· < ·) ∧
      workers.flatten.Perm feats ∧ workers'.flatten.Perm feats ∧ WorkersSorted workers ∧ WorkersSorted workers' ∧
      (fitAssignedOld (10 : ℚ) (workers.map streamC)).feature = 0 ∧
      (fitAssignedOld (10 : ℚ) (workers'.map streamC)).feature = 2 ∧
      (fitAssigned (10 : ℚ) (workers.map streamC)).feature = 0 ∧
      (fitAssigned (10 : ℚ) (workers'.map streamC)).feature = 0 := by
  let c0 : Cand ℚ := ⟨1, 1, 0, 0, 0, [], [], []⟩
  let c2 : Cand ℚ := ⟨1, 1, 2, 0, 0, [], [], []⟩
  exact ⟨⟨fun _ => true⟩, [(0, [c0]), (2, [c2])], [[(0, [c0])], [(2, [c2])]], [[(2, [c2])], [(0, [c0])]],
    by decide +kernel, by decide +kernel, .refl _, .swap _ _ _, by decide +kernel⟩

/-! ### predict / split / scale / merge (all learners, including k-best / k-split tables and decision trees) -/

/-- predictions are added to the given outputs -/
theorem predict_adds (l : Learner α) (s : Nat → FVal α) (out : Vec α) (o : Nat) :
    predictOne l s out o = out o + predictOne l s zeroV o := by
  rw [predictOne_eq, predictOne_zero]

/-- a sample whose selected feature (the root feature of a tree) is missing is not assigned and its outputs are unchanged -/
theorem predict_missing_zero (l : Learner α) (s : Nat → FVal α) (f : Nat) (hf : l.rootFeature = some f)
    (hm : s f = FVal.missing) (out : Vec α) :
    predictOne l s out = out ∧ splitOne l s = none := by
  have := eval_missing l s f hf hm
  simp [predictOne, splitOne, this]

/-- the prediction of a sample is the table row of the group `split()` reports for it (stump, every look-up table,
    decision tree), `w·x + b` on group 0 (affine, hinge); a sample that `split()` does not assign gets nothing -/
theorem predict_eq_table_of_split (l : Learner α) (s : Nat → FVal α) (out : Vec α) :
    (splitOne l s = none → predictOne l s out = out) ∧
    (∀ g, splitOne l s = some g → l.isTable → ∀ o, predictOne l s out o = out o + tab l.tables g o) ∧
    (∀ g, splitOne l s = some g → ¬ l.isTable →
      g = 0 ∧ ∃ f x, l.rootFeature = some f ∧ s f = FVal.num x ∧ ∀ o, predictOne l s out o = out o + lin l.tables x o) := by
  cases he : eval l s with
  | none =>
    have hs : splitOne l s = none := by rw [splitOne, he]; rfl
    refine ⟨fun _ => by rw [predictOne, he], fun g h => ?_, fun g h => ?_⟩
    · rw [hs] at h; cases h
    · rw [hs] at h; cases h
  | some p =>
    obtain ⟨g0, v⟩ := p
    have hs : splitOne l s = some g0 := by rw [splitOne, he]; rfl
    have hp : ∀ o, predictOne l s out o = out o + v o := fun o => by rw [predictOne_eq, contrib, he]
    refine ⟨fun h => ?_, fun g h ht o => ?_, fun g h ht => ?_⟩
    · rw [hs] at h; cases h
    · obtain rfl : g0 = g := Option.some.inj (hs.symm.trans h)
      rw [hp, eval_isTable l ht s g0 v he]
    · obtain rfl : g0 = g := Option.some.inj (hs.symm.trans h)
      obtain ⟨hg, f, x, hf, hsx, hv⟩ := eval_linear l ht s g0 v he
      exact ⟨hg, f, x, hf, hsx, fun o => by rw [hp, hv]⟩

/-- `scale(sc)` keeps the groups and multiplies the prediction of group `g` by `sc[min(g, |sc|−1)]`: any scale vector for
    the table learners (stump, tables, trees), the one-element vector for affine / hinge (one group) -/
theorem scale_scales (l : Learner α) (sc : List α) (hsc : l.isTable ∨ ∃ c, sc = [c]) (s : Nat → FVal α) :
    splitOne (l.scale sc) s = splitOne l s ∧
    ∀ o, predictOne (l.scale sc) s zeroV o
      = predictOne l s zeroV o * (match splitOne l s with | some g => factor sc g | none => 1) := by
  have h := eval_scale l sc hsc s
  constructor
  · unfold splitOne; rw [h]; cases eval l s <;> rfl
  · intro o
    rw [predictOne_zero, predictOne_zero]
    unfold contrib splitOne
    rw [h]
    cases eval l s with
    | none => simp [zeroV]
    | some p => rfl

/-- merging a list of learners leaves the sum of their predictions unchanged (for every sample and output) -/
theorem merge_preserves_sum (ls : List (Learner α)) (s : Nat → FVal α) (o : Nat) :
    lsum ((merge ls).map fun l => predictOne l s zeroV o) = lsum (ls.map fun l => predictOne l s zeroV o) := by
  have h := mergeAux_sum ls.length ls s o
  unfold sumContrib at h
  unfold merge
  simp only [predictOne_zero]
  exact h

/-! ### decision tree: the fit (`dtree_wlearner_t::do_fit`, Model/WLearnerTree.lean)

  `cfg : TreeCfg α` = what do_fit reads from its environment: the dataset size `N`, `max_depth`, `min_samples_size`, the
  feature values `val sample feature` and the stump fit on a sample list as an ORACLE `cfg.fit` (any function): the
  structural theorems hold for every such oracle; `dtree_leaf_table_is_mean` instantiates it with the modelled stump fit
  (`stumpTreeCfg`). `st.log` is the ghost log: entry `j` = the `j`-th processed cache (its sample list, the candidate the
  stump fit returned for it, terminal or not); its node pair is `2j, 2j+1`, a terminal entry owns the table rows
  `tbase st.log j`, `tbase st.log j + 1`. All sample lists (repetitions, any order), all depths, all oracles. -/

/-- do_fit terminates by itself: the model's fuel `2^max_depth` is never exhausted (at most `2^max_depth − 1` caches). -/
theorem dtreeFit_fuel_enough (cfg : TreeCfg α) (hd : 1 ≤ cfg.maxDepth) (samples : List Nat) :
    dtreeFit cfg samples ≠ .fuel := by
  unfold dtreeFit
  apply dtreeLoop_fuel cfg
  · intro c hc; simp at hc; subst hc; exact hd
  · simp [qweight]

/-- (a) `max_depth = 1`: the tree is fitted iff the stump is; it then has the stump's score, one node pair carrying the
    stump's feature and threshold, the stump's two tables, and `split` / `predict` (`eval`: group and added vector) agree
    with the stump's on EVERY sample (missing values included). (The statement's "tree of depth 1 = stump"; dtree.cpp fits
    only stumps at its nodes, there is no table alternative in the code.) -/
theorem dtree_depth1_eq_stump (cfg : TreeCfg α) (h1 : cfg.maxDepth = 1) (samples : List Nat) :
    (cfg.fit samples = none → dtreeFit cfg samples = .nofit TState.init) ∧
    (∀ cand, cfg.fit samples = some cand → ∃ st, dtreeFit cfg samples = .ok st ∧ st.score = cand.score ∧
      st.nodes = [⟨cand.feature, cand.thr, 0, 0⟩, ⟨cand.feature, cand.thr, 0, 1⟩] ∧
      st.tables = [tab cand.tables 0, tab cand.tables 1] ∧
      ∀ s : Nat → FVal α, eval st.learner s = eval cand.toStump s) := by
  constructor
  · intro hf
    rw [dtreeFit, h1]
    show dtreeLoop cfg (1 + 1) [⟨samples, 0, 0⟩] TState.init = _
    rw [dtreeLoop, hf]
  · intro cand hf
    refine ⟨_, dtreeFit_depth1 cfg h1 samples cand hf, zero_add _, rfl, rfl, fun s => ?_⟩
    simp only [TState.learner, Cand.toStump, eval, List.length_cons, List.length_nil, dtreeGroup,
      List.getElem?_cons_zero]
    cases s cand.feature with
    | num v => by_cases hv : v < cand.thr <;> simp [hv, tab]
    | cls c => rfl
    | missing => rfl

/-- (e) well-formedness of a fitted tree: two nodes per processed cache and two table rows per terminal one; every cache
    has depth `< max_depth` (children one more than their parent: `TInv.entry_origin`); every node is either a leaf node
    (`next = 0`) whose table index is a valid row, or an inner node whose `next` points strictly FORWARD to a node pair inside
    the list (so the node graph is acyclic); and the walk of `do_split` / `do_predict` (`dtreeRoute` = `dtreeGroup` with the
    reason of a `none`) started with `nodes.length` fuel never runs out of fuel nor leaves the list, for ANY sample. -/
theorem dtree_fit_wellformed (cfg : TreeCfg α) (hd : 1 ≤ cfg.maxDepth) (samples : List Nat) (st : TState α)
    (h : dtreeFit cfg samples = .ok st) :
    st.nodes.length = 2 * st.log.length ∧ st.tables.length = 2 * tc st.log ∧ 1 ≤ st.log.length ∧
    (∀ e ∈ st.log, e.cache.depth < cfg.maxDepth) ∧
    (∀ (i : Nat) (nd : Node α), st.nodes[i]? = some nd →
      (nd.next = 0 ∧ ∃ L : Nat, nd.table = (L : Int) ∧ L < st.tables.length) ∨
      (i < nd.next ∧ nd.next + 1 < st.nodes.length)) ∧
    (∀ s : Nat → FVal α, dtreeRoute st.nodes s st.nodes.length 0 ≠ .stuck) := by
  have hinv := dtreeFit_inv cfg samples hd st h
  obtain ⟨e0, he0, _⟩ := hinv.root_entry
  have hlen : 1 ≤ st.log.length := (List.getElem?_eq_some_iff.mp he0).1
  refine ⟨hinv.len, hinv.tabs, hlen, ?_, ?_, ?_⟩
  · intro e he
    exact hinv.depth e.cache (List.mem_append_left _ (List.mem_map_of_mem he))
  · intro i nd hi
    have hilt : i < st.nodes.length := (List.getElem?_eq_some_iff.mp hi).1
    rw [hinv.len] at hilt
    have hj : i / 2 < st.log.length := Nat.div_lt_of_lt_mul hilt
    have hg : i % 2 < 2 := Nat.mod_lt _ Nat.two_pos
    have hi2 : 2 * (i / 2) + i % 2 = i := Nat.div_add_mod i 2
    have he : st.log[i / 2]? = some st.log[i / 2] := List.getElem?_eq_getElem hj
    cases hterm : st.log[i / 2].terminal with
    | true =>
      obtain ⟨nd', hnd', hnx, htab, htbl⟩ := hinv.term _ _ he hterm _ hg
      rw [hi2, hi] at hnd'
      cases hnd'
      exact .inl ⟨hnx, _, htab, (List.getElem?_eq_some_iff.mp htbl).1⟩
    | false =>
      obtain ⟨e', he', hlt, _, nd', hnd', hnx⟩ := hinv.child _ _ he hterm _ hg
      rw [hi2, hi] at hnd'
      cases hnd'
      have hclt : cidx st.log (i / 2) (i % 2) < st.log.length := (List.getElem?_eq_some_iff.mp he').1
      right
      rw [hnx, hinv.len]
      omega
  · intro s
    exact route_not_stuck hinv st.log.length 0 e0 he0 (Nat.le_refl _) s st.nodes.length
      (by rw [hinv.len]; exact Nat.le_trans (Nat.sub_le _ _) (Nat.le_mul_of_pos_left _ Nat.two_pos))

/-- (b) the leaves partition the fitted samples. For a fitted tree and a fitted sample `i` (valid index):
    * `do_split` puts `i` into table row `L` exactly when `i` is in the sample list of a terminal cache, has the value of that
      cache's feature and falls on the side of row `L` (`InLeaf`) — nothing is lost, nothing is invented;
    * `do_split` leaves `i` unassigned exactly when `i` is in the sample list of some processed cache whose selected feature it
      misses (`LostAt`) — never because the walk broke down;
    * no sample is in two leaves, none is both in a leaf and lost;
    and the sample list of every cache consists of fitted samples (below the root: valid indices). -/
theorem dtree_leaves_partition (cfg : TreeCfg α) (hd : 1 ≤ cfg.maxDepth) (samples : List Nat) (st : TState α)
    (h : dtreeFit cfg samples = .ok st) :
    (∀ (j : Nat) (e : TEntry α), st.log[j]? = some e → ∀ i ∈ e.cache.samples, i ∈ samples ∧ (1 ≤ j → i < cfg.N)) ∧
    ∀ i ∈ samples, i < cfg.N →
      (∀ L, dtreeGroup st.nodes (cfg.val i) st.nodes.length 0 = some L ↔ InLeaf cfg st i L) ∧
      (dtreeGroup st.nodes (cfg.val i) st.nodes.length 0 = none ↔ LostAt cfg st i) ∧
      (∀ L L', InLeaf cfg st i L → InLeaf cfg st i L' → L = L') ∧
      (∀ L, InLeaf cfg st i L → ¬ LostAt cfg st i) := by
  have hinv := dtreeFit_inv cfg samples hd st h
  refine ⟨fun j e he => hinv.entry_samples j j e (Nat.le_refl _) he, fun i hi hiN => ?_⟩
  obtain ⟨hleaf, hmiss, hns⟩ := hinv.route_root hi hiN
  simp only [dtreeGroup_eq_route]
  refine ⟨fun L => Route.toOption_eq_some.trans (hleaf L), (Route.toOption_eq_none hns).trans hmiss, ?_, ?_⟩
  · intro L L' h1 h2
    exact Route.leaf.inj (((hleaf L).mpr h1).symm.trans ((hleaf L').mpr h2))
  · intro L h1 h2
    cases ((hleaf L).mpr h1).symm.trans (hmiss.mpr h2)

/-- (c) every leaf's table is the mean residual of the samples in that leaf. With the modelled stump fit at the nodes
    (`stumpTreeCfg`; `resid i` = −gradient of sample `i`), for every terminal cache `e` of a fitted tree and each side `g`: the
    table row `tbase st.log j + g` is the mean residual over the samples of the cache's list that `stump.split` puts on side
    `g` — and these are exactly the samples of the list that `do_split` of the FITTED TREE sends to this row (`hN`: the
    fitted indices are valid, the C++ `assert(samples.max() < dataset.samples())`); that set is not empty. By
    `const_fit_optimal` the row therefore minimises the residual sum of squares of its leaf. -/
theorem dtree_leaf_table_is_mean [Log α] [FinTest α] (sort : List (Item α) → List (Item α)) (hsort : SortSpec sort)
    (T : Nat) (K big : α) (crit : Crit) (feats : List Nat) (val : Nat → Nat → FVal α) (resid : Nat → Vec α)
    (N maxDepth minSplit : Nat) (hd : 1 ≤ maxDepth) (samples : List Nat) (hN : ∀ i ∈ samples, i < N) (st : TState α)
    (h : dtreeFit (stumpTreeCfg sort T K big crit feats val resid N maxDepth minSplit) samples = .ok st)
    (j : Nat) (e : TEntry α) (he : st.log[j]? = some e) (hterm : e.terminal = true) (g : Nat) (hg : g < 2) :
    let leaf := e.cache.samples.filter fun i => stumpSide val e.cand.feature e.cand.thr i == some g
    leaf ≠ [] ∧
    (∃ t, st.tables[tbase st.log j + g]? = some t ∧ ∀ o, t o = meanOf (leaf.map resid) o) ∧
    (∀ i ∈ e.cache.samples, i ∈ leaf ↔
      dtreeGroup st.nodes (val i) st.nodes.length 0 = some (tbase st.log j + g)) := by
  intro leaf
  have hinv := dtreeFit_inv _ _ hd st h
  obtain ⟨hne, hmean⟩ :=
    stumpFitOn_sides sort hsort T K big crit feats val resid _ _ (hinv.fitrec j e he) g hg
  obtain ⟨nd, _, _, _, htbl⟩ := hinv.term j e he hterm g hg
  refine ⟨hne, ⟨_, htbl, hmean⟩, fun i hi => ?_⟩
  obtain ⟨hsub, hpart⟩ := dtree_leaves_partition _ hd samples st h
  have hi0 : i ∈ samples := (hsub j e he i hi).1
  have hiff : ∀ L, dtreeGroup st.nodes (val i) st.nodes.length 0 = some L ↔ InLeaf _ st i L := (hpart i hi0 (hN i hi0)).1
  rw [hiff, inLeaf_iff he hterm hg, show i ∈ leaf ↔ _ from List.mem_filter, beq_iff_eq]
  rfl

/-- (c′) the same without the ghost log — every row of the fitted tree's table is the mean residual of the samples that the
    FITTED TREE ITSELF routes to that row: for every row `L` of `st.tables`, with `group i` = `do_split`'s answer for sample `i`
    (`dtreeGroup`), the row is the mean of `resid` over
      * the fitted list filtered by `group = L` (repetitions kept) when the tree is a single node pair (depth-1 tree / root
        terminal), and
      * the DISTINCT fitted samples `i < N` with `group i = L`, in increasing order, otherwise (`cluster_t::indices`),
    and that list is not empty. The rows are numbered without gaps: (terminal cache, side) ↦ row is a bijection (`tbase_inj`,
    `tbase_surj`). -/
theorem dtree_leaf_rows_are_means [Log α] [FinTest α] (sort : List (Item α) → List (Item α)) (hsort : SortSpec sort)
    (T : Nat) (K big : α) (crit : Crit) (feats : List Nat) (val : Nat → Nat → FVal α) (resid : Nat → Vec α)
    (N maxDepth minSplit : Nat) (hd : 1 ≤ maxDepth) (samples : List Nat) (hN : ∀ i ∈ samples, i < N) (st : TState α)
    (h : dtreeFit (stumpTreeCfg sort T K big crit feats val resid N maxDepth minSplit) samples = .ok st)
    (L : Nat) (hL : L < st.tables.length) :
    let group := fun i => dtreeGroup st.nodes (val i) st.nodes.length 0
    let base := if st.nodes.length = 2 then samples else (List.range N).filter fun i => samples.contains i
    let leaf := base.filter fun i => group i == some L
    leaf ≠ [] ∧ ∃ t, st.tables[L]? = some t ∧ ∀ o, t o = meanOf (leaf.map resid) o := by
  intro group base leaf
  have hinv := dtreeFit_inv _ _ hd st h
  obtain ⟨j, e, g, he, hterm, hg, rfl⟩ := tbase_surj st.log L (by rw [← hinv.tabs]; exact hL)
  obtain ⟨hne, ⟨t, ht, hmean⟩, hiff⟩ :=
    dtree_leaf_table_is_mean sort hsort T K big crit feats val resid N maxDepth minSplit hd samples hN st h j e he hterm g hg
  obtain ⟨hsub, hpart⟩ := dtree_leaves_partition _ hd samples st h
  -- the leaf of the ghost statement is the cache's list filtered by the tree's own routing
  have hleaf' : (e.cache.samples.filter fun i => stumpSide val e.cand.feature e.cand.thr i == some g)
      = e.cache.samples.filter fun i => group i == some (tbase st.log j + g) := by
    apply List.filter_congr
    intro i hi
    have := hiff i hi
    rw [List.mem_filter, beq_iff_eq, and_iff_right hi] at this
    rw [Bool.eq_iff_iff, beq_iff_eq, beq_iff_eq]
    exact this
  -- the cache's list and the fitted list hold the same samples routed to this row
  have hbase : (e.cache.samples.filter fun i => group i == some (tbase st.log j + g)) = leaf := by
    show _ = (if st.nodes.length = 2 then samples else _).filter _
    rcases hinv.entry_origin j e he with ⟨rfl, hc⟩ | ⟨j', e', g', hlt, he', hterm', hg', hcx, hc⟩
    · rw [if_pos (by rw [hinv.len, hinv.root_terminal he hterm]), hc]
    · have hjlt : j < st.log.length := (List.getElem?_eq_some_iff.mp he).1
      -- below the root a sample list is a filter of `range N`: compare membership
      have hrange : e.cache.samples = (List.range N).filter fun i => e.cache.samples.contains i := by
        rw [hc]
        exact filter_range_mem N _
      rw [if_neg (by rw [hinv.len]; omega), hrange, List.filter_filter, List.filter_filter]
      apply List.filter_congr
      intro i hi
      cases hG : group i == some (tbase st.log j + g) with
      | false => rfl
      | true =>
        rw [Bool.true_and, Bool.true_and, Bool.eq_iff_iff, List.contains_iff_mem, List.contains_iff_mem]
        refine ⟨fun hm => (hsub j e he i hm).1, fun hm => ?_⟩
        exact ((inLeaf_iff he hterm hg i).mp (((hpart i hm (List.mem_range.mp hi)).1 _).mp (beq_iff_eq.mp hG))).1
  rw [hleaf', hbase] at hne hmean
  exact ⟨hne, t, ht, hmean⟩

/-- (d) fit–predict consistency of a fitted tree (RSS criterion, modelled stump fit at the nodes). For every terminal cache
    `e`: the RSS its stump fit handed to `make_score` is the RSS, over the samples of that cache, of the predictions of the
    WHOLE FITTED TREE (`predict` from zero outputs) — on the samples of a leaf pair the tree predicts what that pair's stump
    predicts, zero where the stump's feature is missing; its score is `max(rss, K)`; and the score `fit` returns is the sum
    of these scores over the terminal caches in processing order. (It is NOT in general the RSS of the tree over the fitted
    list: samples dropped at an inner node for a missing value are counted nowhere, repeated indices only at the root.) -/
theorem dtree_fit_predict_reproduces_rss [Log α] [FinTest α] (sort : List (Item α) → List (Item α)) (hsort : SortSpec sort)
    (T : Nat) (K big : α) (feats : List Nat) (val : Nat → Nat → FVal α) (resid : Nat → Vec α)
    (N maxDepth minSplit : Nat) (hd : 1 ≤ maxDepth) (samples : List Nat) (hN : ∀ i ∈ samples, i < N) (st : TState α)
    (h : dtreeFit (stumpTreeCfg sort T K big Crit.rss feats val resid N maxDepth minSplit) samples = .ok st) :
    (∀ (j : Nat) (e : TEntry α), st.log[j]? = some e → e.terminal = true →
      e.cand.rss = lsum (e.cache.samples.map fun i => sqErr T (resid i) (predictOne st.learner (val i) zeroV)) ∧
      e.cand.score = cmax e.cand.rss K) ∧
    st.score = sumL (fun e : TEntry α => e.cand.score) (st.log.filter fun e => e.terminal) 0 := by
  have hinv := dtreeFit_inv _ _ hd st h
  refine ⟨fun j e he hterm => ?_, hinv.scoreInv⟩
  obtain ⟨_, f, _, hc⟩ := stumpFitOn_mem sort T K big Crit.rss feats val resid _ _ (hinv.fitrec j e he)
  have hspec := stumpCands_spec sort hsort T K f _ e.cand hc
  obtain rfl : e.cand.feature = f := hspec.feature
  refine ⟨?_, hspec.score⟩
  rw [hspec.rss_eq, rssOf, rowsOf, List.map_map]
  obtain ⟨hsub, hpart⟩ := dtree_leaves_partition _ hd samples st h
  refine lsum_map_congr _ _ _ fun i hi => sqErr_congr T _ _ _ fun o => ?_
  have hi0 : i ∈ samples := (hsub j e he i hi).1
  have hiff : ∀ L, dtreeGroup st.nodes (val i) st.nodes.length 0 = some L ↔ InLeaf _ st i L := (hpart i hi0 (hN i hi0)).1
  have hnone : dtreeGroup st.nodes (val i) st.nodes.length 0 = none ↔ LostAt _ st i := (hpart i hi0 (hN i hi0)).2.1
  -- a sample without the value of the stump's feature is lost at this entry
  have hlost : (∀ v, val i e.cand.feature ≠ .num v) →
      predictOne st.learner (val i) zeroV o = stumpPred e.cand.thr (tab e.cand.tables 0) (tab e.cand.tables 1) none o :=
    fun hv => by
      rw [predictOne_zero, contrib, TState.learner, eval, hnone.mpr ⟨j, e, he, hi, hv⟩]
      rfl
  show stumpPred _ _ _ (match val i e.cand.feature with | .num v => some v | _ => none) o = _
  cases hv : val i e.cand.feature with
  | num v =>
    obtain ⟨_, _, _, _, htbl⟩ := hinv.term j e he hterm _ (sideOf_lt_two v e.cand.thr)
    rw [predictOne_zero, contrib, TState.learner, eval, (hiff _).mpr ⟨j, e, v, he, hterm, hi, hv, rfl⟩]
    have htab : tab st.tables (tbase st.log j + sideOf v e.cand.thr) = tab e.cand.tables (sideOf v e.cand.thr) := by
      rw [tab, List.getD_eq_getElem?_getD, htbl]
      rfl
    show _ = tab st.tables (tbase st.log j + sideOf v e.cand.thr) o
    rw [htab]
    show (if v < e.cand.thr then tab e.cand.tables 0 else tab e.cand.tables 1) o =
      tab e.cand.tables (if v < e.cand.thr then 0 else 1) o
    split <;> rfl
  | cls c => exact (hlost fun v hh => by rw [hv] at hh; cases hh).symm
  | missing => exact (hlost fun v hh => by rw [hv] at hh; cases hh).symm

/-- A table fit whose candidates on a feature all have at least the dense table's RSS and one of them exactly that (no
    candidate when the feature has no present value) returns the dense table's score on the best feature. -/
theorem tableFit_eq_dense [FinTest α] [Log α] (hfin : ∀ y : α, FinTest.isFin y = true) (T : Nat) (K big : α)
    (cands : Nat → List (CRow α) → List (Cand α)) (hnil : ∀ f rows, hashesOf rows = [] → cands f rows = [])
    (hspec : ∀ f rows, (∀ c ∈ cands f rows, c.score = cmax c.rss K ∧ (denseCand T K Crit.rss f rows).rss ≤ c.rss) ∧
      (hashesOf rows ≠ [] → ∃ c ∈ cands f rows, c.rss = (denseCand T K Crit.rss f rows).rss))
    (cols : List (Nat × List (CRow α))) (all : List (Cand α)) (hall : all = cols.flatMap fun p => cands p.1 p.2)
    (hbig : ∀ c ∈ all, c.score < big) :
    (all = [] → fitSeq big all = noFit big ∧ ∀ p ∈ cols, hashesOf p.2 = []) ∧
    (all ≠ [] →
      (∃ p ∈ cols, hashesOf p.2 ≠ [] ∧ (fitSeq big all).score = cmax (denseCand T K Crit.rss p.1 p.2).rss K) ∧
      ∀ q ∈ cols, hashesOf q.2 ≠ [] → ∀ tbl : Nat → Vec α,
        (fitSeq big all).score ≤ cmax (rssOfC T q.2 (tablePred tbl)) K) := by
  obtain ⟨hnone, hcons⟩ := fitSeq_min hfin big all hbig
  -- the candidate with the dense table's RSS
  have hfull : ∀ q ∈ cols, hashesOf q.2 ≠ [] → ∃ c ∈ all, c.score = cmax (denseCand T K Crit.rss q.1 q.2).rss K := by
    intro q hq hh
    obtain ⟨c, hc, hrss⟩ := (hspec q.1 q.2).2 hh
    exact ⟨c, by rw [hall]; exact List.mem_flatMap.mpr ⟨q, hq, hc⟩, by rw [((hspec q.1 q.2).1 c hc).1, hrss]⟩
  constructor
  · intro he
    refine ⟨hnone he, fun p hp => ?_⟩
    by_contra hh
    obtain ⟨c, hc, _⟩ := hfull p hp hh
    rw [he] at hc
    cases hc
  · intro hne
    obtain ⟨hmem, hmin⟩ := hcons hne
    have hq : ∀ q ∈ cols, hashesOf q.2 ≠ [] → (fitSeq big all).score ≤ cmax (denseCand T K Crit.rss q.1 q.2).rss K := by
      intro q hq hh
      obtain ⟨c, hc, hs⟩ := hfull q hq hh
      exact hs ▸ hmin c hc
    constructor
    · obtain ⟨p, hp, hbest⟩ := List.mem_flatMap.mp (show _ ∈ cols.flatMap _ by rw [← hall]; exact hmem)
      have hh : hashesOf p.2 ≠ [] := fun he => by
        rw [hnil p.1 p.2 he] at hbest
        cases hbest
      obtain ⟨hscore, hle⟩ := (hspec p.1 p.2).1 _ hbest
      exact ⟨p, hp, hh, le_antisymm (hq p hp hh) (by rw [hscore]; exact cmax_mono K hle)⟩
    · intro q hq' hh tbl
      exact le_trans (hq q hq' hh) (cmax_mono K ((denseCand_spec T K Crit.rss q.1 q.2).2 tbl))

/-- What `kbest_table_wlearner_t::fit` returns with the RSS criterion. The candidate family of `score_kbest` on one feature
    is: for every `k`, the table on the `k` label sets with the smallest `delta = −|Σr|²/n` (zero prediction elsewhere); every
    delta is `≤ 0`, so under the RSS criterion the greedy sequence ends at the table that keeps every label set, whose RSS is
    the dense table's. Hence: no candidate exists exactly when no categorical feature has a present value; otherwise the
    reported score is `max(m, K)` with `m` the RSS of the DENSE table of the best feature — the minimum over ALL tables on all
    features (any vector per label set), in particular over all tables on any SUBSET of the label sets, which is the
    hypothesis class of the k-best learner. `sortP` = `std::sort` of the `(delta, bin)` pairs: only "it returns a
    permutation" is used. -/
theorem kbest_fit_eq_brute [FinTest α] [Log α] (hfin : ∀ y : α, FinTest.isFin y = true)
    (sortP : List (α × Nat) → List (α × Nat)) (hperm : ∀ l, (sortP l).Perm l) (T : Nat) (K big : α)
    (cols : List (Nat × List (CRow α))) (hbig : ∀ c ∈ kbestAll sortP T K cols, c.score < big) :
    (kbestAll sortP T K cols = [] →
      fitSeq big (kbestAll sortP T K cols) = noFit big ∧ ∀ p ∈ cols, hashesOf p.2 = []) ∧
    (kbestAll sortP T K cols ≠ [] →
      (∃ p ∈ cols, hashesOf p.2 ≠ [] ∧
        (fitSeq big (kbestAll sortP T K cols)).score = cmax (denseCand T K Crit.rss p.1 p.2).rss K) ∧
      ∀ q ∈ cols, hashesOf q.2 ≠ [] → ∀ tbl : Nat → Vec α,
        (fitSeq big (kbestAll sortP T K cols)).score ≤ cmax (rssOfC T q.2 (tablePred tbl)) K) := by
  refine tableFit_eq_dense hfin T K big (fun f rows => kbestCands sortP T K Crit.rss f rows 0) ?_ ?_ cols _ rfl hbig
  · intro f rows he
    simp [kbestCands, he]
  · intro f rows
    have h := kbestCands_spec sortP hperm T K f rows
    exact ⟨fun c hc => (h.1 c hc).2, h.2⟩

/-- The greedy choice of `score_kbest` is optimal for its own candidate family, for EVERY criterion: the candidate `kbest = k`
    keeps the `k` label sets with the smallest deltas (`std::sort` = any sorted permutation, `PairSortSpec`), and its RSS
    `rss0 + Σ (k smallest deltas)` is at most `rss0 + Σ_{b ∈ S} delta(b)` — the RSS of the table that predicts the bin mean on
    the label sets of `S` and zero elsewhere — for every choice `S` of `k` distinct label sets of the feature. As the criteria
    are increasing in the RSS for fixed `(k, n)`, the candidate also has the best criterion value among the `k`-subsets. -/
theorem kbest_greedy_optimal_per_size [Log α] (sortP : List (α × Nat) → List (α × Nat)) (hsort : PairSortSpec sortP)
    (T : Nat) (K : α) (crit : Crit) (f : Nat) (rows : List (CRow α)) (c : Cand α)
    (hc : c ∈ kbestCands sortP T K crit f rows 0) (S : List (α × Nat)) (hS : S.Sublist (binDeltas T rows))
    (hk : S.length = c.tables.length) :
    c.rss ≤ dstepRss0 T rows + lsum (S.map (·.1)) := by
  rw [kbestCands_zero] at hc
  obtain ⟨i, hi, rfl⟩ := List.mem_map.mp hc
  have hi' : i + 1 ≤ (sortP (binDeltas T rows)).length := by
    rw [(hsort.perm _).length_eq, binDeltas_length]
    exact List.mem_range.mp hi
  show kbestRss T rows _ ≤ _
  -- `S` is, up to order, a sublist `S'` of the sorted list
  obtain ⟨S', hperm, hsub⟩ := hS.subperm.trans (hsort.perm _).symm.subperm
  have hlen' : S'.length = i + 1 := by
    rw [hperm.length_eq, hk]
    show (List.map _ (sortAsc _)).length = _
    rw [List.length_map, sortAsc_length, List.length_map, List.length_take, Nat.min_eq_left hi']
  have := lsum_take_le_sublist _ (hsort.sorted _) S' hsub
  rw [hlen', lsum_perm (hperm.map (·.1))] at this
  rw [kbestRss_eq]
  exact add_le_add (le_refl _) this

/-- Fit–predict consistency of the k-best table, for EVERY criterion and every candidate `kbest = 1 … bins` the fit can
    select: the RSS handed to `make_score` (the running `rss += mapping[kbest−1].first`) is the RSS, from the definition, of the
    predictions of the table learner that `fit` stores for it — kept hashes re-sorted, `hash2tables = 0 … kbest−1`, bin means,
    looked up by `nano::find`'s binary search; every label set that is not kept and every missing value is predicted zero. -/
theorem kbest_fit_predict_reproduces_rss [Log α] (sortP : List (α × Nat) → List (α × Nat)) (hperm : ∀ l, (sortP l).Perm l)
    (T : Nat) (K : α) (crit : Crit) (f : Nat) (rows : List (CRow α)) :
    ∀ c ∈ kbestCands sortP T K crit f rows 0, c.rss = predRssC T c.toTable f rows := by
  intro c hc
  rw [kbestCands_zero] at hc
  obtain ⟨i, hi, rfl⟩ := List.mem_map.mp hc
  set pre := (sortP (binDeltas T rows)).take (i + 1) with hpre
  set B := sortAsc (pre.map (·.2)) with hBdef
  have hsubl : pre.Sublist (sortP (binDeltas T rows)) := List.take_sublist _ _
  have hmem : ∀ p ∈ pre, p ∈ binDeltas T rows := fun p hp => (hperm _).subset (hsubl.subset hp)
  -- the bins of the prefix are distinct and valid
  have hnd : (pre.map (·.2)).Nodup := by
    have h1 : ((sortP (binDeltas T rows)).map (·.2)).Nodup := by
      refine ((hperm _).map _).nodup_iff.mpr ?_
      unfold binDeltas
      rw [List.zipIdx_map_snd]
      exact List.nodup_range'
    exact h1.sublist (hsubl.map _)
  have hBnd : B.Nodup := (sortAsc_perm _).nodup_iff.mpr hnd
  have hBstrict : B.Pairwise (· < ·) := sortAsc_strict _ hnd
  have hBv : ∀ b ∈ B, b < (hashesOf rows).length := by
    intro b hb
    obtain ⟨p, hp, rfl⟩ := List.mem_map.mp ((sortAsc_perm _).subset hb)
    exact (mem_binDeltas T rows p (hmem p hp)).1
  -- the running RSS in terms of the kept bins
  have hrss : kbestRss T rows pre
      = dstepRss0 T rows + lsum (B.map fun b => binDelta T (binMom rows ((hashesOf rows).getD b 0))) := by
    rw [kbestRss_eq]
    congr 1
    rw [lsum_perm ((sortAsc_perm (pre.map (·.2))).map _), List.map_map]
    apply lsum_map_congr
    intro p hp
    exact (mem_binDeltas T rows p (hmem p hp)).2
  show kbestRss T rows pre = _
  rw [hrss, ← rssOfC_subsetTable T rows B hBnd hBv]
  exact (predRssC_eq T _ f rows _ fun oh o => by
    rw [kbest_contrib T K crit f rows _ B hBstrict hBv _ oh (sampleOf_self f _)]).symm

/-! ### k-split tables: the fit (`ksplit_table_wlearner_t::do_fit`, `score_ksplit`, `accumulator_t::cluster`) -/

/-- What `ksplit_table_wlearner_t::fit` returns with the RSS criterion. The candidate family of `score_ksplit` on one feature
    is the sequence of partitions of the label sets produced by the GREEDY agglomeration of `accumulator_t::cluster` (merge the two
    clusters whose mean outputs are closest), one candidate per number of clusters. Merging two clusters never lowers the RSS
    (`cluScore_merge`, Cauchy–Schwarz), so every candidate has at least the RSS of the first one — every label set its own
    cluster: the DENSE table. Hence with the RSS criterion: no candidate exists exactly when no categorical feature has a
    present value; otherwise the reported score is `max(m, K)` with `m` the dense table's RSS on the best feature, the minimum
    over all tables on all features (in particular over all tables that are constant on the parts of ANY partition of the label
    sets — the hypothesis class of the k-split learner). For a FIXED number of clusters the greedy choice is NOT optimal: see the
    counterexample among the examples below (it matters for AIC / AICc / BIC only). -/
theorem ksplit_fit_eq_brute [FinTest α] [Log α] (hfin : ∀ y : α, FinTest.isFin y = true) (T : Nat) (K big cbig : α)
    (cols : List (Nat × List (CRow α))) (hbig : ∀ c ∈ ksplitAll T K cbig cols, c.score < big) :
    (ksplitAll T K cbig cols = [] →
      fitSeq big (ksplitAll T K cbig cols) = noFit big ∧ ∀ p ∈ cols, hashesOf p.2 = []) ∧
    (ksplitAll T K cbig cols ≠ [] →
      (∃ p ∈ cols, hashesOf p.2 ≠ [] ∧
        (fitSeq big (ksplitAll T K cbig cols)).score = cmax (denseCand T K Crit.rss p.1 p.2).rss K) ∧
      ∀ q ∈ cols, hashesOf q.2 ≠ [] → ∀ tbl : Nat → Vec α,
        (fitSeq big (ksplitAll T K cbig cols)).score ≤ cmax (rssOfC T q.2 (tablePred tbl)) K) := by
  refine tableFit_eq_dense hfin T K big (fun f rows => ksplitCands T K cbig Crit.rss f rows) ?_ ?_ cols _ rfl hbig
  · intro f rows he
    simp [ksplitCands, he, cluTrials]
  · intro f rows
    have h := ksplitCands_spec T K cbig f rows
    exact ⟨fun c hc => (h.1 c hc).2, fun hh => let ⟨c, hc, hr, _⟩ := h.2 hh; ⟨c, hc, hr⟩⟩

/-- Fit–predict consistency of the k-split table, for EVERY criterion and every candidate (every trial of the greedy
    agglomeration) the fit can select: the RSS handed to `make_score` (sum of the clusters' `r2 − r1²/x0` + missing) is the RSS,
    from the definition, of the predictions of the table learner that `fit` stores for it — all hashes, `hash2tables =
    cluster_id` of that trial, one row per cluster = its mean output. Through all trials the moments of a cluster are the sums
    of the moments of the bins mapped to it (`CluRel`, `cluTrials_rel`). -/
theorem ksplit_fit_predict_reproduces_rss [Log α] (T : Nat) (K cbig : α) (crit : Crit) (f : Nat) (rows : List (CRow α)) :
    ∀ c ∈ ksplitCands T K cbig crit f rows, c.rss = predRssC T c.toTable f rows := by
  intro c hc
  obtain ⟨st, hst, rfl⟩ := List.mem_map.mp hc
  have hrel : CluRel (ksplitInit rows).1 st :=
    cluTrials_rel T cbig _ _ (ksplitInit rows) (ksplitInit_length rows) (CluRel.init rows) st hst
  show sumL (cluScore T) st.1 (missRssC T rows) = _
  rw [← rssOfC_ksplitTable T rows st hrel]
  exact (predRssC_eq T _ f rows _ fun oh o => by
    show contrib (Learner.table f (hashesOf rows) st.2 (st.1.map (·.rx))) _ o = _
    rw [ksplit_contrib rows st hrel f _ oh (sampleOf_self f _)]).symm

/-! ### non-vacuity: the hypotheses are satisfiable on concrete data over ℚ -/

section examples
local instance : FinTest ℚ := ⟨fun _ => true⟩
local instance : Log ℚ := ⟨fun x => x⟩

/-- three fitted samples (one of them twice), one scalar feature with a tie, one output -/
def exRows : List (Row ℚ) :=
  [⟨0, some 1, fun _ => 2⟩, ⟨1, some 1, fun _ => -1⟩, ⟨2, some 3, fun _ => 4⟩, ⟨2, some 3, fun _ => 4⟩, ⟨3, none, fun _ => 1⟩]

example : SortSpec (α := ℚ) (fun l => l.mergeSort itemLe) := mergeSort_sortSpec

/-- the stump fit on `exRows` has a candidate (so `stump_fit_optimal`'s second branch applies) -/
example : stumpAll (fun l => l.mergeSort itemLe) 1 (0 : ℚ) [(0, exRows)] ≠ [] := by
  intro he
  obtain ⟨c, hc, _⟩ := stumpCands_complete (fun l => l.mergeSort itemLe) mergeSort_sortSpec 1 (0 : ℚ) Crit.rss 0 exRows 2
    ⟨⟨1, 0, fun _ => 2⟩, by simp [exRows, present], by norm_num⟩
    ⟨⟨3, 2, fun _ => 4⟩, by simp [exRows, present], by norm_num⟩
  have : c ∈ stumpAll (fun l => l.mergeSort itemLe) 1 (0 : ℚ) [(0, exRows)] := by
    unfold stumpAll; simpa using hc
  rw [he] at this; simp at this

/-- the regular branch of the affine learner is reachable: on `exRows` `constant()` is false (`x2·x0 − x1² = 16 > 0`) -/
example : affineConst (1 / 100000000000 : ℚ) ((present exRows).foldl Item.upd Mom.zero) = false := by
  decide +kernel

/-- … and the degenerate branch on a constant feature -/
example : affineConst (1 / 100000000000 : ℚ)
    ((present [⟨0, some (1 / 10 : ℚ), fun _ => 2⟩, ⟨1, some (1 / 10), fun _ => -1⟩, ⟨2, some (1 / 10), fun _ => 4⟩]).foldl
      Item.upd Mom.zero) = true := by
  decide +kernel

/-- the hypotheses of `fit_assignment_independent` are satisfiable with an exact tie spread over two workers (features 0 and 2
    both score 1; the worker with the lower id holds feature 2): the fit returns feature 0 -/
example :
    let c0 : Cand ℚ := ⟨1, 1, 0, 0, 0, [], [], []⟩
    let c1 : Cand ℚ := ⟨3, 3, 1, 0, 0, [], [], []⟩
    let c2 : Cand ℚ := ⟨1, 1, 2, 0, 0, [], [], []⟩
    let feats : List (FeatC ℚ) := [(0, [c0]), (1, [c1]), (2, [c2])]
    let workers : List (List (FeatC ℚ)) := [[(2, [c2])], [], [(0, [c0]), (1, [c1])]]
    (∀ p ∈ feats, ∀ c ∈ p.2, c.feature = p.1) ∧ (feats.map Prod.fst).Pairwise (· < ·) ∧ WorkersSorted workers ∧
    workers.flatten.Perm feats ∧ (fitAssigned (10 : ℚ) (workers.map streamC)).feature = 0 := by
  exact ⟨by decide +kernel, by decide +kernel, by decide +kernel,
    (List.perm_middle (l₁ := [(0, [_]), (1, [_])]) (l₂ := [])).symm, by decide +kernel⟩

/-- the table variant: the worker that holds the tying features 3 and 0 sees them in DEcreasing order (two loops); the
    lexicographic cache returns feature 0, the first-best cache of before 5de0896 would keep feature 3 -/
example :
    let m0 : Cand ℚ := ⟨1, 1, 0, 0, 0, [], [], []⟩
    let s1 : Cand ℚ := ⟨1, 1, 3, 0, 0, [], [], []⟩
    let workers : List (List (FeatC ℚ)) := [[(3, [s1]), (0, [m0])]]
    (fitAssignedLex (10 : ℚ) (workers.map streamC)).feature = 0 ∧ (fitAssigned (10 : ℚ) (workers.map streamC)).feature = 3 := by
  decide +kernel

/-- a toy stump oracle for the structural tree theorems: threshold just above the second sample of the list, no fit on fewer
    than two samples -/
def exOracle : List Nat → Option (Cand ℚ)
  | _ :: b :: _ => some ⟨1, 1, 0, (b : ℚ) + 1 / 2, 0, [], [], [fun _ => 1, fun _ => 2]⟩
  | _ => none

def exTreeCfg (depth : Nat) : TreeCfg ℚ :=
  { N := 6, maxDepth := depth, minSamples := 0, fit := exOracle, val := fun i _ => .num (i : ℚ) }

def okShape {β : Type} : TResult β → Nat × Nat × Nat
  | .ok st => (st.nodes.length, st.tables.length, st.log.length)
  | .nofit _ => (0, 0, 1)
  | .fuel => (0, 0, 0)

/-- the hypothesis `dtreeFit cfg samples = .ok st` of `dtree_fit_wellformed` / `dtree_leaves_partition` is satisfiable: a
    tree of depth 2 on seven fitted samples (one repeated) with three processed caches, six nodes, four leaves … -/
example : ∃ st, dtreeFit (exTreeCfg 2) [0, 1, 2, 3, 4, 5, 5] = .ok st ∧ st.nodes.length = 6 ∧ st.tables.length = 4 := by
  have h : okShape (dtreeFit (exTreeCfg 2) [0, 1, 2, 3, 4, 5, 5]) = (6, 4, 3) := by decide +kernel
  match hr : dtreeFit (exTreeCfg 2) [0, 1, 2, 3, 4, 5, 5], h with
  | .ok st, h => exact ⟨st, rfl, congrArg Prod.fst h, congrArg (·.2.1) h⟩

/-- … and the whole fit fails as soon as one inner stump fit fails (depth 3: the cache `[0, 1]` splits into `[0, 1]` and `[]`) -/
example : okShape (dtreeFit (exTreeCfg 3) [0, 1, 2, 3, 4, 5, 5]) = (0, 0, 1) := by decide +kernel

/-- `dtree_depth1_eq_stump`: both branches occur -/
example : exOracle [3] = none ∧ (exOracle [0, 1, 2]).isSome = true := by decide

/-- `dtree_leaf_table_is_mean`, `dtree_leaf_rows_are_means`, `dtree_fit_predict_reproduces_rss`: their hypotheses are
    satisfiable — the modelled stump fit at the root of a depth-1 tree on three samples with the values 0, 1, 2 of one scalar
    feature and residuals 1, 1, 5 (RSS criterion): a fitted tree with a terminal entry and a non-empty table -/
example : ∃ st e, dtreeFit (stumpTreeCfg (fun l => l.mergeSort itemLe) 1 (0 : ℚ) 1000 Crit.rss [0]
      (fun i _ => FVal.num (i : ℚ)) (fun i _ => if i < 2 then (1 : ℚ) else 5) 3 1 5) [0, 1, 2] = .ok st ∧
    st.log[0]? = some e ∧ e.terminal = true ∧ 0 < st.tables.length := by
  set val : Nat → Nat → FVal ℚ := fun i _ => FVal.num (i : ℚ) with hval
  set resid : Nat → Vec ℚ := fun i _ => if i < 2 then (1 : ℚ) else 5 with hresid
  set sort : List (Item ℚ) → List (Item ℚ) := fun l => l.mergeSort itemLe with hsortd
  have hsort : SortSpec sort := mergeSort_sortSpec
  have hrows : rowsOf val resid [0, 1, 2] 0 = [⟨0, some 0, resid 0⟩, ⟨1, some 1, resid 1⟩, ⟨2, some 2, resid 2⟩] := by
    simp [rowsOf, hval]
  -- a candidate exists
  obtain ⟨c0, hc0, _⟩ := stumpCands_complete sort hsort 1 (0 : ℚ) Crit.rss 0 (rowsOf val resid [0, 1, 2] 0) (1 / 2)
    ⟨⟨0, 0, resid 0⟩, by simp [hrows, present], by norm_num⟩
    ⟨⟨1, 1, resid 1⟩, by simp [hrows, present], by norm_num⟩
  set cands := [0].flatMap fun f => stumpCands sort 1 (0 : ℚ) Crit.rss f (rowsOf val resid [0, 1, 2] f) with hcands
  have hcs : cands = stumpCands sort 1 (0 : ℚ) Crit.rss 0 (rowsOf val resid [0, 1, 2] 0) := List.append_nil _
  -- every candidate scores at most the sum of the squared residuals, 27
  have hbig : ∀ c ∈ cands, c.score < 1000 := by
    intro c hc
    rw [hcs] at hc
    have hs := stumpCands_spec sort hsort 1 (0 : ℚ) 0 _ c hc
    have h1 := hs.coeff_opt zeroV zeroV
    have hp : stumpPred c.thr (zeroV : Vec ℚ) zeroV = fun _ => zeroV := by
      funext x
      cases x <;> simp [stumpPred]
    rw [hp, hrows, show rssOf 1 _ (fun _ => (zeroV : Vec ℚ)) = 27 by decide +kernel] at h1
    rw [hs.score, cmax_eq_max]
    exact max_lt (lt_of_le_of_lt h1 (by norm_num)) (by norm_num)
  obtain ⟨hmem, _⟩ := (fitSeq_min (fun _ => rfl) 1000 cands hbig).2 (hcs ▸ List.ne_nil_of_mem hc0)
  have hfit : stumpFitOn sort 1 (0 : ℚ) 1000 Crit.rss [0] val resid [0, 1, 2] = some (fitSeq 1000 cands) := by
    show (if (fitSeq 1000 cands).fitted 1000 then some (fitSeq 1000 cands) else none) = _
    exact if_pos (decide_eq_true (hbig _ hmem))
  exact ⟨_, _, dtreeFit_depth1 _ rfl _ _ hfit, rfl, rfl, Nat.zero_lt_two⟩

/-- six fitted samples of one categorical feature: label set 0 four times with residual 0, label set 1 once with residual 1,
    label set 2 once with residual 21/10 -/
def exCRows : List (CRow ℚ) :=
  [⟨0, some 0, fun _ => 0⟩, ⟨1, some 0, fun _ => 0⟩, ⟨2, some 0, fun _ => 0⟩, ⟨3, some 0, fun _ => 0⟩,
   ⟨4, some 1, fun _ => 1⟩, ⟨5, some 2, fun _ => 21 / 10⟩]

/-- `kbest_fit_eq_brute` / `ksplit_fit_eq_brute`: the candidate lists are not empty on `exCRows` (3 label sets → 3 candidates
    each), and the sort oracle of the driver is a permutation -/
example : (kbestCands (fun l => l.mergeSort pairLe) 1 (0 : ℚ) Crit.rss 0 exCRows 0).length = 3 ∧
    (ksplitCands 1 (0 : ℚ) 1000 Crit.rss 0 exCRows).length = 3 := by
  decide +kernel

example : PairSortSpec (α := ℚ) (fun l => l.mergeSort pairLe) := mergeSort_pairSortSpec

/-- `kbest_greedy_optimal_per_size`: its hypotheses are satisfiable on `exCRows` — a candidate exists, and the first
    `c.tables.length` entries of the delta list are a competing choice of as many bins -/
example : ∃ c ∈ kbestCands (fun l => l.mergeSort pairLe) 1 (0 : ℚ) Crit.rss 0 exCRows 0,
    ∃ S : List (ℚ × Nat), S.Sublist (binDeltas 1 exCRows) ∧ S.length = c.tables.length := by
  have hlen : (kbestCands (fun l => l.mergeSort pairLe) 1 (0 : ℚ) Crit.rss 0 exCRows 0).length = 3 := by
    decide +kernel
  obtain ⟨c, hc⟩ := List.exists_mem_of_ne_nil _ (List.ne_nil_of_length_pos (by omega : 0 <
    (kbestCands (fun l => l.mergeSort pairLe) 1 (0 : ℚ) Crit.rss 0 exCRows 0).length))
  refine ⟨c, hc, (binDeltas 1 exCRows).take c.tables.length, List.take_sublist _ _, ?_⟩
  have hle : c.tables.length ≤ (binDeltas 1 exCRows).length := by
    rw [kbestCands_zero] at hc
    obtain ⟨i, _, rfl⟩ := List.mem_map.mp hc
    simp only [kbestCandOf, List.length_map, sortAsc_length, List.length_take]
    rw [(List.mergeSort_perm (binDeltas 1 exCRows) pairLe).length_eq]
    exact Nat.min_le_right _ _
  rw [List.length_take, Nat.min_eq_left hle]

/-- COUNTEREXAMPLE to the optimality of the k-split fit for a fixed number of clusters (kernel-checked): on `exCRows` the
    bin means are 0, 1, 21/10; the greedy agglomeration merges the two closest means first (0 and 1: distance 1 < 1.21), so
    its two-cluster candidate is {0, 1} | {2} with RSS 4/5 — but the partition {0} | {1, 2} has RSS 121/200 < 4/5 (the greedy
    rule ignores the cluster sizes). -/
example :
    ((ksplitCands 1 (0 : ℚ) 1000 Crit.rss 0 exCRows)[1]?.map fun c => (c.rss, c.h2t)) = some (4 / 5, [0, 0, 1]) ∧
    rssOfC 1 exCRows (tablePred fun h => if h = 0 then (fun _ => 0) else (fun _ => 31 / 20)) = 121 / 200 ∧
    (121 / 200 : ℚ) < 4 / 5 := by
  refine ⟨by decide +kernel, by decide +kernel, by norm_num⟩

/-- merging two affine learners on the same feature gives one learner -/
example : (merge [Learner.affine 0 [fun _ => (1 : ℚ), fun _ => 2], Learner.affine 0 [fun _ => 3, fun _ => 4]]).length = 1 := by
  decide +kernel

end examples

end NanoVerif.WLearner
