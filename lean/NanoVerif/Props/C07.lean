import NanoVerif.Proofs.LSearchQuadRuns
import NanoVerif.Proofs.LSearchQuadOver
import NanoVerif.Proofs.LSearchQuadCG
import NanoVerif.Proofs.LSearchQuadLem
import NanoVerif.Proofs.LSearchQuadFl
import NanoVerif.Proofs.LSearchQuadMTFull
import NanoVerif.Proofs.LSearchStepGen
import Mathlib.Tactic.LinearCombination
/-!
  C07 — line-search steps honour the acceptance conditions they advertise: the property theorems.

  Setting (see `Model/LSearch.lean`): `get m cfg φ s0 t0` is the model of `lsearchk_t::get(state, descent, t0)` for the
  method `m`; `s0 = (f(x0), ∇f(x0)·d, valid)` is the state on entry; the line function is the oracle `φ k t` (answer to the
  `k`-th request, made at step `t`); `cfg` carries `(c1, c2)`, `max_iterations`, the per-method parameters, the numeric
  constants, `std::isfinite` and the interpolation formulas. Every theorem below except those of the last section (convex
  quadratics, where the oracle is the quadratic line function) holds

    for every ordered field `α`, every oracle `φ` (even one that answers inconsistently), every interpolation function,
    every `isfinite`, every `(c1, c2)` (the conditions `0 < c1 < c2 < 1` are not even needed), every `t0`,

  and the acceptance conditions are the definitions GENERATED from the C++ text (`Gen/LsPredicates.lean`).
  `0 < max_iterations` is the parameter's domain `[1, 10000]`.

  Moré–Thuente (since the repair 3b214f8 of /repo) reports success only from its convergence test:
  `morethuente_success_conditions` is success ⇒ Armijo ∧ strong Wolfe. CG_DESCENT reports success also from its "bracketing
  failed" exit, on which NO acceptance condition was tested; the exact disjunction is `cgdescent_success_cases`, with a
  kernel-checked model run over ℚ (`cgdescent_bracket_failed_reachable`). The runs that exhibited the old Moré–Thuente rule
  (five `return {true, stp}`) are kept in the section "pre-3b214f8", next to the same runs under the present rule (they fail).

  What is NOT proved here (tested by the oracle of tools/props/c07.py only): finiteness of the step (meaningless over a
  field). Positivity of the step for Moré–Thuente and CG_DESCENT needs an oracle that answers the slope of the origin when
  asked at step `0` (both searches can evaluate at `0`); `0 ≤ t` holds for every oracle. Success on convex quadratics: the last
  section (exact arithmetic; all five searches, every `t0`, explicit budgets).

  COVERAGE of the anchored files (`modelled` = hand-written Lean definition tied by the oracle-replay correspondence,
  `translated` = regenerated into Gen/ from the source text on every run, `oracle` = parameter of the model, `outside` = not in the model):

    src/lsearchk.cpp
      lsearchk_t::lsearchk_t, ::all, ::type (get/set)     outside   parameter registration / factory / accessor (domains: C19; the theorems
                                                                    take `0 < max_iterations`, the registered domain, as a hypothesis)
      lsearchk_t::get                                     modelled  `get` = descent guard + `initialStep` + `shrink` + validity guard + `grow`
                                                                    + `doGet` (`get_initial_step_clamped`, `nondescent_refused`, `get_spec`)
      lsearchk_t::update                                  modelled  `ask` (the log line it prints: outside)
      lsearchk_t::stpmin, ::stpmax                        translated Gen/LsPredicates.lean `stpmin`, `stpmax` (`stpmin_stpmax_values`)
    src/lsearchk/backtrack.cpp   ctor, clone              outside;  do_get  modelled `backtrack`
    src/lsearchk/lemarechal.cpp  ctor, clone              outside;  do_get  modelled `lemarechal`, `lemInterp`
    src/lsearchk/fletcher.cpp    ctor, clone              outside;  zoom, do_get  modelled `zoom`, `fletcher`
    src/lsearchk/morethuente.cpp ctor, clone              outside;  dcstep  modelled `dcstep` (`dcstep_case1/2/3_unbracketed`);
                                                                    do_get  modelled `morethuenteInit`, `morethuente`, `mtConverged`, `mtGiveUp`,
                                                                    `mtDcstep`, `mtBounds`, `mtNext`
    src/lsearchk/cgdescent.cpp   ctor, clone, make_params outside (`epsilonk = epsilon·|f0|` is inside `cgdescent`);
                                 interval_t (ctor, updateA, updateB, done), move, updateU, update, bracket, do_get (with its lambda
                                 move_update_and_check_done)        modelled `CG`, `cgDone`, `cgMove`, `cgUpdateU`, `cgUpdate`, `cgBracket`,
                                                                    `cgTry`, `cgSecond`, `cgLoop`, `cgdescent`
    src/solver/lstep.cpp         lsearch_step_t ctors               modelled `Step`, `stepOf`
                                 cubic, quadratic (+ `*convexity`), secant, bisection, interpolate; enum interpolation_type (lstep.h)
                                                                    translated Gen/LsStep.lean; the text used inside the model is the generated text
                                                                    (`model_lstep_is_generated`, `rfl`); `std::sqrt` = parameter `sqrt` with the
                                                                    contract "a root of the radicand" stated in each theorem; `std::isfinite` =
                                                                    parameter `fin`, arbitrary
    src/solver/state.cpp         has_armijo, has_approx_armijo, has_wolfe, has_strong_wolfe, has_approx_wolfe, nano::converged;
                                 has_descent (state.h)              translated Gen/LsPredicates.lean
                                 update (x ↦ f, ∇f), dg, fx, valid  oracle    `Oracle α = Nat → α → Eval α`: NO contract (the theorems hold for oracles
                                                                    that answer inconsistently), except where stated (`hφ` of the positivity theorems;
                                                                    the quadratic section takes the quadratic line function itself)
                                 constructors, update_if_better, update_calls, update_constraints, value_test, gradient_test, status,
                                 kkt_optimality_test*               outside   (not used by a line search; C01-C05)
  The hypotheses `InterpExact` / `CubicExact` of the quadratic section (the interpolation is exact on quadratic data) hold for the
  generated formulas: `generated_interpolation_contracts`.
-/
namespace NanoVerif.LSearch
open NanoVerif.Gen.LsPredicates


variable {α : Type} [Field α] [LinearOrder α] [IsStrictOrderedRing α]

/-- explicit bound on the number of function evaluations of one `get`, as a function of `max_iterations`:
    `2·M` for the two step-adjusting loops of the preamble plus the method's own loop(s) -/
def evalsBound (m : Method) (M : Nat) : Nat := 2 * M + doGetBound m M

/-! ### refusal of non-descent directions (all five methods) -/

set_option linter.unusedSectionVars false
/-- A direction with `g·d ≥ 0` (not `< 0`) is refused: failure, the given step handed back, the state untouched and
    not a single evaluation requested. -/
theorem nondescent_refused (m : Method) (cfg : Cfg α) (φ : Oracle α) (s0 : Eval α) (t0 : α) (h : ¬ s0.g < 0) :
    get m cfg φ s0 t0 = ⟨false, t0, ⟨s0, []⟩⟩ :=
  get_nondescent m cfg φ s0 t0 h
set_option linter.unusedSectionVars true

/-! ### the returned state is the evaluation at the returned step (all five methods) -/

/-- On success the last evaluation requested was at the returned step and the returned state is the oracle's answer to
    exactly that request. -/
theorem success_state_is_last_answer (m : Method) (cfg : Cfg α) (φ : Oracle α) (s0 : Eval α) (t0 : α)
    (hM : 0 < cfg.maxIter) (h : (get m cfg φ s0 t0).ok = true) :
    ∃ rest, (get m cfg φ s0 t0).ctx.trace = (get m cfg φ s0 t0).t :: rest ∧
      (get m cfg φ s0 t0).ctx.cur = φ rest.length (get m cfg φ s0 t0).t :=
  ((get_spec m cfg φ s0 t0 hM).2 h).2

/-- For a line function `ψ` (an oracle that does not look at the request index): on success the returned state is `ψ` at
    the returned step, i.e. the evaluation of the objective at `x0 + t·d`. -/
theorem success_state_is_eval (m : Method) (cfg : Cfg α) (ψ : α → Eval α) (s0 : Eval α) (t0 : α)
    (hM : 0 < cfg.maxIter) (h : (get m cfg (fun _ => ψ) s0 t0).ok = true) :
    (get m cfg (fun _ => ψ) s0 t0).ctx.cur = ψ (get m cfg (fun _ => ψ) s0 t0).t := by
  obtain ⟨rest, _, h2⟩ := success_state_is_last_answer m cfg (fun _ => ψ) s0 t0 hM h
  exact h2

/-- Backtracking additionally only ever returns a valid state. -/
theorem backtrack_success_state_is_eval (cfg : Cfg α) (ψ : α → Eval α) (s0 : Eval α) (t0 : α)
    (hM : 0 < cfg.maxIter) (h : (get .backtrack cfg (fun _ => ψ) s0 t0).ok = true) :
    (get .backtrack cfg (fun _ => ψ) s0 t0).ctx.cur = ψ (get .backtrack cfg (fun _ => ψ) s0 t0).t ∧
    (get .backtrack cfg (fun _ => ψ) s0 t0).ctx.cur.ok = true :=
  ⟨success_state_is_eval .backtrack cfg ψ s0 t0 hM h, ((get_spec .backtrack cfg _ s0 t0 hM).2 h).1.2⟩

/-! ### success ⇒ the advertised conditions, evaluated on the returned state and the returned step -/

/-- backtracking: Armijo -/
theorem backtrack_success_armijo (cfg : Cfg α) (φ : Oracle α) (s0 : Eval α) (t0 : α) (hM : 0 < cfg.maxIter)
    (h : (get .backtrack cfg φ s0 t0).ok = true) :
    hasArmijo s0.f s0.g (get .backtrack cfg φ s0 t0).ctx.cur.f (get .backtrack cfg φ s0 t0).t cfg.c1 = true :=
  ((get_spec .backtrack cfg φ s0 t0 hM).2 h).1.1

/-- LeMaréchal: Armijo and Wolfe -/
theorem lemarechal_success_armijo_wolfe (cfg : Cfg α) (φ : Oracle α) (s0 : Eval α) (t0 : α) (hM : 0 < cfg.maxIter)
    (h : (get .lemarechal cfg φ s0 t0).ok = true) :
    hasArmijo s0.f s0.g (get .lemarechal cfg φ s0 t0).ctx.cur.f (get .lemarechal cfg φ s0 t0).t cfg.c1 = true ∧
    hasWolfe s0.g (get .lemarechal cfg φ s0 t0).ctx.cur.g cfg.c2 = true :=
  ((get_spec .lemarechal cfg φ s0 t0 hM).2 h).1

/-- Fletcher (bracketing and zoom phases): Armijo and strong Wolfe -/
theorem fletcher_success_armijo_strong_wolfe (cfg : Cfg α) (φ : Oracle α) (s0 : Eval α) (t0 : α) (hM : 0 < cfg.maxIter)
    (h : (get .fletcher cfg φ s0 t0).ok = true) :
    hasArmijo s0.f s0.g (get .fletcher cfg φ s0 t0).ctx.cur.f (get .fletcher cfg φ s0 t0).t cfg.c1 = true ∧
    hasStrongWolfe s0.g (get .fletcher cfg φ s0 t0).ctx.cur.g cfg.c2 = true :=
  ((get_spec .fletcher cfg φ s0 t0 hM).2 h).1

/-- The generated predicates mean what the statement says (so the three theorems above are about the textbook
    conditions as long as the C++ text says so): Armijo `f ≤ f0 + t·c1·g0`, Wolfe `g ≥ c2·g0`, strong Wolfe `|g| ≤ c2·|g0|`. -/
theorem generated_predicates_meaning (f0 dg0 f dg t c1 c2 : α) :
    (hasArmijo f0 dg0 f t c1 = true ↔ f ≤ f0 + t * c1 * dg0) ∧
    (hasWolfe dg0 dg c2 = true ↔ c2 * dg0 ≤ dg) ∧
    (hasStrongWolfe dg0 dg c2 = true ↔ |dg| ≤ c2 * |dg0|) :=
  ⟨armijo_iff f0 dg0 f t c1, wolfe_iff dg0 dg c2, strongWolfe_iff dg0 dg c2⟩

/-! ### the accepted step is positive (backtracking, LeMaréchal, Fletcher) -/

/-- parameter domains used by the positivity proofs (all implied by the domains registered in the constructors:
    `0 < safeguard < 0.5`, `2 < tau1`, `0 < tau2 < tau3 ≤ 0.5`, `0 < c2`; `macheps`, `epsilon0` are positive constants) -/
structure PosDomain (cfg : Cfg α) : Prop where
  macheps : 0 < cfg.macheps
  eps0 : 0 ≤ cfg.eps0
  safeguard0 : 0 < cfg.safeguard
  safeguard1 : cfg.safeguard < 1
  tau1 : 0 < cfg.tau1
  tau2 : 0 < cfg.tau2
  tau3 : cfg.tau3 < 1
  c2 : 0 < cfg.c2

/-- For every initial step `t0` (of any sign; "non-finite" = `cfg.fin t0 = false`) the step accepted by backtracking,
    LeMaréchal or Fletcher is strictly positive. -/
theorem success_step_positive (m : Method) (hm : m = .backtrack ∨ m = .lemarechal ∨ m = .fletcher) (cfg : Cfg α)
    (φ : Oracle α) (s0 : Eval α) (t0 : α) (hd : PosDomain cfg) (h : (get m cfg φ s0 t0).ok = true) :
    0 < (get m cfg φ s0 t0).t := by
  refine get_step_prop (fun x => 0 < x) m cfg φ s0 t0 hd.macheps ?_ h
  intro t ctx ht hok
  rcases hm with rfl | rfl | rfl
  · exact backtrack_pos cfg φ s0 hd.safeguard0 hd.safeguard1 _ t ctx ht
  · exact lemarechal_pos cfg φ s0 hd.safeguard0 hd.safeguard1 hd.tau1 _ _ _ t ctx (le_refl _) (le_refl _) ht
  · exact fletcher_pos cfg φ s0 hd.tau1 hd.tau2 hd.c2 hd.tau3 hd.eps0 _ _ _ t ctx (le_refl _) ht rfl hok

/-! ### evaluations per call (all five methods; used by C02) -/

/-- One call of `get` requests at most `evalsBound m max_iterations` evaluations, whatever the oracle answers:
    `3M` (backtracking, Moré–Thuente), `3M - 1` (LeMaréchal), `4M - 1` (Fletcher), `9M + 1` (CG_DESCENT). -/
theorem evals_per_get_le (m : Method) (cfg : Cfg α) (φ : Oracle α) (s0 : Eval α) (t0 : α) (hM : 0 < cfg.maxIter) :
    (get m cfg φ s0 t0).ctx.trace.length ≤ evalsBound m cfg.maxIter :=
  (get_spec m cfg φ s0 t0 hM).1

/-- the bound at the default `max_iterations = 128` -/
theorem evalsBound_default :
    evalsBound .backtrack 128 = 384 ∧ evalsBound .lemarechal 128 = 383 ∧ evalsBound .fletcher 128 = 511 ∧
    evalsBound .morethuente 128 = 384 ∧ evalsBound .cgdescent 128 = 1153 := by decide

/-! ### the initial step: what `t0 ∈ {0, negative, NaN, ±inf, huge}` becomes (lsearchk.cpp:52, `stpmin()`, `stpmax()`) -/

/-- `lsearchk_t::stpmin() = 10·eps`, `stpmax() = 1/stpmin()` (generated definitions): positive, reciprocal. -/
theorem stpmin_stpmax_values (e : α) (he : 0 < e) :
    stpmin e = 10 * e ∧ stpmax e = 1 / (10 * e) ∧ 0 < stpmin e ∧ 0 < stpmax e ∧ stpmin e * stpmax e = 1 := by
  have h10 : (0 : α) < 10 * e := by positivity
  refine ⟨rfl, rfl, h10, by unfold stpmax stpmin; positivity, ?_⟩
  unfold stpmax stpmin; field_simp

/-- what the given initial step becomes: `1` when it is not finite (NaN, ±inf); `stpmin()` when it is finite and below `stpmin()`
    (zero, negative, denormal); `1` when it is finite and above `1`; itself otherwise — always in `[stpmin(), 1]` -/
theorem initialStep_cases (cfg : Cfg α) (t0 : α) (hmin1 : stpmin cfg.macheps ≤ 1) :
    (cfg.fin t0 = false → initialStep cfg t0 = 1) ∧
    (cfg.fin t0 = true → t0 < stpmin cfg.macheps → initialStep cfg t0 = stpmin cfg.macheps) ∧
    (cfg.fin t0 = true → 1 < t0 → initialStep cfg t0 = 1) ∧
    (cfg.fin t0 = true → stpmin cfg.macheps ≤ t0 → t0 ≤ 1 → initialStep cfg t0 = t0) ∧
    stpmin cfg.macheps ≤ initialStep cfg t0 ∧ initialStep cfg t0 ≤ 1 := by
  refine ⟨fun h => by simp [initialStep, h], fun h h' => by simp [initialStep, h, clamp, h'], fun h h' => ?_,
    fun h h1 h2 => by simp only [initialStep, h, if_true]; exact Cxx.clamp_of_mem h1 h2, ?_, ?_⟩
  · have : ¬ t0 < stpmin cfg.macheps := not_lt.mpr (le_trans hmin1 (le_of_lt h'))
    simp [initialStep, h, clamp, this, h']
  · unfold initialStep; split
    · exact (clamp_mem hmin1).1
    · exact hmin1
  · unfold initialStep; split
    · exact (clamp_mem hmin1).2
    · exact le_refl _

/-- For every method, oracle, `isfinite` and given `t0`, along a descent direction with `max_iterations ≥ 1` and `stpmin() ≤ 1`:
    the first evaluation `get` requests is at the CLAMPED step `t1 = initialStep(t0)`, which is
      `1` when `t0` is not finite (NaN, `+inf`, `-inf`),  `stpmin()` when `t0` is finite and `< stpmin()` (`0`, negative, denormal),
      `1` when `t0` is finite and `> 1`,  `t0` itself otherwise — always within `[stpmin(), 1]`;
    when the state there is valid, the tripling loop and then `do_get` are entered with that state and that step (so the returned step
    and the returned state stem from the same variable: the seeded change "shrink a local copy" breaks exactly this equation); when it
    is not, the next trial is `0.3·t1`. -/
theorem get_initial_step_clamped (m : Method) (cfg : Cfg α) (φ : Oracle α) (s0 : Eval α) (t0 : α) (hg : s0.g < 0) (n : Nat)
    (hM : cfg.maxIter = n + 1) (hmin1 : stpmin cfg.macheps ≤ 1) :
    ((cfg.fin t0 = false → initialStep cfg t0 = 1) ∧
     (cfg.fin t0 = true → t0 < stpmin cfg.macheps → initialStep cfg t0 = stpmin cfg.macheps) ∧
     (cfg.fin t0 = true → 1 < t0 → initialStep cfg t0 = 1) ∧
     (cfg.fin t0 = true → stpmin cfg.macheps ≤ t0 → t0 ≤ 1 → initialStep cfg t0 = t0) ∧
     stpmin cfg.macheps ≤ initialStep cfg t0 ∧ initialStep cfg t0 ≤ 1) ∧
    ((φ 0 (initialStep cfg t0)).ok = true →
      get m cfg φ s0 t0 =
        match grow φ cfg.eps1 s0.f cfg.maxIter (initialStep cfg t0) ⟨φ 0 (initialStep cfg t0), [initialStep cfg t0]⟩ with
        | .inl q => ⟨false, q.1, q.2⟩
        | .inr q => doGet m cfg φ s0 q.1 q.2) ∧
    ((φ 0 (initialStep cfg t0)).ok = false →
      shrink φ cfg.maxIter (initialStep cfg t0) ⟨s0, []⟩ =
        shrink φ n (initialStep cfg t0 * (3 / 10)) ⟨φ 0 (initialStep cfg t0), [initialStep cfg t0]⟩) := by
  refine ⟨initialStep_cases cfg t0 hmin1, get_of_first_valid m cfg φ s0 t0 hg (by omega), fun hok => ?_⟩
  have hask : ask φ ⟨s0, []⟩ (initialStep cfg t0) = ⟨φ 0 (initialStep cfg t0), [initialStep cfg t0]⟩ := rfl
  rw [hM]; simp only [shrink, hask, hok, Bool.false_eq_true, if_false]

def witnessCfg : Cfg ℚ :=
  { c1 := 1 / 10000, c2 := 1 / 10, maxIter := 128, fin := fun _ => true, interp := fun u v => (u.t + v.t) / 2,
    cubic := fun _ _ => 10, eps0 := 1 / 10 ^ 15, eps1 := 1 / 10 ^ 10, macheps := 1 / 1000, safeguard := 1 / 10, tau1 := 9,
    tau2 := 1 / 10, tau3 := 1 / 2, delta := 66 / 100, cgEpsilon := 1 / 10 ^ 6, cgTheta := 1 / 2, cgGamma := 66 / 100,
    cgRo := 5 }

/-- non-vacuity of `get_initial_step_clamped` (`witnessCfg`: `macheps = 1/1000`, `stpmin() = 1/100`; "not finite" modelled by an
    `isfinite` that rejects `7`): `0`, `-1` ↦ `stpmin()`; `5` ↦ `1`; non-finite ↦ `1`; `1/2` ↦ `1/2`; and the first request of a run
    from `t0 = -1` is at `1/100` -/
example : initialStep witnessCfg 0 = 1 / 100 ∧ initialStep witnessCfg (-1) = 1 / 100 ∧ initialStep witnessCfg 5 = 1 ∧
    initialStep { witnessCfg with fin := fun x => decide (x ≠ 7) } 7 = 1 ∧ initialStep witnessCfg (1 / 2) = 1 / 2 ∧
    stpmin witnessCfg.macheps ≤ 1 ∧
    (get .backtrack witnessCfg (fun _ t => ⟨(t - 1) * (t - 1), 2 * (t - 1), true⟩) ⟨1, -2, true⟩ (-1)).ctx.trace.getLast? =
      some (1 / 100) := by
  decide +kernel

/-! ### Moré–Thuente: success ⇒ Armijo and strong Wolfe (the only `return {true, stp}` is the convergence test) -/

/-- For every oracle, interpolation, `isfinite`, `(c1, c2)`, `t0`: a success of Moré–Thuente satisfies Armijo and strong Wolfe
    (generated predicates) on the returned state and step. -/
theorem morethuente_success_conditions (cfg : Cfg α) (φ : Oracle α) (s0 : Eval α) (t0 : α) (hM : 0 < cfg.maxIter)
    (h : (get .morethuente cfg φ s0 t0).ok = true) :
    hasArmijo s0.f s0.g (get .morethuente cfg φ s0 t0).ctx.cur.f (get .morethuente cfg φ s0 t0).t cfg.c1 = true ∧
    hasStrongWolfe s0.g (get .morethuente cfg φ s0 t0).ctx.cur.g cfg.c2 = true :=
  ((get_spec .morethuente cfg φ s0 t0 hM).2 h).1

/-- Moré–Thuente never accepts a negative step, whatever the oracle answers (every trial step is `stx`, which is `0` or an
    earlier trial step, or a value clamped to `[stpmin(), stpmax()]`). -/
theorem morethuente_success_step_nonneg (cfg : Cfg α) (φ : Oracle α) (s0 : Eval α) (t0 : α)
    (he : 0 < cfg.macheps) (h : (get .morethuente cfg φ s0 t0).ok = true) : 0 ≤ (get .morethuente cfg φ s0 t0).t := by
  refine get_step_prop (fun x => 0 ≤ x) .morethuente cfg φ s0 t0 he ?_ h
  intro t ctx ht _
  exact morethuente_nonneg cfg φ s0 he _ (morethuenteInit cfg s0 t) ctx (by simp [morethuenteInit])
    (by simpa [morethuenteInit] using le_of_lt ht)

/-- The step accepted by Moré–Thuente is strictly positive for every oracle that answers the slope of the origin whenever it
    is asked at step `0` (`(φ k 0).g = g0`; in particular for every line function with `ψ 0 = s0`), `c2 < 1`: the fallback
    `stp = stx` (morethuente.cpp:267-270) can make the search evaluate at `0`, but strong Wolfe fails there. -/
theorem morethuente_success_step_positive (cfg : Cfg α) (φ : Oracle α) (s0 : Eval α) (t0 : α) (he : 0 < cfg.macheps)
    (hc2 : cfg.c2 < 1) (hM : 0 < cfg.maxIter) (hφ : ∀ k, (φ k 0).g = s0.g)
    (h : (get .morethuente cfg φ s0 t0).ok = true) : 0 < (get .morethuente cfg φ s0 t0).t := by
  rcases lt_or_eq_of_le (morethuente_success_step_nonneg cfg φ s0 t0 he h) with h0 | h0
  · exact h0
  · obtain ⟨rest, _, hcur⟩ := success_state_is_last_answer .morethuente cfg φ s0 t0 hM h
    have hS := (morethuente_success_conditions cfg φ s0 t0 hM h).2
    rw [hcur, ← h0, hφ] at hS
    exact absurd hS (strongWolfe_origin (descent_of_get_ok h) hc2)

/-- `φ(0) = (0, -1)`, elsewhere `(1, 1)`; the second one answers `(-1, 0)` at step `0`, inconsistently with the origin -/
def witnessPsi (t : ℚ) : Eval ℚ := if t = 0 then ⟨0, -1, true⟩ else ⟨1, 1, true⟩
def witnessPsiInconsistent (t : ℚ) : Eval ℚ := if t = 0 then ⟨-1, 0, true⟩ else ⟨1, 1, true⟩

/-- With an interpolation that answers outside the bracket (`cubic := 10`) the fallback `stp = stx = 0` makes Moré–Thuente
    evaluate at step `0`; the consistent oracle is then refused (failure, `t = 0`), and an oracle that does NOT answer the
    slope of the origin at step `0` gets the step `0` accepted: the consistency hypothesis of
    `morethuente_success_step_positive` cannot be dropped. -/
theorem morethuente_zero_step_accepted_if_inconsistent :
    (get .morethuente witnessCfg (fun _ => witnessPsi) ⟨0, -1, true⟩ 1).ok = false ∧
    (get .morethuente witnessCfg (fun _ => witnessPsi) ⟨0, -1, true⟩ 1).t = 0 ∧
    (get .morethuente witnessCfg (fun _ => witnessPsiInconsistent) ⟨0, -1, true⟩ 1).ok = true ∧
    (get .morethuente witnessCfg (fun _ => witnessPsiInconsistent) ⟨0, -1, true⟩ 1).t = 0 := by
  decide +kernel

/-! ### CG_DESCENT: what a success implies (exact disjunction over the exits of `interval_t::done`) -/

/-- For every oracle, `isfinite`, `(c1, c2)`, `t0` and the parameters in their registered domains (`CgDom`:
    `0 ≤ epsilon`, `0 < ro`, `0 < theta < 1`): a success of CG_DESCENT returns a valid state and is one of
    * Wolfe: Armijo and Wolfe (generated predicates) hold of the returned state and step;
    * approximate Wolfe: `has_approx_armijo(epsilon·|f0|)` and `has_approx_wolfe(c1, c2)` hold;
    * "bracketing failed" (`interval_t::done`: `b.g < 0` with a valid state): the upper end `b` of the bracketing interval is
      an evaluated trial point with a NEGATIVE slope, and either more than `max_iterations` evaluations were made (the
      shared budget `params.m_max_iterations` is exhausted) or the interval `[a, b]` is not wider than `stpmin()`;
      NOTHING was tested on the returned state. -/
theorem cgdescent_success_cases (cfg : Cfg α) (φ : Oracle α) (s0 : Eval α) (t0 : α) (hd : CgDom cfg) (he : 0 < cfg.macheps)
    (hM : 0 < cfg.maxIter) (h : (get .cgdescent cfg φ s0 t0).ok = true) :
    (get .cgdescent cfg φ s0 t0).ctx.cur.ok = true ∧
    ((hasArmijo s0.f s0.g (get .cgdescent cfg φ s0 t0).ctx.cur.f (get .cgdescent cfg φ s0 t0).t cfg.c1 = true ∧
        hasWolfe s0.g (get .cgdescent cfg φ s0 t0).ctx.cur.g cfg.c2 = true) ∨
     (hasApproxArmijo s0.f (get .cgdescent cfg φ s0 t0).ctx.cur.f (cfg.cgEpsilon * absv s0.f) = true ∧
        hasApproxWolfe s0.g (get .cgdescent cfg φ s0 t0).ctx.cur.g cfg.c1 cfg.c2 = true) ∨
     (∃ a b : Step α, CgPoint φ s0 (get .cgdescent cfg φ s0 t0).ctx a ∧ CgPoint φ s0 (get .cgdescent cfg φ s0 t0).ctx b ∧
        b.g < 0 ∧ (cfg.maxIter + 1 ≤ (get .cgdescent cfg φ s0 t0).ctx.trace.length ∨ b.t - a.t ≤ stpmin cfg.macheps))) := by
  have q := get_cgdescent_cases cfg φ s0 t0 hd he hM h
  exact ⟨q.1, q.2.1⟩

/-- Consequence: when at most `max_iterations` evaluations were made and no two of the evaluated steps (or `0`) are within
    `stpmin()` of each other, a success of CG_DESCENT satisfies Wolfe or approximate Wolfe. -/
theorem cgdescent_success_within_budget (cfg : Cfg α) (φ : Oracle α) (s0 : Eval α) (t0 : α) (hd : CgDom cfg)
    (he : 0 < cfg.macheps) (hM : 0 < cfg.maxIter) (h : (get .cgdescent cfg φ s0 t0).ok = true)
    (hbudget : (get .cgdescent cfg φ s0 t0).ctx.trace.length ≤ cfg.maxIter)
    (hsep : ∀ a b : Step α, CgPoint φ s0 (get .cgdescent cfg φ s0 t0).ctx a → CgPoint φ s0 (get .cgdescent cfg φ s0 t0).ctx b →
      b.g < 0 → stpmin cfg.macheps < b.t - a.t) :
    (hasArmijo s0.f s0.g (get .cgdescent cfg φ s0 t0).ctx.cur.f (get .cgdescent cfg φ s0 t0).t cfg.c1 = true ∧
        hasWolfe s0.g (get .cgdescent cfg φ s0 t0).ctx.cur.g cfg.c2 = true) ∨
     (hasApproxArmijo s0.f (get .cgdescent cfg φ s0 t0).ctx.cur.f (cfg.cgEpsilon * absv s0.f) = true ∧
        hasApproxWolfe s0.g (get .cgdescent cfg φ s0 t0).ctx.cur.g cfg.c1 cfg.c2 = true) := by
  rcases (cgdescent_success_cases cfg φ s0 t0 hd he hM h).2 with h1 | h1 | ⟨a, b, b1, b2, b3, b4⟩
  · exact Or.inl h1
  · exact Or.inr h1
  · rcases b4 with b4 | b4
    · omega
    · exact absurd b4 (not_le.mpr (hsep a b b1 b2 b3))

/-- CG_DESCENT never accepts a negative step, whatever the oracle answers. -/
theorem cgdescent_success_step_nonneg (cfg : Cfg α) (φ : Oracle α) (s0 : Eval α) (t0 : α) (hd : CgDom cfg)
    (he : 0 < cfg.macheps) (hM : 0 < cfg.maxIter) (h : (get .cgdescent cfg φ s0 t0).ok = true) :
    0 ≤ (get .cgdescent cfg φ s0 t0).t := by
  rcases (get_cgdescent_cases cfg φ s0 t0 hd he hM h).2.2 with q3 | ⟨q3, _⟩
  · exact le_of_lt q3
  · exact le_of_eq q3.symm

/-- The step accepted by CG_DESCENT is strictly positive for every oracle that answers the slope of the origin whenever it
    is asked at step `0` (`(φ k 0).g = g0`; in particular for every line function with `ψ 0 = s0`), `c2 < 1`: the second
    secant step `secant(b0, b)` can be exactly `0` (see `cgdescent_zero_step_tried`), but Wolfe fails there. -/
theorem cgdescent_success_step_positive (cfg : Cfg α) (φ : Oracle α) (s0 : Eval α) (t0 : α) (hd : CgDom cfg)
    (he : 0 < cfg.macheps) (hc2 : cfg.c2 < 1) (hM : 0 < cfg.maxIter) (hφ : ∀ k, (φ k 0).g = s0.g)
    (h : (get .cgdescent cfg φ s0 t0).ok = true) : 0 < (get .cgdescent cfg φ s0 t0).t := by
  obtain ⟨rest, _, hcur⟩ := success_state_is_last_answer .cgdescent cfg φ s0 t0 hM h
  rcases (get_cgdescent_cases cfg φ s0 t0 hd he hM h).2.2 with q3 | ⟨q3, q4⟩
  · exact q3
  · rw [hcur, q3, hφ] at q4
    exact absurd q4 (wolfe_origin (descent_of_get_ok h) hc2)

/-! ### kernel-checked model runs (over ℚ, line functions = consistent oracles): CG_DESCENT's exit without the advertised
  conditions, and Moré–Thuente's former ones ("pre-3b214f8") next to what the present rule does on the same inputs

  The interpolation formulas are the REAL ones of `lstep.cpp` (`cubic`, `quadratic`, `secant` of `Model/LSearch.lean`); the
  square root of `cubic` is `ratSqrt`, exact on squares of rationals — which is what `cubic` takes the root of on quadratic
  data (`¼h²(u.t - v.t)²`, see `interpolation_exact_on_quadratics`). The floating-point replays of these runs on the real code are
  the ops of corpus/C07/ops.txt section 7 (and, for the ones the property oracle flags, the report of the C07 worker). -/

/-- integer square root (Newton iteration, structural on the fuel) -/
def isqrtGo : Nat → Nat → Nat → Nat
  | 0, _, x => x
  | fuel + 1, n, x => if (x + n / x) / 2 < x then isqrtGo fuel n ((x + n / x) / 2) else x

def isqrt (n : Nat) : Nat := if n = 0 then 0 else isqrtGo (n.log2 + 8) n n

/-- square root on ℚ, exact on squares of rationals -/
def ratSqrt (q : ℚ) : ℚ := if q.num ≤ 0 then 0 else (isqrt q.num.toNat : ℚ) / (isqrt q.den : ℚ)

example : ratSqrt (49 / 4) = 7 / 2 ∧ ratSqrt 0 = 0 ∧ ratSqrt (998001 / 1000000) = 999 / 1000 := by decide +kernel

/-- `witnessCfg` with the real formulas `cubic` (root = `ratSqrt`) and `interpolate(cubic)` of lstep.cpp, in their RE-TRANSLATED form
    (`Gen/LsStep.lean` through `genCubic`, `genInterpolate`) -/
def realCfg : Cfg ℚ :=
  letI : Sqrt ℚ := ⟨ratSqrt⟩
  { witnessCfg with cubic := genCubic, interp := genInterpolate (fun _ => true) Interp.cubic }

/-- `φ(t) = -t`: linear, unbounded below along the direction -/
def linearDown (t : ℚ) : Eval ℚ := ⟨-t, -1, true⟩

/-- the loop body of `lsearchk_morethuente_t::do_get` BEFORE the repair 3b214f8 ("pre-3b214f8"): the two "no further progress"
    tests, `stp >= stpmax()`, `stp <= stpmin()` and the convergence test, in this order, ALL returned `{true, stp}` (MINPACK-2
    `dcsrch` reports the first four as warnings). Kept only to record what the old rule did on the runs below. -/
def mtExitPre3b214f8 (cfg : Cfg ℚ) (s0 : Eval ℚ) (m : MT ℚ) (f g : ℚ) : Bool :=
  mtGiveUp cfg s0 m f g || mtConverged cfg s0 m f g

/-- pre-3b214f8 loop (same `mtNext`, same budget) -/
def morethuentePre3b214f8 (cfg : Cfg ℚ) (φ : Oracle ℚ) (s0 : Eval ℚ) : Nat → MT ℚ → Ctx ℚ → Res ℚ
  | 0, m, ctx => ⟨false, m.dc.stp, ctx⟩
  | n + 1, m, ctx =>
    if mtExitPre3b214f8 cfg s0 m ctx.cur.f ctx.cur.g then ⟨true, m.dc.stp, ctx⟩
    else
      let m' := mtNext cfg s0 m ctx.cur.f ctx.cur.g
      let ctx' := ask φ ctx m'.dc.stp
      if ctx'.cur.ok then morethuentePre3b214f8 cfg φ s0 n m' ctx' else ⟨false, m'.dc.stp, ctx'⟩

/-- pre-3b214f8 `do_get` entered at the step `1` with the state evaluated there -/
def mtRunPre3b214f8 (cfg : Cfg ℚ) (ψ : ℚ → Eval ℚ) : Res ℚ :=
  morethuentePre3b214f8 cfg (fun _ => ψ) (ψ 0) cfg.maxIter (morethuenteInit cfg (ψ 0) 1) ⟨ψ 1, [1]⟩

/-- `φ(t) = -t` (unbounded below): the step grows `1, 5, 21, 85, 100 = stpmax()` (`macheps = 1/1000`) with the slope unchanged.
    pre-3b214f8: success was reported there — Armijo holds, Wolfe and strong Wolfe do NOT. Now: the search fails at `stpmax()`. -/
theorem morethuente_at_stpmax_pre3b214f8_and_now :
    (mtRunPre3b214f8 realCfg linearDown).ok = true ∧ (mtRunPre3b214f8 realCfg linearDown).t = 100 ∧
    hasStrongWolfe (linearDown 0).g (mtRunPre3b214f8 realCfg linearDown).ctx.cur.g realCfg.c2 = false ∧
    hasWolfe (linearDown 0).g (mtRunPre3b214f8 realCfg linearDown).ctx.cur.g realCfg.c2 = false ∧
    (get .morethuente realCfg (fun _ => linearDown) (linearDown 0) 1).ok = false ∧
    (get .morethuente realCfg (fun _ => linearDown) (linearDown 0) 1).t = 100 ∧
    (get .morethuente realCfg (fun _ => linearDown) (linearDown 0) 1).ctx.trace = [100, 85, 21, 5, 1] := by
  decide +kernel

/-- the convex quadratic `φ(t) = -t + 500 t²` (minimiser `t* = 1/1000`, below `stpmin() = 1/100`) -/
def steepQuadratic (t : ℚ) : Eval ℚ := ⟨-t + 500 * t * t, -1 + 1000 * t, true⟩

/-- A convex quadratic whose minimiser along the line is below `stpmin()`: the interpolated step `t*` is clamped to `stpmin()`,
    where the function value has INCREASED (`φ(1/100) = 1/25 > 0 = φ(0)`).
    pre-3b214f8: success was reported there, with neither Armijo nor strong Wolfe. Now: the search FAILS there — honestly, but
    the property's clause "on convex quadratics all five succeed" is not met in exact arithmetic either when `t* < stpmin()`. -/
theorem morethuente_at_stpmin_pre3b214f8_and_now :
    (mtRunPre3b214f8 realCfg steepQuadratic).ok = true ∧ (mtRunPre3b214f8 realCfg steepQuadratic).t = 1 / 100 ∧
    (steepQuadratic 0).f < (mtRunPre3b214f8 realCfg steepQuadratic).ctx.cur.f ∧
    hasArmijo (steepQuadratic 0).f (steepQuadratic 0).g (mtRunPre3b214f8 realCfg steepQuadratic).ctx.cur.f (1 / 100) realCfg.c1
      = false ∧
    hasStrongWolfe (steepQuadratic 0).g (mtRunPre3b214f8 realCfg steepQuadratic).ctx.cur.g realCfg.c2 = false ∧
    (get .morethuente realCfg (fun _ => steepQuadratic) (steepQuadratic 0) 1).ok = false ∧
    (get .morethuente realCfg (fun _ => steepQuadratic) (steepQuadratic 0) 1).t = 1 / 100 ∧
    (get .morethuente realCfg (fun _ => steepQuadratic) (steepQuadratic 0) 1).ctx.trace = [1 / 100, 1] := by
  decide +kernel

/-- pre-3b214f8, "no further progress" exit: with an interpolation that answers outside the bracket (`cubic := 10`) the fallback
    `stp = stx = 0` made the old rule report success with `t = 0`. (Now: `morethuente_zero_step_accepted_if_inconsistent`.) -/
theorem morethuente_step_zero_pre3b214f8 :
    (mtRunPre3b214f8 witnessCfg witnessPsi).ok = true ∧ (mtRunPre3b214f8 witnessCfg witnessPsi).t = 0 := by
  decide +kernel

/-- `φ(t) = (t - 10)²` -/
def parabola10 (t : ℚ) : Eval ℚ := ⟨(t - 10) * (t - 10), 2 * (t - 10), true⟩

/-- CG_DESCENT, "bracketing failed" exit — the model counterpart of the known finding
    `cgdescent-success-violates-on-convex-quadratic`: on `φ(t) = (t - 10)²` with `max_iterations = 1` success is reported at
    `t = 5` after 2 evaluations (`> max_iterations`); neither Wolfe nor approximate Wolfe holds there. -/
theorem cgdescent_bracket_failed_reachable :
    (get .cgdescent { realCfg with maxIter := 1 } (fun _ => parabola10) (parabola10 0) 1).ok = true ∧
    (get .cgdescent { realCfg with maxIter := 1 } (fun _ => parabola10) (parabola10 0) 1).t = 5 ∧
    (get .cgdescent { realCfg with maxIter := 1 } (fun _ => parabola10) (parabola10 0) 1).ctx.trace = [5, 1] ∧
    hasWolfe (parabola10 0).g (get .cgdescent { realCfg with maxIter := 1 } (fun _ => parabola10) (parabola10 0) 1).ctx.cur.g
      realCfg.c2 = false := by
  decide +kernel

/-- a line function with `φ(0) = 0, φ'(0) = -1`, `φ(1/2) = 1, φ'(1/2) = 1/2`, `φ(1) = 2, φ'(1) = 1` (e.g. the C¹ piecewise
    cubic through these knots, harness function `herm`); elsewhere a point that is accepted at once -/
def zeroStepPsi (t : ℚ) : Eval ℚ :=
  if t = 0 then ⟨0, -1, true⟩ else if t = 1 / 2 then ⟨1, 1 / 2, true⟩ else if t = 1 then ⟨2, 1, true⟩ else ⟨-1, 0, true⟩

/-- CG_DESCENT evaluates at the step `0`: with `a = (0, g=-1)`, `b0 = (1, g=1)` the secant step is `1/2`, `b = (1/2, g=1/2)`
    and the second secant step `secant(b0, b)` is exactly `0`; the origin is re-evaluated (and rejected: Wolfe fails there). -/
theorem cgdescent_zero_step_tried :
    (get .cgdescent realCfg (fun _ => zeroStepPsi) (zeroStepPsi 0) 1).ctx.trace.reverse.take 3 = [1, 1 / 2, 0] := by
  decide +kernel

/-- …and an oracle that does NOT answer the slope of the origin at step `0` gets the step `0` accepted: the consistency
    hypothesis of `cgdescent_success_step_positive` cannot be dropped. -/
theorem cgdescent_zero_step_accepted_if_inconsistent :
    (get .cgdescent realCfg (fun _ t => if t = 0 then ⟨0, 0, true⟩ else zeroStepPsi t) (zeroStepPsi 0) 1).ok = true ∧
    (get .cgdescent realCfg (fun _ t => if t = 0 then ⟨0, 0, true⟩ else zeroStepPsi t) (zeroStepPsi 0) 1).t = 0 := by
  decide +kernel


/-! ### convex quadratics along the line, in exact arithmetic: `φ(t) = f0 + g0 t + h t²/2`, `g0 < 0 < h`, `t* = -g0/h`

  The property's last sentence ("on convex quadratic objectives all five line-searches succeed and satisfy their advertised
  conditions") is a convergence claim. Proved here, for every ordered field:
    * the acceptance conditions as intervals of the step, and at the minimiser: strong Wolfe for every `c2 ≥ 0`, Armijo IFF
      `c1 ≤ 1/2` (`quadratic_acceptance_intervals`, `quadratic_minimizer_accepted_iff`) — with `c1 > 1/2` every search whose
      interpolation lands on `t*` must reject it: the known findings `…-fails-on-convex-quadratic/c1>=0.5`;
    * the three interpolation formulas of lstep.cpp return exactly `t*` on quadratic data (`interpolation_exact_on_quadratics`);
    * backtracking succeeds within `k + 1` iterations for the explicit `k` with `(1 - safeguard)^k · max(t1, 3B) ≤ 2(1 - c1) t*`,
      whatever the interpolation function (`backtrack_succeeds_on_quadratic`);
    * CG_DESCENT succeeds for EVERY `t0` with Wolfe or approximate Wolfe, given `ro^K·t1 ≥ t*` for some `K < max_iterations`
      (`cgdescent_succeeds_on_quadratic`);
    * LeMaréchal succeeds for EVERY `t0` with Armijo and Wolfe, given an explicit iteration budget `k + J + 3` (expansions +
      clamped interpolations) (`lemarechal_succeeds_on_quadratic`);
    * Fletcher succeeds for EVERY `t0` with Armijo and strong Wolfe, `c1 < 1/2`, given an explicit budget of `k` extrapolations
      and `J` clamped zoom steps (`fletcher_succeeds_on_quadratic`);
    * Moré–Thuente succeeds for EVERY `t0` with Armijo and strong Wolfe, `c1 ≤ 1/2`, `c1 ≤ c2 < 1`, `stpmin() ≤ t* ≤ stpmax()`, given
      `4^k·t1 ≥ (1 - c2) t*` and `max_iterations ≥ k + 2`, within `max_iterations + k + 2` evaluations (`morethuente_succeeds_on_quadratic`:
      the extrapolation phase `stp + 4 (stp - stx)` / `stp + 1.1 (stp - stx)` as coded, `dcstep` cases 1-3, the tripling loop of the
      preamble); refinements say WHERE it stops when the first trial does not undershoot: at `t1`, at `t*`, or — when Armijo fails at
      `t1 ≤ 2t*` — at the minimiser `(1 - c1) t*` of the MODIFIED function (`morethuente_quadratic_no_undershoot_two_evaluations`,
      `morethuente_quadratic_overshoot_exact_step`).
  The hypotheses that are not mere parameter domains are necessary, each with a kernel-checked run: `stpmin() ≤ t*`
  (`morethuente_at_stpmin_pre3b214f8_and_now`: the search FAILS at `stpmin()`; before 3b214f8 it reported success with the value increased),
  `t* ≤ stpmax()` (`morethuente_fails_beyond_stpmax`), `c1 ≤ 1/2` (`quadratic_minimizer_accepted_iff`; known findings `…/c1>=0.5`). The
  statement's "all five succeed" does not get these cases, which are honest failures. In floating point the claim is tested by the oracle. -/

/-- `get` on the quadratic line function from its own origin -/
def quadGet (m : Method) (cfg : Cfg α) (f0 g0 h t0 : α) : Res α :=
  get m cfg (fun _ => quadLine f0 g0 h) ⟨f0, g0, true⟩ t0

/-- a successful `quadGet`, whatever the method: the state is the evaluation at the returned step and the method's advertised
    conditions hold (`get_spec`); the theorems below only have to show THAT the search succeeds, and where -/
theorem quadGet_success (m : Method) (cfg : Cfg α) (f0 g0 h t0 : α) (hM : 0 < cfg.maxIter)
    (hok : (quadGet m cfg f0 g0 h t0).ok = true) :
    (quadGet m cfg f0 g0 h t0).ctx.cur = quadLine f0 g0 h (quadGet m cfg f0 g0 h t0).t ∧
    Advertised m cfg ⟨f0, g0, true⟩ (quadGet m cfg f0 g0 h t0) :=
  ⟨success_state_is_eval m cfg (quadLine f0 g0 h) ⟨f0, g0, true⟩ t0 hM hok,
    ((get_spec m cfg _ ⟨f0, g0, true⟩ t0 hM).2 hok).1⟩

/-- `quadGet` identified with a run that ends successfully at the step `t` -/
theorem quadGet_ends (m : Method) (cfg : Cfg α) (f0 g0 h t0 : α) (hM : 0 < cfg.maxIter) {t : α} {ctx : Ctx α}
    (e : quadGet m cfg f0 g0 h t0 = ⟨true, t, ctx⟩) :
    (quadGet m cfg f0 g0 h t0).ok = true ∧ (quadGet m cfg f0 g0 h t0).t = t ∧
    (quadGet m cfg f0 g0 h t0).ctx.cur = quadLine f0 g0 h t ∧ Advertised m cfg ⟨f0, g0, true⟩ (quadGet m cfg f0 g0 h t0) := by
  have hok : (quadGet m cfg f0 g0 h t0).ok = true := by rw [e]
  have ht : (quadGet m cfg f0 g0 h t0).t = t := by rw [e]
  obtain ⟨a, b⟩ := quadGet_success m cfg f0 g0 h t0 hM hok
  exact ⟨hok, ht, a.trans (congrArg _ ht), b⟩

/-- `quadGet` identified with a `do_get` that succeeds at a positive step -/
theorem quadGet_of_doGet {m : Method} {cfg : Cfg α} {f0 g0 h t0 t : α} {ctx : Ctx α} (hM : 0 < cfg.maxIter)
    (e : quadGet m cfg f0 g0 h t0 = doGet m cfg (fun _ => quadLine f0 g0 h) ⟨f0, g0, true⟩ t ctx)
    (hok : (doGet m cfg (fun _ => quadLine f0 g0 h) ⟨f0, g0, true⟩ t ctx).ok = true)
    (hpos : 0 < (doGet m cfg (fun _ => quadLine f0 g0 h) ⟨f0, g0, true⟩ t ctx).t) :
    (quadGet m cfg f0 g0 h t0).ok = true ∧ 0 < (quadGet m cfg f0 g0 h t0).t ∧
    (quadGet m cfg f0 g0 h t0).ctx.cur = quadLine f0 g0 h (quadGet m cfg f0 g0 h t0).t ∧
    Advertised m cfg ⟨f0, g0, true⟩ (quadGet m cfg f0 g0 h t0) := by
  rw [← e] at hok hpos
  exact ⟨hok, hpos, quadGet_success m cfg f0 g0 h t0 hM hok⟩

/-- the preamble of `get` on a convex quadratic: `do_get` is entered at a positive step `t ≥ t1 = initialStep(t0)` with the state
    evaluated there, after at most `max_iterations + 1` evaluations (one if the first trial already changes the value by `epsilon1`);
    the tripling loop cannot push `t` beyond `3B` for any `B ≥ 4t*` with `epsilon1 ≤ h B²/4` -/
theorem quadGet_eq_doGet (m : Method) (cfg : Cfg α) (f0 g0 h t0 : α) (hg : g0 < 0) (hh : 0 < h) (hM : 0 < cfg.maxIter)
    (he : 0 < cfg.macheps) :
    ∃ t ctx, quadGet m cfg f0 g0 h t0 = doGet m cfg (fun _ => quadLine f0 g0 h) ⟨f0, g0, true⟩ t ctx ∧
      ctx.cur = quadLine f0 g0 h t ∧ 0 < t ∧ initialStep cfg t0 ≤ t ∧
      (∀ B, 4 * tstar g0 h ≤ B → cfg.eps1 ≤ h * B * B / 4 → t ≤ max (initialStep cfg t0) (3 * B)) ∧
      ctx.trace.length ≤ cfg.maxIter + 1 ∧
      (cfg.eps1 ≤ |(quadLine f0 g0 h (initialStep cfg t0)).f - f0| → ctx.trace.length = 1) := by
  obtain ⟨t, ctx, e, hcur, hle, hcase, hlen, hlen1⟩ := get_line_eq_doGet_len (quadLine f0 g0 h) (fun _ => rfl) m cfg
    ⟨f0, g0, true⟩ t0 hg hM he
  refine ⟨t, ctx, e, hcur, lt_of_lt_of_le (initialStep_pos cfg t0 he) hle, hle, fun B hB hB2 => ?_, hlen,
    fun hng => hlen1 (by rw [absv_eq_abs]; exact not_lt.mpr hng)⟩
  rcases hcase with h1 | ⟨t'', _, h2, h3⟩
  · rw [h1]; exact le_max_left _ _
  · have := quad_small_change_lt hg hh hB hB2 h3
    exact le_trans (by rw [h2]; linarith only [this]) (le_max_right _ _)

/-- … and when the first trial already changes the value by `epsilon1`, `do_get` is entered at `t1` itself -/
theorem quadGet_nogrow (m : Method) (cfg : Cfg α) (f0 g0 h t0 : α) (hg : g0 < 0) (hM : 0 < cfg.maxIter)
    (hng : cfg.eps1 ≤ |(quadLine f0 g0 h (initialStep cfg t0)).f - f0|) :
    quadGet m cfg f0 g0 h t0 = doGet m cfg (fun _ => quadLine f0 g0 h) ⟨f0, g0, true⟩ (initialStep cfg t0)
      ⟨quadLine f0 g0 h (initialStep cfg t0), [initialStep cfg t0]⟩ :=
  get_line_nogrow (quadLine f0 g0 h) (fun _ => rfl) m cfg ⟨f0, g0, true⟩ t0 hg hM (by rw [absv_eq_abs]; exact not_lt.mpr hng)

/-- The generated predicates on a convex quadratic, as intervals of the step `t > 0`:
    Armijo ⇔ `t ≤ 2(1 - c1) t*`, Wolfe ⇔ `(1 - c2) t* ≤ t`, strong Wolfe ⇔ `|t - t*| ≤ c2 t*`. -/
theorem quadratic_acceptance_intervals (f0 g0 h c1 c2 t : α) (hg : g0 < 0) (hh : 0 < h) (ht : 0 < t) :
    (hasArmijo f0 g0 (quadLine f0 g0 h t).f t c1 = true ↔ t ≤ 2 * (1 - c1) * tstar g0 h) ∧
    (hasWolfe g0 (quadLine f0 g0 h t).g c2 = true ↔ (1 - c2) * tstar g0 h ≤ t) ∧
    (hasStrongWolfe g0 (quadLine f0 g0 h t).g c2 = true ↔ |t - tstar g0 h| ≤ c2 * tstar g0 h) :=
  ⟨armijo_quad_iff hh ht, wolfe_quad_iff hh, strongWolfe_quad_iff hg hh⟩

/-- At the exact minimiser `t* = -g0/h > 0`: Wolfe and strong Wolfe hold for every `c2 ≥ 0`; Armijo holds IFF `c1 ≤ 1/2`. -/
theorem quadratic_minimizer_accepted_iff (f0 g0 h c1 c2 : α) (hg : g0 < 0) (hh : 0 < h) (hc2 : 0 ≤ c2) :
    0 < tstar g0 h ∧ (quadLine f0 g0 h (tstar g0 h)).g = 0 ∧
    hasStrongWolfe g0 (quadLine f0 g0 h (tstar g0 h)).g c2 = true ∧ hasWolfe g0 (quadLine f0 g0 h (tstar g0 h)).g c2 = true ∧
    (hasArmijo f0 g0 (quadLine f0 g0 h (tstar g0 h)).f (tstar g0 h) c1 = true ↔ c1 ≤ 1 / 2) :=
  ⟨tstar_pos hg hh, quadLine_tstar_g hh, (strongWolfe_at_tstar hg hh hc2).1, (strongWolfe_at_tstar hg hh hc2).2,
    armijo_at_tstar_iff hg hh⟩

/-- The formulas RE-TRANSLATED from src/solver/lstep.cpp (`Gen/LsStep.lean`; `model_lstep_is_generated`: they are the ones the model
    uses): `lsearch_step_t::quadratic`, `::secant` and `::cubic` (with any square root that is one on non-negative arguments)
    return exactly `t*` for any two distinct points of the quadratic; so does `lsearch_step_t::interpolate` in the modes
    `quadratic` and `cubic` when `isfinite(t*)`. -/
theorem interpolation_exact_on_quadratics (sqrt : α → α)
    (hs : ∀ x : α, 0 ≤ x → 0 ≤ sqrt x ∧ sqrt x * sqrt x = x) (f0 g0 h : α) (hh : 0 < h) (u v : Step α)
    (hu : OnQuad f0 g0 h u) (hv : OnQuad f0 g0 h v) (hne : u.t ≠ v.t) :
    Gen.LsStep.quadratic u.t u.f u.g v.t v.f v.g = tstar g0 h ∧ Gen.LsStep.secant u.t u.f u.g v.t v.f v.g = tstar g0 h ∧
    Gen.LsStep.cubic sqrt u.t u.f u.g v.t v.f v.g = tstar g0 h ∧
    (∀ (fin : α → Bool) (mode : Gen.LsStep.InterpolationType), fin (tstar g0 h) = true → mode ≠ .bisection →
      Gen.LsStep.interpolate fin sqrt u.t u.f u.g v.t v.f v.g mode = tstar g0 h) := by
  let _ : Sqrt α := ⟨sqrt⟩
  have e1 : Gen.LsStep.quadratic u.t u.f u.g v.t v.f v.g = tstar g0 h := quadratic_exact hh u v hu hv hne
  have e2 : Gen.LsStep.secant u.t u.f u.g v.t v.f v.g = tstar g0 h := secant_exact hh u v hu hv hne
  have e3 : Gen.LsStep.cubic sqrt u.t u.f u.g v.t v.f v.g = tstar g0 h := cubic_exact (α := α) hs hh u v hu hv hne
  refine ⟨e1, e2, e3, ?_⟩
  intro fin mode hfin hm
  cases mode with
  | bisection => exact absurd rfl hm
  | quadratic => simp only [Gen.LsStep.interpolate, e1, hfin, if_true]
  | cubic => simp only [Gen.LsStep.interpolate, e3, hfin, if_true]

/-- a configuration whose `cubic` is the generated formula (with a square root that is one on non-negative arguments) satisfies the
    contract `CubicExact` of the Moré–Thuente theorems -/
theorem generated_cubic_exact (cfg : Cfg α) (sqrt : α → α) (hs : ∀ x : α, 0 ≤ x → 0 ≤ sqrt x ∧ sqrt x * sqrt x = x)
    (hcfg : ∀ u v : Step α, cfg.cubic u v = Gen.LsStep.cubic sqrt u.t u.f u.g v.t v.f v.g) {h : α} (hh : 0 < h) : CubicExact cfg h := by
  intro f0 g0 u v hu hv hne
  rw [hcfg]; exact (interpolation_exact_on_quadratics sqrt hs f0 g0 h hh u v hu hv hne).2.2.1

/-- … hence the interpolation the model (and the driver) builds from the generated formulas satisfies the contracts the
    "succeeds on quadratics" theorems ask of `Cfg.interp` (`InterpExact`) and `Cfg.cubic` (`CubicExact`). -/
theorem generated_interpolation_contracts [Sqrt α]
    (hs : ∀ x : α, 0 ≤ x → 0 ≤ (Sqrt.sqrt x : α) ∧ (Sqrt.sqrt x : α) * Sqrt.sqrt x = x) (cfg : Cfg α) (fin : α → Bool) (mode : Interp)
    (hm : mode ≠ .bisection) (f0 g0 h : α) (hh : 0 < h) (hfin : fin (tstar g0 h) = true)
    (hi : cfg.interp = genInterpolate fin mode) (hc : cfg.cubic = genCubic) :
    InterpExact cfg f0 g0 h ∧ CubicExact cfg h := by
  constructor
  · intro u v hu hv hne
    rw [hi]
    refine (interpolation_exact_on_quadratics Sqrt.sqrt hs f0 g0 h hh u v hu hv hne).2.2.2 fin mode.toGen hfin ?_
    cases mode <;> simp_all [Interp.toGen]
  · exact generated_cubic_exact cfg Sqrt.sqrt hs (fun u v => by rw [hc]; rfl) hh

/-- What the re-translated `lsearch_step_t::cubic` computes, for ANY data (not only quadratics): with `q` the cubic Hermite interpolant of
    the two step records (first conjunct: values and slopes at both ends), the returned step is a STATIONARY POINT of `q` and the
    curvature of `q` there is `2·d2/(v.t - u.t)`, `d2 = sign(v.t - u.t)·sqrt(d1² - u.g·v.g)` — non-negative: a local minimiser.
    Hypotheses: distinct steps, the root exists (`sqrt r · sqrt r = r` for the radicand), the formula's denominator is not `0`. -/
theorem cubic_is_stationary_point_of_hermite_cubic (sqrt : α → α) (ut uf ug vt vf vg : α) (hne : ut ≠ vt)
    (hs : sqrt ((ug + vg - 3 * (uf - vf) / (ut - vt)) * (ug + vg - 3 * (uf - vf) / (ut - vt)) - ug * vg) *
          sqrt ((ug + vg - 3 * (uf - vf) / (ut - vt)) * (ug + vg - 3 * (uf - vf) / (ut - vt)) - ug * vg) =
          (ug + vg - 3 * (uf - vf) / (ut - vt)) * (ug + vg - 3 * (uf - vf) / (ut - vt)) - ug * vg)
    (hD : vg - ug + 2 * ((if vt > ut then 1 else -1) *
          sqrt ((ug + vg - 3 * (uf - vf) / (ut - vt)) * (ug + vg - 3 * (uf - vf) / (ut - vt)) - ug * vg)) ≠ 0) :
    (hermite ut uf ug vt vf vg ut = uf ∧ hermite ut uf ug vt vf vg vt = vf ∧
      hermiteSlope ut uf ug vt vf vg ut = ug ∧ hermiteSlope ut uf ug vt vf vg vt = vg) ∧
    hermiteSlope ut uf ug vt vf vg (Gen.LsStep.cubic sqrt ut uf ug vt vf vg) = 0 ∧
    hermiteCurv ut uf ug vt vf vg (Gen.LsStep.cubic sqrt ut uf ug vt vf vg) =
      2 * ((if vt > ut then 1 else -1) *
        sqrt ((ug + vg - 3 * (uf - vf) / (ut - vt)) * (ug + vg - 3 * (uf - vf) / (ut - vt)) - ug * vg)) / (vt - ut) := by
  have hd : vt - ut ≠ 0 := sub_ne_zero.mpr (Ne.symm hne)
  refine ⟨⟨?_, ?_, ?_, ?_⟩, ?_⟩
  · simp only [hermite, sub_self, zero_div]; ring
  · have e : (vt - ut) * ((vf - uf) / (vt - ut)) = vf - uf := mul_div_cancel₀ _ hd
    simp only [hermite, div_self hd]; linear_combination e
  · simp only [hermiteSlope, sub_self, zero_div]; ring
  · simp only [hermiteSlope, div_self hd]; ring
  have hd' : ut - vt ≠ 0 := sub_ne_zero.mpr hne
  -- names for the sub-terms of the formula
  generalize hd1 : ug + vg - 3 * (uf - vf) / (ut - vt) = d1 at hs hD ⊢
  generalize hq : sqrt (d1 * d1 - ug * vg) = q at hs hD ⊢
  generalize hσ : (if vt > ut then (1 : α) else -1) = σ at hD ⊢
  have hσ2 : σ * σ = 1 := by
    rw [← hσ]; split <;> ring
  have hw : (σ * q) * (σ * q) = d1 * d1 - ug * vg := by
    have : (σ * q) * (σ * q) = (σ * σ) * (q * q) := by ring
    rw [this, hσ2, hs, one_mul]
  have hs' : (vf - uf) / (vt - ut) = (ug + vg - d1) / 3 := by
    rw [← hd1]; field_simp; ring
  have hx : Gen.LsStep.cubic sqrt ut uf ug vt vf vg = vt - (vt - ut) * (vg + σ * q - d1) / (vg - ug + 2 * (σ * q)) := by
    simp only [Gen.LsStep.cubic, hd1, hq, hσ]
  generalize σ * q = w at hw hD hx ⊢
  have hτ : (Gen.LsStep.cubic sqrt ut uf ug vt vf vg - ut) / (vt - ut) = (w + d1 - ug) / (vg - ug + 2 * w) := by
    rw [hx]
    generalize hDdef : vg - ug + 2 * w = D at hD ⊢
    field_simp
    rw [← hDdef]; ring
  -- with `τ = (x - ut)/(vt - ut)` and `D` the formula's denominator, `τ·D = w + d1 - ug`; slope and curvature are polynomials
  -- in `τ`, and `D` times each claim is a multiple of `w² = d1² - ug·vg`
  have hτD := (eq_div_iff hD).mp hτ
  simp only [hermiteSlope, hermiteCurv, hs']
  generalize (Gen.LsStep.cubic sqrt ut uf ug vt vf vg - ut) / (vt - ut) = τ at hτD
  have hstar : (ug + vg + 2 * d1) * τ = w + ug + d1 := by
    apply mul_left_cancel₀ hD
    linear_combination (ug + vg + 2 * d1) * hτD - 2 * hw
  constructor
  · apply mul_left_cancel₀ hD
    linear_combination (vg - ug + 2 * w) * τ * hstar + (w - ug - d1) * hτD + hw
  · congr 1
    linear_combination 2 * hstar

/-- non-vacuity: `u = (0, 0, -1)`, `v = (1, 1, 3)` (two points of `-t + 2t²`), `sqrt := |·|/… ` replaced by the exact root `2` of the
    radicand `4`: the hypotheses hold and the formula returns `1/4` -/
example : (fun _ : ℚ => (2 : ℚ)) (((-1 : ℚ) + 3 - 3 * (0 - 1) / (0 - 1)) * ((-1) + 3 - 3 * (0 - 1) / (0 - 1)) - (-1) * 3) *
      (fun _ : ℚ => (2 : ℚ)) (((-1 : ℚ) + 3 - 3 * (0 - 1) / (0 - 1)) * ((-1) + 3 - 3 * (0 - 1) / (0 - 1)) - (-1) * 3) =
      ((-1 : ℚ) + 3 - 3 * (0 - 1) / (0 - 1)) * ((-1) + 3 - 3 * (0 - 1) / (0 - 1)) - (-1) * 3 ∧
    Gen.LsStep.cubic (fun _ : ℚ => (2 : ℚ)) 0 0 (-1) 1 1 3 = 1 / 4 := by decide +kernel

/-- The re-translated `lsearch_step_t::quadratic` returns the stationary point of the parabola through `(u.t, u.f)` with slope `u.g`
    and through `(v.t, v.f)` (first conjunct), and `*convexity` is `true` exactly when that parabola is strictly convex, i.e.
    when the returned step is its MINIMISER. -/
theorem quadratic_is_parabola_minimiser (ut uf ug vt vf vg : α) (hne : ut ≠ vt) (hq : ug - (uf - vf) / (ut - vt) ≠ 0) :
    (interpParabola ut uf ug vt vf ut = uf ∧ interpParabolaSlope ut uf ug vt vf ut = ug ∧ interpParabola ut uf ug vt vf vt = vf) ∧
    interpParabolaSlope ut uf ug vt vf (Gen.LsStep.quadratic ut uf ug vt vf vg) = 0 ∧
    (Gen.LsStep.quadraticConvexity ut uf ug vt vf vg = true ↔ 0 < parabolaCoef ut uf ug vt vf) := by
  have hd : vt - ut ≠ 0 := sub_ne_zero.mpr (Ne.symm hne)
  refine ⟨⟨by simp only [interpParabola, sub_self, mul_zero, add_zero],
    by simp only [interpParabolaSlope, sub_self, mul_zero, add_zero], ?_⟩, ?_⟩
  · simp only [interpParabola, parabolaCoef]; field_simp; ring
  have hd' : ut - vt ≠ 0 := sub_ne_zero.mpr hne
  constructor
  · have hx : Gen.LsStep.quadratic ut uf ug vt vf vg - ut = -(1 / 2 * ug * (ut - vt) / (ug - (uf - vf) / (ut - vt))) := by
      simp only [Gen.LsStep.quadratic]; ring
    have hc : parabolaCoef ut uf ug vt vf = (ug - (uf - vf) / (ut - vt)) / (ut - vt) := by
      simp only [parabolaCoef]; field_simp; ring
    simp only [interpParabolaSlope, hx, hc]
    generalize ug - (uf - vf) / (ut - vt) = Q at hq ⊢
    field_simp
    ring
  · have hpos : 0 < (vt - ut) * (vt - ut) := mul_self_pos.mpr hd
    simp only [Gen.LsStep.quadraticConvexity, parabolaCoef, decide_eq_true_eq, gt_iff_lt]
    rw [lt_div_iff₀ hpos, zero_mul]
    constructor <;> intro h' <;> linarith only [h']

example : (0 : ℚ) ≠ 1 ∧ ((-1 : ℚ) - (0 - 1) / (0 - 1) ≠ 0) ∧ Gen.LsStep.quadratic (0 : ℚ) 0 (-1) 1 1 3 = 1 / 4 ∧
    Gen.LsStep.quadraticConvexity (0 : ℚ) 0 (-1) 1 1 3 = true := by decide +kernel

set_option linter.unusedSectionVars false
/-- The re-translated `lsearch_step_t::secant` returns the root of the linear interpolant of the slopes. -/
theorem secant_is_root_of_linear_slope (ut uf ug vt vf vg : α) (hne : ut ≠ vt) (hg : ug ≠ vg) :
    slopeLine ut ug vt vg ut = ug ∧ slopeLine ut ug vt vg vt = vg ∧
    slopeLine ut ug vt vg (Gen.LsStep.secant ut uf ug vt vf vg) = 0 := by
  have hd : vt - ut ≠ 0 := sub_ne_zero.mpr (Ne.symm hne)
  have hg' : ug - vg ≠ 0 := sub_ne_zero.mpr hg
  refine ⟨by simp [slopeLine], ?_, ?_⟩
  · simp only [slopeLine]; field_simp; ring
  · simp only [slopeLine, Gen.LsStep.secant]; field_simp; ring
set_option linter.unusedSectionVars true

example : (0 : ℚ) ≠ 1 ∧ (-1 : ℚ) ≠ 3 ∧ Gen.LsStep.secant (0 : ℚ) 0 (-1) 1 1 3 = 1 / 4 := by decide +kernel

/-- The re-translated `lsearch_step_t::bisection` returns the midpoint. -/
theorem bisection_is_midpoint (ut uf ug vt vf vg : α) : 2 * Gen.LsStep.bisection ut uf ug vt vf vg = ut + vt := by
  simp only [Gen.LsStep.bisection]; ring

/-- Backtracking on a convex quadratic, every interpolation function, every `t0`: with `t1 = initialStep(t0)` (the clamped
    initial step), any `B ≥ 4t*` with `epsilon1 ≤ h B²/4` (the second loop of `get` cannot triple the step beyond `3B`) and
    any `k < max_iterations` with `(1 - safeguard)^k · max(t1, 3B) ≤ 2(1 - c1) t*`, the search succeeds; the accepted step is
    positive, satisfies Armijo, and the state is the evaluation there. -/
theorem backtrack_succeeds_on_quadratic (cfg : Cfg α) (f0 g0 h t0 B : α) (k : Nat) (hg : g0 < 0) (hh : 0 < h)
    (hs0 : 0 < cfg.safeguard) (hs1 : cfg.safeguard ≤ 1 / 2) (he : 0 < cfg.macheps) (hk : k < cfg.maxIter)
    (hB : 4 * tstar g0 h ≤ B) (hB2 : cfg.eps1 ≤ h * B * B / 4)
    (hT : (1 - cfg.safeguard) ^ k * max (initialStep cfg t0) (3 * B) ≤ 2 * (1 - cfg.c1) * tstar g0 h) :
    (quadGet .backtrack cfg f0 g0 h t0).ok = true ∧
    hasArmijo f0 g0 (quadGet .backtrack cfg f0 g0 h t0).ctx.cur.f (quadGet .backtrack cfg f0 g0 h t0).t cfg.c1 = true ∧
    0 < (quadGet .backtrack cfg f0 g0 h t0).t ∧
    (quadGet .backtrack cfg f0 g0 h t0).ctx.cur = quadLine f0 g0 h (quadGet .backtrack cfg f0 g0 h t0).t := by
  have hM : 0 < cfg.maxIter := by omega
  obtain ⟨t, ctx, e, hcur, ht0, _, hmax, -⟩ := quadGet_eq_doGet .backtrack cfg f0 g0 h t0 hg hh hM he
  have hk' : (1 - cfg.safeguard) ^ k * t ≤ 2 * (1 - cfg.c1) * tstar g0 h :=
    le_trans (mul_le_mul_of_nonneg_left (hmax B hB hB2) (pow_nonneg (by linarith only [hs1]) k)) hT
  obtain ⟨r1, r2⟩ := backtrack_line_run cfg (quadLine f0 g0 h) ⟨f0, g0, true⟩ _ (fun _ => rfl) (fun _ => armijo_quad_iff hh)
    hs0 hs1 k cfg.maxIter t ctx hk ht0 hcur hk'
  obtain ⟨a, b, c, d⟩ := quadGet_of_doGet hM e r1 r2
  exact ⟨a, d.1, b, c⟩

/-- LeMaréchal on a convex quadratic, EVERY `t0`, for an interpolation that is exact on
    quadratics (`InterpExact`: the modes `quadratic` and `cubic` of `lsearch_step_t::interpolate`,
    `interpolation_exact_on_quadratics`), `0 < safeguard ≤ 1/2`, `1 < tau1`, `c1 ≤ 1/2`, `0 < c2 < 1`, `0 < epsilon0 ≤ 2(1 - c1)t*`.
    Write `A = (1 - c2)t*` (Wolfe ⇔ `A ≤ t`), `T = 2(1 - c1)t*` (Armijo ⇔ `t ≤ T`), `t1 = initialStep(t0)`, `B` as for backtracking.
    If `tau1^k · t1 ≥ A` (at most `k` expansions), `safeguard^J · max(t1, 3B, tau1·A) < T - A` (at most `J` clamped interpolations:
    each multiplies the width of the bracket, which always contains `[A, T]`, by `safeguard`) and `max_iterations ≥ k + J + 3`, the
    search succeeds at a positive step with Armijo and Wolfe, the state being the evaluation there. -/
theorem lemarechal_succeeds_on_quadratic (cfg : Cfg α) (f0 g0 h t0 B : α) (k J : Nat) (hg : g0 < 0) (hh : 0 < h)
    (hI : InterpExact cfg f0 g0 h) (hs0 : 0 < cfg.safeguard) (hs1 : cfg.safeguard ≤ 1 / 2) (htau : 1 < cfg.tau1)
    (hc1 : cfg.c1 ≤ 1 / 2) (hc20 : 0 < cfg.c2) (hc21 : cfg.c2 < 1) (heps0 : 0 < cfg.eps0)
    (heps1 : cfg.eps0 ≤ 2 * (1 - cfg.c1) * tstar g0 h) (he : 0 < cfg.macheps) (hM : k + J + 3 ≤ cfg.maxIter)
    (hB : 4 * tstar g0 h ≤ B) (hB2 : cfg.eps1 ≤ h * B * B / 4)
    (hk : (1 - cfg.c2) * tstar g0 h ≤ cfg.tau1 ^ k * initialStep cfg t0)
    (hJ : cfg.safeguard ^ J * max (max (initialStep cfg t0) (3 * B)) (cfg.tau1 * ((1 - cfg.c2) * tstar g0 h)) <
      2 * (1 - cfg.c1) * tstar g0 h - (1 - cfg.c2) * tstar g0 h) :
    (quadGet .lemarechal cfg f0 g0 h t0).ok = true ∧ 0 < (quadGet .lemarechal cfg f0 g0 h t0).t ∧
    (quadGet .lemarechal cfg f0 g0 h t0).ctx.cur = quadLine f0 g0 h (quadGet .lemarechal cfg f0 g0 h t0).t ∧
    hasArmijo f0 g0 (quadGet .lemarechal cfg f0 g0 h t0).ctx.cur.f (quadGet .lemarechal cfg f0 g0 h t0).t cfg.c1 = true ∧
    hasWolfe g0 (quadGet .lemarechal cfg f0 g0 h t0).ctx.cur.g cfg.c2 = true := by
  have hM0 : 0 < cfg.maxIter := by omega
  obtain ⟨t, ctx, e, hcur, ht0, hle, hmax, -⟩ := quadGet_eq_doGet .lemarechal cfg f0 g0 h t0 hg hh hM0 he
  have hk' : (1 - cfg.c2) * tstar g0 h ≤ cfg.tau1 ^ k * t :=
    le_trans hk (mul_le_mul_of_nonneg_left hle (pow_nonneg (by linarith only [htau]) k))
  have hJ' : cfg.safeguard ^ J * max t (cfg.tau1 * ((1 - cfg.c2) * tstar g0 h)) <
      2 * (1 - cfg.c1) * tstar g0 h - (1 - cfg.c2) * tstar g0 h :=
    lt_of_le_of_lt (mul_le_mul_of_nonneg_left (max_le_max (hmax B hB hB2) (le_refl _)) (pow_nonneg hs0.le J)) hJ
  obtain ⟨r1, r2⟩ := lemarechal_quad_expand cfg f0 g0 h hg hh hI hs0 hs1 hc1 hc20 heps0 heps1 htau J k (cfg.maxIter - 1)
    ⟨0, f0, g0⟩ t ctx (by omega) (onQuad_origin f0 g0 h) (le_refl _) (mul_pos (sub_pos.mpr hc21) (tstar_pos hg hh)) ht0 hcur hk' hJ'
  obtain ⟨a, b, c, d⟩ := quadGet_of_doGet hM0 e r1 r2
  exact ⟨a, b, c, d.1, d.2⟩

/-- LeMaréchal on a convex quadratic, overshooting first trial (a refinement of the theorem above): if the clamped initial step
    `t1` is not tripled by the preamble (`epsilon1 ≤ |φ(t1) - φ(0)|`), violates Armijo (`2(1 - c1) t* < t1`) and the safeguards do
    not clamp the interpolated step (`safeguard·t1 ≤ t* ≤ (1 - safeguard)·t1`), then with `c1 ≤ 1/2`, `0 ≤ c2`,
    `max_iterations ≥ 3` the search succeeds after TWO evaluations, exactly at `t*`, with Armijo and Wolfe. -/
theorem lemarechal_quadratic_overshoot_exact_step (cfg : Cfg α) (f0 g0 h t0 : α) (hg : g0 < 0) (hh : 0 < h)
    (hI : InterpExact cfg f0 g0 h) (hM : 3 ≤ cfg.maxIter)
    (hng : cfg.eps1 ≤ |(quadLine f0 g0 h (initialStep cfg t0)).f - f0|)
    (ht : 2 * (1 - cfg.c1) * tstar g0 h < initialStep cfg t0)
    (hlo : cfg.safeguard * initialStep cfg t0 ≤ tstar g0 h) (hhi : tstar g0 h ≤ (1 - cfg.safeguard) * initialStep cfg t0)
    (hc1 : cfg.c1 ≤ 1 / 2) (hc2 : 0 ≤ cfg.c2) :
    (quadGet .lemarechal cfg f0 g0 h t0).ok = true ∧ (quadGet .lemarechal cfg f0 g0 h t0).t = tstar g0 h ∧
    (quadGet .lemarechal cfg f0 g0 h t0).ctx.cur = quadLine f0 g0 h (tstar g0 h) ∧
    hasArmijo f0 g0 (quadGet .lemarechal cfg f0 g0 h t0).ctx.cur.f (quadGet .lemarechal cfg f0 g0 h t0).t cfg.c1 = true ∧
    hasWolfe g0 (quadGet .lemarechal cfg f0 g0 h t0).ctx.cur.g cfg.c2 = true := by
  obtain ⟨n, hn⟩ : ∃ n, cfg.maxIter - 1 = n + 2 := ⟨cfg.maxIter - 3, by omega⟩
  have e2 := lemarechal_quad_overshoot cfg f0 g0 h hg hh hI n (initialStep cfg t0)
    ⟨quadLine f0 g0 h (initialStep cfg t0), [initialStep cfg t0]⟩ rfl ht hlo hhi hc1 hc2
  obtain ⟨a, b, c, d⟩ := quadGet_ends .lemarechal cfg f0 g0 h t0 (by omega)
    ((quadGet_nogrow .lemarechal cfg f0 g0 h t0 hg (by omega) hng).trans (by simp only [doGet]; rw [hn]; exact e2))
  exact ⟨a, b, c, d.1, d.2⟩

/-- Fletcher on a convex quadratic, EVERY `t0`, for an interpolation that is exact on quadratics,
    `c1 < 1/2`, `0 < c2 < 1`, `0 < tau2 ≤ tau3 ≤ 1/2`, `2 ≤ tau1`, `epsilon0 ≤ c2·t*`. With `t1 = initialStep(t0)`, `B` as for
    backtracking: if `tau1^k · t1 ≥ t*` (at most `k` extrapolations in the bracketing phase), `tau3^J · max(t1, 3B, (1 + tau1)t*) ≤
    min(c2, 1 - 2c1)·t*` (at most `J` clamped interpolations in `zoom`: each multiplies the width of the bracket, which always
    contains `t*` and a point that fails strong Wolfe, by at most `tau3`; a trial within `min(c2, 1 - 2c1)t*` of `t*` is accepted),
    `max_iterations ≥ k + 2` and `max_iterations > J`, the search succeeds at a positive step with Armijo and strong Wolfe, the
    state being the evaluation there. -/
theorem fletcher_succeeds_on_quadratic (cfg : Cfg α) (f0 g0 h t0 B : α) (k J : Nat) (hg : g0 < 0) (hh : 0 < h)
    (hI : InterpExact cfg f0 g0 h) (hc1 : cfg.c1 < 1 / 2) (hc20 : 0 < cfg.c2) (hc21 : cfg.c2 < 1)
    (htau2 : 0 < cfg.tau2) (htau23 : cfg.tau2 ≤ cfg.tau3) (htau3 : cfg.tau3 ≤ 1 / 2) (htau1 : 2 ≤ cfg.tau1)
    (heps1 : cfg.eps0 ≤ cfg.c2 * tstar g0 h) (he : 0 < cfg.macheps) (hM : k + 2 ≤ cfg.maxIter) (hMJ : J < cfg.maxIter)
    (hB : 4 * tstar g0 h ≤ B) (hB2 : cfg.eps1 ≤ h * B * B / 4)
    (hk : tstar g0 h ≤ cfg.tau1 ^ k * initialStep cfg t0)
    (hJ : cfg.tau3 ^ J * max (max (initialStep cfg t0) (3 * B)) ((1 + cfg.tau1) * tstar g0 h) ≤
      min cfg.c2 (1 - 2 * cfg.c1) * tstar g0 h) :
    (quadGet .fletcher cfg f0 g0 h t0).ok = true ∧ 0 < (quadGet .fletcher cfg f0 g0 h t0).t ∧
    (quadGet .fletcher cfg f0 g0 h t0).ctx.cur = quadLine f0 g0 h (quadGet .fletcher cfg f0 g0 h t0).t ∧
    hasArmijo f0 g0 (quadGet .fletcher cfg f0 g0 h t0).ctx.cur.f (quadGet .fletcher cfg f0 g0 h t0).t cfg.c1 = true ∧
    hasStrongWolfe g0 (quadGet .fletcher cfg f0 g0 h t0).ctx.cur.g cfg.c2 = true := by
  have hM0 : 0 < cfg.maxIter := by omega
  have hp := tstar_pos hg hh
  obtain ⟨t, ctx, e, hcur, ht0, hle, hmax, -⟩ := quadGet_eq_doGet .fletcher cfg f0 g0 h t0 hg hh hM0 he
  have hk' : tstar g0 h ≤ (⟨0, f0, g0⟩ : Step α).t + cfg.tau1 ^ k * (t - (⟨0, f0, g0⟩ : Step α).t) := by
    simp only [zero_add, sub_zero]
    exact le_trans hk (mul_le_mul_of_nonneg_left hle (pow_nonneg (by linarith only [htau1]) k))
  have hJ' : cfg.tau3 ^ J * max t ((1 + cfg.tau1) * tstar g0 h) ≤ min cfg.c2 (1 - 2 * cfg.c1) * tstar g0 h :=
    le_trans (mul_le_mul_of_nonneg_left (max_le_max (hmax B hB hB2) (le_refl _))
      (pow_nonneg (lt_of_lt_of_le htau2 htau23).le J)) hJ
  have hnsw0 : cfg.c2 * tstar g0 h < |(⟨0, f0, g0⟩ : Step α).t - tstar g0 h| := by
    simp only [zero_sub, abs_neg, abs_of_pos hp]
    linarith only [mul_pos (sub_pos.mpr hc21) hp]
  obtain ⟨r1, r2⟩ := fletcher_quad cfg f0 g0 h hg hh hI hc1 hc20 htau2 htau23 htau3 heps1 htau1 J hMJ k (cfg.maxIter - 1)
    ⟨0, f0, g0⟩ t ctx (by omega) (onQuad_origin f0 g0 h) (le_refl _) ht0 hp hnsw0 hcur hk' hJ'
  obtain ⟨a, b, c, d⟩ := quadGet_of_doGet hM0 e r1 r2
  exact ⟨a, b, c, d.1, d.2⟩

/-- Fletcher on a convex quadratic, overshooting first trial (a refinement of the theorem above; `c1 = 1/2` allowed): if `t1`
    is not tripled, violates Armijo and the zoom safeguards do not clamp (`min(tau2, c2)·t1 ≤ t* ≤ (1 - tau3)·t1`), `epsilon0 < t1`,
    `max_iterations ≥ 2`: success after TWO evaluations, exactly at `t*`, with Armijo and strong Wolfe. -/
theorem fletcher_quadratic_overshoot_exact_step (cfg : Cfg α) (f0 g0 h t0 : α) (hg : g0 < 0) (hh : 0 < h)
    (hI : InterpExact cfg f0 g0 h) (hM : 2 ≤ cfg.maxIter) (he : 0 < cfg.macheps)
    (hng : cfg.eps1 ≤ |(quadLine f0 g0 h (initialStep cfg t0)).f - f0|)
    (ht : 2 * (1 - cfg.c1) * tstar g0 h < initialStep cfg t0)
    (hlo : min cfg.tau2 cfg.c2 * initialStep cfg t0 ≤ tstar g0 h) (hhi : tstar g0 h ≤ (1 - cfg.tau3) * initialStep cfg t0)
    (heps : cfg.eps0 < initialStep cfg t0) (hc1 : cfg.c1 ≤ 1 / 2) (hc2 : 0 ≤ cfg.c2) :
    (quadGet .fletcher cfg f0 g0 h t0).ok = true ∧ (quadGet .fletcher cfg f0 g0 h t0).t = tstar g0 h ∧
    (quadGet .fletcher cfg f0 g0 h t0).ctx.cur = quadLine f0 g0 h (tstar g0 h) ∧
    hasArmijo f0 g0 (quadGet .fletcher cfg f0 g0 h t0).ctx.cur.f (quadGet .fletcher cfg f0 g0 h t0).t cfg.c1 = true ∧
    hasStrongWolfe g0 (quadGet .fletcher cfg f0 g0 h t0).ctx.cur.g cfg.c2 = true := by
  obtain ⟨n, hn⟩ : ∃ n, cfg.maxIter - 1 = n + 1 := ⟨cfg.maxIter - 2, by omega⟩
  have e2 := fletcher_quad_overshoot cfg f0 g0 h hg hh hI n (initialStep cfg t0)
    ⟨quadLine f0 g0 h (initialStep cfg t0), [initialStep cfg t0]⟩ rfl ht (initialStep_pos cfg t0 he) hlo hhi hc1 hc2
    (by omega) heps
  obtain ⟨a, b, c, d⟩ := quadGet_ends .fletcher cfg f0 g0 h t0 (by omega)
    ((quadGet_nogrow .fletcher cfg f0 g0 h t0 hg (by omega) hng).trans (by simp only [doGet]; rw [hn]; exact e2))
  exact ⟨a, b, c, d.1, d.2⟩

/-- Moré–Thuente on a convex quadratic, first trial with the value increased (a refinement of `morethuente_succeeds_on_quadratic`;
    `c1 = 1/2` and `c2 < c1` allowed): if `t1` is not tripled, `2t* < t1`,
    `stpmin() ≤ t* ≤ stpmax()`, no bisection is forced (`t1 < 1.32 (stpmax() - stpmin())`), `0 ≤ c1 ≤ 1/2`, `0 ≤ c2`,
    `epsilon0 < 1`, `max_iterations ≥ 2` and `cfg.cubic` is exact on quadratics (`interpolation_exact_on_quadratics`): success at
    `t*` with Armijo and strong Wolfe. -/
theorem morethuente_quadratic_overshoot_exact_step (cfg : Cfg α) (f0 g0 h t0 : α) (hg : g0 < 0) (hh : 0 < h)
    (hC : ∀ u v : Step α, OnQuad f0 g0 h u → OnQuad f0 g0 h v → u.t ≠ v.t → cfg.cubic u v = tstar g0 h)
    (hM : 2 ≤ cfg.maxIter) (hng : cfg.eps1 ≤ |(quadLine f0 g0 h (initialStep cfg t0)).f - f0|)
    (ht : 2 * tstar g0 h < initialStep cfg t0) (hlo : stpmin cfg.macheps ≤ tstar g0 h) (hhi : tstar g0 h ≤ stpmax cfg.macheps)
    (hbis : initialStep cfg t0 < 2 * (stpmax cfg.macheps - stpmin cfg.macheps) * (66 / 100))
    (hc10 : 0 ≤ cfg.c1) (hc1 : cfg.c1 ≤ 1 / 2) (hc2 : 0 ≤ cfg.c2) (heps : cfg.eps0 < 1) :
    (quadGet .morethuente cfg f0 g0 h t0).ok = true ∧ (quadGet .morethuente cfg f0 g0 h t0).t = tstar g0 h ∧
    (quadGet .morethuente cfg f0 g0 h t0).ctx.cur = quadLine f0 g0 h (tstar g0 h) ∧
    hasArmijo f0 g0 (quadGet .morethuente cfg f0 g0 h t0).ctx.cur.f (quadGet .morethuente cfg f0 g0 h t0).t cfg.c1 = true ∧
    hasStrongWolfe g0 (quadGet .morethuente cfg f0 g0 h t0).ctx.cur.g cfg.c2 = true := by
  obtain ⟨n, hn⟩ : ∃ n, cfg.maxIter = n + 2 := ⟨cfg.maxIter - 2, by omega⟩
  have hT := tstar_pos hg hh
  have hinc : ¬ initialStep cfg t0 + 0 ≤ 2 * tstar g0 h := by rw [add_zero]; exact not_le.mpr ht
  -- the value increased: `dcstep` on the function itself proposes `t*`
  have e2 := morethuente_init_bracket cfg f0 g0 h hg hh hc10 hc1 heps n (initialStep cfg t0)
    ⟨quadLine f0 g0 h (initialStep cfg t0), [initialStep cfg t0]⟩ rfl (lt_trans (lt_two_mul_self hT) ht) hC
    (fun h' _ => absurd h' hinc) (fun hacc => by linarith only [hacc.1, ht, mul_nonneg hc10 hT.le])
    (if_neg fun h' => hinc h'.1) hlo hhi hbis (mtAccept_of_mem hT hc1 hc2 (one_sub_mul_le hc2 hT.le) (le_refl _))
  obtain ⟨a, b, c, d⟩ := quadGet_ends .morethuente cfg f0 g0 h t0 (by omega)
    ((quadGet_nogrow .morethuente cfg f0 g0 h t0 hg (by omega) hng).trans (by simp only [doGet]; rw [hn]; exact e2))
  exact ⟨a, b, c, d.1, d.2⟩

/-- Moré–Thuente on a convex quadratic, every first trial that does not undershoot (a refinement of
    `morethuente_succeeds_on_quadratic`: WHERE the search stops): if the clamped initial step `t1`
    is not tripled by the preamble and `(1 - c2) t* ≤ t1`, then with `cfg.cubic` exact on quadratics of curvature `h`
    (`CubicExact`; the real formula is: `interpolation_exact_on_quadratics`), `0 ≤ c1 ≤ 1/2`, `c1 ≤ c2`, `epsilon0 < 1`,
    `stpmin() ≤ (1 - c1) t*`, `t* ≤ stpmax()`, `t1 < 1.32 (stpmax() - stpmin())` (no forced bisection), `max_iterations ≥ 2`,
    the search succeeds after at most TWO evaluations with Armijo and strong Wolfe, at
      * `t1` itself when it is acceptable,
      * `t*` when `(1 + c2) t* < t1 ≤ 2(1 - c1) t*` (stage 2, slopes of opposite sign) or `2t* < t1` (the value increased),
      * `(1 - c1) t*` — NOT `t*` — when `2(1 - c1) t* < t1 ≤ 2t*`: stage 1 interpolates the modified function
        `φ(t) - φ(0) - c1 φ'(0) t`, whose minimiser that is.
    (The undershooting first trial `t1 < (1 - c2) t*` is the extrapolation phase of `morethuente_succeeds_on_quadratic`.) -/
theorem morethuente_quadratic_no_undershoot_two_evaluations (cfg : Cfg α) (f0 g0 h t0 : α) (hg : g0 < 0) (hh : 0 < h)
    (hC : CubicExact cfg h) (hM : 2 ≤ cfg.maxIter) (he : 0 < cfg.macheps)
    (hng : cfg.eps1 ≤ |(quadLine f0 g0 h (initialStep cfg t0)).f - f0|)
    (ht : (1 - cfg.c2) * tstar g0 h ≤ initialStep cfg t0)
    (hlo : stpmin cfg.macheps ≤ (1 - cfg.c1) * tstar g0 h) (hhi : tstar g0 h ≤ stpmax cfg.macheps)
    (hbis : initialStep cfg t0 < 2 * (stpmax cfg.macheps - stpmin cfg.macheps) * (66 / 100))
    (hc10 : 0 ≤ cfg.c1) (hc1 : cfg.c1 ≤ 1 / 2) (hc12 : cfg.c1 ≤ cfg.c2) (heps : cfg.eps0 < 1) :
    (quadGet .morethuente cfg f0 g0 h t0).ok = true ∧
    ((quadGet .morethuente cfg f0 g0 h t0).t = initialStep cfg t0 ∨ (quadGet .morethuente cfg f0 g0 h t0).t = tstar g0 h ∨
      (quadGet .morethuente cfg f0 g0 h t0).t = (1 - cfg.c1) * tstar g0 h) ∧
    (quadGet .morethuente cfg f0 g0 h t0).ctx.cur = quadLine f0 g0 h (quadGet .morethuente cfg f0 g0 h t0).t ∧
    hasArmijo f0 g0 (quadGet .morethuente cfg f0 g0 h t0).ctx.cur.f (quadGet .morethuente cfg f0 g0 h t0).t cfg.c1 = true ∧
    hasStrongWolfe g0 (quadGet .morethuente cfg f0 g0 h t0).ctx.cur.g cfg.c2 = true := by
  have hp := tstar_pos hg hh
  have hc20 : 0 ≤ cfg.c2 := le_trans hc10 hc12
  have ht10 := initialStep_pos cfg t0 he
  have hM0 : 0 < cfg.maxIter := by omega
  -- where the run ends
  obtain ⟨t, ctx, e, ht'⟩ : ∃ t ctx, quadGet .morethuente cfg f0 g0 h t0 = ⟨true, t, ctx⟩ ∧
      (t = initialStep cfg t0 ∨ t = tstar g0 h ∨ t = (1 - cfg.c1) * tstar g0 h) := by
    obtain ⟨n, hn⟩ : ∃ n, cfg.maxIter = n + 2 := ⟨cfg.maxIter - 2, by omega⟩
    rw [quadGet_nogrow .morethuente cfg f0 g0 h t0 hg hM0 hng]
    simp only [doGet]
    rw [hn]
    by_cases hacc : MtAccept cfg g0 h (initialStep cfg t0)
    · -- acceptable at once
      exact ⟨_, _, morethuente_exit_now cfg _ ⟨f0, g0, true⟩ (n + 1) _
        ⟨quadLine f0 g0 h (initialStep cfg t0), [initialStep cfg t0]⟩
        ((mtConverged_quad cfg f0 hg hh (morethuenteInit cfg ⟨f0, g0, true⟩ (initialStep cfg t0)) ht10).mpr hacc), Or.inl rfl⟩
    · -- beyond `t*` (else acceptable): ONE `dcstep` brackets `[0, t1]` and proposes `mtTrial`, which is `t*` or, for the modified
      -- function (Armijo fails, the value did not increase), `(1 - c1) t*`
      obtain ⟨hm1, hm2⟩ := mtTrial_mem cfg 0 (initialStep cfg t0) hc10 hp
      exact ⟨_, _, morethuente_init_bracket cfg f0 g0 h hg hh hc10 hc1 heps n (initialStep cfg t0) _ rfl
        (lt_of_not_ge fun h' => hacc (mtAccept_of_mem hp hc1 hc20 ht h')) (hC f0 g0) (fun _ _ => hC f0 _) hacc rfl
        (le_trans hlo hm1) (le_trans hm2 hhi) hbis
        (mtAccept_of_mem hp hc1 hc20 (le_trans (one_sub_mul_anti hc12 hp.le) hm1) hm2),
        Or.inr (ite_eq_or_eq _ _ _).symm⟩
  have hok : (quadGet .morethuente cfg f0 g0 h t0).ok = true := by rw [e]
  obtain ⟨c, d⟩ := quadGet_success .morethuente cfg f0 g0 h t0 hM0 hok
  exact ⟨hok, by rw [e]; exact ht', c, d.1, d.2⟩

/-- Moré–Thuente on a convex quadratic, EVERY `t0` (undershooting first trials and the preamble's
    tripling loop included), in exact arithmetic. For `cfg.cubic` exact on quadratics of curvature `h` (`CubicExact`; the formula
    re-translated from lstep.cpp is: `generated_cubic_exact`), `isfinite(t*)`, `0 ≤ c1 ≤ 1/2`, `c1 ≤ c2 < 1`, `epsilon0 ≤ c2`,
    `stpmin() ≤ min(1, t*)`, `t* ≤ stpmax()`; with `t1 = initialStep(t0)` (the clamped initial step, `get_initial_step_clamped`), `B` as
    for backtracking (`4t* ≤ B`, `epsilon1 ≤ h B²/4`: the second loop of `get` cannot triple the step beyond `3B`), no bisection forced
    on the first bracket (`max(t1, 3B) < 1.32 (stpmax() - stpmin())`): if `4^k · t1 ≥ (1 - c2) t*` and `max_iterations ≥ k + 2`, the
    search SUCCEEDS at a positive step with Armijo and strong Wolfe, the state being the evaluation there.
    How (Proofs/LSearchQuadMTFull.lean, `dcstep` case by case with cubic = quadratic = secant = `t*` on quadratic data):
      * while the trial `t` undershoots (`t < (1 - c2) t*`; convergence test false, none of the four give-up tests fires): `dcstep`
        case 3, no bracket — next trial `clamp(max(stmin, min(stmax, t*)))` with `stmin = t + 1.1 (t - stx)`, `stmax = t + 4 (t - stx)`
        as coded (first iteration `0`, `5 t1`): the distance `t - stx` at least quadruples per evaluation, `t*` may be OVERSHOT (up to
        `stmin`, at most `stpmax()`), at most `k` such evaluations;
      * a trial in `[(1 - c2) t*, t*]` is accepted; a trial beyond `t*` is accepted or ONE more `dcstep` brackets `[stx, t]` (case 1: value
        increased; case 2: stage 2, slopes of opposite sign; case 1 on the modified function `φ(t) - c1 φ'(0) t` in stage 1) and the
        next trial is `t*`, resp. `clamp((1 - c1) t*)`, both accepted.
    `do_get` thus makes at most `k + 1` evaluations after the preamble's (`mt_quad_run`); the preamble makes one plus one per tripling
    (`≤ max_iterations`): at most `max_iterations + k + 2` evaluations in all, and at most `k + 2` when the first trial already changes
    the value by `epsilon1`. What remains outside: floating point. -/
theorem morethuente_succeeds_on_quadratic (cfg : Cfg α) (f0 g0 h t0 B : α) (k : Nat) (hg : g0 < 0) (hh : 0 < h)
    (hC : CubicExact cfg h) (hfin : cfg.fin (tstar g0 h) = true)
    (hc10 : 0 ≤ cfg.c1) (hc1 : cfg.c1 ≤ 1 / 2) (hc12 : cfg.c1 ≤ cfg.c2) (hc21 : cfg.c2 < 1) (heps : cfg.eps0 ≤ cfg.c2)
    (he : 0 < cfg.macheps) (hmin1 : stpmin cfg.macheps ≤ 1) (hlo : stpmin cfg.macheps ≤ tstar g0 h)
    (hhi : tstar g0 h ≤ stpmax cfg.macheps) (hB : 4 * tstar g0 h ≤ B) (hB2 : cfg.eps1 ≤ h * B * B / 4)
    (hbis : max (initialStep cfg t0) (3 * B) < 2 * (stpmax cfg.macheps - stpmin cfg.macheps) * (66 / 100))
    (hk : (1 - cfg.c2) * tstar g0 h ≤ 4 ^ k * initialStep cfg t0) (hM : k + 2 ≤ cfg.maxIter) :
    (quadGet .morethuente cfg f0 g0 h t0).ok = true ∧ 0 < (quadGet .morethuente cfg f0 g0 h t0).t ∧
    (quadGet .morethuente cfg f0 g0 h t0).ctx.cur = quadLine f0 g0 h (quadGet .morethuente cfg f0 g0 h t0).t ∧
    hasArmijo f0 g0 (quadGet .morethuente cfg f0 g0 h t0).ctx.cur.f (quadGet .morethuente cfg f0 g0 h t0).t cfg.c1 = true ∧
    hasStrongWolfe g0 (quadGet .morethuente cfg f0 g0 h t0).ctx.cur.g cfg.c2 = true ∧
    (quadGet .morethuente cfg f0 g0 h t0).ctx.trace.length ≤ cfg.maxIter + k + 2 ∧
    (cfg.eps1 ≤ |(quadLine f0 g0 h (initialStep cfg t0)).f - f0| → (quadGet .morethuente cfg f0 g0 h t0).ctx.trace.length ≤ k + 2) := by
  have hM0 : 0 < cfg.maxIter := by omega
  obtain ⟨t, ctx, e, hcur, ht0, hle, hmax, hlen, hlen1⟩ := quadGet_eq_doGet .morethuente cfg f0 g0 h t0 hg hh hM0 he
  have ht1 : stpmin cfg.macheps ≤ initialStep cfg t0 := (initialStep_cases cfg t0 hmin1).2.2.2.2.1
  have U := unbr_init cfg f0 g0 h ht0 (le_trans ht1 hle) (lt_of_le_of_lt (hmax B hB hB2) hbis)
  have hk' : (1 - cfg.c2) * tstar g0 h ≤ t ∨ (1 - cfg.c2) * tstar g0 h ≤ 4 ^ k * (t - 0) := by
    right; rw [sub_zero]
    exact le_trans hk (mul_le_mul_of_nonneg_left hle (by positivity))
  obtain ⟨r1, _, r3, _, r5⟩ := mt_quad_run cfg f0 g0 h hg hh hC hfin hc10 hc1 hc12 hc21 heps hlo hhi k cfg.maxIter
    (morethuenteInit cfg ⟨f0, g0, true⟩ t) 0 t ctx U hcur (mul_pos (sub_pos.mpr hc21) (tstar_pos hg hh)) hk' hM
  obtain ⟨a, b, c, d⟩ := quadGet_of_doGet hM0 e r1 r3
  have r5' : (quadGet .morethuente cfg f0 g0 h t0).ctx.trace.length ≤ ctx.trace.length + (k + 1) := by rw [e]; exact r5
  exact ⟨a, b, c, d.1, d.2, by omega, fun hng => by have := hlen1 hng; omega⟩

/-- the hypotheses of `morethuente_succeeds_on_quadratic` are satisfiable: `φ(t) = -t + t²/6` (`t* = 3`), `t0 = 1/10` (undershoots:
    `(1 - c2) t* = 2.7`), `k = 3`, `B = 12`, a configuration whose `cubic` is the secant formula (exact on quadratics) -/
example : CubicExact { witnessCfg with cubic := fun u v => secant u v } (1 / 3 : ℚ) ∧
    tstar (-1 : ℚ) (1 / 3) = 3 ∧ initialStep witnessCfg (1 / 10) = 1 / 10 ∧ witnessCfg.eps0 ≤ witnessCfg.c2 ∧
    stpmin witnessCfg.macheps ≤ 1 ∧ stpmin witnessCfg.macheps ≤ tstar (-1 : ℚ) (1 / 3) ∧
    tstar (-1 : ℚ) (1 / 3) ≤ stpmax witnessCfg.macheps ∧ 4 * tstar (-1 : ℚ) (1 / 3) ≤ 12 ∧ witnessCfg.eps1 ≤ 1 / 3 * 12 * 12 / 4 ∧
    max (initialStep witnessCfg (1 / 10)) (3 * 12) < 2 * (stpmax witnessCfg.macheps - stpmin witnessCfg.macheps) * (66 / 100) ∧
    (1 - witnessCfg.c2) * tstar (-1 : ℚ) (1 / 3) ≤ 4 ^ 3 * initialStep witnessCfg (1 / 10) ∧ 3 + 2 ≤ witnessCfg.maxIter :=
  ⟨fun f0 g0 u v hu hv hne => secant_exact (by norm_num) u v hu hv hne, by decide +kernel⟩

/-- `φ(t) = -t + t²/60` (`t* = 30`): an undershooting first trial (`t0 = 1`, `c2 = 1/10`) -/
def shallowQuadratic (t : ℚ) : Eval ℚ := quadLine 0 (-1) (1 / 30) t

/-- The extrapolation phase of Moré–Thuente, run by the kernel on the model with the real formulas of lstep.cpp: trials `1, 5, 21`
    (`stmax = t + 4 (t - stx)`), then `t* = 30 < stmin = 21 + 1.1·16 = 38.6`: the safeguard OVERSHOOTS the minimiser to `38.6`, not
    acceptable (`(1 + c2) t* = 33`); stage 2, `dcstep` case 2 brackets `[21, 38.6]`, the secant/cubic step is `t* = 30`, accepted.
    (`k = 2`: `4² · 1 ≥ 0.9 · 30` fails, `k = 3` — the theorem's count is an upper bound: here `do_get` makes 4 evaluations.)
    Replayed on the real code: corpus/C07 section 10. -/
theorem morethuente_undershoot_run :
    (get .morethuente realCfg (fun _ => shallowQuadratic) (shallowQuadratic 0) 1).ok = true ∧
    (get .morethuente realCfg (fun _ => shallowQuadratic) (shallowQuadratic 0) 1).t = 30 ∧
    (get .morethuente realCfg (fun _ => shallowQuadratic) (shallowQuadratic 0) 1).ctx.trace = [30, 193 / 5, 21, 5, 1] := by
  decide +kernel

/-- The hypothesis `t* ≤ stpmax()` of `morethuente_succeeds_on_quadratic` cannot be dropped: `φ(t) = -t + t²/400` has `t* = 200 > stpmax() =
    100` (`macheps = 1/1000`); the extrapolation `1, 5, 21, 85` is then clamped to `stpmax()`, where the third give-up test fires (Armijo
    holds, the slope is still below `c1 φ'(0)`): an honest failure. (For `t* < stpmin()`: `morethuente_at_stpmin_pre3b214f8_and_now`; for
    `c1 > 1/2`: `quadratic_minimizer_accepted_iff`. In binary64 `stpmax() = 4.5e14`: outside the statement's quantifier.) -/
theorem morethuente_fails_beyond_stpmax :
    tstar (-1 : ℚ) (1 / 200) = 200 ∧ stpmax realCfg.macheps = 100 ∧
    (get .morethuente realCfg (fun _ => quadLine 0 (-1) (1 / 200)) ⟨0, -1, true⟩ 1).ok = false ∧
    (get .morethuente realCfg (fun _ => quadLine 0 (-1) (1 / 200)) ⟨0, -1, true⟩ 1).ctx.trace = [100, 85, 21, 5, 1] := by
  decide +kernel

/-- CG_DESCENT on a convex quadratic, EVERY `t0`: with `t1 = initialStep(t0) > stpmin()`, any
    `K < max_iterations` with `ro^K · t1 ≥ t*` (the bracketing phase multiplies the step by `ro` at most `K` times), `1 < ro`,
    `stpmin()·ro < (ro - 1)·t*` (the bracket `[t/ro, t] ∋ t*` is wider than `stpmin()`), `c1 ≤ 1/2`, `0 ≤ c2`, `0 ≤ epsilon`,
    `isfinite(t*)`: the search succeeds at a positive step with Wolfe or approximate Wolfe, the state being the evaluation there.
    (`bracket` stops at the first step `≥ t*`; unless that step is accepted, the first secant step of the loop is exactly `t*`.) -/
theorem cgdescent_succeeds_on_quadratic (cfg : Cfg α) (f0 g0 h t0 : α) (K : Nat) (hg : g0 < 0) (hh : 0 < h)
    (he : 0 < cfg.macheps) (hK : K < cfg.maxIter) (hKt : tstar g0 h ≤ cfg.cgRo ^ K * initialStep cfg t0)
    (hro : 1 < cfg.cgRo) (heps : 0 ≤ cfg.cgEpsilon) (hw : stpmin cfg.macheps * cfg.cgRo < (cfg.cgRo - 1) * tstar g0 h)
    (hw0 : stpmin cfg.macheps < initialStep cfg t0) (hc1 : cfg.c1 ≤ 1 / 2) (hc2 : 0 ≤ cfg.c2)
    (hfin : cfg.fin (tstar g0 h) = true) :
    (quadGet .cgdescent cfg f0 g0 h t0).ok = true ∧ 0 < (quadGet .cgdescent cfg f0 g0 h t0).t ∧
    (quadGet .cgdescent cfg f0 g0 h t0).ctx.cur = quadLine f0 g0 h (quadGet .cgdescent cfg f0 g0 h t0).t ∧
    (CgWolfe cfg ⟨f0, g0, true⟩ (quadGet .cgdescent cfg f0 g0 h t0) ∨ CgApprox cfg ⟨f0, g0, true⟩ (quadGet .cgdescent cfg f0 g0 h t0)) := by
  obtain ⟨t, ctx, e, hcur, ht0, hle, -⟩ := quadGet_eq_doGet .cgdescent cfg f0 g0 h t0 hg hh (by omega) he
  have hkt : tstar g0 h ≤ cfg.cgRo ^ K * t :=
    le_trans hKt (mul_le_mul_of_nonneg_left hle (pow_nonneg (by linarith only [hro]) K))
  rw [e]
  exact cgdescent_quad_succeeds cfg f0 g0 h hg hh t ctx hcur ht0 K hK hkt hro heps hw (lt_of_lt_of_le hw0 hle) hc1 hc2 hfin

/-- CG_DESCENT on a convex quadratic, overshooting first trial (a refinement of the theorem above): if `t1` is not tripled and
    `t* ≤ t1` (non-negative slope at the first trial), `stpmin() < t1`, `c1 ≤ 1/2`, `0 ≤ c2`, `0 ≤ epsilon`, `isfinite(t*)`,
    `max_iterations ≥ 1`: success, either at `t1` itself or — after ONE secant step — at `t*`, with Wolfe or approximate Wolfe. -/
theorem cgdescent_quadratic_overshoot_exact_step (cfg : Cfg α) (f0 g0 h t0 : α) (hg : g0 < 0) (hh : 0 < h)
    (hM : 0 < cfg.maxIter) (hng : cfg.eps1 ≤ |(quadLine f0 g0 h (initialStep cfg t0)).f - f0|)
    (ht : tstar g0 h ≤ initialStep cfg t0) (hw : stpmin cfg.macheps < initialStep cfg t0)
    (hc1 : cfg.c1 ≤ 1 / 2) (hc2 : 0 ≤ cfg.c2) (heps : 0 ≤ cfg.cgEpsilon) (hfin : cfg.fin (tstar g0 h) = true) :
    (quadGet .cgdescent cfg f0 g0 h t0).ok = true ∧
    ((quadGet .cgdescent cfg f0 g0 h t0).t = initialStep cfg t0 ∨ (quadGet .cgdescent cfg f0 g0 h t0).t = tstar g0 h) ∧
    (quadGet .cgdescent cfg f0 g0 h t0).ctx.cur = quadLine f0 g0 h (quadGet .cgdescent cfg f0 g0 h t0).t ∧
    (CgWolfe cfg ⟨f0, g0, true⟩ (quadGet .cgdescent cfg f0 g0 h t0) ∨ CgApprox cfg ⟨f0, g0, true⟩ (quadGet .cgdescent cfg f0 g0 h t0)) := by
  have hp := tstar_pos hg hh
  rw [quadGet_nogrow .cgdescent cfg f0 g0 h t0 hg hM hng]
  simp only [doGet]
  -- `bracket` returns at once, handing over the bracket `(0, t1)`
  obtain ⟨r1, -, r3, r4, r5⟩ := cgdescent_quad_of_bracketed cfg f0 g0 h hg hh (initialStep cfg t0)
    ⟨quadLine f0 g0 h (initialStep cfg t0), [initialStep cfg t0]⟩ rfl (hp.trans_le ht) heps hc1 hc2 hfin _
    (cgBracket_over cfg hh _ hM _ _ _ rfl ht)
    ⟨hM, rfl, rfl, ht, onQuad_origin f0 g0 h, le_refl _, hp, (sub_zero (initialStep cfg t0)).symm ▸ hw⟩
  exact ⟨r1, r5.elim Or.inl fun e => e.elim Or.inl Or.inr, r3, r4⟩

/-- non-vacuity of the section over ℚ (`realCfg`: `macheps = 1/1000`, `safeguard = 1/10`, `tau2 = 1/10`, `tau3 = 1/2`, the real
    interpolation formulas; `φ(t) = -t + 2t²`, i.e. `f0 = 0, g0 = -1, h = 4, t* = 1/4`, `t0 = 1 = t1`): the numeric hypotheses of
    the five theorems hold (`k = 40`, `B = 4` for backtracking) … -/
example : tstar (-1 : ℚ) 4 = 1 / 4 ∧ initialStep realCfg 1 = 1 ∧
    (1 - realCfg.safeguard) ^ 40 * max (initialStep realCfg 1) (3 * 4) ≤ 2 * (1 - realCfg.c1) * tstar (-1 : ℚ) 4 ∧
    4 * tstar (-1 : ℚ) 4 ≤ 4 ∧ realCfg.eps1 ≤ 4 * 4 * 4 / 4 ∧
    realCfg.eps1 ≤ |(quadLine (0 : ℚ) (-1) 4 (initialStep realCfg 1)).f - 0| ∧
    2 * (1 - realCfg.c1) * tstar (-1 : ℚ) 4 < initialStep realCfg 1 ∧
    realCfg.safeguard * initialStep realCfg 1 ≤ tstar (-1 : ℚ) 4 ∧
    tstar (-1 : ℚ) 4 ≤ (1 - realCfg.safeguard) * initialStep realCfg 1 ∧
    min realCfg.tau2 realCfg.c2 * initialStep realCfg 1 ≤ tstar (-1 : ℚ) 4 ∧
    tstar (-1 : ℚ) 4 ≤ (1 - realCfg.tau3) * initialStep realCfg 1 ∧
    stpmin realCfg.macheps ≤ tstar (-1 : ℚ) 4 ∧ tstar (-1 : ℚ) 4 ≤ stpmax realCfg.macheps ∧
    initialStep realCfg 1 < 2 * (stpmax realCfg.macheps - stpmin realCfg.macheps) * (66 / 100) := by
  decide +kernel

/-- … and the model runs end where the theorems say: backtracking after shrinking, the four others at `t* = 1/4` -/
example : (quadGet .backtrack realCfg 0 (-1) 4 1).ok = true ∧ (quadGet .backtrack realCfg 0 (-1) 4 1).t = 1 / 4 ∧
    (quadGet .lemarechal realCfg 0 (-1) 4 1).ok = true ∧ (quadGet .lemarechal realCfg 0 (-1) 4 1).t = 1 / 4 ∧
    (quadGet .fletcher realCfg 0 (-1) 4 1).ok = true ∧ (quadGet .fletcher realCfg 0 (-1) 4 1).t = 1 / 4 ∧
    (quadGet .morethuente realCfg 0 (-1) 4 1).ok = true ∧ (quadGet .morethuente realCfg 0 (-1) 4 1).t = 1 / 4 ∧
    (quadGet .cgdescent realCfg 0 (-1) 4 1).ok = true ∧ (quadGet .cgdescent realCfg 0 (-1) 4 1).t = 1 / 4 := by
  decide +kernel

/-! ### non-vacuity: the searches do succeed, fail and refuse on concrete inputs (model run over ℚ) -/

/-- `φ(t) = (t - 1)²` along `d`: value, slope `2(t - 1)`, always valid -/
def parabola (t : ℚ) : Eval ℚ := ⟨(t - 1) * (t - 1), 2 * (t - 1), true⟩

example : (get .backtrack witnessCfg (fun _ => parabola) (parabola 0) 1).ok = true ∧
    (get .backtrack witnessCfg (fun _ => parabola) (parabola 0) 1).t = 1 := by decide +kernel
example : (get .lemarechal witnessCfg (fun _ => parabola) (parabola 0) 3).ok = true := by decide +kernel
example : (get .fletcher witnessCfg (fun _ => parabola) (parabola 0) (1 / 4)).ok = true ∧
    0 < (get .fletcher witnessCfg (fun _ => parabola) (parabola 0) (1 / 4)).t := by decide +kernel
/-- a budget of one iteration: LeMaréchal never enters its loop and fails although the first trial is the minimiser -/
example : (get .lemarechal { witnessCfg with maxIter := 1 } (fun _ => parabola) (parabola 0) 1).ok = false := by
  decide +kernel
/-- an ascent direction is refused -/
example : (get .fletcher witnessCfg (fun _ => parabola) ⟨1, 2, true⟩ 1).ok = false := by decide +kernel
/-- an oracle that never returns a valid state: failure after exactly `max_iterations` requests (the guard added to
    `lsearchk_t::get` between its two loops) -/
example : (get .morethuente { witnessCfg with maxIter := 5 } (fun _ _ => ⟨0, 0, false⟩) (parabola 0) 1).ok = false ∧
    (get .morethuente { witnessCfg with maxIter := 5 } (fun _ _ => ⟨0, 0, false⟩) (parabola 0) 1).ctx.trace.length = 5 := by
  decide +kernel

end NanoVerif.LSearch
