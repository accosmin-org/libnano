import NanoVerif.Proofs.Reduce
import NanoVerif.Props.C13
import NanoVerif.Props.C16
import NanoVerif.Props.C17
import NanoVerif.Gen.MutableState
import NanoVerif.Proofs.SharingAllow
import NanoVerif.Proofs.SharingPool
import NanoVerif.Proofs.SharingTune
import NanoVerif.Proofs.SharingFit
/-!
  C18 — shared const objects are thread-safe with schedule-independent results: the part that is LOGIC.

  A data race is a fact about the C++ memory model and the compiled code; no Lean model of the library exhibits one.
  What is proved here, for every schedule / assignment / interleaving:
    * `perthread_buffers_exclusive`  tasks running at the same time have different worker ids, so buffers indexed by worker id
                                     are never written by two tasks at once (pool protocol model of C17);
    * `tune_writes_disjoint`         the (trial, fold) tasks of `ml::tune` write disjoint element ranges of `m_values`, distinct
                                     `m_extras` slots, inside the buffer, and read only slots no task of the batch writes (C13 + C16);
    * `sum_reduce_assignment_independent`, `min_reduce_assignment_independent`   the reductions do not depend on which worker
                                     processed which chunk (exact arithmetic; `min`: every worker processes its features in
                                     increasing index order, ties allowed — the tie-break of commit 62472c9;
                                     `table_min_reduce_assignment_independent`: the table learners' lexicographic caches of
                                     commit 5de0896 need no order hypothesis at all;
                                     `old_min_reduce_schedule_dependent`: the rule before it was schedule dependent);
    * `minimize_is_pure`             with per-call clones of the line-search prototypes, what a `minimize` call computes depends on
                                     (solver object, its own arguments) only — not on the calls it is interleaved with;
    * `mutable_state_allowlisted`    every `mutable` member, non-const static and pointer/reference member found in the CURRENT
                                     sources (`Gen/MutableState.lean`, regenerated on every run) is one of the reviewed entries (`Proofs/SharingAllow.lean`).
  Everything about actual races and bit-identical floating-point results is tested (tools/props/c18.py), not proved.

  Corollaries on the refined models of the other properties (all schedules / assignments / pool sizes):
    * `inline_calls_share_no_buffer`   (C17 model incl. the sequential path of `map`) two activities that execute the operator at
                                     the same time — tasks run by workers with the pool's tnum, or operator calls made INLINE by
                                     callers (≤ chunk elements or a 1-thread pool: tnum 0) — belong to different calls or have
                                     different slots; so a buffer vector owned by a PER-CALL object (every iterator is a local of
                                     its fit / predict call: `[per-call]` entries of the allow-list) is never shared;
                                     `shared_object_inline_calls_collide`: kernel-checked reachable state with two inline calls on
                                     slot 0 — a buffer vector owned by the SHARED object (seeded C18-e1) collides there;
    * `served_rows_independent_of_slot` (C09 iterator model) the rows served for a range do not depend on the worker id / slot;
    * `no_task_outlives_call`        (C17 `map_exit_implies_all_ready`) after `map` is left no task of the call runs in any later
                                     state: the `[&]` captures of the call's stack frame are not used after it is gone;
    * `tune_schedule_independent`    (C13 `tune_reads_only_earlier`) the batch AS CODED (warm-start data read from the live result)
                                     = the batch as modelled, the same result for every order of the tasks;
                                     `tune_live_read_in_flight_schedule_dependent`: with a closest trial IN the batch (seeded
                                     C18-c1) two orders give different results (kernel-checked);
    * `fit_result_schedule_independent` (C11 `ml::result_t` model) the whole `ml::tune` run, every slot / statistic / optimum;
    * `dtree_fit_assignment_independent` (C10) the BFS tree fit with an own feature → worker assignment at every node;
    * `feature_selection_thread_count_independent` (C09 `loopKind_visits`) the features a fit visits do not depend on the pool
                                     size; `seeded_feature_loop_drops_features` (seeded C18-e3).

  Coverage (anchors of properties.jsonl; `modelled` = a Lean definition the C18 theorems speak about, `other` = modelled by the
  named property whose theorems C18 composes, `scan` = covered by the source scan only, `tested` = behavioural runs only):

  | code                                                            | status   | where                                                                  |
  |-----------------------------------------------------------------|----------|------------------------------------------------------------------------|
  | parallel.h `pool_t::map` ×2 (parallel + sequential path), `enqueue`, `section_t`, `worker_t::operator()` | other C17 | `Pool.step`, `step2`; here `Sharing.Owned`, `Act`, `concurrent_acts_disjoint` |
  | solver.cpp `make_lsearch` (94-106), `minimize` (109-117)          | modelled | `Reduce.World / exec / run` (`minimize_is_pure`); NOT tied by a correspondence (tested: `shared minimize`) |
  | solver.cpp ctor / copy ctor / `lsearch0(…)` / `lsearchk(…)` / `type` / `more_precise` / `all` / `make_solver` | scan + other C19 | non-const (no concurrent use) or `std::call_once` factories ([sync] entries) |
  | solver.cpp `done`; solver/lsearch.cpp `lsearch_t::get`; lsearch0/*.cpp `get` (m_prevf, m_prevdg, m_last_step_size) | other C01/C02/C07 | state lives in the per-call `lsearch_t` (allow-list [per-call]); values: `Model/SolverStep.lean` |
  | machine/tune.cpp `tune`, `tuner_callback`, `thread_callback`      | other C13 + modelled | `Tune.runBatch`; here `Sharing.runBatchLive` (live read as coded), `tune_writes_disjoint` |
  | machine/result.cpp `add`, `store` ×2, `stats` ×2, `extra`, `value`, `values`, `optimum_trial`, `closest_trial` | other C13/C11 | `Tune.Result.*`, `MLResult.*`; `log_path`, `make_random_path`: outside (file names) |
  | dataset.cpp `flatten`, `select` ×4, `targets`, `feature`, `column2feature`, `update`, `add` | other C08 | const methods write only the CALLER's buffer argument (scan: no mutable member in dataset_t) |
  | dataset.cpp `thread_pool()`, `concurrency()`                      | other C17 | the shared pool: several submitters (`cPush` by any client) |
  | dataset/iterator.cpp `features_per_thread`, ctors, `targets`, `flatten`, `cache_*`, `batch`, `scaling`, `loop` ×11 | other C09 | `Iterator.Iter.*`, `loopKind`, `loopList`, `loopOne`; buffers: [per-worker] entries + `inline_calls_share_no_buffer` |
  | linear.cpp `fit`, `do_predict`, linear/function.cpp `do_vgrad`    | other C09/C11 | `LinearFit.*`, `Objective.*`; the iterator of `do_predict` is a local: [per-call] (seeded C18-e1 = scan hit) |
  | gboost/model.cpp `fit`, `do_predict`, fold task, gboost/function.cpp | other C09/C11 | `BoostFit.*`, `Objective.*`; accumulators [per-function][per-worker] |
  | wlearner/*.cpp `fit` (affine, stump, hinge, table ×4, dtree), reduce.h `min_reduce_feature`, `sum_reduce` | other C10 + modelled | `fitAssigned`, `dtreeLoop`; here `Reduce.mapMinReduce / mapSumReduce` (tied by the `reduce` ops), `Sharing.dtreeLoopS` |
  | wlearner/*.cpp `predict`, `split`, `clone`, `read`, `write`       | other C10/C15 | const, no member written (scan) |
  | function.cpp `fcalls/gcalls` counters (`mutable`)                 | scan     | [per-function]: each thread has its own function object (statement of C18) |
  | function.cpp the rest (constraints, `make`, `all`)                | other C06/C19 | const or `std::call_once` |
  | C++ memory model, `std::mutex`, actual data races, bit-identical doubles | tested | concurrent-vs-sequential runs, TSan (thorough tier) |

  `_partial` theorems: none. Hypotheses: `SchedSorted` of `min_reduce_assignment_independent` is necessary (witness in
  the non-vacuity example, replayed by `reduce min` ops on unsorted schedules); "closest trial is an earlier one" of
  `tune_schedule_independent` is necessary (`tune_live_read_in_flight_schedule_dependent`, seeded C18-c1 on the real code); "a
  different object per call" of `inline_calls_share_no_buffer` is necessary (`shared_object_inline_calls_collide`, seeded C18-e1 on the
  real code: `shared predict` with fewer samples than the batch).
-/
namespace NanoVerif.C18
open NanoVerif.Reduce

/-! ### per-thread buffers -/

open NanoVerif.Pool in
/-- In every reachable state of the pool (any interleaving, any number of workers, tasks and submitters): two different
    tasks that are running at the same time were handed different worker ids, both below the pool size. Hence for ANY vector
    of per-worker buffers (`std::vector<cache_t> caches(concurrency())`, `m_accumulators`, `m_flatten_buffers`, …: one slot per
    worker id, i.e. `buffers` injective on `[0, size)`) the two tasks address different slots, and tagging a slot with the
    object that owns it (`owner`: each concurrent call has its own function / iterator / cache vector) keeps them apart. -/
theorem perthread_buffers_exclusive (s : St) (hr : Reachable s) (t1 t2 w1 w2 : Nat)
    (h1 : s.ts t1 = .running w1) (h2 : s.ts t2 = .running w2) (hne : t1 ≠ t2) :
    w1 < s.nw ∧ w2 < s.nw ∧ w1 ≠ w2 ∧
    (∀ {β : Type} (buffers : Nat → β), (∀ a b, a < s.nw → b < s.nw → buffers a = buffers b → a = b) →
      buffers w1 ≠ buffers w2) ∧
    (∀ {γ : Type} (owner : Nat → γ), (owner t1, w1) ≠ (owner t2, w2)) := by
  have hw1 := (tnum_lt_size s hr t1 w1 h1).1
  have hw2 := (tnum_lt_size s hr t2 w2 h2).1
  have hx := tnum_exclusive s hr t1 t2 w1 w2 h1 h2 hne
  refine ⟨hw1, hw2, hx, ?_, ?_⟩
  · intro β buffers hinj heq
    exact hx (hinj w1 w2 hw1 hw2 heq)
  · intro γ owner heq
    exact hx (congrArg Prod.snd heq)

open NanoVerif.Pool in
/-- The sequential path of `map` (pool of one worker, or one chunk): the caller itself runs the operator with `tnum = 0`,
    one call at a time — call `k` has been started at most once and only calls before the current position have run. -/
theorem seqpath_one_at_a_time (s : St) (hr : Reachable s) (c n i : Nat) (b : Bool) (err : Option Nat)
    (h : s.cpc c = .seq n i b err) : i ≤ n ∧ ∀ k, s.sexec c k = seqCount i b k :=
  let r := (seq_runs_each_once_in_order s hr c).1 n i b err h
  ⟨r.1, r.2.1⟩

/-! ### ml::tune: where the (trial, fold) tasks write -/

open NanoVerif.Tune NanoVerif.Tensor in
/-- offset of the sub-tensor `m_values.tensor(trial, fold)` in `m_values` (dims `(trials, folds, 2, 2, 12)`): 48 doubles per slot -/
theorem values_offset (trials folds trial fold : Nat) :
    index [trials, folds, 2, 2, 12] [trial, fold] = 48 * slot folds trial fold := by
  simp only [index, size, slot]
  have h : folds * (2 * (2 * (12 * 1))) = 48 * folds := by omega
  rw [h, ← Nat.mul_assoc, Nat.mul_comm trial 48, Nat.mul_assoc]
  omega

open NanoVerif.Tune NanoVerif.Tensor in
/-- `tune.cpp:25-41` + `result.cpp:108-125`. A batch adds `k` trials to `old` existing ones (`result.add` BEFORE the parallel
    section), then task `i < k * folds` handles `(trial, fold) = decode i` and stores into trial `old + trial`. For two different
    tasks `i ≠ j` of the batch:
      * they write different `m_extras` / `m_log_paths` slots;
      * the element ranges `[o, o + 48)` of `m_values` they write (the four `store_stats` targets `m_values.tensor(trial, fold, a, b)`,
        `a, b < 2`, 12 doubles each, tile exactly `m_values.tensor(trial, fold)`) are disjoint;
      * each range lies inside the buffer of `m_values` as resized by `add` (`(old + k) * folds * 48` elements), each slot inside `m_extras`;
      * what a task READS of the shared result — `m_params` (written only by `add`) and `extra(closest, fold)` with
        `closest < old` (`closest_trial(params, old_trials)`; `old ≥ 1` whenever a batch has several trials: the first batch of
        both tuners is the single average grid point) — is a slot no task of the batch writes. -/
theorem tune_writes_disjoint (folds old k i j : Nat) (hf : 0 < folds) (hi : i < k * folds) (hj : j < k * folds)
    (hne : i ≠ j) :
    let dims := [old + k, folds, 2, 2, 12]
    let ti := old + (decode folds i).1
    let tj := old + (decode folds j).1
    let fi := (decode folds i).2
    let fj := (decode folds j).2
    slot folds ti fi ≠ slot folds tj fj ∧
    (index dims [ti, fi] + 48 ≤ index dims [tj, fj] ∨ index dims [tj, fj] + 48 ≤ index dims [ti, fi]) ∧
    index dims [ti, fi] + size (dims0 dims 2) ≤ size dims ∧ size (dims0 dims 2) = 48 ∧
    slot folds ti fi < (old + k) * folds ∧
    (∀ closest f, closest < old → f < folds → slot folds closest f ≠ slot folds ti fi) := by
  intro dims ti tj fi fj
  obtain ⟨hdec, _⟩ := C13.decode_bijective folds k hf
  obtain ⟨hti, hfi, hsi⟩ := hdec i hi
  obtain ⟨htj, hfj, hsj⟩ := hdec j hj
  have hslot : slot folds ti fi ≠ slot folds tj fj := by
    intro h
    obtain ⟨h1, h2⟩ := C13.slots_disjoint folds ti fi tj fj hfi hfj h
    have h1' : (decode folds i).1 = (decode folds j).1 := by omega
    apply hne
    rw [← hsi, ← hsj, h1', show (decode folds i).2 = (decode folds j).2 from h2]
  have hvp : ValidPrefix dims [ti, fi] := ⟨by omega, hfi, trivial⟩
  refine ⟨hslot, ?_, subview_in_bounds dims [ti, fi] hvp, by simp [dims, dims0, size], ?_, ?_⟩
  · rw [values_offset, values_offset]
    omega
  · exact ((C13.decode_bijective folds (old + k) hf).2 ti fi (by omega) hfi).1
  · intro closest f hc hf' h
    obtain ⟨h1, _⟩ := C13.slots_disjoint folds closest f ti fi hf' hfi h
    omega

/-! ### reductions -/

/-- `sum_reduce` after the parallel accumulation, in exact arithmetic (any commutative monoid: the scalar `m_vm1`, the
    buffers `m_gb1`, `m_gW1`, the whole `accumulator_t`): for EVERY schedule — any number `≥ 1` of workers, any assignment of
    the chunk contributions to workers, any processing order — the reduced value is the plain sum of the contributions,
    divided by the number of samples. -/
theorem sum_reduce_assignment_independent {M : Type} [AddCommMonoid M] (divN : M → Nat → M) (n : Nat)
    (contribs : List M) (sched : List (List M)) (hw : sched ≠ []) (hperm : sched.flatten.Perm contribs) :
    mapSumReduce (· + ·) 0 divN n sched = some (divN contribs.sum n) := by
  rw [mapSumReduce_eq divN n sched hw, hperm.sum_eq]

/-- two schedules of the same contributions give the same value -/
theorem sum_reduce_schedules_agree {M : Type} [AddCommMonoid M] (divN : M → Nat → M) (n : Nat)
    (sched sched' : List (List M)) (hw : sched ≠ []) (hw' : sched' ≠ []) (hperm : sched.flatten.Perm sched'.flatten) :
    mapSumReduce (· + ·) 0 divN n sched = mapSumReduce (· + ·) 0 divN n sched' := by
  rw [sum_reduce_assignment_independent divN n sched'.flatten sched hw hperm,
    sum_reduce_assignment_independent divN n sched'.flatten sched' hw' (List.Perm.refl _)]

/-- `min_reduce_feature` over the per-worker "first best" caches (reduce.h, commit 62472c9). `feats` = the features the fit
    loops over, in increasing index order, each with its candidates (thresholds, … in the fixed order of its sweep; every
    candidate carries its feature's index: `candsOf`). `sched` = per worker, the features it processed, in its order.
    Hypotheses: at least one worker (`caches` has `concurrency() ≥ 1` slots); every feature is processed by exactly one worker
    (`hperm`: the pool's contract, C17); every worker processed ITS features in increasing index order (`SchedSorted`, a
    decidable predicate — what `pool_t::map` produces for one loop over one feature list). NO hypothesis on the scores: exact
    ties between features, between thresholds of one feature, everywhere, are allowed. Then for EVERY such schedule — any
    number of workers, any distribution of the features over them — the fit selects
      * exactly the candidate ONE worker processing all features in index order selects (`cacheOf (stream feats)`), and
      * that candidate has the minimal score, and the smallest feature index among the candidates with the minimal score
        (the lexicographic minimum of (score, feature index); within its feature: the first candidate of the sweep with
        that score, by the first clause); no candidate at all iff no feature has a candidate. -/
theorem min_reduce_assignment_independent {α π : Type} [LinearOrder α] (feats : List (Feat α π))
    (hf : (feats.map Prod.fst).Pairwise (· < ·))
    (sched : List (List (Feat α π))) (hne : sched ≠ []) (hperm : sched.flatten.Perm feats) (hs : SchedSorted sched) :
    mapMinReduce (sched.map stream) = some (cacheOf (stream feats)) ∧
    (match cacheOf (stream feats) with
     | none => stream feats = []
     | some x => x ∈ stream feats ∧
        ∀ y ∈ stream feats, x.score ≤ y.score ∧ (y.score = x.score → x.feature ≤ y.feature)) := by
  rw [mapMinReduce_sorted sched hs, cacheOf_eq_cacheOfLex _ (stream_sorted feats hf)]
  refine ⟨mapMinReduceLex_any feats (hf.imp Int.ne_of_lt) sched hne hperm, ?_⟩
  cases hc : cacheOfLex (stream feats) with
  | none => exact (cacheOfLex_spec _).1.mp hc
  | some x => exact (cacheOfLex_spec _).2 x hc

/-- two index-sorted schedules of the same features select the same candidate -/
theorem min_reduce_schedules_agree {α π : Type} [LinearOrder α] (feats : List (Feat α π))
    (hf : (feats.map Prod.fst).Pairwise (· < ·)) (sched sched' : List (List (Feat α π)))
    (hne : sched ≠ []) (hne' : sched' ≠ []) (hperm : sched.flatten.Perm feats) (hperm' : sched'.flatten.Perm feats)
    (hs : SchedSorted sched) (hs' : SchedSorted sched') :
    mapMinReduce (sched.map stream) = mapMinReduce (sched'.map stream) := by
  rw [(min_reduce_assignment_independent feats hf sched hne hperm hs).1,
    (min_reduce_assignment_independent feats hf sched' hne' hperm' hs').1]

/-- The TABLE learners (dense, k-best, k-split, discrete-step): since commit 5de0896 their per-worker caches use the same
    lexicographic test as `min_reduce_feature` (`updLex`), because a table fit runs two loops (single-label, then multi-label
    features) into the same caches and a worker may see feature indices out of order. NO hypothesis on the order inside a worker
    and none on the scores: `feats` = the features in any order with pairwise distinct indices, `sched` = ANY distribution of
    them over ≥ 1 workers, each worker processing its features in ANY order. The fit selects exactly what one worker processing
    `feats` in the given order selects, and that is the lexicographic minimum of (score, feature index) (within its feature: the
    first candidate of the sweep with that score). -/
theorem table_min_reduce_assignment_independent {α π : Type} [LinearOrder α] (feats : List (Feat α π))
    (hf : (feats.map Prod.fst).Nodup)
    (sched : List (List (Feat α π))) (hne : sched ≠ []) (hperm : sched.flatten.Perm feats) :
    mapMinReduceLex (sched.map stream) = some (cacheOfLex (stream feats)) ∧
    (match cacheOfLex (stream feats) with
     | none => stream feats = []
     | some x => x ∈ stream feats ∧
        ∀ y ∈ stream feats, x.score ≤ y.score ∧ (y.score = x.score → x.feature ≤ y.feature)) := by
  refine ⟨mapMinReduceLex_any feats hf sched hne hperm, ?_⟩
  cases hc : cacheOfLex (stream feats) with
  | none => exact (cacheOfLex_spec _).1.mp hc
  | some x => exact (cacheOfLex_spec _).2 x hc

/-- non-vacuity for the table variant: the worker that holds the tying features 3 and 0 sees them in DEcreasing order (the two
    loops of table.cpp on a dataset whose multi-label features have the smaller indices); every schedule gives feature 0 — while
    the first-seen cache of before 5de0896 (`mapMinReduce`) gives 3 or 0 depending on the schedule -/
example :
    let m0 : Feat Nat String := (0, [(2, "m0")])
    let m1 : Feat Nat String := (1, [(7, "m1")])
    let s0 : Feat Nat String := (2, [(8, "s0")])
    let s1 : Feat Nat String := (3, [(2, "s1")])
    (([s0, s1, m0, m1] : List (Feat Nat String)).map Prod.fst).Nodup ∧
    (mapMinReduceLex ([[s0, s1, m0, m1]].map stream)).map (Option.map (·.feature)) = some (some 0) ∧
    (mapMinReduceLex ([[s1, m0], [s0, m1]].map stream)).map (Option.map (·.feature)) = some (some 0) ∧
    (mapMinReduceLex ([[s0, m1], [s1, m0]].map stream)).map (Option.map (·.feature)) = some (some 0) ∧
    (mapMinReduce ([[s0, s1, m0, m1]].map stream)).map (Option.map (·.feature)) = some (some 3) ∧
    (mapMinReduce ([[s1, m0], [s0, m1]].map stream)).map (Option.map (·.feature)) = some (some 3) ∧
    (mapMinReduce ([[s1, m1], [s0, m0]].map stream)).map (Option.map (·.feature)) = some (some 0) := by
  decide +kernel

/-- The rule BEFORE commit 62472c9 (`min_reduce`: `m_score` only, `mapMinReduceOld`) is schedule dependent under an exact
    tie, on index-sorted schedules: features 0 and 2 tie on the minimal score 5 and are processed by different workers —
    the cache of the lower worker id wins, whichever feature it holds. (DESIGN.md §6, KNOWN_FINDINGS
    `feature-tie:schedule-dependent-selection`, fixed.) So the theorem above is about the tie-break. -/
theorem old_min_reduce_schedule_dependent :
    ∃ (feats : List (Feat Nat String)) (sched sched' : List (List (Feat Nat String))),
      (feats.map Prod.fst).Pairwise (· < ·) ∧ sched.flatten.Perm feats ∧ sched'.flatten.Perm feats ∧
      SchedSorted sched ∧ SchedSorted sched' ∧
      mapMinReduceOld (sched.map stream) ≠ mapMinReduceOld (sched'.map stream) ∧
      mapMinReduce (sched.map stream) = mapMinReduce (sched'.map stream) := by
  refine ⟨[(0, [(5, "a")]), (1, [(7, "b")]), (2, [(5, "c")])],
    [[(0, [(5, "a")]), (1, [(7, "b")])], [(2, [(5, "c")])]],
    [[(2, [(5, "c")])], [(0, [(5, "a")]), (1, [(7, "b")])]], by decide, by decide, by decide, by decide, by decide, by decide,
    by decide⟩

/-- non-vacuity of the hypotheses, with an exact tie spread over two workers: features 0 and 2 both score 5 (feature 2 even
    twice, two thresholds); three index-sorted schedules, all select (5, feature 0) — also the one whose first worker holds
    feature 2 -/
example :
    let f0 : Feat Nat String := (0, [(9, "t0"), (5, "t1")])
    let f1 : Feat Nat String := (1, [(7, "u0")])
    let f2 : Feat Nat String := (2, [(5, "v0"), (5, "v1")])
    (([f0, f1, f2] : List (Feat Nat String)).map Prod.fst).Pairwise (· < ·) ∧
    SchedSorted [[f0, f1], [f2]] ∧ SchedSorted [[f2], [f0, f1]] ∧ SchedSorted [[f1, f2], [], [f0]] ∧
    ¬ SchedSorted [[f2, f0], [f1]] ∧
    (mapMinReduce ([[f0, f1], [f2]].map stream)).map (Option.map fun c => (c.score, c.feature, c.payload))
      = some (some (5, 0, "t1")) ∧
    (mapMinReduce ([[f2], [f0, f1]].map stream)).map (Option.map fun c => (c.score, c.feature, c.payload))
      = some (some (5, 0, "t1")) ∧
    (mapMinReduce ([[f1, f2], [], [f0]].map stream)).map (Option.map fun c => (c.score, c.feature, c.payload))
      = some (some (5, 0, "t1")) ∧
    -- a worker that does NOT process its features in index order keeps the first one it saw: the hypothesis is needed
    (mapMinReduce ([[f2, f0], [f1]].map stream)).map (Option.map fun c => (c.score, c.feature, c.payload))
      = some (some (5, 2, "v0")) := by
  decide +kernel

example : mapSumReduce (· + ·) 0 (fun (v : Int) n => v / n) 2 [[1, 2], [], [3, 4]] = some 5 ∧
    mapSumReduce (· + ·) 0 (fun (v : Int) n => v / n) 2 [[4], [3, 1, 2]] = some 5 ∧
    mapSumReduce (· + ·) 0 (fun (v : Int) n => v / n) 2 ([] : List (List Int)) = none := by
  decide +kernel

/-! ### one shared solver, many concurrent `minimize` calls -/

/-- `solver.cpp:94-106` (`make_lsearch` clones the prototype line-search objects for every call) in the model
    `Model/Reduce.lean` (`World`, `exec`): for EVERY interleaving `es` of the events of any number of calls on ONE shared
    solver object,
      * the prototype state of the solver is never written;
      * what call `i` holds afterwards is what it would hold had only ITS OWN events been executed (`es.filter (·.id = i)`),
        on any world with the same solver object — i.e. independent of the other calls, of what they did before and of how
        they were interleaved;
      * in particular a call started with `x0` and advanced `k` times holds `(stepFn i)^[k] (clone proto, x0)`: a function
        of (the solver object = parameters + prototypes, the call's function object `stepFn i`, `x0`) only.
    `stepFn i` is abstract: any algorithm step, reading and writing the call's line-search state and iterate. -/
theorem minimize_is_pure {σ X : Type} (clone : σ → σ) (stepFn : Nat → σ × X → σ × X) (w : World σ X) (es : List (Ev X))
    (i : Nat) :
    (run clone stepFn w es).proto = w.proto ∧
    (∀ w' : World σ X, w'.proto = w.proto → w'.loc i = w.loc i →
      (run clone stepFn w es).loc i = (run clone stepFn w' (es.filter (fun e => e.id = i))).loc i) ∧
    (∀ (x0 : X) (k : Nat), es.filter (fun e => e.id = i) = Ev.start i x0 :: List.replicate k (Ev.step i) →
      (run clone stepFn w es).loc i = some ((stepFn i)^[k] (clone w.proto, x0))) := by
  refine ⟨run_proto clone stepFn w es, ?_, ?_⟩
  · intro w' hp hl
    exact run_loc_own clone stepFn i es w w' hp.symm hl.symm
  · intro x0 k hown
    rw [run_loc_own clone stepFn i es w w rfl rfl, hown]
    show (run clone stepFn (exec clone stepFn w (Ev.start i x0)) (List.replicate k (Ev.step i))).loc i = _
    exact run_steps clone stepFn i k _ _ (by simp [exec])

/-- non-vacuity: if `make_lsearch` handed out the prototypes themselves (`runShared`), the same call would give different
    results depending on what another call does in between (state = a counter standing for `m_prevf`/`m_last_step_size`,
    step = "add the state to the iterate, bump the state") — while the cloning model gives the same answer for both
    interleavings. -/
example :
    let stepFn : Nat → Nat × Nat → Nat × Nat := fun _ p => (p.1 + 1, p.2 + p.1)
    let alone : List (Ev Nat) := [.start 0 10, .step 0, .step 0]
    let mixed : List (Ev Nat) := [.start 0 10, .start 1 7, .step 1, .step 0, .step 1, .step 0]
    (runShared stepFn (World.init 0) alone).loc 0 = some (2, 11) ∧
    (runShared stepFn (World.init 0) mixed).loc 0 = some (4, 14) ∧
    (run id stepFn (World.init 0) alone).loc 0 = some (2, 11) ∧
    (run id stepFn (World.init 0) mixed).loc 0 = some (2, 11) := by
  decide +kernel


/-! ## corollaries on the refined models of C09 / C10 / C11 / C13 / C17 -/

/-! ### per-worker buffers belong to per-call objects (C17 model with the sequential path of `map`) -/

open NanoVerif.Pool NanoVerif.Sharing in
/-- **Inline calls share no buffer.** `Act` = an activity that executes the operator of a `map`: a task run by a pool worker
    (slot = the worker id the pool passes as `tnum`) or the operator call the CALLER makes itself on the sequential path of `map`
    (`size() == 1` or a single chunk — fewer samples than the batch, a 1-thread dataset pool: slot 0). In every reachable state
    of the pool — any number of workers, tasks, concurrent submitters and inline callers — two different activities that are
    live at the same time each belong to a client call (`live_has_call`: a pending task's call has not left `map`), and whatever
    calls they belong to, these are DIFFERENT calls or the activities use DIFFERENT slots. Hence for buffers `obj call` owned by a
    per-call object — the iterators `flatten_iterator_t` / `targets_iterator_t` / `select_iterator_t` are locals of the fit /
    predict / fold-task call that uses them, the ML function objects are built inside that call; models and datasets own none
    (allow-list: no `[per-worker]` entry outside iterators and function objects) — the addressed buffers `(obj call, slot)` differ. -/
theorem inline_calls_share_no_buffer (s : St) (hr : Reachable s) (a b : Act) (ha : a.live s) (hb : b.live s) (hne : a ≠ b) :
    (∃ ca, a.call s ca) ∧ (∃ cb, b.call s cb) ∧
    ∀ ca cb, a.call s ca → b.call s cb →
      (ca ≠ cb ∨ a.slot s ≠ b.slot s) ∧
      ∀ {γ : Type} (obj : Nat → γ), (∀ x y, obj x = obj y → x = y) → (obj ca, a.slot s) ≠ (obj cb, b.slot s) := by
  refine ⟨live_has_call s hr a ha, live_has_call s hr b hb, ?_⟩
  intro ca cb hca hcb
  have hd := concurrent_acts_disjoint s hr a b ha hb hne ca cb hca hcb
  refine ⟨hd, ?_⟩
  intro γ obj hinj heq
  rcases hd with hd | hd
  · exact hd (hinj _ _ (congrArg Prod.fst heq))
  · exact hd (congrArg Prod.snd heq)

open NanoVerif.Pool NanoVerif.Sharing in
/-- The hypothesis "a different object per call" is necessary — seeded change C18-e1 (`mutable m_buffers` in `linear_t`, indexed
    by `tnum`): on a pool of 16 workers two callers predicting few samples both take the sequential path and both run their
    operator with `tnum = 0` at the same time (kernel-checked run); buffers owned by an object the two calls share
    (`obj 0 = obj 1`) are then the SAME buffer. Replayed on the real code by `shared predict` with fewer samples than the batch. -/
theorem shared_object_inline_calls_collide :
    ∃ s, Reachable s ∧ s.nw = 16 ∧ Act.live s (.inline 0) ∧ Act.live s (.inline 1) ∧
      ∀ {γ : Type} (obj : Nat → γ), obj 0 = obj 1 →
        (obj 0, Act.slot s (.inline 0)) = (obj 1, Act.slot s (.inline 1)) := by
  refine ⟨_, ⟨16, [.sStart 0 1, .sStart 1 1, .sOpBegin 0, .sOpBegin 1], rfl⟩, rfl, ⟨1, 0, none, rfl⟩, ⟨1, 0, none, rfl⟩, ?_⟩
  intro γ obj h
  simp only [Act.slot, h]

open NanoVerif.Pool NanoVerif.Sharing in
/-- non-vacuity of `inline_calls_share_no_buffer`: a worker-run task of call 0 (worker 0 → slot 0) and an inline operator call of
    caller 1 (slot 0) are live at the same time — same slot, different calls -/
example : ∃ s, Reachable s ∧ Act.live s (.task 5) ∧ Act.live s (.inline 1) ∧ Act.slot s (.task 5) = Act.slot s (.inline 1) ∧
    Act.call s (.task 5) 0 ∧ Act.call s (.inline 1) 1 := by
  refine ⟨_, ⟨2, [.cPush 0 [5, 6] true, .cNotify 0 none, .wTake 0, .sStart 1 3, .sOpBegin 1], rfl⟩, ⟨0, rfl⟩,
    ⟨3, 0, none, rfl⟩, rfl, ⟨[5, 6], Or.inl rfl, by decide⟩, rfl⟩

open NanoVerif.Pool NanoVerif.Sharing in
/-- **No task of a call outlives the call** (C17 `map_exit_implies_all_ready` + `ready_stable`): when a client leaves `map` —
    returning, or with an exception propagating — every future of the call is ready, and in EVERY later state of every
    continuation (any events of the pool, of other callers, of a destructor) each task of the call is still ready, is not being
    run by any worker, and no worker's pc names it. The operator, which captures the caller's stack frame by reference
    (`[&]` lambdas over the iterator, the caches, the outputs), is therefore never executed after the frame is gone. -/
theorem no_task_outlives_call (s s' : St2) (hr : Reachable2 s) (c : Nat) (h : step2 false s (.exit c) = some s') :
    ∃ ts, s.base.cpc c = .waiting ts ∧
      ∀ (es : List Ev2) (s'' : St2), run2 false s' es = some s'' → ∀ t ∈ ts,
        ready? (s''.base.ts t) = true ∧ (∀ w, s''.base.ts t ≠ .running w) ∧
        (∀ w, w < s''.base.nw → s''.base.wpc w ≠ .running t) := by
  obtain ⟨ts, raise, exc, hpc, hwait, _, hall, _, _⟩ := map_exit_implies_all_ready s s' hr c h
  obtain ⟨hrb, hs⟩ := reachable2_invs s hr
  have hrb' : Reachable s'.base := reachable_step hrb (exit_refines_cReturn s s' hr c h)
  have hs' : SecInv s' := (secinv_step s s' (.exit c) (reachable_invs s.base hrb).1 hs h).1
  have hts : s'.base.ts = s.base.ts := by
    obtain ⟨_, _, _, _, rfl⟩ := step2_exit h
    rfl
  refine ⟨ts, hwait, ?_⟩
  intro es s'' hrun t ht
  obtain ⟨hr'', hall''⟩ := ready_forever ts es s' s'' hrb' hs' (fun t ht => by rw [hts]; exact hall t ht) hrun
  have hready := (hall'' t ht).1
  have hnr : ∀ w, s''.base.ts t ≠ .running w := fun w hw => by
    rw [hw] at hready
    cases hready
  refine ⟨hready, hnr, ?_⟩
  intro w hw hpcw
  exact hnr w (((task_bookkeeping s''.base hr'').run_iff t w).mpr ⟨hw, hpcw⟩)

open NanoVerif.Pool in
/-- non-vacuity: a `map` of two tasks on two workers is left after both ran (a complete run of the section model) -/
example : (run2 false (init2 2) [.base (.cPush 0 [0, 1] true), .base (.cNotify 0 none), .base (.wTake 0), .base (.wTake 1),
      .base (.wRunEnd 0 false), .base (.wRunEnd 1 false), .bBegin 0 true, .bWait 0, .bWait 0, .bDone 0, .dWait 0, .dWait 0,
      .exit 0]).map (fun s => (s.spc 0, s.base.ts 0, s.base.ts 1)) = some (.out none, .done, .done) := by
  decide +kernel


open NanoVerif.Iterator NanoVerif.Scaling in
/-- **What an iterator serves does not depend on the slot** (C09 `Model/Iterator.lean`): for every iterator state, dataset and
    range, two existing worker ids are served the same rows by `flatten(tnum, range)` / `targets(tnum, range)` — the per-worker
    buffer `m_flatten_buffers[tnum]` / `m_targets_buffers[tnum]` is scratch space that is resized and completely overwritten by
    `dataset.flatten(samples, buffer)` inside the call (the model keeps only the guard `tnum < buffers.size()`). Together with
    `inline_calls_share_no_buffer` (no two live activities address the same scratch buffer): which worker — or the caller itself
    with `tnum 0` — serves a chunk changes neither the rows nor anything another activity sees. -/
theorem served_rows_independent_of_slot {α : Type} [Add α] [Sub α] [Mul α] [Div α] [Neg α] [LT α] [DecidableLT α]
    [OfNat α 0] [OfNat α 1] [NatCast α] [FinTest α] (it : Iter α) (D : Data α) (t1 t2 b e : Nat)
    (h1 : t1 < it.workers) (h2 : t2 < it.workers) :
    it.serveF D t1 b e = it.serveF D t2 b e ∧ it.serveT D t1 b e = it.serveT D t2 b e := by
  unfold Iter.serveF Iter.serveT
  simp only [h1, h2, if_true]
  exact ⟨trivial, trivial⟩

/-- non-vacuity: an iterator on a pool of 16 has the slots 0 (also the inline caller's) and 15 -/
example : (0 : Nat) < 16 ∧ (15 : Nat) < 16 := by decide

/-! ### `ml::tune`: the batch as coded, any order of its tasks -/

open NanoVerif.Tune NanoVerif.Sharing in
/-- **`ml::tune` is schedule independent** (from C13 `tune_reads_only_earlier`). `r0` = the result before the batch (`old` = its
    parameter rows, at least one trial), `new` = the rows of the batch, `params t` = the row of new trial `t`; every task is
    handed `closest_trial(params, old_trials)` computed on the rows INCLUDING the batch in flight (`result.add` comes first), and
    reads `result.extra(closest, fold)` from the LIVE result while the other tasks of the batch store into it
    (`runBatchLive`: tune.cpp:25-41 as coded). For every two orders in which the pool runs every (trial, fold) index once:
    the stored result is the same, and it is `runBatch` — every slot (old + t, f) holds the callback's answer for (t, f) given the
    data of a trial of an EARLIER batch (`batch_slots`), a function of the callback and of `r0` only. -/
theorem tune_schedule_independent {σ α π : Type} [Field α] [LinearOrder α] [IsStrictOrderedRing α] (top : α) (dist : π → π → α)
    (cb : Nat → Nat → Option σ → σ) (r0 : Result σ) (hwf : r0.wf) (old new : List π) (hold : old.length = r0.trials)
    (hpos : 0 < r0.trials) (params : Nat → π) (order order' : List Nat)
    (hp : order.Perm (List.range (new.length * r0.folds))) (hp' : order'.Perm (List.range (new.length * r0.folds))) :
    let closest := fun t => closestTrial top dist (old ++ new) (params t) r0.trials
    runBatchLive cb closest r0 new.length order = runBatchLive cb closest r0 new.length order' ∧
    runBatchLive cb closest r0 new.length order = runBatch cb closest r0 new.length order ∧
    ∀ t f, t < new.length → f < r0.folds →
      (runBatchLive cb closest r0 new.length order).get? (r0.trials + t) f =
        some (cb t f (r0.get? (closestTrial top dist old (params t) r0.trials) f)) := by
  intro closest
  have hcl : ∀ (o : List Nat), ∀ i ∈ o, closest (decode r0.folds i).1 < r0.trials := by
    intro o i _
    exact (C13.tune_reads_only_earlier top dist r0 hwf old new hold hpos (params (decode r0.folds i).1) 0).1
  have e1 := runBatchLive_eq cb closest r0 new.length order (hcl order)
  have e2 := runBatchLive_eq cb closest r0 new.length order' (hcl order')
  refine ⟨?_, e1, ?_⟩
  · rw [e1, e2]
    exact runBatch_schedule_independent cb closest r0 new.length order order' hp hp'
  · intro t f ht hf
    rw [e1, C13.batch_slots cb closest r0 hwf new.length order hp t f ht hf]
    obtain ⟨_, h2, h3⟩ := C13.tune_reads_only_earlier top dist r0 hwf old new hold hpos (params t) f
    show some (cb t f ((r0.add new.length).get? (closestTrial top dist (old ++ new) (params t) r0.trials) f)) = _
    rw [h3, h2]

open NanoVerif.Tune NanoVerif.Sharing in
/-- The hypothesis "the closest trial is an EARLIER one" is necessary — seeded change C18-c1 (warm start from the trials of the
    batch in flight): one earlier trial, a batch of two, both tasks handed trial 1 (the first of the batch) as closest. The two
    orders of the two tasks store different results (the second task does or does not see the first one's data); with the
    closest trial 0 (earlier) both orders agree. Kernel-checked; on the real code: `fit` ops under pools 1 vs 16. -/
theorem tune_live_read_in_flight_schedule_dependent :
    let cb : Nat → Nat → Option Nat → Nat := fun t _ prev => prev.getD 0 + 10 * (t + 1)
    let r0 : Result Nat := ⟨1, 1, [some 7]⟩
    (runBatchLive cb (fun _ => 1) r0 2 [0, 1]).slots = [some 7, some 10, some 30] ∧
    (runBatchLive cb (fun _ => 1) r0 2 [1, 0]).slots = [some 7, some 10, some 20] ∧
    (runBatchLive cb (fun _ => 0) r0 2 [0, 1]).slots = [some 7, some 17, some 27] ∧
    (runBatchLive cb (fun _ => 0) r0 2 [1, 0]).slots = [some 7, some 17, some 27] := by
  decide +kernel

open NanoVerif.Tune in
/-- non-vacuity of `tune_schedule_independent`: one earlier trial with parameter 3, a batch of two trials (parameters 4 and 9),
    2 folds; the two orders are permutations of the four indices -/
example : ([0, 1, 2, 3] : List Nat).Perm (List.range (2 * 2)) ∧ ([3, 1, 0, 2] : List Nat).Perm (List.range (2 * 2)) ∧
    (⟨2, 1, [some 5, some 6]⟩ : Result Nat).wf ∧
    closestTrial (1000 : Int) (fun a b => (a - b) * (a - b)) ([3] ++ [4, 9]) 9 1 = 0 := by
  refine ⟨by decide, by decide, rfl, by decide⟩

open NanoVerif.Tune NanoVerif.MLResult NanoVerif.Sharing in
/-- **The fitted `ml::result_t` is schedule independent** (C11's model of what `ml::tune` fills: four `store_stats` blocks and
    the model-specific data per (trial, fold)). Two histories of batches with the same trials, closest-trial maps and model
    callbacks that differ ONLY in the order in which the pool ran the (trial, fold) tasks of each batch (`SameBatches`) fill
    the same result: every slot, hence every reported statistic `stats(trial, fold, split, kind)` (which C11
    `reported_stats_are_stats_of_recomputed` identifies, for any order, with `store_stats` of the fold model's values), every
    `extra(trial, fold)` — the fold fits write disjoint slots (`tune_writes_disjoint`) and read only earlier ones. -/
theorem fit_result_schedule_independent {E α : Type} [Add α] [Sub α] [Mul α] [Div α] [LT α] [LE α] [DecidableLT α]
    [DecidableLE α] [OfNat α 0] [OfNat α 1] [OfNat α 2] [OfNat α 50] [OfNat α 100] [NanoVerif.Stats.FloorI α]
    [NanoVerif.Stats.HasSqrt α] (sort : List α → List α) (folds : Nat) (bs bs' : List (Batch E α))
    (h : List.Forall₂ (SameBatches folds) bs bs') :
    runTune sort folds bs = runTune sort folds bs' ∧
    (∀ t f split kind, stats (runTune sort folds bs) t f split kind = stats (runTune sort folds bs') t f split kind) ∧
    (∀ t f, extraOf (runTune sort folds bs) t f = extraOf (runTune sort folds bs') t f) := by
  have e := runTune_schedule_independent sort folds bs bs' h
  exact ⟨e, fun t f split kind => by rw [e], fun t f => by rw [e]⟩

/-! ### weak-learner fits -/

open NanoVerif.WLearner NanoVerif.Sharing in
/-- **The decision-tree fit is assignment independent** (C10: `fit_assignment_independent` for the stump fitted at a node, the
    BFS loop of `dtree.cpp`). The stump fit of EVERY processed node is its own `pool_t::map` over the scalar features, with its
    own assignment `sched fuel samples` of the features to workers — any family of assignments in which every feature goes to
    exactly one worker and every worker sees its features in increasing index order (what the pool produces), any number of
    workers, different at every node. The loop then builds exactly the tree one thread builds: same nodes, thresholds, tables,
    score (`dtreeFit` of C10). Exact score ties between features are allowed (smallest index wins on every schedule). -/
theorem dtree_fit_assignment_independent {α : Type} [Field α] [LinearOrder α] [IsStrictOrderedRing α] [Log α] [FinTest α]
    (sort : List (Item α) → List (Item α)) (T : Nat) (K big : α) (crit : Crit)
    (feats : List Nat) (hinc : feats.Pairwise (· < ·)) (val : Nat → Nat → FVal α) (resid : Nat → Vec α)
    (N maxDepth minSplit : Nat) (sched : Nat → List Nat → List (List Nat))
    (hs : ∀ n sel, (sched n sel).flatten.Perm feats ∧ ∀ w ∈ sched n sel, w.Pairwise (· < ·)) (samples : List Nat) :
    dtreeLoopS (stumpTreeCfg sort T K big crit feats val resid N maxDepth minSplit)
        (fun n sel => stumpFitAssigned sort T K big crit (sched n sel) val resid sel)
        (2 ^ maxDepth) [⟨samples, 0, 0⟩] TState.init =
      dtreeFit (stumpTreeCfg sort T K big crit feats val resid N maxDepth minSplit) samples :=
  dtree_fit_schedule_independent sort T K big crit feats hinc val resid N maxDepth minSplit sched hs samples

/-- non-vacuity: three features; at even steps the pool has two workers holding [2] and [0, 1], at odd steps one worker -/
example :
    let sched : Nat → List Nat → List (List Nat) := fun n _ => if n % 2 = 0 then [[2], [0, 1]] else [[0, 1, 2]]
    ([0, 1, 2] : List Nat).Pairwise (· < ·) ∧
    ∀ n (sel : List Nat), (sched n sel).flatten.Perm [0, 1, 2] ∧ ∀ w ∈ sched n sel, w.Pairwise (· < ·) := by
  refine ⟨by decide, ?_⟩
  intro n sel
  by_cases h : n % 2 = 0
  · simp only [h, if_true]
    exact ⟨by decide, by decide⟩
  · simp only [h, if_false]
    exact ⟨by decide, by decide⟩

open NanoVerif.Iterator NanoVerif.Objective NanoVerif.Sharing in
/-- **Feature selection looks at the same features for every thread count** (C09 `loopKind_visits` / `loopList_visits`): for
    every dataset (the kinds of its features), every kind of callback, ANY two pool sizes and ANY two schedules naming one
    existing worker per chunk, `select_iterator_t::loop(samples, callback)` calls the callback for the same list of features —
    exactly the dataset's features of that kind, each once, in increasing index order — always with an existing buffer index.
    (With `min_reduce_assignment_independent` / `table_min_reduce_assignment_independent`: the selected feature is the same.) -/
theorem feature_selection_thread_count_independent (kinds : List FKind) (k : FKind) (w1 w2 : Nat) (asg1 asg2 : List Nat)
    (h1 : ValidAsg w1 (makeFeatures kinds k).length (featuresPerThread (makeFeatures kinds k).length w1) asg1)
    (h2 : ValidAsg w2 (makeFeatures kinds k).length (featuresPerThread (makeFeatures kinds k).length w2) asg2) :
    ∃ c1 c2, loopKind kinds k w1 asg1 = some c1 ∧ loopKind kinds k w2 asg2 = some c2 ∧
      c1.map Call.ifeature = c2.map Call.ifeature ∧ c1.map Call.ifeature = makeFeatures kinds k ∧
      (∀ c ∈ c1, c.tnum < w1) ∧ (∀ c ∈ c2, c.tnum < w2) :=
  select_loop_thread_count_independent kinds k w1 w2 asg1 asg2 h1 h2

open NanoVerif.Iterator NanoVerif.Sharing in
/-- The seeded change C18-e3 ("one contiguous range of `features_per_thread` positions per worker, `min(concurrency, n)`
    workers") visits only the first 8 of 9 features on 8 threads and the first 16 of 17 on 16 threads, while it is complete on
    (9, 2) and (8, 8): it contradicts the theorem above exactly for the (features, threads) pairs with
    `min(threads, n) · round(n / threads) < n`. The loop as coded visits all 9 positions on 8 threads. Kernel-checked; on the
    real code: `wfit` ops over pools 1, 2, 3, 4, 5, 7, 16 with feature counts in every residue class. -/
theorem seeded_feature_loop_drops_features :
    seededVisits 9 8 = [0, 1, 2, 3, 4, 5, 6, 7] ∧ seededVisits 17 16 = List.range 16 ∧ seededVisits 9 2 = List.range 9 ∧
    seededVisits 8 8 = List.range 8 ∧
    (loopList (List.range 9) 8 [0, 1, 2, 3, 4, 5, 6, 7, 0]).map (·.map Call.ifeature) = some (List.range 9) :=
  seeded_loop_drops_features

open NanoVerif.Iterator NanoVerif.Objective in
/-- non-vacuity: 5 scalar features among 7; pool of 2 (chunks of 3: two chunks) vs pool of 16 (chunks of 1: five chunks) -/
example :
    let kinds : List FKind := [.scalar, .sclass, .scalar, .scalar, .struct, .scalar, .scalar]
    makeFeatures kinds .scalar = [0, 2, 3, 5, 6] ∧
    ValidAsg 2 5 (featuresPerThread 5 2) [1, 0] ∧ ValidAsg 16 5 (featuresPerThread 5 16) [3, 15, 0, 3, 7] := by
  decide +kernel

/-! ### the reviewed list of state a `const` method can modify or that all objects share -/

/- The reviewed list `allow` (entry + reason) lives in `Proofs/SharingAllow.lean`, written from `ALLOW` of tools/props/c18.py
   (one place to edit; the check compares the two). Tags: [per-function] owned by one function object, which one thread uses;
   [per-call] created inside the call; [per-worker] a vector with one slot per worker id (`perthread_buffers_exclusive`) owned by a
   per-call object (`inline_calls_share_no_buffer`); [sync] protected by a mutex / `std::call_once` / atomic; [owner] const access
   only calls const members of the pointee; [load] written while loading only. -/

open NanoVerif.Gen.MutableState in
/-- Every `mutable` member, non-const `static` / `thread_local` / namespace-scope variable and pointer/reference member that
    the scan finds in the CURRENT sources is one of the reviewed entries (same file, class, name and declared type).
    A new `mutable` cache on a shared object, a prototype turned into a `shared_ptr`, a new function-local `static` … makes
    this theorem fail until the new entry has been reviewed. -/
theorem mutable_state_allowlisted : ∀ e ∈ table, e ∈ allow.map (·.1) := by
  -- The statement is an inclusion; it is proved through EQUALITY of the two lists. Both are written sorted by the same key
  -- (tools/props/c18.py) and the check accepts neither an unreviewed hit nor a stale entry, so the scanned table IS the list
  -- of reviewed keys, and `rfl` compares the string literals as literals. A membership test entry by entry has to evaluate
  -- `String` equality in the kernel, which is very slow to check. Should the allow-list ever be allowed to hold more than the
  -- scan finds, prove `table.all fun e => (allow.map (·.1)).contains e` by `decide +kernel` here instead.
  have h : table = allow.map (·.1) := rfl
  intro e he
  rwa [← h]

open NanoVerif.Gen.MutableState in
/-- the table is not empty (the scan found the entries the property's anchors name) -/
example : (⟨.mutable_, "include/nano/solver/lsearch.h", "lsearch_t", "m_last_step_size", "scalar_t"⟩ : Entry) ∈ table ∧
    (⟨.mutable_, "include/nano/function.h", "function_t", "m_fcalls", "tensor_size_t"⟩ : Entry) ∈ table ∧
    (⟨.indirect, "include/nano/solver.h", "solver_t", "m_lsearch0", "rlsearch0_t"⟩ : Entry) ∈ table := by
  decide +kernel

/-! ### non-vacuity of the index statements -/

open NanoVerif.Tune NanoVerif.Tensor in
example : decode 3 7 = (2, 1) ∧ slot 3 (4 + 2) 1 = 19 ∧ index [4 + 3, 3, 2, 2, 12] [4 + 2, 1] = 48 * 19 ∧
    size [4 + 3, 3, 2, 2, 12] = 7 * 3 * 48 := by
  decide +kernel

end NanoVerif.C18
