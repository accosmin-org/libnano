import NanoVerif.Proofs.DatasetHistory
import NanoVerif.Proofs.DatasetGradientViews
import NanoVerif.Proofs.DatasetGenCustom
/-!
  C08 — all dataset views agree with the stored feature values, including missing ones.

  Property theorems about `Model/Mask.lean` + `Model/Dataset.lean` (the model of mask.h, datasource.h/.cpp, iterator.h,
  generator/*.h, generator.cpp, dataset.cpp; addressing through the C16 tensor model). Core Lean only. Helper lemmas live in
  `Proofs/Dataset*.lean`. Layers:

    concrete  pools + ranges + bit masks, `visit` = slice/reshape, iterators, encoders writing into a row buffer, flag bytes
    abstract  `D = Storage.stored : feature → sample → Option value`, the documented encodings (`viewOf`, `encodeView`,
              `oneHot`, `productOf`, `targetRow`), the flag rule `absStep`

  Hypotheses: `Storage.WF` / `Dataset.WF` (established by `resize`, preserved by `set`, `add` and every history operation:
  `wf_reachable`, `run_keeps`), `ClassValuesOk` (labels and hits are non-negative: `classValuesOk_resize`,
  `classValuesOk_set`), and — for the statements that go through `dataset_t::select` — `Dataset.NonDegenerate` (no gradient
  feature derived from a 3x3 image: the open finding `gradient-1x1-select-unwritten`, characterised by `selectUnwritten_iff`).
  No theorem is `_partial`. Outside the theorems (correspondence / oracle only): the batching of the flatten / targets
  iterators, binary64 conversions of the stored values and binary64 rounding inside the image kernels.
-/
namespace NanoVerif.Dataset
open NanoVerif.Tensor NanoVerif.Mask

/-! ### bit mask, ranges, storage -/

/-- MSB-first bit mask (mask.h:31-44): after `setbit m s`, bit `s'` reads as set iff `s' = s` or it was set before — setting a
    bit never disturbs another sample (in particular not its 7 neighbours in the same byte). -/
theorem getbit_setbit (m : List Nat) (s s' : Nat) (hs : s / 8 < m.length) :
    getbit (setbit m s) s' = (decide (s = s') || getbit m s') :=
  getbit_setbit' m s s' hs

/-- The `update_size_storage` loop hands out, per pool, consecutive row ranges: the ranges of the features stored in pool `p`
    tile `[sizes[p], final size of p)` in feature order (hence they are pairwise disjoint and nothing is left over), every
    feature gets exactly `comps` rows, one range per feature. -/
theorem ranges_disjoint_tile (sizes : List Nat) (feats : List Feature) (p : Nat)
    (hp : ∀ f ∈ feats, f.pool.code < sizes.length) :
    (assignRanges sizes feats).1.length = feats.length ∧
    (assignRanges sizes feats).2.length = sizes.length ∧
    Tile (sizes.getD p 0) ((assignRanges sizes feats).2.getD p 0) (poolRanges p feats (assignRanges sizes feats).1) ∧
    (∀ (i : Nat) (f : Feature) (r : Nat × Nat), feats[i]? = some f → (assignRanges sizes feats).1[i]? = some r → r.2 = r.1 + f.comps) := by
  obtain ⟨h1, h2, _, h4, _⟩ := assignRanges_spec feats sizes hp
  exact ⟨h1, h2, assignRanges_tile p feats sizes hp, fun i f r hf hr => (h4 i f r hf hr).2.1⟩

set_option linter.unusedVariables false
/-- **storage refines the abstract map** `D : feature → sample → Option value`: `set` (through the sliced + reshaped view of the
    typed pool, plus the mask bit) is a point update of `D` — the written value is read back, every other (feature, sample)
    keeps its value or stays missing, whatever pools and ranges the features share. The two range hypotheses are not needed
    (`set_stored`): outside the storage nothing is stored before or after. -/
theorem storage_refines (st st' : Storage) (h : st.WF) (s f : Nat) (v : List Int) (hset : st.set s f v = some st')
    (f' s' : Nat) (hf' : f' < st.feats.length) (hs' : s' < st.samples) :
    st'.stored f' s' = if f' = f ∧ s' = s then some v else st.stored f' s' :=
  set_stored st st' h s f v hset f' s'

set_option linter.unusedVariables true

/-- never set ⇒ missing -/
theorem stored_never_set (n : Nat) (feats : List Feature) (target f s : Nat) :
    (resize n feats target).stored f s = none :=
  by simp [Storage.stored, resize_given]

/-- datasets built by `resize`, `set`, `add` satisfy the hypotheses of the C08 theorems -/
theorem wf_reachable :
    (∀ (n : Nat) (feats : List Feature) (t : Nat), 0 < n → (resize n feats t).WF) ∧
    (∀ (st st' : Storage) (s f : Nat) (v : List Int), st.WF → st.set s f v = some st' → st'.WF) ∧
    (∀ st : Storage, st.WF → (⟨st, []⟩ : Dataset).WF) ∧
    (∀ (ds ds' : Dataset) (k : GKind) (l1 l2 : List Nat), ds.WF → ds.add k l1 l2 = some ds' → ds'.WF ∧ ds'.st = ds.st) :=
  ⟨fun n feats t hn => resize_wf n feats t hn,
   fun st st' s f v h hset => set_wf st st' h s f v hset,
   fun st h => ⟨h, by simp⟩,
   fun ds ds' k l1 l2 h hadd => ⟨(add_wf ds ds' k l1 l2 h hadd).1, (add_wf ds ds' k l1 l2 h hadd).2.1⟩⟩

/-! ### bookkeeping -/

/-- **columns add up**: `columns()` is the sum of the columns of all the features (`classes − 1` / `classes` / `size(dims)`),
    the per-generator counts `m_generator_mapping` add up to it, and (for fitted generators) each generator's count is what
    its `flatten` writes (`process().colsize`). -/
theorem columns_total (ds : Dataset) :
    ds.columns = (ds.featureList.map featureColumns).sum ∧
    ds.genColumns.sum = ds.columns ∧
    ds.genColumns.length = ds.gens.length ∧
    ((∀ g ∈ ds.gens, g.WF ds.st) →
      ds.genColumns = ds.gens.map (fun g => ((List.range g.features).map g.colsize).sum)) :=
  ⟨columns_eq_sum ds, genColumns_sum ds, by simp [Dataset.genColumns], genColumns_eq_colsize ds⟩

/-- **column → feature**: `column2feature c = f` exactly for the columns of the block reserved for feature `f`: the blocks
    follow each other in feature order, feature `f` owns `[colOffset f, colOffset f + columns f)`. -/
theorem column2feature_spec (ds : Dataset) (c f : Nat) :
    ds.column2feature c = some f ↔
      ∃ desc, ds.featureList[f]? = some desc ∧
        colOffset ds.featureList f ≤ c ∧ c < colOffset ds.featureList f + featureColumns desc := by
  unfold Dataset.column2feature Dataset.colMap
  rw [colMapFrom_getElem?]
  constructor
  · rintro ⟨j, rfl, desc, h1, h2, h3⟩
    exact ⟨desc, by simpa using h1, by simpa using h2, by simpa using h3⟩
  · rintro ⟨desc, h1, h2, h3⟩
    exact ⟨f, by omega, desc, h1, h2, h3⟩

section
variable {α : Type} [Scalar α]

/-! ### per-feature views, missing values, products, targets -/

/-- **identity features equal the stored values**: with no flag set, the per-feature view of feature `i` of an identity
    generator lists, for every position of the sample list (any order, repetitions allowed), the stored value of the original
    feature at that sample, missing values as −1 / NaN. -/
theorem identity_eq_stored (st : Storage) (g : Gen) (i : Nat) (m : FMap) (samples : List Nat)
    (hm : g.mapping[i]? = some m) (hk : g.kind ≠ .product) (hk' : ∀ k, g.kind ≠ .gradient k)
    (hk'' : ∀ c, g.kind ≠ .custom c) (hflag : g.infos.getD i 0 = 0) :
    g.select (α := α) st i samples =
      some (viewOf g.kind m (samples.map (fun s => st.stored (st.inputIndex m.orig) s))) := by
  rw [select_eq st g i m hm samples, shouldDrop_of_flag0 g i hflag, shuffledAll_of_flag0 g i hflag, map_iterSample_nil]
  cases hkind : g.kind
  case product => exact absurd hkind hk
  case gradient k => exact absurd hkind (hk' k)
  case custom c => exact absurd hkind (hk'' c)
  all_goals rfl

/-- **missing values are marked**: −1 (labels, every hit of a multi-label row), NaN (scalars, every component of a tensor,
    every column of the dense encodings, products with a missing factor) -/
theorem missing_marked (classes size colsize : Nat) :
    encSclass none = -1 ∧
    encMclass classes none = List.replicate classes (-1) ∧
    encScalar (α := α) none = Scalar.nan ∧
    encStruct (α := α) size none = List.replicate size Scalar.nan ∧
    encProduct (α := α) none = Scalar.nan ∧
    flatSclass (α := α) colsize none = List.replicate colsize Scalar.nan ∧
    flatMclass (α := α) colsize none = List.replicate colsize Scalar.nan ∧
    (∀ desc : Feature, (targetRow (α := α) desc none) = List.replicate
        (match desc.type with | .sclass => desc.classes | .mclass => desc.classes | _ => desc.dimSize) Scalar.nan) := by
  refine ⟨rfl, rfl, rfl, rfl, rfl, rfl, rfl, ?_⟩
  intro desc
  unfold targetRow
  cases desc.type <;> rfl

/-- **product features are the product of their two sources** (NaN when either factor is missing): both the per-feature view
    and the dense column -/
theorem product_spec (st : Storage) (g : Gen) (i : Nat) (m : FMap) (samples : List Nat)
    (hm : g.mapping[i]? = some m) (hk : g.kind = .product) (hflag : g.infos.getD i 0 = 0) :
    g.select (α := α) st i samples =
      some (.scalar (samples.map (fun s =>
        productOf (st.stored (st.inputIndex m.orig) s) (st.stored (st.inputIndex m.orig2) s)))) ∧
    g.segments (α := α) st i samples =
      samples.map (fun s => [productOf (st.stored (st.inputIndex m.orig) s) (st.stored (st.inputIndex m.orig2) s)]) := by
  have h1 := shuffledAll_of_flag0 g i hflag
  have h2 := shouldDrop_of_flag0 g i hflag
  have hm' : g.mapping.getD i default = m := by simp [List.getD_eq_getElem?_getD, hm]
  constructor
  · rw [select_eq st g i m hm samples, h1, h2, map_iterSample_nil, hk]
    rfl
  · unfold Gen.segments
    simp only [hm', h1, h2, hk, iterate2, iterSample_nil, List.map_map]
    simp only [Bool.false_eq_true, if_false]
    exact List.map_congr_left fun s _ => congrArg (fun x => [x]) (encProduct_pair _ _)

/-- **targets**: one row per position of the sample list; a single-label target is one-hot ±1 over all `classes` columns,
    a multi-label target is `hit * 2 − 1`, a continuous target its values (row-major), a missing one NaN; the reported
    dimensions are `(classes, 1, 1)` resp. the feature's dims; an unsupervised dataset throws. -/
theorem targets_spec (ds : Dataset) (samples : List Int) (ss : List Nat) (hs : ds.checkSamples samples = some ss) :
    (ds.st.target = none → ds.targets (α := α) samples = none) ∧
    (∀ t desc, ds.st.target = some t → ds.target = some desc →
      ds.targets (α := α) samples = some (ds.targetDims, ss.map (fun s => targetRow desc (ds.st.stored t s))) ∧
      ds.targetDims = (match desc.type with
        | .sclass => (desc.classes, 1, 1) | .mclass => (desc.classes, 1, 1) | _ => (desc.d0, desc.d1, desc.d2))) ∧
    (∀ desc : Feature, ∀ l : Int, desc.type = .sclass → 0 ≤ l →
      targetRow (α := α) desc (some [l]) = oneHot desc.classes l.toNat) ∧
    (∀ desc : Feature, ∀ v : List Int, desc.type = .mclass →
      targetRow (α := α) desc (some v) =
        v.map (fun h => Scalar.sub (Scalar.mul (Scalar.ofInt h) (Scalar.ofInt 2)) (Scalar.ofInt 1))) ∧
    (∀ desc : Feature, ∀ v : List Int, desc.type ≠ .sclass → desc.type ≠ .mclass →
      targetRow (α := α) desc (some v) = v.map Scalar.ofInt) := by
  refine ⟨?_, ?_, ?_, ?_, ?_⟩
  · intro h
    simp [Dataset.targets, hs, h]
  · intro t desc ht hd
    constructor
    · simp [Dataset.targets, hs, ht, hd]
    · simp only [Dataset.targetDims, hd]
      cases desc.type <;> rfl
  · intro desc l ht _
    simp [targetRow, ht, oneHot, headI]
  · intro desc v ht
    simp [targetRow, ht]
  · intro desc v h1 h2
    unfold targetRow
    cases hty : desc.type <;> simp_all [encStruct]

/-! ### the flattened view -/

/-- **the flattened view is the documented encoding of the per-feature views**: for any sample list (any order, repetitions)
    and any (not cleared) buffer of the right shape, `flatten` returns, side by side in feature order, `encodeView` of what
    `select` returns for each feature — one-hot ±1 with `classes − 1` columns, `2·hit − 1`, identity, row-major, NaN for
    missing — whatever the drop / shuffle flags; and every `select` involved succeeds. -/
theorem flatten_eq_encode_select (ds : Dataset) (hwf : ds.WF) (hnd : ds.NonDegenerate) (hcls : ClassValuesOk ds.st)
    (samples : List Int)
    (ss : List Nat) (hs : ds.checkSamples samples = some ss) (buf0 : List (List α)) (hlen : buf0.length = ss.length)
    (hrows : ∀ r ∈ buf0, r.length = ds.columns) :
    ds.flattenInto samples buf0 = some (hcatRows ss.length
      ((List.range ds.features).map (fun f => encodeView (ds.featureCols f) (ds.selectAuto (α := α) samples f)))) ∧
    ∀ f, f < ds.features → ∃ o, ds.select (α := α) samples (f : Int) o = some (ds.selectAuto samples f) := by
  -- per dataset feature: its generator serves the view and writes its encoding
  have key : ∀ f (hf : f < ds.features), ∃ g, ds.gens[(ds.featMap[f]'hf).1]? = some g ∧
      ds.select (α := α) samples (f : Int) (kindOverload g.kind) = some (ds.selectAuto samples f) ∧
      g.segments (α := α) ds.st (ds.featMap[f]'hf).2 ss =
        encodeView (ds.featureCols f) (ds.selectAuto samples f) := by
    intro f hf
    have hfm : ds.featMap[f]? = some ((ds.featMap[f]'hf).1, (ds.featMap[f]'hf).2) := List.getElem?_eq_getElem hf
    obtain ⟨g, desc, hg, hi, hfeat, hc, hsel⟩ := select_eq_gen (α := α) ds hwf samples ss hs f _ _ hfm
      (fun g hg => hnd g (List.mem_of_getElem? hg))
    obtain ⟨v, hv, hseg⟩ := segments_eq_encode (α := α) ds.st hcls g (hwf.gens g (List.mem_of_getElem? hg)) _ _
      (List.getElem?_eq_getElem hi) ss
    have hauto : ds.selectAuto (α := α) samples f = v := by
      unfold Dataset.selectAuto
      rw [hfm]
      simp only [hg, Option.bind_some, hsel, hv, Option.getD_some]
    have hcols : ds.featureCols f = g.colsize (ds.featMap[f]'hf).2 := by simp [Dataset.featureCols, hfeat, hc]
    exact ⟨g, hg, by rw [hsel, hv, hauto], by rw [hseg, hcols, hauto]⟩
  constructor
  · -- both lists enumerate the features in dataset order
    rw [flatten_blocks ds hwf samples ss hs buf0 hlen hrows,
      ← featMapFrom_map (fun g i => g.segments (α := α) ds.st i ss)
        (fun p => match ds.gens[p.1]? with
          | some g => g.segments ds.st p.2 ss
          | none => []) 0 ds.gens (fun j g i hg => by simp [hg])]
    congr 2
    apply List.ext_getElem (by simp [Dataset.features, Dataset.featMap])
    intro f h1 h2
    have hf : f < ds.features := (by simpa using h1 : f < (featMapFrom 0 ds.gens).length)
    obtain ⟨g, hg, _, hseg⟩ := key f hf
    rw [List.getElem_map, List.getElem_map, List.getElem_range]
    show (match ds.gens[(ds.featMap[f]'hf).1]? with
      | some g => g.segments ds.st (ds.featMap[f]'hf).2 ss
      | none => []) = _
    rw [hg]
    exact hseg
  · intro f hf
    obtain ⟨g, _, hsel, _⟩ := key f hf
    exact ⟨_, hsel⟩

/-! ### drop / shuffle histories -/

/-- **histories**: after ANY sequence of `drop / undrop / shuffle / unshuffle` calls (invalid feature indices included), the
    view `select` returns for a feature is the spec view of the stored values transformed by the feature's current flag,
    where the flags evolve by the documented rule `absStep` — dropped ⇒ exactly that feature is missing, shuffled ⇒ exactly
    that feature is read through the reported permutation, every other feature is untouched. -/
theorem history_view (ds : Dataset) (hwf : ds.WF) (ops : List HOp) (samples : List Int) (ss : List Nat)
    (hs : ds.checkSamples samples = some ss) (f gi i : Nat) (g : Gen) (m : FMap)
    (hfm : ds.featMap[f]? = some (gi, i)) (hg : ds.gens[gi]? = some g) (hm : g.mapping[i]? = some m)
    (hnd : g.NonDegenerate) :
    (ds.run ops).select (α := α) samples (f : Int) (kindOverload g.kind) =
      some (specSelect ds.st g.kind m (absRun ds.features ds.flag ops f) ss) := by
  obtain ⟨hst, hwf', hfm', hgens, hflag⟩ := run_keeps ops ds hwf
  obtain ⟨g', hg', hshape⟩ := hgens gi g hg
  have hk : g'.kind = g.kind := congrArg Prod.fst hshape
  have hmap : g'.mapping = g.mapping := congrArg Prod.snd hshape
  have hs' : (ds.run ops).checkSamples samples = some ss := by
    simpa [Dataset.checkSamples, hst] using hs
  obtain ⟨g'', desc, hg'', _, _, _, hsel⟩ :=
    select_eq_gen (α := α) (ds.run ops) hwf' samples ss hs' f gi i (by rw [hfm']; exact hfm)
      (fun g₂ hg₂ => by
        rw [hg'] at hg₂
        cases hg₂
        intro k hk2 m2 hm2
        exact hnd k (by rw [← hk]; exact hk2) m2 (by rw [← hmap]; exact hm2))
  rw [hg'] at hg''
  cases hg''
  rw [← hk, hsel, select_by_flag (α := α) (ds.run ops).st g' i m (by rw [hmap]; exact hm) ss, hst]
  congr 2
  rw [← hflag f]
  simp [Dataset.flag, hfm', hfm, hg']

/-- **undoing restores the original views**: after `undrop` (resp. `unshuffle`, which as coded also clears every flag) at the
    end of any history, every flag is cleared: `select` returns the plain view of the stored values again; in particular
    `undrop` + `unshuffle` restore the original. -/
theorem history_restore (n : Nat) (F : Nat → Flag) (ops : List HOp) (f : Nat) :
    absRun n F (ops ++ [.undrop]) f = .none ∧ absRun n F (ops ++ [.unshuffle]) f = .none ∧
    absRun n F (ops ++ [.undrop, .unshuffle]) f = .none := by
  simp [absRun, List.foldl_append, absStep]

/-- **shuffling permutes by the reported bijection**: the view of a shuffled feature at position `k` is the plain value of
    sample `p[ss[k]]`; when the reported `p` is a permutation of all the samples, reading all the samples in order reads the
    sample list `p`, i.e. every stored value exactly once (a rearrangement of the unshuffled view, nothing lost or
    duplicated). -/
theorem shuffle_is_reported_bijection (st : Storage) (k : GKind) (m : FMap) (p ss : List Nat) (N : Nat)
    (hN : 0 < N) (hp : p.Perm (List.range N)) :
    specSelect (α := α) st k m (.shuffled p) ss = plainView st k m (ss.map (fun s => p.getD s 0)) ∧
    specSelect (α := α) st k m (.shuffled p) (List.range N) = plainView st k m p ∧
    ((List.range N).map (fun s => p.getD s 0)).Perm (List.range N) := by
  obtain ⟨hl, hmap⟩ := getD_of_perm_range p N hp
  have hne : p.isEmpty = false := by
    cases p with
    | nil => simp at hl; omega
    | cons _ _ => rfl
  have hit : ∀ l : List Nat, l.map (iterSample p) = l.map (fun s => p.getD s 0) := by
    intro l
    apply List.map_congr_left
    intro s _
    simp [iterSample, hne]
  refine ⟨?_, ?_, ?_⟩
  · simp only [specSelect, hit]
  · simp only [specSelect, hit, hmap]
  · rw [hmap]; exact hp

end

/-- the permutation reported by `shuffled()` right after `shuffle()` is the one the views are read through -/
theorem shuffled_reports (ds : Dataset) (hwf : ds.WF) (f : Nat) (hf : f < ds.features) (p : List Nat)
    (hp : p.length = ds.st.samples) (hN : 0 < ds.st.samples) (samples : List Int) (ss : List Nat)
    (hs : ds.checkSamples samples = some ss) :
    (ds.step (.shuffle f p)).shuffled (Int.ofNat f) samples = some (ss.map (fun s => p.getD s 0)) ∧
    (ds.step (.shuffle f p)).flag f = .shuffled p := by
  obtain ⟨hst, _, hfm', _⟩ := step_keeps ds hwf (.shuffle f p)
  have hflag := step_flag ds hwf (.shuffle f p) f
  simp only [absStep, hf, if_true] at hflag
  refine ⟨?_, hflag⟩
  obtain ⟨gi, i, g, hfm, hg, hi⟩ := featMap_owner ds hwf f hf
  have hg' : (ds.step (.shuffle f p)).gens[gi]? = some (g.shuffle i p) := by
    have := (onFeature_reflagged ds f (fun g i => g.shuffle i p) fun _ _ => ⟨rfl, List.length_set⟩).2.1 gi
    rw [hfm, hg] at this
    simpa [Dataset.step, Dataset.shuffle] using this
  have hss : ∀ s ∈ ss, s < p.length := fun s h => hp ▸ checkSamples_lt ds samples ss hs s h
  have hcs : (ds.step (.shuffle f p)).checkSamples samples = some ss := by
    simpa [Dataset.checkSamples, hst] using hs
  have hall : (g.shuffle i p).shuffledAll i = p := by
    rw [shuffledAll_flag, flagOf_shuffle _ _ _ _ hi]
    simp
  have hne : p.isEmpty = false := by
    cases p with
    | nil => simp at hp; omega
    | cons _ _ => rfl
  unfold Dataset.shuffled
  rw [hcs, checkFeature_ofNat, show (ds.step (.shuffle f p)).features = ds.features from congrArg List.length hfm',
    if_pos hf]
  simp only [Option.bind_eq_bind, Option.bind_some, hfm', hfm, hg', hall, hne, Bool.false_eq_true, if_false]
  clear hcs hs
  induction ss with
  | nil => rfl
  | cons s ss ih =>
    have hs0 := hss s List.mem_cons_self
    have := ih (fun x hx => hss x (List.mem_cons_of_mem _ hx))
    simp only [List.mapM_cons, List.getElem?_eq_getElem hs0, Option.bind_eq_bind, Option.bind_some, this,
      List.map_cons, Option.pure_def, List.getD_eq_getElem?_getD, Option.getD_some]


/-! ### the gradient generator (elemwise_gradient.h/.cpp, gradient.h) -/

/-- **which features the gradient generator makes** (`do_fit`): from the structured input features it was given (all of them
    for the default constructor), each one with at least 3 rows and 3 columns yields — in this order — for every input channel
    and every mode 0..3 (gx, gy, magnitude, angle) one feature with the mapping row
    `(original, classes, 1, rows − 2, cols − 2, channel, mode)`; a feature below 3x3 yields nothing. -/
theorem gradient_dims_spec (st : Storage) (k : Kernel3) (l1 l2 : List Nat) (g : Gen)
    (h : fit st (.gradient k) l1 l2 = some g) :
    ∃ sel, selectFeatures st (kindAccepts (.gradient k)) l1 = some sel ∧ g.kind = .gradient k ∧
      g.mapping = gradientMapping sel ∧
      (∀ s ∈ sel, ∃ f, st.inputFeature s.orig = some f ∧ f.isStruct = true ∧
        s.classes = f.classes ∧ s.d0 = f.d0 ∧ s.d1 = f.d1 ∧ s.d2 = f.d2) ∧
      (∀ m, m ∈ g.mapping ↔ ∃ s ∈ sel, 3 ≤ s.d1 ∧ 3 ≤ s.d2 ∧ ∃ ch, ch < s.d0 ∧ ∃ ty, ty < 4 ∧
        m = { s with d0 := 1, d1 := s.d1 - 2, d2 := s.d2 - 2, chan := ch, mode := ty }) := by
  obtain ⟨hk, _, sel, h1, hmap⟩ := fit_inv st _ l1 l2 g h
  exact ⟨sel, h1, hk, hmap, selectFeatures_mem st _ l1 sel h1, fun m => hmap ▸ gradientMapping_mem sel m⟩

/-- **feature count**: `4 * channels` generated features per selected image of at least 3x3, none for the others -/
theorem gradient_features_count (sel : List FMap) :
    (gradientMapping sel).length = (sel.map (fun s => if 3 ≤ s.d1 ∧ 3 ≤ s.d2 then 4 * s.d0 else 0)).sum := by
  induction sel with
  | nil => rfl
  | cons s sel ih =>
    have hs : gradientMapping (s :: sel) = gradientMapping [s] ++ gradientMapping sel := by
      simp [gradientMapping]
    rw [hs, List.length_append, ih, List.map_cons, List.sum_cons]
    congr 1
    unfold gradientMapping
    simp only [List.flatMap_cons, List.flatMap_nil, List.append_nil]
    split
    · rw [loop2_length, Nat.mul_comm]
    · rfl

/-- **descriptor and column bookkeeping of a gradient feature**: named `<kernel>::<gx|gy|gg|theta>(<source>[channel::<c>])`,
    a `float64` feature of dims `(1, rows − 2, cols − 2)` without labels; the columns `update()` reserves for it are the
    `(rows − 2) * (cols − 2)` columns its `flatten` writes; it is described as a *scalar* feature exactly when the source image
    is 3x3 (then `dataset_t::select` routes it to the scalar overload, which the generator does not implement: the open
    finding), as a structured one otherwise. -/
theorem gradient_descriptor_spec (st : Storage) (g : Gen) (hg : g.WF st) (k : Kernel3) (hk : g.kind = .gradient k)
    (i : Nat) (m : FMap) (hm : g.mapping[i]? = some m) :
    ∃ f desc, st.inputFeature m.orig = some f ∧ f.isStruct = true ∧ 3 ≤ f.d1 ∧ 3 ≤ f.d2 ∧ m.chan < f.d0 ∧ m.mode < 4 ∧
      g.feature st i = some desc ∧
      desc = ⟨k.name ++ gradModeName m.mode ++ "(" ++ f.name ++ "[channel::" ++ toString m.chan ++ "])", .float64,
        1, f.d1 - 2, f.d2 - 2, 0⟩ ∧
      g.colsize i = (f.d1 - 2) * (f.d2 - 2) ∧ featureColumns desc = g.colsize i ∧
      (desc.isScalar = true ↔ (f.d1 = 3 ∧ f.d2 = 3)) ∧ (desc.isStruct = true ↔ ¬ (f.d1 = 3 ∧ f.d2 = 3)) := by
  obtain ⟨f, hf, hacc, hdesc, _⟩ := hg.rows i m hm
  rw [hk] at hacc hdesc
  have hdeg := gradient_degenerate_iff k m f hdesc
  obtain ⟨_, h0, h1, h2, hch, hmode, h3, h4⟩ := hdesc
  have e1 : f.d1 - 2 = m.d1 := by omega
  have e2 : f.d2 - 2 = m.d2 := by omega
  have hcol : g.colsize i = m.d1 * m.d2 := by rw [colsize_of g i m hm, hk]
  refine ⟨f, _, hf, hacc, by omega, by omega, hch, hmode, ?_, rfl, ?_, ?_, ?_, ?_⟩
  · simp only [Gen.feature, hm, hk, Nat.toString_eq_repr, Option.pure_def, Option.bind_eq_bind, Option.bind_some, hf, h0,
      e1, e2]
  · rw [e1, e2, hcol]
  · rw [e1, e2, hcol]
    exact congrArg (· * m.d2) (Nat.one_mul m.d1)
  · rw [e1, e2, Feature.isScalar_iff]
    show (FType.float64 ≠ .sclass ∧ FType.float64 ≠ .mclass ∧ 1 * m.d1 * m.d2 = 1) ↔ _
    rw [Nat.one_mul]
    constructor
    · rintro ⟨_, _, h⟩
      exact Classical.not_not.1 fun hn => absurd (hdeg.2 hn) (by rw [h]; decide)
    · intro h
      exact ⟨by decide, by decide, Nat.le_antisymm (Nat.le_of_not_lt fun hlt => hdeg.1 hlt h) (Nat.mul_le_mul h3 h4)⟩
  · rw [e1, e2, Feature.isStruct_iff]
    show (FType.float64 ≠ .sclass ∧ FType.float64 ≠ .mclass ∧ 1 < 1 * m.d1 * m.d2) ↔ _
    rw [Nat.one_mul]
    exact ⟨fun h => hdeg.1 h.2.2, fun h => ⟨by decide, by decide, hdeg.2 h⟩⟩

section
variable {α : Type} [Scalar α]

/-- **every output pixel is the kernel sum over its 3x3 neighbourhood**: for a mapping row of a fitted gradient generator
    (source feature `f`, channel `m.chan`, mode `m.mode`) and a stored sample `v` of `d0 * d1 * d2` values, `process` writes
    `(rows − 2) * (cols − 2)` values; the one at the row-major position `index [rows − 2, cols − 2] [r, c]` is
    `gradMode mode gx gy` with `gx = k0·(P(r,c+2) − P(r,c)) + k1·(P(r+1,c+2) − P(r+1,c)) + k2·(P(r+2,c+2) − P(r+2,c))` and
    `gy = k0·(P(r+2,c) − P(r,c)) + k1·(P(r+2,c+1) − P(r,c+1)) + k2·(P(r+2,c+2) − P(r,c+2))` (`gxAt`, `gyAt`), where
    `P(i,j)` is the value at offset `index [d0, d1, d2] [channel, i, j]` of the sample (C16 addressing); all nine offsets of
    the neighbourhood are inside the sample's buffer. For every image size, channel, kernel and mode. -/
theorem gradient_pixel_spec (k : Kernel3) (f : Feature) (m : FMap) (v : List Int)
    (hdesc : rowDescribes (.gradient k) m f) (hlen : v.length = f.d0 * f.d1 * f.d2)
    (r c : Nat) (hr : r < m.d1) (hc : c < m.d2) :
    (encGradient (α := α) k f m (some v)).length = m.d1 * m.d2 ∧
    (encGradient (α := α) k f m (some v))[index [m.d1, m.d2] [r, c]]? = some (gradientAt k f m v r c) ∧
    gradientAt (α := α) k f m v r c =
      gradMode m.mode (gxAt (makeKernel k) (srcPixel f v m.chan) r c) (gyAt (makeKernel k) (srcPixel f v m.chan) r c) ∧
    (∀ i j, i ≤ 2 → j ≤ 2 → index [f.d0, f.d1, f.d2] [m.chan, r + i, c + j] < v.length) := by
  have hd := hdesc
  obtain ⟨_, _, h1, h2, hch, _⟩ := hd
  refine ⟨encGradient_length k f m _ hdesc, ?_, rfl, ?_⟩
  · rw [encGradient_some k f m v hdesc]
    have hidx : index [m.d1, m.d2] [r, c] = r * m.d2 + c := by simp [index, size]
    rw [hidx]
    exact loop2_getElem? m.d1 m.d2 _ r c hr hc
  · intro i j hi hj
    rw [hlen]
    exact index3_lt f.d0 f.d1 f.d2 m.chan (r + i) (c + j) hch (by omega) (by omega)

/-- **kernels as coded** (`make_kernel3x3`): the three coefficients are `a/d, b/d, c/d` with integer numerators that are
    symmetric (`a = c`) and sum to the denominator (the smoothing weights are normalised); the vertical gradient is the
    horizontal gradient of the transposed image at the transposed position (the `gy` mask is the transpose of the `gx`
    mask), for any kernel coefficients and any image. -/
theorem gradient_kernel_spec (k : Kernel3) (kk : α × α × α) (P : Nat → Nat → α) (r c : Nat) :
    (makeKernel (α := α) k =
      (Scalar.div (Scalar.ofInt k.nums.1) (Scalar.ofInt k.den), Scalar.div (Scalar.ofInt k.nums.2.1) (Scalar.ofInt k.den),
       Scalar.div (Scalar.ofInt k.nums.2.2) (Scalar.ofInt k.den))) ∧
    k.nums.1 = k.nums.2.2 ∧ k.nums.1 + k.nums.2.1 + k.nums.2.2 = k.den ∧ 0 < k.den ∧
    gyAt kk P r c = gxAt kk (fun i j => P j i) c r := by
  refine ⟨rfl, ?_, ?_, ?_, rfl⟩ <;> cases k <;> decide

/-- **views of a gradient feature** for ANY flag state of the generator: `select` (structured overload) returns, per position
    of the sample list, the gradient map of the stored image (`gradientValue`: `gradientOf` of a given sample — see
    `gradient_pixel_spec` —, NaN everywhere for a missing one), all NaN when the feature is dropped, read through the
    permutation when it is shuffled; the block `flatten` writes is the same rows, row-major, `(rows − 2) * (cols − 2)` columns. -/
theorem gradient_select_spec (st : Storage) (g : Gen) (hg : g.WF st) (k : Kernel3) (hk : g.kind = .gradient k)
    (i : Nat) (m : FMap) (hm : g.mapping[i]? = some m) (ss : List Nat) :
    ∃ src, st.inputFeature m.orig = some src ∧ rowDescribes (.gradient k) m src ∧
      g.select (α := α) st i ss = some (.struct 1 m.d1 m.d2 (gradientSpecRows st k src m (g.flagOf i) ss)) ∧
      g.segments (α := α) st i ss = gradientSpecRows st k src m (g.flagOf i) ss ∧
      (∀ row ∈ gradientSpecRows (α := α) st k src m (g.flagOf i) ss, row.length = g.colsize i) := by
  obtain ⟨src, hf, _, hdesc, _⟩ := hg.rows i m hm
  rw [hk] at hdesc
  refine ⟨src, hf, hdesc, ?_, segments_gradient st g k hk i m hm src hf hdesc ss, ?_⟩
  · rw [select_by_flag st g i m hm ss, hk, specSelect_gradient st k src m _ ss hf hdesc]
  · intro row hrow
    rw [gradientSpecRows_width st k src m _ ss row hrow]
    simp [Gen.colsize, List.getD_eq_getElem?_getD, hm, hk]

/-- **missing images**: a sample whose source image is missing yields NaN in every pixel of the per-feature view and in every
    column of the flattened view (as coded: `dataset_t::flatten` writes NaN; only the flatten *iterator* turns NaN into 0
    afterwards, dataset/stats.cpp), whatever the kernel, channel and mode; a given sample yields `gradientOf`. -/
theorem gradient_missing_spec (k : Kernel3) (src : Feature) (m : FMap) (v : List Int) :
    encGradient (α := α) k src m none = List.replicate (m.d1 * m.d2) Scalar.nan ∧
    gradientValue (α := α) k src m none = List.replicate (m.d1 * m.d2) Scalar.nan ∧
    gradientValue (α := α) k src m (some v) = gradientOf k src m v :=
  ⟨rfl, rfl, rfl⟩

/-- **histories through the gradient generator**: after ANY sequence of `drop / undrop / shuffle / unshuffle` calls on the
    dataset, the structured view of a (non-degenerate) gradient feature is the gradient of the stored images transformed by
    the feature's current flag (`absRun`): dropped ⇒ all NaN, shuffled ⇒ the images of the samples `p[s]`, otherwise the
    images of the samples themselves; flags of other features do not matter. -/
theorem gradient_history_view (ds : Dataset) (hwf : ds.WF) (ops : List HOp) (samples : List Int) (ss : List Nat)
    (hs : ds.checkSamples samples = some ss) (f gi i : Nat) (g : Gen) (k : Kernel3) (m : FMap)
    (hfm : ds.featMap[f]? = some (gi, i)) (hg : ds.gens[gi]? = some g) (hk : g.kind = .gradient k)
    (hm : g.mapping[i]? = some m) (hnd : g.NonDegenerate) :
    ∃ src, ds.st.inputFeature m.orig = some src ∧ rowDescribes (.gradient k) m src ∧
      (ds.run ops).select (α := α) samples (f : Int) .struct =
        some (.struct 1 m.d1 m.d2 (gradientSpecRows ds.st k src m (absRun ds.features ds.flag ops f) ss)) := by
  obtain ⟨src, hf, _, hdesc, _⟩ := (hwf.gens g (List.mem_of_getElem? hg)).rows i m hm
  rw [hk] at hdesc
  refine ⟨src, hf, hdesc, ?_⟩
  have h := history_view (α := α) ds hwf ops samples ss hs f gi i g m hfm hg hm hnd
  rw [hk] at h
  rw [← specSelect_gradient ds.st k src m _ ss hf hdesc]
  exact h

end

/-- **the open finding, characterised**: `dataset_t::select` hands a buffer to an overload the owning generator does not
    implement (descriptor check passed, `do_select` empty) exactly for the scalar overload on a gradient feature whose output
    map is 1x1 — i.e. whose source image is 3x3 (`gradient_descriptor_spec`); for every other feature of a well-formed
    dataset and every overload the call is either rejected or served. The flag says whether the feature is dropped (then the
    buffer was filled with NaN before the dispatch; otherwise it comes back unwritten). -/
theorem selectUnwritten_iff (ds : Dataset) (hwf : ds.WF) (f : Nat) (o : Overload) (d : Bool) :
    ds.selectForeign f o = some d ↔
      ∃ gi i g k m, ds.featMap[f]? = some (gi, i) ∧ ds.gens[gi]? = some g ∧ g.kind = .gradient k ∧
        g.mapping[i]? = some m ∧ m.d1 = 1 ∧ m.d2 = 1 ∧ o = .scalar ∧ d = g.shouldDrop i := by
  unfold Dataset.selectForeign
  cases hfm : ds.featMap[f]? with
  | none => simp
  | some p =>
    obtain ⟨gi, i⟩ := p
    obtain ⟨_, g, hg, hi, _⟩ := featMapFrom_getElem? 0 ds.gens f gi i hfm
    have hg : ds.gens[gi]? = some g := hg
    have hm : g.mapping[i]? = some g.mapping[i] := List.getElem?_eq_getElem hi
    obtain ⟨src, name, _, hacc, hdesc, hd⟩ := feature_eq ds.st g (hwf.gens g (List.mem_of_getElem? hg)) i _ hm
    have hfeat : ds.feature f = some (genDesc g.kind g.mapping[i] src name) := by simp [Dataset.feature, hfm, hg, hd]
    have key := foreign_iff g.kind g.mapping[i] src name hacc hdesc o
    simp only [hg, hfeat]
    constructor
    · intro h
      split at h
      · rename_i hcond
        cases h
        obtain ⟨k, hk, e1, e2, ho⟩ := key.1 hcond
        exact ⟨gi, i, g, k, _, rfl, hg, hk, hm, e1, e2, ho, rfl⟩
      · cases h
    · rintro ⟨gi', i', g', k, m, hfm', hg', hk, hm', e1, e2, ho, hdd⟩
      cases hfm'
      rw [hg] at hg'
      cases hg'
      rw [hm] at hm'
      cases hm'
      rw [if_pos (key.2 ⟨k, hk, e1, e2, ho⟩), hdd]

/-- **when the open finding cannot occur**: a fitted gradient generator has no degenerate (1x1) feature iff none of the
    images it derives features from is exactly 3x3 -/
theorem gradient_nondegenerate_iff (st : Storage) (g : Gen) (hg : g.WF st) (k : Kernel3) (hk : g.kind = .gradient k) :
    g.NonDegenerate ↔
      ∀ (i : Nat) (m : FMap) (src : Feature), g.mapping[i]? = some m → st.inputFeature m.orig = some src →
        ¬ (src.d1 = 3 ∧ src.d2 = 3) := by
  constructor
  · intro h i m src hm hsrc
    obtain ⟨f, hf, _, hdesc, _⟩ := hg.rows i m hm
    rw [hk] at hdesc
    rw [hsrc] at hf
    cases hf
    exact (gradient_degenerate_iff k m src hdesc).1 (h k hk m (List.mem_of_getElem? hm))
  · intro h k' hk' m hmem
    obtain ⟨i, hi, rfl⟩ := List.getElem_of_mem hmem
    have hm : g.mapping[i]? = some g.mapping[i] := List.getElem?_eq_getElem hi
    obtain ⟨f, hf, _, hdesc, _⟩ := hg.rows i _ hm
    rw [hk] at hdesc
    exact (gradient_degenerate_iff k _ f hdesc).2 (h i _ f hm hf)

/-! ### non-vacuity of the gradient theorems: a concrete image dataset, evaluated with exact fractions -/

/-- exact fractions `n / d` (not normalised; `d = 0` plays NaN): enough to evaluate the kernels exactly -/
structure Frac where
  n : Int
  d : Int
deriving DecidableEq, Repr

instance fracScalar : Scalar Frac :=
  ⟨fun n => ⟨n, 1⟩, ⟨0, 0⟩, fun a b => ⟨a.n * b.n, a.d * b.d⟩, fun a b => ⟨a.n * b.d - b.n * a.d, a.d * b.d⟩,
   fun a b => ⟨a.n * b.d + b.n * a.d, a.d * b.d⟩, fun a b => ⟨a.n * b.d, a.d * b.n⟩, fun _ => ⟨0, 0⟩, fun _ _ => ⟨0, 0⟩⟩

def Frac.same (a b : Frac) : Bool :=
  (a.d == 0 && b.d == 0) || (a.d != 0 && b.d != 0 && a.n * b.d == b.n * a.d)

def Frac.sameRows (x y : List (List Frac)) : Bool :=
  x.length == y.length && (List.zipWith (fun r e => r.length == e.length && (List.zipWith Frac.same r e).all id) x y).all id

/-- a 1-channel 3x4 image, a 2x5 one (below 3x3), a 2-channel 3x3 one -/
def exGFeats : List Feature :=
  [⟨"img", .int16, 1, 3, 4, 0⟩, ⟨"tiny", .int8, 1, 2, 5, 0⟩, ⟨"img33", .uint8, 2, 3, 3, 0⟩]

def exGImage : List Int := [1, 2, 4, 7, 0, 3, 5, 9, 2, 2, 6, 8]

/-- 2 samples; sample 1 has no `img` -/
def exGWrites : List (Nat × Nat × List Int) :=
  [(0, 0, exGImage), (0, 1, [1, 2, 3, 4, 5, 6, 7, 8, 9, 10]), (0, 2, [1, 2, 3, 4, 5, 6, 7, 8, 9, 9, 8, 7, 6, 5, 4, 3, 2, 1]),
   (1, 2, [0, 0, 0, 0, 5, 0, 0, 0, 0, 1, 1, 1, 1, 1, 1, 1, 1, 1])]

def exGStorage : Option Storage :=
  exGWrites.foldlM (fun st w => st.set w.1 w.2.1 w.2.2) (resize 2 exGFeats 9)

/-- sobel gradients of `img` and `tiny` (the latter yields nothing), then the structured features as they are -/
def exGGens : List (GKind × List Nat × List Nat) := [(.gradient .sobel, [0, 1], []), (.structId, [], [])]

def exGDataset : Option Dataset :=
  exGStorage.bind (fun st => exGGens.foldlM (fun (ds : Dataset) k => ds.add k.1 k.2.1 k.2.2) ⟨st, []⟩)

/-- the same with the prewitt gradients of the 3x3 image: the degenerate case -/
def exGDataset33 : Option Dataset :=
  exGStorage.bind (fun st => [(GKind.gradient .prewitt, [2], ([] : List Nat))].foldlM
    (fun (ds : Dataset) k => ds.add k.1 k.2.1 k.2.2) ⟨st, []⟩)

-- the hypotheses of `gradient_history_view` / `gradient_select_spec` / `flatten_eq_encode_select` hold for `exGDataset`:
-- well-formed, no degenerate feature, feature 1 is row 1 of the gradient generator
example : ∃ ds g m, exGDataset = some ds ∧ ds.WF ∧ ds.NonDegenerate ∧ ClassValuesOk ds.st ∧ ds.featMap[1]? = some (0, 1) ∧
    ds.gens[0]? = some g ∧ g.kind = .gradient .sobel ∧ g.WF ds.st ∧ g.mapping[1]? = some m := by
  obtain ⟨st, hst⟩ : ∃ st, exGStorage = some st := Option.isSome_iff_exists.1 (by decide +kernel)
  obtain ⟨ds, hds⟩ : ∃ ds, exGDataset = some ds := Option.isSome_iff_exists.1 (by decide +kernel)
  have h0 := resize_wf 2 exGFeats 9 (by decide +kernel)
  obtain ⟨hwf, hcls, _⟩ := sets_wf exGWrites _ st h0 (classValuesOk_resize 2 exGFeats 9) hst (by decide +kernel)
  have hadd : exGGens.foldlM (fun (ds : Dataset) k => ds.add k.1 k.2.1 k.2.2) ⟨st, []⟩ = some ds := by
    simpa [exGDataset, hst] using hds
  obtain ⟨h1, h2, _⟩ := adds_wf exGGens ⟨st, []⟩ ds ⟨hwf, by simp⟩ (by simp) hadd
  have hnd : (exGDataset.map (fun ds => ds.gens.all Gen.nonDegenerateB)) = some true := by decide +kernel
  have hfm : (exGDataset.map (fun ds => ds.featMap[1]?)) = some (some (0, 1)) := by decide +kernel
  have hk : (exGDataset.map (fun ds => (ds.gens[0]?).map (fun g => (g.kind, g.mapping[1]?.isSome)))) =
      some (some (.gradient .sobel, true)) := by decide +kernel
  rw [hds] at hnd hfm hk
  simp only [Option.map_some, Option.some.injEq] at hnd hfm hk
  cases hg : ds.gens[0]? with
  | none => rw [hg] at hk; simp at hk
  | some g =>
    rw [hg] at hk
    simp only [Option.map_some, Option.some.injEq, Prod.mk.injEq] at hk
    obtain ⟨m, hm⟩ := Option.isSome_iff_exists.1 hk.2
    refine ⟨ds, g, m, hds, h1, ?_, by rw [h2]; exact hcls, hfm, hg, hk.1, h1.gens g (List.mem_of_getElem? hg), hm⟩
    intro g' hg'
    exact (nonDegenerateB_iff g').1 (List.all_eq_true.1 hnd g' hg')

-- `gradient_dims_spec` / `gradient_features_count`: the 3x4 image yields 4 features of dims (1, 1, 2), the 2x5 image none;
-- then the three structured features: 7 features, 4 * 2 + 12 + 10 + 18 = 48 columns
example : (exGDataset.map (fun ds => (ds.features, ds.columns, ds.gens.map (·.mapping.length)))) = some (7, 48, [4, 3]) := by
  decide +kernel
example : (exGDataset.map (fun ds => ds.featureList.take 4)) =
    some [⟨"sobel::gx(img[channel::0])", .float64, 1, 1, 2, 0⟩, ⟨"sobel::gy(img[channel::0])", .float64, 1, 1, 2, 0⟩,
          ⟨"sobel::gg(img[channel::0])", .float64, 1, 1, 2, 0⟩, ⟨"sobel::theta(img[channel::0])", .float64, 1, 1, 2, 0⟩] := by
  decide +kernel
-- `gradient_pixel_spec`: its hypotheses hold for row `gx` of the image above, and the two output pixels are 17/4 and 23/4
-- (gx), 3/4 and 5/4 (gy)
example : rowDescribes (.gradient .sobel) ⟨0, 0, 1, 1, 2, 0, 0, 0⟩ ⟨"img", .int16, 1, 3, 4, 0⟩ ∧
    exGImage.length = 1 * 3 * 4 := by
  simp [rowDescribes, exGImage]
example : (encGradient (α := Frac) .sobel ⟨"img", .int16, 1, 3, 4, 0⟩ ⟨0, 0, 1, 1, 2, 0, 0, 0⟩ (some exGImage)).length = 2 ∧
    Frac.same (gradientAt .sobel ⟨"img", .int16, 1, 3, 4, 0⟩ ⟨0, 0, 1, 1, 2, 0, 0, 0⟩ exGImage 0 0) ⟨17, 4⟩ = true ∧
    Frac.same (gradientAt .sobel ⟨"img", .int16, 1, 3, 4, 0⟩ ⟨0, 0, 1, 1, 2, 0, 0, 0⟩ exGImage 0 1) ⟨23, 4⟩ = true ∧
    Frac.same (gradientAt .sobel ⟨"img", .int16, 1, 3, 4, 0⟩ ⟨0, 0, 1, 1, 2, 0, 0, 1⟩ exGImage 0 0) ⟨3, 4⟩ = true ∧
    Frac.same (gradientAt .sobel ⟨"img", .int16, 1, 3, 4, 0⟩ ⟨0, 0, 1, 1, 2, 0, 0, 1⟩ exGImage 0 1) ⟨5, 4⟩ = true := by
  decide +kernel
-- `gradient_kernel_spec`: the coefficients of the three kernels, exactly
example : Frac.same (makeKernel (α := Frac) .sobel).2.1 ⟨1, 2⟩ = true ∧ Frac.same (makeKernel (α := Frac) .scharr).1 ⟨3, 16⟩ = true ∧
    Frac.same (makeKernel (α := Frac) .prewitt).2.2 ⟨1, 3⟩ = true := by decide +kernel
-- `gradient_select_spec` / `gradient_missing_spec`: the flattened gradient columns of samples [0, 1, 0]: gx, gy exact, magnitude
-- and angle have no exact value (NaN of `Frac`); sample 1 has no image: NaN everywhere
example : (exGDataset.bind (fun ds => ds.flatten (α := Frac) [0, 1, 0] ⟨0, 0⟩)).map
    (fun rows => Frac.sameRows (rows.map (·.take 8))
      [[⟨17, 4⟩, ⟨23, 4⟩, ⟨3, 4⟩, ⟨5, 4⟩, ⟨0, 0⟩, ⟨0, 0⟩, ⟨0, 0⟩, ⟨0, 0⟩],
       [⟨0, 0⟩, ⟨0, 0⟩, ⟨0, 0⟩, ⟨0, 0⟩, ⟨0, 0⟩, ⟨0, 0⟩, ⟨0, 0⟩, ⟨0, 0⟩],
       [⟨17, 4⟩, ⟨23, 4⟩, ⟨3, 4⟩, ⟨5, 4⟩, ⟨0, 0⟩, ⟨0, 0⟩, ⟨0, 0⟩, ⟨0, 0⟩]]) = some true := by decide +kernel
-- `gradient_history_view`: shuffling the gy feature by [1, 0] swaps its two rows, dropping gx makes it NaN, the other
-- gradient features keep their views
example : (exGDataset.bind (fun ds => ((ds.run [.shuffle 1 [1, 0], .drop 0]).flatten (α := Frac) [0, 1] ⟨0, 0⟩))).map
    (fun rows => Frac.sameRows (rows.map (·.take 4))
      [[⟨0, 0⟩, ⟨0, 0⟩, ⟨0, 0⟩, ⟨0, 0⟩], [⟨0, 0⟩, ⟨0, 0⟩, ⟨3, 4⟩, ⟨5, 4⟩]]) = some true := by decide +kernel
-- `selectUnwritten_iff`: in the 3x3 stack every gradient feature is 1x1, described as scalar, and the scalar select is the
-- unserved overload (not dropped: unwritten); in `exGDataset` no feature has one
example : (exGDataset33.map (fun ds => (ds.features, (ds.feature 5).map (fun f => (f.name, f.isScalar)),
    ds.selectForeign 5 .scalar, ds.selectForeign 5 .struct, (ds.step (.drop 5)).selectForeign 5 .scalar))) =
    some (8, some ("prewitt::gy(img33[channel::1])", true), some false, none, some true) := by decide +kernel
example : (exGDataset.map (fun ds => (List.range ds.features).all (fun f =>
    [Overload.sclass, .mclass, .scalar, .struct].all (fun o => ds.selectForeign f o == none)))) = some true := by decide +kernel

/-! ### computers plugged into the generator templates (elemwise.h, pairwise.h, elemwise_input.h, pairwise_input.h) -/

/-- **which features a template generator makes** (`do_fit` of the 4 + 16 input selections): element-wise — the given input
    features (all for the default constructor) of the selected kind, in order; pair-wise — `make_pairwise` of the selection of
    kind 1 from the first list and of kind 2 from the second; every row's source(s) are input features of the selected
    kind(s), and the flags start cleared. -/
theorem custom_fit_spec (st : Storage) (c : Custom) (l1 l2 : List Nat) (g : Gen) (h : fit st (.custom c) l1 l2 = some g) :
    g.kind = .custom c ∧ g.WF st ∧ g.infos = List.replicate g.mapping.length 0 ∧
    (c.in2 = none → selectFeatures st c.in1.accepts l1 = some g.mapping) ∧
    (∀ k2, c.in2 = some k2 → ∃ m1 m2, selectFeatures st c.in1.accepts l1 = some m1 ∧
      selectFeatures st k2.accepts l2 = some m2 ∧ g.mapping = makePairwise m1 m2) ∧
    (∀ (i : Nat) (m : FMap), g.mapping[i]? = some m → ∃ f1, st.inputFeature m.orig = some f1 ∧ c.in1.accepts f1 = true ∧
      ∀ k2, c.in2 = some k2 → ∃ f2, st.inputFeature m.orig2 = some f2 ∧ k2.accepts f2 = true) := by
  have hwf := fit_wf st _ l1 l2 g h
  obtain ⟨hkind, hinf, m1, h1, hmap⟩ := fit_inv st _ l1 l2 g h
  refine ⟨hkind, hwf, hinf, ?_, ?_, ?_⟩
  · intro hc
    simp only [hc] at hmap
    rw [hmap]
    exact h1
  · intro k2 hc
    simp only [hc] at hmap
    obtain ⟨m2, h2, hm⟩ := hmap
    exact ⟨m1, m2, h1, h2, hm⟩
  · intro i m hm
    obtain ⟨f1, hf1, hacc, _, _⟩ := hwf.rows i m hm
    rw [hkind] at hacc
    exact ⟨f1, hf1, hacc, fun k2 hc => hwf.rows2 c k2 hkind hc i m hm⟩

section
variable {α : Type} [Scalar α]

/-- **views of a template generator's feature**, for ANY flag state: the per-feature view is the operator's result at every
    position of the sample list (`customValue`: a function of the stored value(s); missing as soon as one input is missing),
    as labels / hit rows / scalars / tensors with the markers −1 / NaN; all markers when dropped, read through the
    permutation when shuffled; and the block `flatten` writes is the documented encoding of that view (one-hot ±1 over
    `classes − 1` columns with the guard `class_index < colsize`, `2·hit − 1`, identity, row-major; NaN for missing). -/
theorem custom_select_spec (st : Storage) (hcls : ClassValuesOk st) (g : Gen) (hg : g.WF st) (c : Custom)
    (hk : g.kind = .custom c) (i : Nat) (m : FMap) (hm : g.mapping[i]? = some m) (ss : List Nat) :
    g.select (α := α) st i ss = some (customSpecView st c m (g.flagOf i) ss) ∧
    g.segments (α := α) st i ss = encodeView (customCols c.out) (customSpecView st c m (g.flagOf i) ss) ∧
    g.colsize i = customCols c.out ∧
    (∀ s, st.stored (st.inputIndex m.orig) s = none → customValue st c m s = none) ∧
    (∀ s, c.in2 ≠ none → st.stored (st.inputIndex m.orig2) s = none → customValue st c m s = none) := by
  have hsel : g.select (α := α) st i ss = some (customSpecView st c m (g.flagOf i) ss) := by
    rw [select_by_flag st g i m hm ss, hk, specSelect_custom]
  have hcol : g.colsize i = customCols c.out := by simp [Gen.colsize, hk]
  refine ⟨hsel, ?_, hcol, ?_, ?_⟩
  · obtain ⟨v, hv, hseg⟩ := segments_eq_encode (α := α) st hcls g hg i m hm ss
    rw [hsel] at hv
    cases hv
    rw [hseg, hcol]
  · intro s hs
    unfold customValue
    cases c.in2 <;> simp [hs]
  · intro s hc hs
    unfold customValue
    cases hc2 : c.in2 with
    | none => exact absurd hc2 hc
    | some k2 =>
      simp only [hs]
      cases st.stored (st.inputIndex m.orig) s <;> rfl

end

/-- **descriptors of a template generator's features**: named `<name>(<source>)` resp. `<name>(<source1>,<source2>)`; a
    single-label feature with 3 labels, a multi-label one with 2, a `float64` scalar, a `float64` tensor of dims `(3,1,1)`;
    the columns reserved are the columns written, and `dataset_t::select` accepts exactly the overload the generator
    implements. -/
theorem custom_descriptor_spec (st : Storage) (g : Gen) (hg : g.WF st) (c : Custom) (hk : g.kind = .custom c)
    (i : Nat) (m : FMap) (hm : g.mapping[i]? = some m) :
    ∃ name, g.feature st i = some (customDesc c.out name) ∧
      featureColumns (customDesc c.out name) = g.colsize i ∧
      (∀ o : Overload, o.matches (customDesc c.out name) = true ↔ o = c.out) ∧ g.kind.generated = c.out.code := by
  obtain ⟨f, name, _, _, _, hfeat⟩ := feature_eq st g hg i m hm
  rw [hk] at hfeat
  obtain ⟨desc, hd, hcols⟩ := featureColumns_eq_colsize st g hg i (List.getElem?_eq_some_iff.1 hm).1
  rw [hfeat] at hd
  cases hd
  exact ⟨name, hfeat, hcols,
    fun o => ⟨fun h => matches_unique o c.out _ h (matches_customDesc c.out name), fun h => h ▸ matches_customDesc _ name⟩,
    by rw [hk]; rfl⟩

/-! ### range checks -/

section
variable {α : Type} [Scalar α]

/-- A sample index `< 0` or `≥ samples()` anywhere in the list makes every sample-indexed accessor throw; a feature index
    `< 0` or `≥ features()` makes every feature-indexed accessor throw (nothing is read). -/
theorem index_out_of_range_rejected (ds : Dataset) (samples : List Int) (f : Int) (o : Overload) (buf0 : List (List α))
    (perm : List Nat) :
    ((∃ s ∈ samples, s < 0 ∨ Int.ofNat ds.st.samples ≤ s) →
      (ds.select (α := α) samples f o = none ∧ ds.flattenInto samples buf0 = none ∧
       ds.targets (α := α) samples = none ∧ ds.selectTarget (α := α) samples o = none ∧
       ds.shuffled f samples = none)) ∧
    ((f < 0 ∨ Int.ofNat ds.features ≤ f) →
      (ds.select (α := α) samples f o = none ∧ (ds.checkFeature f).bind ds.feature = none ∧
       ds.drop f = none ∧ ds.shuffle f perm = none ∧ ds.shuffled f samples = none)) := by
  constructor
  · intro h
    have hc := checkSamples_none ds samples h
    simp only [Dataset.select, Dataset.flattenInto, Dataset.targets, Dataset.selectTarget, Dataset.shuffled, hc,
      Option.bind_eq_bind, Option.bind_none, and_self]
  · intro h
    have hc := checkFeature_none ds f h
    refine ⟨?_, ?_, ?_, ?_, ?_⟩
    · simp only [Dataset.select, hc]
      cases ds.checkSamples samples <;> simp only [Option.bind_eq_bind, Option.bind_none, Option.bind_fun_none]
    · simp only [hc, Option.bind_none]
    · simp only [Dataset.drop, Dataset.onFeature, hc, Option.pure_def, Option.bind_eq_bind, Option.bind_none]
    · simp only [Dataset.shuffle, Dataset.onFeature, hc, Option.pure_def, Option.bind_eq_bind, Option.bind_none]
    · simp only [Dataset.shuffled, hc]
      cases ds.checkSamples samples <;> simp only [Option.bind_eq_bind, Option.bind_none, Option.bind_fun_none]

/-- the empty index list is a list of sample indices: it yields empty views, not an exception -/
theorem empty_index_list_accepted (ds : Dataset) :
    ds.checkSamples [] = some [] ∧
    ds.flattenInto (α := α) [] [] = some [] ∧
    (∀ t desc, ds.st.target = some t → ds.target = some desc →
      ds.targets (α := α) [] = some (ds.targetDims, [])) := by
  refine ⟨rfl, ?_, ?_⟩
  · simp [Dataset.flattenInto, Dataset.checkSamples, flattenGens_nil]
  · intro t desc ht hd
    simp [Dataset.targets, Dataset.checkSamples, ht, hd]

end

/-! ### non-vacuity: a concrete dataset (exact scalars, `none` plays NaN) -/

/-- exact scalars for the examples -/
instance exampleScalar : Scalar (Option Int) :=
  ⟨some, none, fun a b => a.bind (fun x => b.map (x * ·)), fun a b => a.bind (fun x => b.map (x - ·)),
   fun a b => a.bind (fun x => b.map (x + ·)),
   fun a b => a.bind (fun x => b.bind (fun y => if y ≠ 0 ∧ x % y = 0 then some (x / y) else none)),
   fun _ => none, fun _ _ => none⟩

/-- 3 samples; a 3-class label, an int16 scalar, a 2-label multi-label feature, a 1x2x1 tensor, a second scalar -/
def exFeats : List Feature :=
  [⟨"f0", .sclass, 1, 1, 1, 3⟩, ⟨"f1", .int16, 1, 1, 1, 0⟩, ⟨"f2", .mclass, 1, 1, 1, 2⟩, ⟨"f3", .float64, 1, 2, 1, 0⟩,
   ⟨"f4", .int16, 1, 1, 1, 0⟩]

def exWrites : List (Nat × Nat × List Int) :=
  [(0, 0, [2]), (2, 0, [0]), (0, 1, [-5]), (1, 1, [7]), (1, 2, [1, 0]), (2, 3, [4, -4]), (1, 4, [3]), (2, 4, [2])]

/-- the harness's `do_load`: `resize`, then one `set` per given value -/
def exStorage : Option Storage :=
  exWrites.foldlM (fun st w => st.set w.1 w.2.1 w.2.2) (resize 3 exFeats 9)

def exGens : List (GKind × List Nat × List Nat) :=
  [(.sclassId, [], []), (.scalarId, [1], []), (.mclassId, [], []), (.structId, [], []), (.product, [1, 4], [1, 4])]

def exDataset : Option Dataset :=
  exStorage.bind (fun st => exGens.foldlM (fun (ds : Dataset) k => ds.add k.1 k.2.1 k.2.2) ⟨st, []⟩)

-- the hypotheses of the theorems hold for it (so the theorems say something about this dataset and its 2^… histories)
example : ∃ ds, exDataset = some ds ∧ ds.WF ∧ ClassValuesOk ds.st ∧ ∀ f, ds.flag f = .none := by
  have hst : ∃ st, exStorage = some st := by
    have : exStorage.isSome = true := by decide +kernel
    exact Option.isSome_iff_exists.1 this
  obtain ⟨st, hst⟩ := hst
  have hds : ∃ ds, exDataset = some ds := by
    have : exDataset.isSome = true := by decide +kernel
    exact Option.isSome_iff_exists.1 this
  obtain ⟨ds, hds⟩ := hds
  have h0 := resize_wf 3 exFeats 9 (by decide +kernel)
  obtain ⟨hwf, hcls, _⟩ := sets_wf exWrites _ st h0 (classValuesOk_resize 3 exFeats 9) hst (by decide +kernel)
  have hadd : exGens.foldlM (fun (ds : Dataset) k => ds.add k.1 k.2.1 k.2.2) ⟨st, []⟩ = some ds := by
    simpa [exDataset, hst] using hds
  obtain ⟨h1, h2, h3⟩ := adds_wf exGens ⟨st, []⟩ ds ⟨hwf, by simp⟩ (by simp) hadd
  exact ⟨ds, hds, h1, by rw [h2]; exact hcls, flag_fresh ds h3⟩

-- the two int16 scalars share the int16 pool (rows 0 and 1), the label and the hits share the uint8 pool (rows 0 and 1..2)
example : (exStorage.map (·.ranges)) = some [(0, 1), (0, 1), (1, 3), (0, 2), (1, 2)] := by decide +kernel
-- D: set values are read back, everything else is missing
example : (exStorage.map (fun st => [st.stored 0 0, st.stored 0 1, st.stored 2 1, st.stored 3 2, st.stored 4 0])) =
    some [some [2], none, some [1, 0], some [4, -4], none] := by decide +kernel
-- bookkeeping: 7 features (label, scalar f1, hits, tensor, 3 products), 2 + 1 + 2 + 2 + 3 columns
example : (exDataset.map (fun ds => (ds.features, ds.columns, ds.colMap))) =
    some (7, 10, [0, 0, 1, 2, 2, 3, 3, 4, 5, 6]) := by decide +kernel
-- the flattened view of samples [2, 0, 0] (a repetition): one-hot over 2 columns (class 2 = all −1), NaN for missing
example : (exDataset.bind (fun ds => ds.flatten (α := Option Int) [2, 0, 0] none)) =
    some [[some 1, some (-1), none, none, none, some 4, some (-4), none, none, some 4],
          [some (-1), some (-1), some (-5), none, none, none, none, some 25, none, none],
          [some (-1), some (-1), some (-5), none, none, none, none, some 25, none, none]] := by decide +kernel
-- index 3 = samples() is rejected, -1 is rejected, the empty list is an empty view
example : (exDataset.bind (fun ds => ds.flatten (α := Option Int) [3] none)) = none := by decide +kernel
example : (exDataset.bind (fun ds => ds.flatten (α := Option Int) [0, -1] none)) = none := by decide +kernel
example : (exDataset.bind (fun ds => ds.flatten (α := Option Int) [] none)) = some [] := by decide +kernel
-- drop makes exactly that feature missing; shuffle reads it through the permutation; undrop restores
example : (exDataset.bind (fun ds => ((ds.step (.drop 1)).select (α := Option Int) [0, 1, 2] 1 .scalar).map
    (fun v => match v with | .scalar x => x | _ => []))) = some [none, none, none] := by decide +kernel
example : (exDataset.bind (fun ds => ((ds.step (.shuffle 1 [2, 0, 1])).select (α := Option Int) [0, 1, 2] 1 .scalar).map
    (fun v => match v with | .scalar x => x | _ => []))) = some [none, some (-5), some 7] := by decide +kernel
example : (exDataset.bind (fun ds => ((ds.run [.drop 1, .shuffle 0 [1, 2, 0], .undrop]).select (α := Option Int)
    [0, 1, 2] 1 .scalar).map (fun v => match v with | .scalar x => x | _ => []))) =
    some [some (-5), some 7, none] := by decide +kernel

/-! non-vacuity of the template-generator theorems (`custom_*`): `exStorage` with a scalar → label computer on every scalar
    feature and a (struct, sclass) → scalar pair-wise computer -/

def exCGens : List (GKind × List Nat × List Nat) :=
  [(.custom ⟨.scalar, none, .sclass⟩, [], []), (.custom ⟨.struct, some .sclass, .scalar⟩, [], [])]

def exCDataset : Option Dataset :=
  exStorage.bind (fun st => exCGens.foldlM (fun (ds : Dataset) k => ds.add k.1 k.2.1 k.2.2) ⟨st, []⟩)

-- the hypotheses of `custom_select_spec` / `custom_descriptor_spec` / `flatten_eq_encode_select` / `history_view` hold
example : ∃ ds, exCDataset = some ds ∧ ds.WF ∧ ds.NonDegenerate ∧ ClassValuesOk ds.st ∧
    (ds.gens.map (·.kind)) = exCGens.map (·.1) := by
  obtain ⟨st, hst⟩ : ∃ st, exStorage = some st := Option.isSome_iff_exists.1 (by decide +kernel)
  obtain ⟨ds, hds⟩ : ∃ ds, exCDataset = some ds := Option.isSome_iff_exists.1 (by decide +kernel)
  have h0 := resize_wf 3 exFeats 9 (by decide +kernel)
  obtain ⟨hwf, hcls, _⟩ := sets_wf exWrites _ st h0 (classValuesOk_resize 3 exFeats 9) hst (by decide +kernel)
  have hadd : exCGens.foldlM (fun (ds : Dataset) k => ds.add k.1 k.2.1 k.2.2) ⟨st, []⟩ = some ds := by
    simpa [exCDataset, hst] using hds
  obtain ⟨h1, h2, _⟩ := adds_wf exCGens ⟨st, []⟩ ds ⟨hwf, by simp⟩ (by simp) hadd
  have hnd : (exCDataset.map (fun ds => ds.gens.all Gen.nonDegenerateB)) = some true := by decide +kernel
  have hk : (exCDataset.map (fun ds => ds.gens.map (·.kind))) = some (exCGens.map (·.1)) := by decide +kernel
  rw [hds] at hnd hk
  simp only [Option.map_some, Option.some.injEq] at hnd hk
  exact ⟨ds, hds, h1, fun g hg => (nonDegenerateB_iff g).1 (List.all_eq_true.1 hnd g hg), by rw [h2]; exact hcls, hk⟩
-- `custom_fit_spec` / `custom_descriptor_spec`: labels of the two scalars f1, f4; the pair (f3, f0); 2 + 2 + 1 columns
example : (exCDataset.map (fun ds => (ds.featureList, ds.colMap))) =
    some ([⟨"lab(f1)", .sclass, 1, 1, 1, 3⟩, ⟨"lab(f4)", .sclass, 1, 1, 1, 3⟩, ⟨"sum(f3,f0)", .float64, 1, 1, 1, 0⟩],
          [0, 0, 1, 1, 2]) := by decide +kernel
-- `custom_select_spec`: labels `value mod 3` (−5 ↦ 1, 7 ↦ 1, 3 ↦ 0, 2 ↦ 2 = the class without a column), missing ↦ NaN;
-- the pair needs both values: only sample 2 has the tensor (4, −4) (summary 4 − 8 = −4) and the label 0: −4 + 2·0
example : (exCDataset.bind (fun ds => ds.flatten (α := Option Int) [0, 1, 2] none)) =
    some [[some (-1), some 1, none, none, none],
          [some (-1), some 1, some 1, some (-1), none],
          [none, none, some (-1), some (-1), some (-4)]] := by decide +kernel
example : (exCDataset.bind (fun ds => ((ds.run [.shuffle 1 [2, 0, 1], .drop 0]).select (α := Option Int) [0, 1, 2] 1 .sclass).map
    (fun v => match v with | .sclass x => x | _ => []))) = some [2, -1, 0] := by decide +kernel

end NanoVerif.Dataset
