import NanoVerif.Gen.Flags
import NanoVerif.Proofs.C06GradFn
import NanoVerif.Proofs.C06GradLoss
import NanoVerif.Proofs.C06GradKink
import NanoVerif.Proofs.C06Length
import NanoVerif.Proofs.C06Batch
import NanoVerif.Proofs.C06Base
import NanoVerif.Proofs.C06Gen
import NanoVerif.Proofs.C06Sizes
/-!
  C06 — values, gradients and convexity flags of functions, losses and constraints are truthful.

  Everything is stated about the executable models `Model/Loss.lean` / `Model/Functions.lean` (the definitions the driver
  runs at `Float` against the implementation), in exact arithmetic: over an arbitrary linear ordered field `α` for the
  piecewise-polynomial kernels (with an arbitrary, unused `Transc α`), over `ℝ` where exp / log / atan occur.
  `X_subgrad` is the inequality of the statement, `f(z) ≥ f(x) + g(x)·(z − x) (+ μ/2 ‖z − x‖²)`, for the value `f` and the
  (sub-)gradient `g` the code returns, for ALL points `x`, `z` of the right dimension.
  `X_hasDerivAt_line` is the first clause of the statement, "the returned (sub)gradient is the derivative of the returned
  value": `HasDerivAt (fun t => f (x + t • d)) (g(x)·d) 0` for ALL `x`, `d` — unconditional for the objects that declare
  themselves smooth, at every point off the kinks / ties (`…_off_kinks`, `…_off_ties`) for the others.
  `flags_covered` / `smooth_covered` / `gradient_covered` / `strong_covered` tie the theorems to the flags the implementation
  declares (`Gen/Flags.lean`, regenerated on every run).

  ## Gap table: every function of the anchored files
  status: `modelled` (Lean definition named), `translated` (regenerated into Gen/), `oracle` (parameter of the model, contract
  stated; how the contract is checked), `outside` (why).

  src/function/benchmark/*.cpp (`do_vgrad`, constructors, `make`, `clone`)
    sphere, axis_ellipsoid, schumer_steiglitz, qing, styblinski_tang, chung_reynolds, sargan, zakharov, rotated_ellipsoid,
    trid, chained_lq, rosenbrock, dixon_price, powell, maxq, maxhilb, chained_cb3I/II, exponential, cauchy ::do_vgrad
                                        modelled   Fn.sphereF/G … Fn.cauchyF/G (Model/Functions.lean)
    kinks, quadratic, geometric ::do_vgrad
                                        modelled   Fn.kinksF/G, quadraticF/G, geomF/G; the matrices drawn at construction
                                                   (make_random_matrix / _vector, seed 42) are ORACLE parameters: reproduced in the
                                                   harness with the constructor's own calls and handed to the model; contract of
                                                   `quadratic` (A self-adjoint, PSD, μ ≤ λ_min) monitored on every `fn flags` op
                                                   (python Jacobi), theorem under the contract: quadratic_subgrad(_mu)
    maxquad ::do_vgrad                  modelled   Fn.maxquadF/G; the two `fill()` (exp/cos/sin formulas) are ORACLE: recomputed in
                                                   the harness by a copy of the formulas; contract (A_k symmetric, diagonally
                                                   dominant, non-negative diagonal ⇒ PSD by Gershgorin, not formalised) monitored
                                                   on every `fn flags maxquad` op
    elastic_net.cpp function_enet_t<tloss>::do_vgrad, elastic_net.h loss_{mse,mae,cauchy,hinge,logistic}_t
                                        modelled   Fn.enetF/G, enetMseV/G … enetLogisticV/G
    linear.cpp synthetic_linear_t / _sclass_t / _scalar_t (random data of the elastic-net prototypes)
                                        oracle     data produced by the constructor's own calls in the harness; the theorems hold
                                                   for EVERY data matrix / bias / targets (no contract needed)
    every constructor's `function_t(id, size)` and `make(dims, summands)`
                                        modelled   FnBase.SizeRule / sizeBy / makeSize; sizes_covered (dump for dims 1..32),
                                                   powell_size, powell_gradient_complete
    every constructor's convex(…) / smooth(…) / strong_convexity(…)
                                        dumped     Gen/Flags.lean rows (run-time dump); flags_covered … strong_values_covered
    clone()                             outside    C19's subject (clone canonical form)
  src/function.cpp
    function_t::function_t, convex / smooth / strong_convexity setters + getters (function.h)
                                        dumped     Gen/Flags.lean (what the getters return after construction)
    constrain ×4, valid, constraints    modelled   FnBase.step (.cg / .cb / .cd / .cv / .valid), function_constrain_acceptance,
                                                   function_constraints_invariant, function_box_counts, function_valid_iff
    vgrad (call counters), fcalls, gcalls, clear_statistics
                                        modelled   FnBase.step (.eval / .clr), function_call_counters
    name                                outside    a string; no clause of the statement
    make(dims, summands) base version   outside    returns null; never reached through the factory
    all()                               dumped     the ids of Gen/Flags.lean; static_checks: ≥ 48 prototypes
    make(config, regex)                 outside    a filter over `all()` by the flags + the dims schedule 1,2,3,4,8,…: test utility
  src/function/util.cpp
    grad_accuracy                       outside    the library's own difference-quotient test (used by its unit tests); the
                                                   python oracle evaluates the same clause independently (check_cd)
    is_convex                           outside    the library's own chord test; run as a MONITOR in every `fn cvx` op: it must accept
                                                   every pair of an object whose sub-gradient inequality holds (key is_convex-rejects)
    convex(matrix), strong_convexity(matrix)
                                        oracle     Eigen eigenvalues; contract "PSD iff convex, μ = max(0, λ_min)" monitored on every
                                                   quadratic-constraint op and every `fn flags quadratic` op by python Jacobi rotations;
                                                   theorems under the contract: cquad_subgrad(_mu), quadratic_subgrad(_mu)
  include/nano/loss/flatten.h
    flatten_loss_t::error / value / vgrad (loop over the samples of 4-D tensors)
                                        modelled   Loss.batchMap / batchFlat / sampleAt (Model/LossBatch.lean); loss_batch_*
    detail::{exponential,hinge,squared_hinge,savage,tangent,mae,mse,cauchy}_t::value / vgrad
                                        translated Gen/LossKernels.lean <k>V / <k>G / <k>Value / <k>Vgrad = the model's text by rfl
                                                   (model_loss_*_are_generated)
    detail::logistic_t::value / vgrad   translated Gen/LossKernels.lean logisticV / logisticG (scalar loop body), rfl
    detail::classnll_t::value / vgrad   modelled   Loss.classnllV / classnllG (hand-written: two loops, running maximum)
    static constexpr convex / smooth    translated Gen.LossKernels.kernelFlags; static_checks compares with the run-time dump
  include/nano/loss/error.h
    absdiff_t::error                    translated Gen.LossKernels.absdiffError = Loss.absdiffE by rfl
    mclass_t::error                     translated Gen.LossKernels.mclassEdge / mclassWrong; model_count_edges_is_generated (induction)
    sclass_t::error                     modelled   Loss.sclassE / argmax (hand-written: branch on the number of outputs)
  include/nano/loss/class.h  is_pos_target  modelled  Loss.isPos / `0 < t`;  class_target: outside (target construction, C08)
  src/loss/pinball.cpp
    pinball_loss_t::value / vgrad       translated Gen.LossKernels.pinballV / pinballG, rfl;  error = value: modelled (Err.value)
    constructor (alpha ∈ [0, 1])        modelled   hypothesis of pinball_subgrad / loss_nonneg; necessity: pinball_negative_outside_domain
  src/loss.cpp  loss_t::all()           modelled   Loss.parseId (17 ids);  convex / smooth setters: dumped (Gen/Flags.lean)
  src/function/constraint.cpp
    ::vgrad ×7                          modelled   Fn.ballF/G, linearF/G, cquadF/G, minimumF/G, maximumF/G (and Constraint.C.vgrad, C05)
    ::convex / ::smooth / ::strong_convexity ×5 and their visitors
                                        dumped     Gen/Flags.lean ct rows; quadratic: ORACLE nano::convex (see util.cpp) on the
                                                   SYMMETRIC part (`symmetrized`): cquad_flags_need_symmetric_part
    ::valid ×11, ::compatible ×5, is_equality, count_equalities / _inequalities
                                        modelled   Constraint.C.valid / compatible / isEq / countEq / countIneq (C05's model), used by
                                                   FnBase.step; function_valid_iff, function_constraints_invariant
    functional_t ctors / operator=      outside    deep copy of the wrapped function (C19 clone)
  src/linear/function.cpp, src/gboost/function.cpp (scale / bias / grads), src/tuner/surrogate.cpp (fit / quadratic)
    do_vgrad                            modelled   as COMPOSITIONS: affine_comp_subgrad / sum_subgrad / ridge_(partial_)subgrad_mu and the
                                                   _hasDerivAt_line versions (the loss kernel's inequality / derivative is inherited);
                                                   their plumbing (iterator, accumulators, threads) is C09's model (Model/ObjectiveIter.lean),
                                                   the surrogate's feature map and fit are C13's (Model/TunerSurrogate.lean: quadTerms,
                                                   fitValue / fitGrad, quadValue / quadGrad); here: search on the real objects incl.
                                                   multi-output and subset-of-samples cases (`linsub`, `gbiassub`)
    constructors (convex / smooth / strong_convexity from the loss and the regularisation)
                                        outside    flags returned with every cd / cvx / climb answer and tested against them; the
                                                   declared μ of linear::function_t is the OPEN FINDING (bias direction)
    surrogate_tuner_t::do_optimize      outside    C13
-/

namespace NanoVerif.C06
open NanoVerif.Loss NanoVerif.Fn NanoVerif.Gen.Flags

/-! ## losses: the sub-gradient inequality of every kernel flagged convex -/

section field
variable {α : Type} [Field α] [LinearOrder α] [IsStrictOrderedRing α] [Transc α]
set_option linter.unusedSectionVars false

theorem elementwise_sum_subgrad (k g : α → α → α) (hk : ∀ t x z, k t z ≥ k t x + g t x * (z - x))
    (t x z : List α) (hx : x.length = t.length) (hz : z.length = t.length) :
    sum2 k t z ≥ sum2 k t x + dot (map2 g t x) (vsub z x) :=
  sum2_subgrad k g hk t x z hx hz

theorem mae_subgrad (a eps : α) (t x z : List α) (hx : x.length = t.length) (hz : z.length = t.length) :
    value .mae a eps t z ≥ value .mae a eps t x + dot (vgrad .mae a t x) (vsub z x) :=
  sum2_subgrad maeV maeG maeK_subgrad t x z hx hz

theorem mse_subgrad (a eps : α) (t x z : List α) (hx : x.length = t.length) (hz : z.length = t.length) :
    value .mse a eps t z ≥ value .mse a eps t x + dot (vgrad .mse a t x) (vsub z x) :=
  sum2_subgrad_scaled (1 / 2) mseV mseG mseK_subgrad t x z hx hz

theorem hinge_subgrad (a eps : α) (t x z : List α) (hx : x.length = t.length) (hz : z.length = t.length) :
    value .hinge a eps t z ≥ value .hinge a eps t x + dot (vgrad .hinge a t x) (vsub z x) :=
  sum2_subgrad hingeV hingeG hingeK_subgrad t x z hx hz

theorem sqhinge_subgrad (a eps : α) (t x z : List α) (hx : x.length = t.length) (hz : z.length = t.length) :
    value .sqhinge a eps t z ≥ value .sqhinge a eps t x + dot (vgrad .sqhinge a t x) (vsub z x) :=
  sum2_subgrad sqhingeV sqhingeG sqhingeK_subgrad t x z hx hz

/-- pinball, for every `alpha` of the parameter's domain `[0, 1]` -/
theorem pinball_subgrad (a eps : α) (h0 : 0 ≤ a) (h1 : a ≤ 1) (t x z : List α)
    (hx : x.length = t.length) (hz : z.length = t.length) :
    value .pinball a eps t z ≥ value .pinball a eps t x + dot (vgrad .pinball a t x) (vsub z x) :=
  sum2_subgrad (pinballV a) (pinballG a) (pinballK_subgrad a h0 h1) t x z hx hz

end field

theorem exponential_subgrad (a eps : ℝ) (t x z : List ℝ) (hx : x.length = t.length) (hz : z.length = t.length) :
    value .exponential a eps t z ≥ value .exponential a eps t x + dot (vgrad .exponential a t x) (vsub z x) :=
  sum2_subgrad expV expG expK_subgrad t x z hx hz

/-- logistic as coded (both branches of the `x < 1` switch) -/
theorem logistic_subgrad (a eps : ℝ) (t x z : List ℝ) (hx : x.length = t.length) (hz : z.length = t.length) :
    value .logistic a eps t z ≥ value .logistic a eps t x + dot (vgrad .logistic a t x) (vsub z x) :=
  sum2_subgrad logisticV logisticG logisticK_subgrad t x z hx hz

/-- class negative log-likelihood without the `ε` inside the logarithm: for ANY shifts (the code uses the maximal
    output), the soft-max minus the positive-target indicator is a gradient inequality of log-sum-exp -/
theorem classnll_subgrad (cx cz : ℝ) (t x z : List ℝ) (hne : t ≠ []) (hx : x.length = t.length)
    (hz : z.length = t.length) :
    classnllShift 0 cz t z ≥ classnllShift 0 cx t x + dot (classnllGShift cx t x) (vsub z x) := by
  have hxne : x ≠ [] := ne_nil_of_length_eq hne hx
  have h := lse_tangent cx cz x z hxne (hz.trans hx.symm)
  unfold classnllShift classnllGShift
  simp only [tlog_eq, zero_add]
  rw [classnllG_dot cx (expSum cx x) t x z hx hz]
  linarith

/-- the `ε` inside the logarithm moves the value up, by at most `log(1 + ε)`: the sum of exponentials is `≥ 1`, the
    maximal output contributing `exp 0` -/
theorem classnllV_eps_close (eps : ℝ) (heps : 0 ≤ eps) (t o : List ℝ) (hne : o ≠ []) :
    classnllV 0 t o ≤ classnllV eps t o ∧ classnllV eps t o ≤ classnllV 0 t o + Real.log (1 + eps) := by
  have hS := expSum_ge_one (maxCoeff o) o (maxCoeff_mem o hne)
  have h1 : Real.log (expSum (maxCoeff o) o) ≤ Real.log (eps + expSum (maxCoeff o) o) :=
    Real.log_le_log (by linarith) (by linarith)
  have h2 : Real.log (eps + expSum (maxCoeff o) o) ≤ Real.log (expSum (maxCoeff o) o) + Real.log (1 + eps) := by
    rw [← Real.log_mul (by linarith) (by linarith)]
    exact Real.log_le_log (by linarith) (by linarith [mul_le_mul_of_nonneg_right hS heps])
  simp only [classnllV, classnllShift, tlog_eq, zero_add]
  constructor <;> linarith

/-- class negative log-likelihood AS CODED (`value` has `+ε` inside the logarithm, `vgrad` has not; shift = maximal
    output): the inequality holds up to the additive constant `log(1 + ε)` (≤ 2.3e-16 for the machine epsilon) -/
theorem classnll_subgrad_eps (a eps : ℝ) (heps : 0 ≤ eps) (t x z : List ℝ) (hne : t ≠ [])
    (hx : x.length = t.length) (hz : z.length = t.length) :
    value .classnll a eps t z ≥ value .classnll a eps t x + dot (vgrad .classnll a t x) (vsub z x)
      - Real.log (1 + eps) := by
  have hxne : x ≠ [] := ne_nil_of_length_eq hne hx
  have hzne : z ≠ [] := ne_nil_of_length_eq hne hz
  have h0 : classnllV 0 t z ≥ classnllV 0 t x + dot (classnllG t x) (vsub z x) :=
    classnll_subgrad (maxCoeff x) (maxCoeff z) t x z hne hx hz
  have hz' := (classnllV_eps_close eps heps t z hzne).1
  have hx' := (classnllV_eps_close eps heps t x hxne).2
  show classnllV eps t z ≥ classnllV eps t x + dot (classnllG t x) (vsub z x) - Real.log (1 + eps)
  linarith

/-! ## values and errors -/

/-- every loss value is non-negative (class-nll: see `classnll_nonneg`); pinball for `alpha ∈ [0, 1]` -/
theorem loss_nonneg (k : Kind) (hk : k ≠ .classnll) (a eps : ℝ) (h0 : 0 ≤ a) (h1 : a ≤ 1) (t o : List ℝ) :
    0 ≤ value k a eps t o := by
  cases k with
  | mae => exact sum2_nonneg _ maeV_nonneg t o
  | mse => exact mul_nonneg (by norm_num) (sum2_nonneg _ mseV_nonneg t o)
  | cauchy => exact mul_nonneg (by norm_num) (sum2_nonneg _ cauchyV_nonneg t o)
  | hinge => exact sum2_nonneg _ hingeV_nonneg t o
  | sqhinge => exact sum2_nonneg _ sqhingeV_nonneg t o
  | savage => exact sum2_nonneg _ savageV_nonneg t o
  | tangent => exact sum2_nonneg _ tangentV_nonneg t o
  | logistic => exact sum2_nonneg _ logisticV_nonneg t o
  | exponential => exact sum2_nonneg _ expV_nonneg t o
  | classnll => exact absurd rfl hk
  | pinball => exact sum2_nonneg _ (pinballV_nonneg a h0 h1) t o

/-- class-nll is non-negative when exactly one target is positive (the single-label case it is meant for):
    target `t1 ++ tk :: t2` with `tk > 0` and no other positive entry. With zero or several positive targets it can be
    negative (see the example at the end). -/
theorem classnll_nonneg (a eps : ℝ) (heps : 0 ≤ eps) (t1 t2 o1 o2 : List ℝ) (tk ok : ℝ)
    (h1 : t1.length = o1.length) (htk : 0 < tk)
    (hn1 : ∀ v ∈ t1, ¬ 0 < v) (hn2 : ∀ v ∈ t2, ¬ 0 < v) :
    0 ≤ value .classnll a eps (t1 ++ tk :: t2) (o1 ++ ok :: o2) := by
  show 0 ≤ classnllV eps (t1 ++ tk :: t2) (o1 ++ ok :: o2)
  unfold classnllV classnllShift
  set c := maxCoeff (o1 ++ ok :: o2)
  have hp : posSum (t1 ++ tk :: t2) (o1 ++ ok :: o2) = ok := by
    rw [posSum_append t1 o1 _ _ h1, posSum_nonpos_targets t1 o1 hn1]
    simp only [posSum, htk, if_true]
    rw [posSum_nonpos_targets t2 o2 hn2]; ring
  rw [hp]
  simp only [tlog_eq]
  have hS : Real.exp (ok - c) ≤ eps + expSum c (o1 ++ ok :: o2) := by
    rw [expSum_append]
    simp only [expSum, texp_eq]
    have := expSum_nonneg c o1; have := expSum_nonneg c o2
    linarith
  have := Real.log_le_log (Real.exp_pos _) hS
  rw [Real.log_exp] at this
  linarith

/-- two equal outputs `c`: the shift is `c` and both exponentials are `exp 0`, so the value is
    `log(ε + 2) − posSum + c ≤ ε + 1 − posSum + c`: negative as soon as the targets taken as positive weigh more than `2 + c` -/
theorem classnllV_pair_lt (eps c : ℝ) (h0 : 0 ≤ eps) (h1 : eps ≤ 1) (t : List ℝ) (h : 2 + c < posSum t [c, c]) :
    classnllV eps t [c, c] < 0 := by
  have hm : maxCoeff ([c, c] : List ℝ) = c := by simp [maxCoeff]
  have hl := Real.log_le_sub_one_of_pos (show 0 < eps + 2 by linarith)
  simp only [classnllV, classnllShift, hm, expSum, tlog_eq, texp_eq, sub_self, Real.exp_zero, add_zero]
  norm_num
  linarith

theorem error_nonneg (k : Kind) (e : Err) (a eps : ℝ) (t o : List ℝ)
    (hv : e = .value → k ≠ .classnll ∧ 0 ≤ a ∧ a ≤ 1) : 0 ≤ error k e a eps t o := by
  cases e with
  | absdiff => exact absdiffE_nonneg t o
  | mclass => exact mclassE_nonneg eps t o
  | sclass => exact sclassE_nonneg eps t o
  | value => obtain ⟨h1, h2, h3⟩ := hv rfl; exact loss_nonneg k h1 a eps h2 h3 t o

section field
variable {α : Type} [Field α] [LinearOrder α] [IsStrictOrderedRing α]

/-- `argmax o` (the model of `maxCoeff(&idx)`) is the position of the first maximum -/
theorem argmax_spec (o : List α) (hne : o ≠ []) :
    ∃ mv, o[argmax o]? = some mv ∧ (∀ (j : Nat) (v : α), o[j]? = some v → v ≤ mv) ∧
      (∀ (j : Nat), j < argmax o → ∀ (v : α), o[j]? = some v → v < mv) :=
  argmax_firstMax o hne

/-- single-label 0-1 error with more than one output: no error iff the target at the arg-max of the outputs is positive -/
theorem sclass_error_iff_argmax (eps : α) (t o : List α) (hn : t.length > 1) (hl : o.length = t.length) :
    (sclassE eps t o = 0 ↔ ∃ ti, t[argmax o]? = some ti ∧ 0 < ti) ∧ (sclassE eps t o = 0 ∨ sclassE eps t o = 1) := by
  unfold sclassE
  simp only [hn, if_true]
  have hone : o ≠ [] := List.ne_nil_of_length_pos (hl ▸ Nat.lt_trans Nat.zero_lt_one hn)
  obtain ⟨mv, hmv, _, _⟩ := argmax_firstMax o hone
  have hidx : argmax o < t.length := hl ▸ (List.getElem?_eq_some_iff.mp hmv).1
  rw [List.getElem?_eq_getElem hidx]
  simp only
  by_cases hp : 0 < t[argmax o]
  · rw [if_pos hp]
    exact ⟨⟨fun _ => ⟨_, rfl, hp⟩, fun _ => rfl⟩, Or.inl rfl⟩
  · rw [if_neg hp]
    exact ⟨⟨fun h => absurd h one_ne_zero, fun ⟨_, e, h⟩ => absurd (Option.some.inj e ▸ h) hp⟩, Or.inr rfl⟩

/-- multi-label 0-1 error for `±1` targets: the number of outputs that do not decide for their target, where an output
    decides for the positive label iff `o ≥ ε` and for the negative label iff `o ≤ -ε` (the sign rule with a dead zone
    of width `ε` around 0 that always counts as an error) -/
theorem mclass_error_eq_count_sign (eps : α) (t o : List α) (ht : ∀ v ∈ t, v = 1 ∨ v = -1) :
    mclassE eps t o = ((countWrong eps t o : Nat) : α) := by
  unfold mclassE; rw [countEdges_eq_countWrong eps t o ht]

/-- binary classification (one output, `s-*` losses): no error iff the output decides for the target's sign -/
theorem binary_error_iff_sign (eps t o : α) (ht : t = 1 ∨ t = -1) :
    sclassE eps [t] [o] = 0 ↔ ((t = 1 ∧ eps ≤ o) ∨ (t = -1 ∧ o ≤ -eps)) := by
  have h : sclassE eps [t] [o] = mclassE eps [t] [o] := if_neg (lt_irrefl 1)
  rw [h, mclass_error_eq_count_sign eps [t] [o] (by simpa using ht)]
  simp only [countWrong, Nat.add_zero]
  split <;> simp [*]

end field

/-! ### the hypotheses of `classnll_nonneg` and `loss_nonneg` are necessary (witnesses replayed on the code: corpus/C06) -/

/-- two positive targets: `s-classnll` AS CODED (machine `ε` inside the logarithm, shift by the maximal output) is negative
    at outputs (10, 10): `log(ε + 2) − 20 + 10 < 0` for every `0 ≤ ε ≤ 1` -/
theorem classnll_negative_two_positives (a eps : ℝ) (h0 : 0 ≤ eps) (h1 : eps ≤ 1) :
    value .classnll a eps [1, 1] [10, 10] < 0 :=
  classnllV_pair_lt eps 10 h0 h1 [1, 1] (by norm_num [posSum])

/-- no positive target: negative at outputs (−10, −10): `log(ε + 2) − 0 − 10 < 0` -/
theorem classnll_negative_no_positive (a eps : ℝ) (h0 : 0 ≤ eps) (h1 : eps ≤ 1) :
    value .classnll a eps [-1, -1] [-10, -10] < 0 :=
  classnllV_pair_lt eps (-10) h0 h1 [-1, -1] (by norm_num [posSum])

/-- the hypothesis `alpha ∈ [0, 1]` of `loss_nonneg` / `pinball_subgrad` is necessary: with `alpha = 2` the pinball value of
    target 0, output 1 is `−1`. The implementation cannot be brought there: the parameter `loss::pinball::alpha` has the
    domain `[0, 1]` and refuses the assignment (replayed: corpus/C06, `#rejected-alpha`). -/
theorem pinball_negative_outside_domain (eps : ℝ) : value .pinball 2 eps [0] [1] = -1 := by
  simp [value, sum2, pinballV, max0]; norm_num

/-! ## the tensor interface of the losses: per-sample independence -/

section field
variable {α : Type} [Field α] [LinearOrder α] [IsStrictOrderedRing α] [Transc α]
set_option linter.unusedSectionVars false

/-- "The loss and error of a sample depend only on that sample's target and prediction": in `loss_t::value / error` on 4-D
    tensors with `n = d1·d2·d3` scalars per sample (`Model/LossBatch.lean`), entry `i` is the kernel applied to block `i` of
    the two buffers — so two calls whose tensors agree on sample `i` (whatever the other samples, whatever the two batch sizes)
    agree on entry `i` -/
theorem loss_batch_entry_own_sample (k : Kind) (e : Err) (a eps : α) (n m m' : Nat) (T O T' O' : List α) (i : Nat)
    (hi : i < m) (hi' : i < m') (hT : sampleAt n i T = sampleAt n i T') (hO : sampleAt n i O = sampleAt n i O') :
    (batchValues k a eps n m T O)[i]? = (batchValues k a eps n m' T' O')[i]? ∧
    (batchErrors k e a eps n m T O)[i]? = (batchErrors k e a eps n m' T' O')[i]? ∧
    (batchValues k a eps n m T O)[i]? = some (value k a eps (sampleAt n i T) (sampleAt n i O)) ∧
    (batchErrors k e a eps n m T O)[i]? = some (error k e a eps (sampleAt n i T) (sampleAt n i O)) :=
  ⟨batchMap_entry_own_sample _ n m m' T O T' O' i hi hi' hT hO, batchMap_entry_own_sample _ n m m' T O T' O' i hi hi' hT hO,
    batchMap_getElem? _ n m T O i hi, batchMap_getElem? _ n m T O i hi⟩

/-- a batch of samples = each sample alone (values and errors): the call on the one-sample tensors holding sample `i`
    returns exactly entry `i` of the batch call — any `m`, any `n` (nothing has to divide anything) -/
theorem loss_batch_eq_each_alone (k : Kind) (e : Err) (a eps : α) (n m : Nat) (T O : List α) (i : Nat) (hi : i < m) :
    (batchValues k a eps n m T O)[i]? = (batchValues k a eps n 1 (sampleAt n i T) (sampleAt n i O))[0]? ∧
    (batchErrors k e a eps n m T O)[i]? = (batchErrors k e a eps n 1 (sampleAt n i T) (sampleAt n i O))[0]? :=
  ⟨(batchMap_each_alone _ n m T O i hi).2, (batchMap_each_alone _ n m T O i hi).2⟩

/-- the gradient tensor of `loss_t::vgrad`: it has `m · n` scalars, block `i` is the per-sample gradient of sample `i`
    (every block is written, none is written twice), and it is what the call on sample `i` alone returns -/
theorem loss_batch_vgrad_own_sample (k : Kind) (a : α) (n m : Nat) (T O : List α) (i : Nat) (hi : i < m)
    (hT : m * n ≤ T.length) (hO : m * n ≤ O.length) :
    (batchVgrads k a n m T O).length = m * n ∧
    sampleAt n i (batchVgrads k a n m T O) = vgrad k a (sampleAt n i T) (sampleAt n i O) ∧
    sampleAt n i (batchVgrads k a n m T O) = batchVgrads k a n 1 (sampleAt n i T) (sampleAt n i O) := by
  have hg : ∀ t o : List α, t.length = n → o.length = n → (vgrad k a t o).length = n :=
    fun t o ht ho => by rw [vgrad_length k a t o (by rw [ht, ho]), ho]
  have h2 := batchFlat_sampleAt (vgrad k a) n hg m T O i hi hT hO
  have h2' : sampleAt n i (batchVgrads k a n m T O) = vgrad k a (sampleAt n i T) (sampleAt n i O) := h2
  refine ⟨batchFlat_length (vgrad k a) n hg m T O hT hO, h2', ?_⟩
  rw [h2']
  simp [batchVgrads, batchFlat, sampleAt_take]

theorem loss_batch_append (k : Kind) (a eps : α) (n m1 m2 : Nat) (T1 O1 T2 O2 : List α)
    (hT : T1.length = m1 * n) (hO : O1.length = m1 * n) :
    batchValues k a eps n (m1 + m2) (T1 ++ T2) (O1 ++ O2) =
      batchValues k a eps n m1 T1 O1 ++ batchValues k a eps n m2 T2 O2 :=
  batchMap_append _ n m1 m2 T1 O1 T2 O2 hT hO

end field

/-! ## composition: what the ML objectives inherit from their loss -/

section field
variable {α : Type} [Field α] [LinearOrder α] [IsStrictOrderedRing α]

/-- composition with an affine map `x ↦ b + A x` (predictions of a linear model as a function of its weights, of the
    bias, of the scale of a weak learner, of the coefficients of the quadratic surrogate): the outer function's inequality
    is inherited with the gradient `Aᵀ g_h(b + A x)` -/
theorem affine_comp_subgrad (h : List α → α) (gh : List α → List α) (A : List (List α)) (b : List α) (n : Nat)
    (hrows : ∀ r ∈ A, r.length = n) (hb : b.length = A.length)
    (hgh : ∀ u : List α, u.length = A.length → (gh u).length = A.length)
    (hh : ∀ u v : List α, u.length = A.length → v.length = A.length → h v ≥ h u + dot (gh u) (vsub v u))
    (x z : List α) (hx : x.length = n) (hz : z.length = n) :
    h (vadd b (mulVec A z)) ≥ h (vadd b (mulVec A x)) + dot (tmulVec n A (gh (vadd b (mulVec A x)))) (vsub z x) := by
  have hl : z.length = x.length := by rw [hz, hx]
  have hu : (vadd b (mulVec A x)).length = A.length := by
    rw [vadd_length _ _ (by rw [hb, mulVec_length]), mulVec_length]
  have hv : (vadd b (mulVec A z)).length = A.length := by
    rw [vadd_length _ _ (by rw [hb, mulVec_length]), mulVec_length]
  have key := hh _ _ hu hv
  rw [vsub_vadd_cancel b (mulVec A x) (mulVec A z) (by rw [mulVec_length, hb]) (by rw [mulVec_length, hb]),
    mulVec_vsub A z x hl] at key
  rw [tmulVec_adjoint n A _ (vsub z x) hrows (by rw [hgh _ hu])]
  exact key

/-- sums (over samples, loss + regulariser) keep the inequality -/
theorem sum_subgrad (f1 f2 : List α → α) (g1 g2 : List α → List α) (x z : List α)
    (hg : (g1 x).length = (g2 x).length)
    (h1 : f1 z ≥ f1 x + dot (g1 x) (vsub z x)) (h2 : f2 z ≥ f2 x + dot (g2 x) (vsub z x)) :
    f1 z + f2 z ≥ f1 x + f2 x + dot (vadd (g1 x) (g2 x)) (vsub z x) := by
  rw [dot_vadd_left _ _ _ hg]; linear_combination h1 + h2

/-- a ridge term `c/2 ‖x‖²` on ALL coordinates yields the strong-convexity term with `μ = c` (elastic-net prototypes:
    `strong_convexity(alpha2)`) -/
theorem ridge_subgrad_mu (f : List α → α) (g : List α → List α) (c : α) (x z : List α)
    (hl : z.length = x.length) (hg : (g x).length = x.length) (h : f z ≥ f x + dot (g x) (vsub z x)) :
    f z + c / 2 * dot z z ≥ f x + c / 2 * dot x x + dot (vadd (g x) (smul c x)) (vsub z x)
      + c / 2 * dot (vsub z x) (vsub z x) := by
  rw [dot_vadd_left _ _ _ (by rw [hg, smul_length]), ridge_expand c x z hl]
  linear_combination h

set_option linter.unusedVariables false
/-- a ridge term on the weights `W` of `W ++ b` only (the linear model: the bias is not regularised) yields the
    strong-convexity term for the `W`-part of the displacement ONLY — not `μ/2 ‖z − x‖²` as `linear::function_t`
    declares (known finding `linear-function:strong-convexity:bias-direction`; counter-example at the end) -/
theorem ridge_partial_subgrad_mu (f : List α → α) (g : List α → List α) (c : α) (Wx bx Wz bz : List α)
    (hW : Wz.length = Wx.length) (hb : bz.length = bx.length)
    (hg : (g (Wx ++ bx)).length = (Wx ++ bx).length)
    (h : f (Wz ++ bz) ≥ f (Wx ++ bx) + dot (g (Wx ++ bx)) (vsub (Wz ++ bz) (Wx ++ bx))) :
    f (Wz ++ bz) + c / 2 * dot Wz Wz ≥ f (Wx ++ bx) + c / 2 * dot Wx Wx
      + dot (vadd (g (Wx ++ bx)) (smul c Wx ++ List.replicate bx.length 0)) (vsub (Wz ++ bz) (Wx ++ bx))
      + c / 2 * dot (vsub Wz Wx) (vsub Wz Wx) := by
  rw [vsub_append Wz Wx bz bx hW] at h ⊢
  rw [dot_vadd_left _ _ _ (by rw [hg]; simp),
    dot_append _ _ _ _ (by rw [smul_length, vsub_length Wz Wx hW]), dot_replicate_zero, ridge_expand c Wx Wz hW]
  linear_combination h
set_option linter.unusedVariables true

end field

/-! ## benchmark functions flagged convex -/

section field
variable {α : Type} [Field α] [LinearOrder α] [IsStrictOrderedRing α]

/-- sphere, declared `strong_convexity = 2` -/
theorem sphere_subgrad (x z : List α) (hl : z.length = x.length) :
    sphereF z ≥ sphereF x + dot (sphereG x) (vsub z x) + 2 / 2 * dot (vsub z x) (vsub z x) := by
  unfold sphereF sphereG
  rw [dot_smul_left, sq_norm_gap x z hl]
  exact le_of_eq (by ring)

/-- axis-parallel ellipsoid, declared `strong_convexity = 2` -/
theorem axis_ellipsoid_subgrad (x z : List α) (hl : z.length = x.length) :
    axisF z ≥ axisF x + dot (axisG x) (vsub z x) + 2 / 2 * dot (vsub z x) (vsub z x) := by
  unfold axisF axisG
  apply sumIdx_subgrad_mu _ _ 2 _ 0 x z hl
  intro i x z
  have hb : (1 : α) ≤ ((i + 1 : Nat) : α) := Nat.one_le_cast.2 (Nat.le_add_left 1 i)
  linear_combination mul_nonneg (sub_nonneg.2 hb) (mul_self_nonneg (z - x))

theorem schumer_steiglitz_subgrad (x z : List α) (hl : z.length = x.length) :
    schumerF z ≥ schumerF x + dot (schumerG x) (vsub z x) := by
  unfold schumerF schumerG
  have := sumIdx_subgrad_mu (fun _ xi => xi * xi * (xi * xi)) (fun _ xi => 4 * (xi * xi * xi)) (0 : α)
    (fun i x z => by linear_combination quartic_tangent x z) 0 x z hl
  simpa using this

theorem chung_reynolds_subgrad (x z : List α) (hl : z.length = x.length) :
    chungF z ≥ chungF x + dot (chungG x) (vsub z x) := by
  unfold chungF chungG
  rw [dot_smul_left]
  simpa using radial_quad 0 1 le_rfl zero_le_one x z hl

theorem sargan_subgrad (x z : List α) (hl : z.length = x.length) :
    sarganF z ≥ sarganF x + dot (sarganG x) (vsub z x) := by
  unfold sarganF sarganG
  rw [dot_smul_left]
  push_cast
  have h := radial_quad (6 / 10) (4 / 10) (by norm_num) (by norm_num) x z hl
  rwa [show (2 : α) * (6 / 10) = 12 / 10 by norm_num, show (4 : α) * (4 / 10) = 16 / 10 by norm_num] at h

theorem zakharov_subgrad (x z : List α) (hl : z.length = x.length) :
    zakharovF z ≥ zakharovF x + dot (zakharovG x) (vsub z x) := by
  -- `‖x‖²`, the square and the fourth power of the linear form `x·bias`, each above its tangent
  unfold zakharovF zakharovG
  simp only
  rw [hl]
  have hbl : (zakBias x.length : List α).length = x.length := zakBias_length _
  rw [dot_vadd_left _ _ _ (by rw [smul_length, smul_length, hbl]), dot_smul_left, dot_smul_left,
    dot_vsub_right (zakBias x.length) z x hl, dot_comm (zakBias x.length) z, dot_comm (zakBias x.length) x]
  linear_combination sq_norm_tangent x z hl + sq_tangent (dot x (zakBias x.length)) (dot z (zakBias x.length)) +
    quartic_tangent (dot x (zakBias x.length)) (dot z (zakBias x.length))

theorem rotated_ellipsoid_subgrad (x z : List α) (hl : z.length = x.length) :
    rotF 0 z ≥ rotF 0 x + dot (rotG 0 x) (vsub z x) := by
  simpa using rot_aux x z 0 0 hl

theorem trid_subgrad (x z : List α) (hl : z.length = x.length) :
    tridF z ≥ tridF x + dot (tridG x) (vsub z x) := by
  -- the separable part is strongly convex with modulus 2, which pays for the products of neighbours:
  -- `Σ d_i d_{i+1} ≤ ‖d‖²`
  unfold tridF tridG
  have hs := sumIdx_subgrad_mu (fun _ xi => (xi - 1) * (xi - 1)) (fun _ xi => 2 * (xi - 1)) (2 : α)
    (fun i x z => le_of_eq (by ring)) 0 x z hl
  have hq := adjSum_le (vsub z x)
  have hnn : 0 ≤ (vsub z x).headD 0 * (vsub z x).headD 0 / 2 :=
    div_nonneg (mul_self_nonneg _) zero_le_two
  rw [dot_vadd_left _ _ _ (by rw [mapIdx_length, pairGrad_length]), adjSum_expand x z hl]
  linear_combination hs + hq + hnn

/-! A value that lies above its tangent plane by exactly `½ D`: what the sign of `D`, or a modulus below it, gives. -/

theorem ge_of_gap {fz fx gd D : α} (h : fz - (fx + gd) = 1 / 2 * D) (hD : 0 ≤ D) : fz ≥ fx + gd := by
  rw [sub_eq_iff_eq_add'.mp h]
  exact le_add_of_nonneg_right (mul_nonneg one_half_pos.le hD)

theorem ge_add_of_gap {fz fx gd D m dd : α} (h : fz - (fx + gd) = 1 / 2 * D) (hD : m * dd ≤ D) :
    fz ≥ fx + gd + m / 2 * dd := by
  rw [sub_eq_iff_eq_add'.mp h, show m / 2 * dd = 1 / 2 * (m * dd) by ring]
  exact add_le_add le_rfl (mul_le_mul_of_nonneg_left hD one_half_pos.le)

theorem lt_of_gap {fz fx gd D : α} (h : fz - (fx + gd) = 1 / 2 * D) (hD : D < 0) : fz < fx + gd := by
  rw [sub_eq_iff_eq_add'.mp h]
  exact add_lt_of_neg_right _ (mul_neg_of_pos_of_neg one_half_pos hD)

/-- random quadratic `x·(a + ½ A x)` with a self-adjoint `A`: the value lies above the tangent plane at `x` by exactly
    `½ (z − x)·A(z − x)` -/
theorem quadratic_gap (a : List α) (A : List (List α)) (x z : List α) (n : Nat)
    (hA : A.length = n) (ha : a.length = n) (hx : x.length = n) (hz : z.length = n)
    (hsym : ∀ u v : List α, u.length = n → v.length = n → dot u (mulVec A v) = dot v (mulVec A u)) :
    quadraticF a A z - (quadraticF a A x + dot (quadraticG a A x) (vsub z x)) =
      1 / 2 * dot (vsub z x) (mulVec A (vsub z x)) := by
  have hl : a.length = (mulVec A x).length := by rw [mulVec_length, ha, hA]
  have e : ∀ y : List α, quadraticF a A y = 1 / 2 * dot y (mulVec A y) + dot a y := fun y => by
    rw [quadraticF, dot_comm, dot_vadd_left _ _ _ (by rw [smul_length, mulVec_length, ha, hA]), dot_smul_left,
      dot_comm (mulVec A y) y]; ring
  have e2 : dot (quadraticG a A x) (vsub z x) = dot (vadd (mulVec A x) a) (vsub z x) := by
    rw [quadraticG, dot_vadd_left _ _ _ hl, dot_vadd_left _ _ _ hl.symm, add_comm]
  rw [e z, e x, e2]
  exact quadform_gap A a x z n hA ha hx hz hsym

/-- random quadratic `x·(a + ½ A x)`: convex under the hypothesis that `A` (drawn as `I + R Rᵀ` at construction) is
    self-adjoint and positive semi-definite; the declared strong-convexity coefficient (smallest eigenvalue computed
    by Eigen) is tested only -/
theorem quadratic_subgrad (a : List α) (A : List (List α)) (x z : List α) (n : Nat)
    (hA : A.length = n) (ha : a.length = n) (hx : x.length = n) (hz : z.length = n)
    (hsym : ∀ u v : List α, u.length = n → v.length = n → dot u (mulVec A v) = dot v (mulVec A u))
    (hpsd : ∀ d : List α, d.length = n → 0 ≤ dot d (mulVec A d)) :
    quadraticF a A z ≥ quadraticF a A x + dot (quadraticG a A x) (vsub z x) :=
  ge_of_gap (quadratic_gap a A x z n hA ha hx hz hsym)
    (hpsd (vsub z x) (vsub_length_eq hz hx))

/-- MAXQUAD `max_k x·(A_k x − b_k)` with the gradient `2 A_k x − b_k` of the first maximal `k`: convex under the hypothesis
    that every `A_k` is self-adjoint and positive semi-definite (the constructor fills symmetric, diagonally dominant
    matrices with a positive diagonal from exp/cos/sin formulas; the harness recomputes them and hands them to the model) -/
theorem maxquad_subgrad (As : List (List (List α))) (bs : List (List α)) (x z : List α) (n : Nat)
    (hne : As ≠ []) (hl : As.length = bs.length)
    (hA : ∀ A ∈ As, A.length = n ∧
      (∀ u v : List α, u.length = n → v.length = n → dot u (mulVec A v) = dot v (mulVec A u)) ∧
      (∀ d : List α, d.length = n → 0 ≤ dot d (mulVec A d)))
    (hb : ∀ b ∈ bs, b.length = n) (hx : x.length = n) (hz : z.length = n) :
    maxquadF As bs z ≥ maxquadF As bs x + dot (maxquadG As bs x) (vsub z x) := by
  have hlx := mqVals_length As bs x hl
  have hvne : mqVals As bs x ≠ [] := ne_nil_of_length_eq hne hlx
  have hidx : argmax (mqVals As bs x) < As.length := hlx ▸ argmax_lt _ hvne
  simp only [maxquadF, maxquadG]
  refine maxCoeff_subgrad hvne (by rw [mqVals_length As bs z hl, hlx]) ?_
  generalize argmax (mqVals As bs x) = idx at hidx ⊢
  obtain ⟨hAn, hsym, hpsd⟩ := hA _ (Lst.getD_mem hidx [])
  rw [getD_mqVals As bs x idx hl, getD_mqVals As bs z idx hl]
  exact mq_piece_aux _ _ x z n hAn (hb _ (Lst.getD_mem (hl ▸ hidx) [])) hx hz hsym hpsd

/-- MAXQ `max_i x_i²` with the gradient of the first maximal coordinate -/
theorem maxq_subgrad (x z : List α) (hne : x ≠ []) (hl : z.length = x.length) :
    maxqF z ≥ maxqF x + dot (maxqG x) (vsub z x) := by
  have e : ∀ (l : List α) j, (l.map fun v => v * v).getD j 0 = l.getD j 0 * l.getD j 0 :=
    Lst.getD_map (fun v => v * v) (mul_zero 0)
  unfold maxqF maxqG
  refine maxCoeff_subgrad (by simpa using hne) (by rw [List.length_map, List.length_map, hl]) ?_
  rw [onehot_dot_from_zero (fun xi => 2 * xi) _ x (vsub z x) (vsub_length z x hl), vsub_getD z x _ hl, e, e]
  exact sq_tangent _ _

/-- MAXHILB `max_i |Σ_j x_j / (i + j + 1)|` with the signed row of the first maximal entry -/
theorem maxhilb_subgrad (x z : List α) (hne : x ≠ []) (hl : z.length = x.length) :
    maxhilbF z ≥ maxhilbF x + dot (maxhilbG x) (vsub z x) := by
  unfold maxhilbF maxhilbG
  simp only
  rw [hl]
  exact maxabs_aux (hilbert x.length) x z (hilbert_ne_nil _ (List.length_pos_iff.2 hne)) hl

/-- chained LQ: `Σ_i max(v1, v2)(x_i, x_{i+1})` with the branch rule `v2 > v1` -/
theorem chained_lq_subgrad (x z : List α) (hl : z.length = x.length) :
    chainedLqF z ≥ chainedLqF x + dot (chainedLqG x) (vsub z x) :=
  pair_subgrad lqPiece lqPieceG lqPiece_aux x z hl

/-- kinks `Σ_rows Σ_j |x_j − K(row, j)| − offset` for every matrix `K` with rows of the right length -/
theorem kinks_subgrad (K : List (List α)) (off : α) (x z : List α) (hl : z.length = x.length)
    (hK : ∀ r ∈ K, r.length = x.length) :
    kinksF K off z ≥ kinksF K off x + dot (kinksG K x) (vsub z x) := by
  unfold kinksF
  rw [kinksG_dot K x (vsub z x) hK]
  have := sumL_map_ge (fun r => sum2 (fun k xi => abs' (xi - k)) r z) (fun r => sum2 (fun k xi => abs' (xi - k)) r x)
    (fun r => dot (map2 (fun k xi => sign' (xi - k)) r x) (vsub z x)) K
    (fun r hr => sum2_subgrad maeV maeG maeK_subgrad r x z (hK r hr).symm (by rw [hl, hK r hr]))
  linear_combination this

end field

/-- chained CB3 I (as fixed by 525488d: `>=` in the branch selection). With the former `>` the third branch was taken
    at a tie `v1 = v2 > v3`, for which `cb3_select` — the step "the selected piece attains the maximum" — is false. -/
theorem chained_cb3I_subgrad (x z : List ℝ) (hl : z.length = x.length) :
    cb3IF z ≥ cb3IF x + dot (cb3IG x) (vsub z x) :=
  pair_subgrad cb3Piece cb3PieceG cb3Piece_aux x z hl

theorem chained_cb3II_subgrad (x z : List ℝ) (hl : z.length = x.length) :
    cb3IIF z ≥ cb3IIF x + dot (cb3IIG x) (vsub z x) := by
  have h := cmax3_subgrad (pair_subgrad cbV1 cbG1 cbV1_aux x z hl) (pair_subgrad cbV2 cbG2 cbV2_aux x z hl)
    (pair_subgrad cbV3 cbG3 cbV3_aux x z hl)
  unfold cb3IIF cb3IIG
  simp only
  split_ifs at h ⊢ <;> exact h

/-- exponential `exp(1 + ‖x‖²/n)`, declared `strong_convexity = 2 / n` -/
theorem exponential_fn_subgrad (x z : List ℝ) (hne : x ≠ []) (hl : z.length = x.length) :
    expfnF z ≥ expfnF x + dot (expfnG x) (vsub z x) + (2 / (x.length : ℝ)) / 2 * dot (vsub z x) (vsub z x) := by
  -- `exp` above its tangent at `u = 1 + ‖x‖²/n`, `‖z‖² = ‖x‖² + 2x·(z − x) + ‖z − x‖²`, and `exp u ≥ 1` in front of the
  -- last term
  have hinv : (0 : ℝ) ≤ 1 / (x.length : ℝ) :=
    (one_div_pos.2 (Nat.cast_pos.2 (List.length_pos_iff.2 hne))).le
  have hq : 0 ≤ dot (vsub z x) (vsub z x) * (1 / (x.length : ℝ)) := mul_nonneg (dot_self_nonneg _) hinv
  have hfx : 1 ≤ Real.exp (1 + dot x x * (1 / (x.length : ℝ))) :=
    Real.one_le_exp (add_nonneg zero_le_one (mul_nonneg (dot_self_nonneg x) hinv))
  have t := exp_tangent (1 + dot x x * (1 / (x.length : ℝ))) (1 + dot z z * (1 / (x.length : ℝ)))
  rw [sq_norm_gap x z hl] at t
  unfold expfnG expfnF
  rw [dot_smul_left, hl, sq_norm_gap x z hl, show 2 / (x.length : ℝ) / 2 = 1 / (x.length : ℝ) by ring]
  simp only [texp_eq]
  linear_combination t + mul_nonneg (sub_nonneg.2 hfx) hq

/-- geometric optimisation `Σ_k exp(a_k + A_k·x)` for every `a`, `A` of matching shapes -/
theorem geometric_subgrad (a : List ℝ) (A : List (List ℝ)) (x z : List ℝ) (ha : a.length = A.length)
    (hrows : ∀ r ∈ A, r.length = x.length) (hl : z.length = x.length) :
    geomF a A z ≥ geomF a A x + dot (geomG a A x) (vsub z x) := by
  unfold geomF geomG geomE
  exact affine_comp_subgrad (fun u => sumL (u.map Transc.exp)) (fun u => u.map Transc.exp) A a x.length hrows ha
    (fun u hu => by simp [hu]) (fun u v hu hv => sumexp_aux u v (by rw [hv, hu])) x z rfl hl

/-! ## constraint kinds -/

section field
variable {α : Type} [Field α] [LinearOrder α] [IsStrictOrderedRing α]

/-- euclidean ball (equality and inequality kinds), declared `strong_convexity = 2` -/
theorem ball_subgrad (o : List α) (r : α) (x z : List α) (hx : x.length = o.length) (hz : z.length = o.length) :
    ballF o r z ≥ ballF o r x + dot (ballG o x) (vsub z x) + 2 / 2 * dot (vsub z x) (vsub z x) := by
  have hl : z.length = x.length := hz.trans hx.symm
  unfold ballF ballG
  rw [dot_smul_left, norm_vsub z o hz, norm_vsub x o hx, norm_vsub z x hl, dot_vsub_left _ x o hx,
    dot_vsub_right x z x hl, dot_vsub_right o z x hl]
  exact le_of_eq (by ring)

/-- linear (equality and inequality kinds): equality, hence convex -/
theorem linear_subgrad (q : List α) (r : α) (x z : List α) (hl : z.length = x.length) :
    linearF q r z ≥ linearF q r x + dot (linearG q x) (vsub z x) := by
  unfold linearF linearG
  rw [dot_vsub_right q z x hl]
  exact le_of_eq (by ring)

/-- quadratic constraint kinds with the symmetrised gradient: for EVERY square `P` the value lies above the tangent plane at
    `x` by exactly `½ (z − x)·P(z − x)` -/
theorem cquad_gap (P : List (List α)) (q : List α) (r : α) (x z : List α) (n : Nat)
    (hP : P.length = n) (hrows : ∀ r ∈ P, r.length = n) (hq : q.length = n) (hx : x.length = n) (hz : z.length = n) :
    cquadF P q r z - (cquadF P q r x + dot (cquadG P q x) (vsub z x)) =
      1 / 2 * dot (vsub z x) (mulVec P (vsub z x)) := by
  rw [← quadform_sym_gap P q x z n hP hrows hq hx hz, cquadF, cquadF, cquadG]; ring

/-- quadratic (equality and inequality kinds), as repaired by 78c1895 (gradient of the symmetric part): convex for
    EVERY square `P` whose quadratic form is non-negative — no symmetry hypothesis. (`nano::convex` decides
    `d·Pd ≥ 0` through Eigen's eigenvalues of `(P + Pᵀ)/2`: tested only. With the former gradient `P x + q` this
    theorem needs `P` self-adjoint; the search found the failing non-symmetric inputs.) -/
theorem cquad_subgrad (P : List (List α)) (q : List α) (r : α) (x z : List α) (n : Nat)
    (hP : P.length = n) (hrows : ∀ r ∈ P, r.length = n) (hq : q.length = n) (hx : x.length = n) (hz : z.length = n)
    (hpsd : ∀ d : List α, d.length = n → 0 ≤ dot d (mulVec P d)) :
    cquadF P q r z ≥ cquadF P q r x + dot (cquadG P q x) (vsub z x) :=
  ge_of_gap (cquad_gap P q r x z n hP hrows hq hx hz)
    (hpsd (vsub z x) (vsub_length_eq hz hx))

set_option linter.unusedVariables false
theorem minimum_subgrad (v : α) (d : Nat) (x z : List α) (hl : z.length = x.length) (hd : d < x.length) :
    minimumF v d z ≥ minimumF v d x + dot (minimumG d x) (vsub z x) := by
  unfold minimumF minimumG
  rw [onehot_const_dot (-1) d x z hl]
  exact le_of_eq (by ring)

/-- `maximum_t` and `constant_t` -/
theorem maximum_subgrad (v : α) (d : Nat) (x z : List α) (hl : z.length = x.length) (hd : d < x.length) :
    maximumF v d z ≥ maximumF v d x + dot (maximumG d x) (vsub z x) := by
  unfold maximumF maximumG
  rw [onehot_const_dot 1 d x z hl]
  exact le_of_eq (by ring)
set_option linter.unusedVariables true

end field

/-! ## the declared strong-convexity coefficients of the quadratic objects are valid moduli -/

section field
variable {α : Type} [Field α] [LinearOrder α] [IsStrictOrderedRing α] [Transc α]
set_option linter.unusedSectionVars false

/-- random quadratic: ANY `μ` with `μ ‖d‖² ≤ d·A d` (in particular the smallest eigenvalue of the self-adjoint `A`, which
    `nano::strong_convexity` asks Eigen for) is a valid modulus; the gap is exactly `½ (z − x)·A(z − x)` -/
theorem quadratic_subgrad_mu (a : List α) (A : List (List α)) (x z : List α) (n : Nat) (mu : α)
    (hA : A.length = n) (ha : a.length = n) (hx : x.length = n) (hz : z.length = n)
    (hsym : ∀ u v : List α, u.length = n → v.length = n → dot u (mulVec A v) = dot v (mulVec A u))
    (hmu : ∀ d : List α, d.length = n → mu * dot d d ≤ dot d (mulVec A d)) :
    quadraticF a A z ≥ quadraticF a A x + dot (quadraticG a A x) (vsub z x) + mu / 2 * dot (vsub z x) (vsub z x) :=
  ge_add_of_gap (quadratic_gap a A x z n hA ha hx hz hsym)
    (hmu (vsub z x) (vsub_length_eq hz hx))

/-- quadratic constraint kinds: ANY `μ` with `μ ‖d‖² ≤ d·P d` is a valid modulus for the symmetrised gradient — for every
    square `P`, symmetric or not (`d·P d = d·((P + Pᵀ)/2) d`: the flags must come from the SYMMETRIC part, see
    `cquad_flags_need_symmetric_part`) -/
theorem cquad_subgrad_mu (P : List (List α)) (q : List α) (r : α) (x z : List α) (n : Nat) (mu : α)
    (hP : P.length = n) (hrows : ∀ r ∈ P, r.length = n) (hq : q.length = n) (hx : x.length = n) (hz : z.length = n)
    (hmu : ∀ d : List α, d.length = n → mu * dot d d ≤ dot d (mulVec P d)) :
    cquadF P q r z ≥ cquadF P q r x + dot (cquadG P q x) (vsub z x) + mu / 2 * dot (vsub z x) (vsub z x) :=
  ge_add_of_gap (cquad_gap P q r x z n hP hrows hq hx hz)
    (hmu (vsub z x) (vsub_length_eq hz hx))

/-- why the flags of a quadratic constraint must be computed from the symmetric part: `P = [[1, 4], [0, 1]]` has the
    eigenvalues 1, 1 (it is triangular), so a test on the spectrum of `P` itself declares the constraint convex with `μ = 1`;
    its quadratic form is negative at `d = (1, −1)` and the convexity inequality fails between `x = 0` and `z = (1, −1)`
    (replayed on the code: corpus/C06, third line) -/
theorem cquad_flags_need_symmetric_part :
    dot ([1, -1] : List α) (mulVec [[1, 4], [0, 1]] [1, -1]) < 0 ∧
    cquadF [[1, 4], [0, 1]] [0, 0] (0 : α) [1, -1] <
      cquadF [[1, 4], [0, 1]] [0, 0] (0 : α) [0, 0] + dot (cquadG [[1, 4], [0, 1]] [0, 0] [0, 0]) (vsub [1, -1] [0, 0]) := by
  have hd : dot ([1, -1] : List α) (mulVec [[1, 4], [0, 1]] [1, -1]) < 0 := by
    simp only [mulVec, List.map, dot]; norm_num
  have h := cquad_gap [[1, 4], [0, 1]] [0, 0] (0 : α) [0, 0] [1, -1] 2 rfl (by simp) rfl rfl rfl
  have e : vsub ([1, -1] : List α) [0, 0] = [1, -1] := by simp [vsub]
  rw [e] at h ⊢
  exact ⟨hd, lt_of_gap h hd⟩

end field

/-! ## the elastic-net prototypes (`mse|mae|hinge|logistic + ridge|lasso|elasticnet`) -/

set_option linter.unusedVariables false
/-- `loss(inputs·x + b, targets)/N + α₁‖x‖₁ + ½‖√α₂ x‖²` with the gradient the code returns: convex with the declared
    `strong_convexity(α₂)` for EVERY kernel lying above its tangents, every data matrix, bias, targets, `α₁, α₂ ≥ 0` -/
theorem elastic_net_subgrad (kV kG : ℝ → ℝ → ℝ) (hk : ∀ t x z, kV t z ≥ kV t x + kG t x * (z - x))
    (a1 a2 : ℝ) (h1 : 0 ≤ a1) (h2 : 0 ≤ a2) (A : List (List ℝ)) (b : ℝ) (t x z : List ℝ)
    (hne : t ≠ []) (hA : A.length = t.length) (hrows : ∀ r ∈ A, r.length = x.length) (hl : z.length = x.length) :
    enetF kV a1 a2 A b t z ≥ enetF kV a1 a2 A b t x + dot (enetG kG a1 a2 A b t x) (vsub z x)
      + a2 / 2 * dot (vsub z x) (vsub z x) := by
  have hox : (enetOutputs A b x).length = t.length := by rw [enetOutputs_length, hA]
  have hoz : (enetOutputs A b z).length = t.length := by rw [enetOutputs_length, hA]
  have hloss := sum2_subgrad kV kG hk t (enetOutputs A b x) (enetOutputs A b z) hox hoz
  rw [enetOutputs_vsub A b z x hl] at hloss
  have hl1 := l1_subgrad x z hl
  rw [enetG_dot kG a1 a2 A b t x _ hA hrows]
  unfold enetF
  simp only [tsqrt_eq]
  rw [dot_smul_smul, dot_smul_smul, Real.mul_self_sqrt h2, sq_norm_gap x z hl]
  -- the loss part divided by `N`, the `ℓ₁` part times `α₁`; the ridge part is an identity
  linear_combination (1 / (t.length : ℝ)) * hloss + a1 * hl1
set_option linter.unusedVariables true

/-- the four convex kernels of elastic_net.h satisfy the hypothesis of `elastic_net_subgrad` (cauchy does not: the
    cauchy prototypes are declared non-convex) -/
theorem elastic_net_kernels :
    (∀ t x z : ℝ, enetMseV t z ≥ enetMseV t x + enetMseG t x * (z - x)) ∧
    (∀ t x z : ℝ, maeV t z ≥ maeV t x + maeG t x * (z - x)) ∧
    (∀ t x z : ℝ, enetHingeV t z ≥ enetHingeV t x + enetHingeG t x * (z - x)) ∧
    (∀ t x z : ℝ, enetLogisticV t z ≥ enetLogisticV t x + enetLogisticG t x * (z - x)) := by
  refine ⟨mseK_subgrad, maeK_subgrad, fun t x z => ?_, fun t x z => ?_⟩
  · unfold enetHingeV enetHingeG
    linear_combination max0_subgrad (1 + -x * t) (1 + -z * t)
  · have h := softplus_tangent (-x * t) (-z * t)
    rw [show Real.exp (-x * t) / (1 + Real.exp (-x * t)) * (-z * t - -x * t) =
      -t * Real.exp (-x * t) / (1 + Real.exp (-x * t)) * (z - x) by ring] at h
    exact h

/-! ## the returned gradient is the derivative (smooth scalar kernels, target fixed, as functions of the output) -/

theorem mse_hasDerivAt (t o : ℝ) : HasDerivAt (fun o => 1 / 2 * mseV t o) (mseG t o) o := by
  have h := (hasDerivAt_id' o).sub_const t
  exact ((h.fun_mul h).const_mul (1 / 2)).congr_deriv (by unfold mseG; ring)
theorem sqhinge_hasDerivAt (t o : ℝ) : HasDerivAt (fun o => sqhingeV t o) (sqhingeG t o) o := by
  have h := comp_deriv ((hasDerivAt_const_mul t).const_sub 1) (max0_sq_deriv (1 - t * o))
  exact h.congr_deriv (by unfold sqhingeG; ring)
theorem logistic_hasDerivAt (t o : ℝ) : HasDerivAt (fun o => logisticV t o) (logisticG t o) o :=
  deriv_of_eq (log_one_add_exp_deriv (-t) o) (fun _ => softplus_eq _) (by rw [logisticG, sigmoid_eq])
theorem exponential_hasDerivAt (t o : ℝ) : HasDerivAt (fun o => expV t o) (expG t o) o :=
  (hasDerivAt_const_mul (-t)).exp.congr_deriv (mul_comm _ _)
theorem cauchy_hasDerivAt (t o : ℝ) : HasDerivAt (fun o => 1 / 2 * cauchyV t o) (Loss.cauchyG t o) o := by
  have e : ∀ y : ℝ, (t - y) * (t - y) + 1 = 1 + (y - t) * (y - t) := fun y => by ring
  unfold cauchyV Loss.cauchyG
  simp only [tlog_eq, e]
  exact ((log_one_add_sq_deriv t o).const_mul (1 / 2)).congr_deriv (by ring)
theorem savage_hasDerivAt (t o : ℝ) : HasDerivAt (fun o => savageV t o) (savageG t o) o := by
  have h1 := (hasDerivAt_const_mul t).exp.const_add 1 (x := o)
  have hE := Real.exp_pos (t * o)
  have h := (h1.fun_mul h1).fun_inv (mul_self_pos.2 (add_pos one_pos hE).ne').ne'
  refine deriv_of_eq h (fun _ => one_div _) ?_
  unfold savageG
  simp only [texp_eq, neg_mul, Real.exp_neg]
  generalize Real.exp (t * o) = E at hE
  field_simp
  ring
theorem tangent_hasDerivAt (t o : ℝ) : HasDerivAt (fun o => tangentV t o) (tangentG t o) o := by
  have h1 := ((hasDerivAt_const_mul t).arctan.const_mul 2).sub_const 1 (x := o)
  refine (h1.fun_mul h1).congr_deriv ?_
  unfold tangentG
  simp only [tatan_eq]
  ring

/-! ## the returned gradient is the derivative of the returned value along EVERY line

  `line x d t = x + t • d` (`Proofs/C06Line.lean`). For a value `f` and the gradient `g` the code returns with it,

      HasDerivAt (fun t : ℝ => f (line x d t)) (dot (g x) d) 0        for all x, d of the dimension of f

  says that the directional derivative at `x` along `d` exists and is `g(x)·d` — the exact statement whose two sides
  the central differences along random directions of the oracle estimate. All smooth benchmark functions (convex or
  not), all smooth losses as functions of the prediction vector, all smooth constraint kinds. -/

/-- the statement at `t = 0` for all points gives the derivative at every `t₀` of the line (at the point `x + t₀ d`) -/
theorem hasDerivAt_line_everywhere (f : List ℝ → ℝ) (g : List ℝ → List ℝ)
    (h : ∀ x d : List ℝ, d.length = x.length → HasDerivAt (fun t : ℝ => f (line x d t)) (dot (g x) d) 0)
    (x d : List ℝ) (hd : d.length = x.length) (t0 : ℝ) :
    HasDerivAt (fun t : ℝ => f (line x d t)) (dot (g (line x d t0)) d) t0 :=
  line_deriv_at f x d t0 _ hd (h (line x d t0) d (by rw [line_length x d t0 hd, hd]))

/-! ### composition: what the smooth ML objectives inherit from their loss -/

/-- composition with an affine map `x ↦ b + A x`: the gradient `Aᵀ g_h(b + A x)` is the derivative when `g_h` is -/
theorem affine_comp_hasDerivAt_line (h : List ℝ → ℝ) (gh : List ℝ → List ℝ) (A : List (List ℝ)) (b : List ℝ) (n : Nat)
    (hrows : ∀ r ∈ A, r.length = n) (hb : b.length = A.length)
    (hgh : ∀ u : List ℝ, u.length = A.length → (gh u).length = A.length)
    (hh : ∀ u w : List ℝ, u.length = A.length → w.length = A.length →
      HasDerivAt (fun t : ℝ => h (line u w t)) (dot (gh u) w) 0)
    (x d : List ℝ) (hx : x.length = n) (hd : d.length = n) :
    HasDerivAt (fun t : ℝ => h (vadd b (mulVec A (line x d t))))
      (dot (tmulVec n A (gh (vadd b (mulVec A x)))) d) 0 := by
  have hu : (vadd b (mulVec A x)).length = A.length := by
    rw [vadd_length b _ (by rw [mulVec_length, hb]), mulVec_length]
  rw [tmulVec_adjoint n A _ d hrows (hgh _ hu).symm]
  -- the affine image of the line is the line through `b + A x` with direction `A d`
  refine deriv_of_eq (hh _ _ hu (mulVec_length A d)) (fun t => ?_) rfl
  rw [mulVec_line A x d t (hd.trans hx.symm), vadd_line b _ _ t (by rw [mulVec_length, hb]) (by rw [mulVec_length, hb])]

theorem sum_hasDerivAt_line (f1 f2 : List ℝ → ℝ) (g1 g2 x d : List ℝ) (hg : g1.length = g2.length)
    (h1 : HasDerivAt (fun t : ℝ => f1 (line x d t)) (dot g1 d) 0)
    (h2 : HasDerivAt (fun t : ℝ => f2 (line x d t)) (dot g2 d) 0) :
    HasDerivAt (fun t : ℝ => f1 (line x d t) + f2 (line x d t)) (dot (vadd g1 g2) d) 0 := by
  rw [dot_vadd_left _ _ _ hg]
  exact h1.add h2

theorem ridge_hasDerivAt_line (f : List ℝ → ℝ) (g : List ℝ) (c : ℝ) (x d : List ℝ) (hd : d.length = x.length)
    (hg : g.length = x.length) (h : HasDerivAt (fun t : ℝ => f (line x d t)) (dot g d) 0) :
    HasDerivAt (fun t : ℝ => f (line x d t) + c / 2 * dot (line x d t) (line x d t))
      (dot (vadd g (smul c x)) d) 0 := by
  rw [dot_vadd_left _ _ _ (by rw [smul_length, hg]), dot_smul_left]
  exact (h.add ((dot_self_line_deriv x d hd).const_mul (c / 2))).congr_deriv (by ring)

/-! ### benchmark functions declared smooth -/

theorem sphere_hasDerivAt_line (x d : List ℝ) (hd : d.length = x.length) :
    HasDerivAt (fun t : ℝ => sphereF (line x d t)) (dot (sphereG x) d) 0 := by
  unfold sphereG
  rw [dot_smul_left]
  exact dot_self_line_deriv x d hd

theorem axis_ellipsoid_hasDerivAt_line (x d : List ℝ) (hd : d.length = x.length) :
    HasDerivAt (fun t : ℝ => axisF (line x d t)) (dot (axisG x) d) 0 :=
  sumIdx_line_deriv _ _ (fun _ y => (mul_self_deriv y).mul_const _) 0 x d hd

theorem schumer_steiglitz_hasDerivAt_line (x d : List ℝ) (hd : d.length = x.length) :
    HasDerivAt (fun t : ℝ => schumerF (line x d t)) (dot (schumerG x) d) 0 :=
  sumIdx_line_deriv _ _ (fun _ y => quartic_deriv y) 0 x d hd

/-- non-convex -/
theorem qing_hasDerivAt_line (x d : List ℝ) (hd : d.length = x.length) :
    HasDerivAt (fun t : ℝ => qingF (line x d t)) (dot (qingG x) d) 0 := by
  refine sumIdx_line_deriv _ _ (fun i y => ?_) 0 x d hd
  have h := (mul_self_deriv y).sub_const (((i + 1 : Nat) : ℝ))
  exact (h.fun_mul h).congr_deriv (by ring)

/-- non-convex -/
theorem styblinski_tang_hasDerivAt_line (x d : List ℝ) (hd : d.length = x.length) :
    HasDerivAt (fun t : ℝ => styblinskiF (line x d t)) (dot (styblinskiG x) d) 0 := by
  refine sumIdx_line_deriv _ _ (fun _ y => ?_) 0 x d hd
  have h := ((quartic_deriv y).sub ((mul_self_deriv y).const_mul ((16 : Nat) : ℝ))).add
    ((hasDerivAt_id' y).const_mul ((5 : Nat) : ℝ))
  exact h.congr_deriv (by push_cast; ring)

theorem chung_reynolds_hasDerivAt_line (x d : List ℝ) (hd : d.length = x.length) :
    HasDerivAt (fun t : ℝ => chungF (line x d t)) (dot (chungG x) d) 0 := by
  unfold chungG
  rw [dot_smul_left]
  exact (radial_line_deriv x d hd (mul_self_deriv _)).congr_deriv (by ring)

theorem sargan_hasDerivAt_line (x d : List ℝ) (hd : d.length = x.length) :
    HasDerivAt (fun t : ℝ => sarganF (line x d t)) (dot (sarganG x) d) 0 := by
  unfold sarganG
  rw [dot_smul_left]
  have h := ((hasDerivAt_id' (dot x x)).const_mul (((6 : Nat) : ℝ) / ((10 : Nat) : ℝ))).add
    ((mul_self_deriv (dot x x)).const_mul (4 / ((10 : Nat) : ℝ)))
  exact (radial_line_deriv x d hd h).congr_deriv (by push_cast; ring)

theorem zakharov_hasDerivAt_line (x d : List ℝ) (hd : d.length = x.length) :
    HasDerivAt (fun t : ℝ => zakharovF (line x d t)) (dot (zakharovG x) d) 0 := by
  unfold zakharovF zakharovG
  simp only [line_length x d _ hd]
  rw [dot_vadd_left _ _ _ (by rw [smul_length, smul_length, zakBias_length]), dot_smul_left, dot_smul_left]
  have hv := comp_at (u := fun t => dot (line x d t) (zakBias x.length)) (by rw [line_zero x d hd])
    ((mul_self_deriv _).add (quartic_deriv _)) (dot_const_line_deriv x d (zakBias x.length) hd)
  exact deriv_of_eq ((dot_self_line_deriv x d hd).add hv) (fun t => add_assoc _ _ _) (by ring)

/-- `exp(1 + ‖x‖²/n)` (for `n = 0` the model divides by zero as the code would; the statement still holds) -/
theorem exponential_fn_hasDerivAt_line (x d : List ℝ) (hd : d.length = x.length) :
    HasDerivAt (fun t : ℝ => expfnF (line x d t)) (dot (expfnG x) d) 0 := by
  unfold expfnG
  rw [dot_smul_left]
  unfold expfnF
  simp only [texp_eq, line_length x d _ hd]
  have h := ((hasDerivAt_mul_const (1 / (x.length : ℝ))).const_add 1).exp (x := dot x x)
  exact (radial_line_deriv x d hd h).congr_deriv (by ring)

/-- non-convex; `log1p(‖x‖²)`: the argument of the logarithm is `≥ 1`, no hypothesis is needed -/
theorem cauchy_fn_hasDerivAt_line (x d : List ℝ) (hd : d.length = x.length) :
    HasDerivAt (fun t : ℝ => Fn.cauchyF (line x d t)) (dot (Fn.cauchyG x) d) 0 := by
  unfold Fn.cauchyG
  rw [dot_map_mul_div]
  have hpos : 1 + dot x x ≠ 0 := (add_pos_of_pos_of_nonneg one_pos (dot_self_nonneg x)).ne'
  have h := ((hasDerivAt_id' (dot x x)).const_add 1).log hpos
  exact (radial_line_deriv x d hd h).congr_deriv (by ring)

theorem rotated_ellipsoid_hasDerivAt_line (x d : List ℝ) (hd : d.length = x.length) :
    HasDerivAt (fun t : ℝ => rotF 0 (line x d t)) (dot (rotG 0 x) d) 0 := by
  simpa only [mul_zero, add_zero, zero_add] using rot_line_deriv x d 0 0 hd

theorem trid_hasDerivAt_line (x d : List ℝ) (hd : d.length = x.length) :
    HasDerivAt (fun t : ℝ => tridF (line x d t)) (dot (tridG x) d) 0 := by
  unfold tridG
  rw [dot_vadd_left _ _ _ (by rw [mapIdx_length, pairGrad_length])]
  have h1 : HasDerivAt (fun t : ℝ => sumIdx (fun _ xi => (xi - 1) * (xi - 1)) 0 (line x d t))
      (dot (mapIdx (fun _ xi => 2 * (xi - 1)) 0 x) d) 0 := by
    refine sumIdx_line_deriv _ _ (fun _ y => ?_) 0 x d hd
    have h := (hasDerivAt_id' y).sub_const 1
    exact (h.fun_mul h).congr_deriv (by ring)
  have h2 := pair_line_deriv (fun a b => -(a * b)) (fun a b => (-b, -a))
    (fun a b da db => ((coord_deriv a da).fun_mul (coord_deriv b db)).fun_neg.congr_deriv (by ring)) x d hd
  exact deriv_of_eq (h1.fun_add h2) (fun t => by rw [tridF, adjSum_eq_pairSum, sub_neg_eq_add]) rfl

/-- non-convex -/
theorem rosenbrock_hasDerivAt_line (x d : List ℝ) (hd : d.length = x.length) :
    HasDerivAt (fun t : ℝ => rosenbrockF (line x d t)) (dot (rosenbrockG x) d) 0 := by
  refine pair_line_deriv rosenPiece rosenPieceG (fun a b da db => ?_) x d hd
  have A := coord_deriv a da
  have u := (coord_deriv b db).fun_sub (A.fun_mul A)
  have h := ((u.fun_mul u).const_mul ((100 : Nat) : ℝ)).fun_add ((A.sub_const 1).fun_mul (A.sub_const 1))
  refine h.congr_deriv ?_
  simp only [rosenPieceG, zero_mul, add_zero]
  ring

/-- non-convex -/
theorem dixon_price_hasDerivAt_line (x d : List ℝ) (hd : d.length = x.length) :
    HasDerivAt (fun t : ℝ => dixonF (line x d t)) (dot (dixonG x) d) 0 := by
  induction x, d, hd using length_eq_induction with
  | nil => exact hasDerivAt_const _ _
  | cons a xs da ds h _ =>
    have A := (coord_deriv a da).sub_const 1
    refine ((A.fun_mul A).fun_add (dixon_sum_deriv xs ds 1 a da (2 * (a - 1)) h)).congr_deriv ?_
    simp only [dixonG, zero_mul, add_zero]
    ring

/-- non-convex; any dimension (the code asks for a multiple of four; trailing coordinates do not enter value or gradient) -/
theorem powell_hasDerivAt_line (x d : List ℝ) (hd : d.length = x.length) :
    HasDerivAt (fun t : ℝ => powellF (line x d t)) (dot (powellG x) d) 0 := powell_grad x d hd

/-- `x·(a + ½ A x)` with the returned gradient `a + A x`: the derivative exactly under the hypothesis that `A` is
    self-adjoint (the constructor draws `A = I + R Rᵀ`); for a non-symmetric `A` the derivative is `a + ½(A + Aᵀ)x` -/
theorem quadratic_hasDerivAt_line (a : List ℝ) (A : List (List ℝ)) (x d : List ℝ) (n : Nat)
    (hA : A.length = n) (ha : a.length = n) (hx : x.length = n) (hd : d.length = n)
    (hsym : ∀ u v : List ℝ, u.length = n → v.length = n → dot u (mulVec A v) = dot v (mulVec A u)) :
    HasDerivAt (fun t : ℝ => quadraticF a A (line x d t)) (dot (quadraticG a A x) d) 0 := by
  have hdx : d.length = x.length := hd.trans hx.symm
  have h := ((bilin_line_deriv A x d hdx).const_mul (1 / 2)).fun_add (dot_const_line_deriv x d a hdx)
  refine deriv_of_eq h (fun t => ?_) ?_
  · rw [quadraticF, dot_comm, dot_vadd_left _ _ _ (by rw [smul_length, mulVec_length, ha, hA]), dot_smul_left,
      dot_comm (mulVec A (line x d t)), add_comm, dot_comm a]
  · rw [quadraticG, dot_vadd_left _ _ _ (by rw [mulVec_length, ha, hA]), hsym x d hx hd, dot_comm (mulVec A x) d]
    ring

theorem geometric_hasDerivAt_line (a : List ℝ) (A : List (List ℝ)) (x d : List ℝ) (ha : a.length = A.length)
    (hrows : ∀ r ∈ A, r.length = x.length) (hd : d.length = x.length) :
    HasDerivAt (fun t : ℝ => geomF a A (line x d t)) (dot (geomG a A x) d) 0 :=
  affine_comp_hasDerivAt_line (fun u => sumL (u.map Real.exp)) (fun u => u.map Real.exp) A a x.length hrows ha
    (fun u hu => by rw [List.length_map, hu])
    (fun u w hu hw => sumL_map_line_deriv Real.exp Real.exp u w (hw.trans hu.symm) fun y _ => Real.hasDerivAt_exp y)
    x d rfl hd

/-! ### losses declared smooth, as functions of the prediction vector (any number of outputs) -/

/-- mse, cauchy, squared hinge (differentiable also on its kink), savage, tangent, logistic (with the `x < 1` switch as
    coded), exponential: `loss_t::vgrad` is the gradient of `loss_t::value` -/
theorem loss_hasDerivAt_line (k : Kind) (hk : smoothKind k = true) (a eps : ℝ) (t o d : List ℝ)
    (ho : o.length = t.length) (hd : d.length = t.length) :
    HasDerivAt (fun s : ℝ => value k a eps t (line o d s)) (dot (vgrad k a t o) d) 0 := by
  have hT : All2 (fun _ _ => True) t o := All2.of_forall (fun _ _ => trivial) t o
  cases k <;> simp only [smoothKind, Bool.false_eq_true] at hk <;> simp only [value, vgrad]
  · exact sum2_line_deriv (1 / 2) _ mseV mseG (fun t o _ => mse_hasDerivAt t o) t o d ho hd hT
  · exact sum2_line_deriv (1 / 2) _ cauchyV Loss.cauchyG (fun t o _ => cauchy_hasDerivAt t o) t o d ho hd hT
  · exact sum2_line_deriv_on _ sqhingeV sqhingeG (fun t o _ => sqhinge_hasDerivAt t o) t o d ho hd hT
  · exact sum2_line_deriv_on _ savageV savageG (fun t o _ => savage_hasDerivAt t o) t o d ho hd hT
  · exact sum2_line_deriv_on _ tangentV tangentG (fun t o _ => tangent_hasDerivAt t o) t o d ho hd hT
  · exact sum2_line_deriv_on _ logisticV logisticG (fun t o _ => logistic_hasDerivAt t o) t o d ho hd hT
  · exact sum2_line_deriv_on _ expV expG (fun t o _ => exponential_hasDerivAt t o) t o d ho hd hT

/-- class negative log-likelihood without the `ε` inside the logarithm, for ANY shift rule (the code shifts by the
    maximal output, which moves with the point): soft-max minus the positive-target indicator is the gradient -/
theorem classnll_shift_hasDerivAt_line (c : List ℝ → ℝ) (t o d : List ℝ) (hne : t ≠ [])
    (ho : o.length = t.length) (hd : d.length = t.length) :
    HasDerivAt (fun s : ℝ => classnllShift 0 (c (line o d s)) t (line o d s))
      (dot (classnllGShift (c o) t o) d) 0 := by
  have hdo : d.length = o.length := hd.trans ho.symm
  have hlne : ∀ s : ℝ, line o d s ≠ [] := fun s => ne_nil_of_length_eq hne ((line_length o d s hdo).trans ho)
  have hS : expSum (c o) (line o d 0) ≠ 0 := (expSum_pos (c o) _ (hlne 0)).ne'
  have hE : HasDerivAt (fun s : ℝ => expSum (c o) (line o d s)) (dot (o.map fun y => Real.exp (y - c o)) d) 0 := by
    simp only [expSum_eq_sumL_map]
    exact sumL_map_line_deriv _ _ o d hdo fun y _ => ((hasDerivAt_id' y).sub_const (c o)).exp.congr_deriv (mul_one _)
  have h := ((hE.log hS).fun_sub (coord_deriv (posSum t o) (posSum t d))).add_const (c o)
  refine deriv_of_eq h (fun s => ?_) ?_
  · rw [classnllShift_indep (c (line o d s)) (c o) t _ (hlne s), classnllShift, tlog_eq, zero_add, posSum_line t o d s ho hd]
  · rw [classnllGShift, classnllG_dot_dir (c o) _ t o d ho hd, line_zero o d hdo]

/-- `s-classnll` with `ε = 0`: `vgrad` is the gradient of `value` -/
theorem classnll_hasDerivAt_line (a : ℝ) (t o d : List ℝ) (hne : t ≠ [])
    (ho : o.length = t.length) (hd : d.length = t.length) :
    HasDerivAt (fun s : ℝ => value .classnll a 0 t (line o d s)) (dot (vgrad .classnll a t o) d) 0 :=
  classnll_shift_hasDerivAt_line maxCoeff t o d hne ho hd

/-- `s-classnll` AS CODED (`ε` inside the logarithm of the value, none in the gradient, shift = maximal output): the
    value lies within `log(1 + ε)` (≤ 2.3e-16) of the `ε = 0` value whose gradient the code returns exactly — the
    returned gradient is not the exact derivative of the returned value, but of a function uniformly this close -/
theorem classnll_value_eps_close (a eps : ℝ) (heps : 0 ≤ eps) (t o : List ℝ) (hne : o ≠ []) :
    0 ≤ value .classnll a eps t o - value .classnll a 0 t o ∧
    value .classnll a eps t o - value .classnll a 0 t o ≤ Real.log (1 + eps) :=
  ⟨sub_nonneg.mpr (classnllV_eps_close eps heps t o hne).1, sub_le_iff_le_add'.mpr (classnllV_eps_close eps heps t o hne).2⟩

/-! ### the elastic-net prototypes: one theorem under a side condition that is empty in the smooth case -/

/-- the elastic-net prototypes that do not declare themselves smooth (`lasso`, `elasticnet`, and `ridge` with the mae /
    hinge kernel): at a point without zero coordinate — or any point when there is no `ℓ₁` term, `α₁ = 0` — whose outputs
    avoid the kinks of the kernel (`P`; `True` for a smooth kernel) -/
theorem elastic_net_hasDerivAt_line_off_kinks (P : ℝ → ℝ → Prop) (kV kG : ℝ → ℝ → ℝ)
    (hk : ∀ t o, P t o → HasDerivAt (fun o => kV t o) (kG t o) o)
    (a1 a2 : ℝ) (h2 : 0 ≤ a2) (A : List (List ℝ)) (b : ℝ) (t x d : List ℝ)
    (hA : A.length = t.length) (hrows : ∀ r ∈ A, r.length = x.length) (hd : d.length = x.length)
    (hP : All2 P t (enetOutputs A b x)) (hx0 : a1 = 0 ∨ ∀ v ∈ x, v ≠ 0) :
    HasDerivAt (fun s : ℝ => enetF kV a1 a2 A b t (line x d s)) (dot (enetG kG a1 a2 A b t x) d) 0 := by
  have hox : (enetOutputs A b x).length = t.length := by rw [enetOutputs_length, hA]
  have h1 := (sum2_line_deriv_on P kV kG hk t _ (mulVec A d) hox (by rw [mulVec_length, hA]) hP).div_const
    (t.length : ℝ)
  have hl1 : HasDerivAt (fun s : ℝ => a1 * sumL ((line x d s).map abs')) (a1 * dot (x.map sign') d) 0 := by
    rcases hx0 with rfl | h
    · simpa only [zero_mul] using hasDerivAt_const (0 : ℝ) (0 : ℝ)
    · exact (sumL_map_line_deriv abs' sign' x d hd fun v hv => abs_deriv_off (h v hv)).const_mul a1
  have h3 := ((dot_self_line_deriv x d hd).const_mul a2).const_mul (1 / 2)
  refine deriv_of_eq ((h1.fun_add hl1).fun_add h3) (fun s => ?_) ?_
  · rw [enetF, enetOutputs_line A b x d s hd, tsqrt_eq, dot_smul_smul, Real.mul_self_sqrt h2]
  · rw [enetG_dot kG a1 a2 A b t x d hA hrows]
    ring

/-- the smooth elastic-net prototypes (`α₁ = 0`, ids `<loss>+ridge[α₂]`): for EVERY kernel whose `kG` is the derivative
    of `kV`, every data matrix, bias and targets -/
theorem elastic_net_ridge_hasDerivAt_line (kV kG : ℝ → ℝ → ℝ) (hk : ∀ t o, HasDerivAt (fun o => kV t o) (kG t o) o)
    (a2 : ℝ) (h2 : 0 ≤ a2) (A : List (List ℝ)) (b : ℝ) (t x d : List ℝ)
    (hA : A.length = t.length) (hrows : ∀ r ∈ A, r.length = x.length) (hd : d.length = x.length) :
    HasDerivAt (fun s : ℝ => enetF kV 0 a2 A b t (line x d s)) (dot (enetG kG 0 a2 A b t x) d) 0 :=
  elastic_net_hasDerivAt_line_off_kinks (fun _ _ => True) kV kG (fun t o _ => hk t o) 0 a2 h2 A b t x d hA hrows hd
    (All2.of_forall (fun _ _ => trivial) _ _) (Or.inl rfl)

/-- the smooth kernels of elastic_net.h satisfy the hypothesis of `elastic_net_ridge_hasDerivAt_line` (the cauchy
    kernel too, although `cauchy+ridge` does not declare itself smooth) -/
theorem elastic_net_smooth_kernels :
    (∀ t o : ℝ, HasDerivAt (fun o => enetMseV t o) (enetMseG t o) o) ∧
    (∀ t o : ℝ, HasDerivAt (fun o => enetLogisticV t o) (enetLogisticG t o) o) ∧
    (∀ t o : ℝ, HasDerivAt (fun o => enetCauchyV t o) (enetCauchyG t o) o) :=
  ⟨mse_hasDerivAt, enetLogistic_deriv, enetCauchy_deriv⟩

/-- the two non-smooth kernels of elastic_net.h off their kinks (the smooth ones: `elastic_net_smooth_kernels`) -/
theorem elastic_net_kernels_off_kinks :
    (∀ t o : ℝ, o ≠ t → HasDerivAt (fun o => maeV t o) (maeG t o) o) ∧
    (∀ t o : ℝ, 1 + -o * t ≠ 0 → HasDerivAt (fun o => enetHingeV t o) (enetHingeG t o) o) :=
  ⟨mae_deriv_off, enetHinge_deriv_off⟩

/-! ### objects NOT declared smooth: the returned sub-gradient is the derivative wherever no kink / tie is hit

  ("the (sub)gradient returned with a value is the derivative of that value wherever it is differentiable"): the side
  conditions below say that the point `x` avoids the kinks of the formula; on a kink the code returns one sub-gradient
  (the `X_subgrad` theorems). -/

/-- mae: every output differs from its target -/
theorem mae_hasDerivAt_line_off_kinks (a eps : ℝ) (t o d : List ℝ) (ho : o.length = t.length)
    (hd : d.length = t.length) (hk : All2 (fun ti oi => oi ≠ ti) t o) :
    HasDerivAt (fun s : ℝ => value .mae a eps t (line o d s)) (dot (vgrad .mae a t o) d) 0 :=
  sum2_line_deriv_on _ maeV maeG mae_deriv_off t o d ho hd hk

/-- hinge: no output on the margin `t_i o_i = 1` -/
theorem hinge_hasDerivAt_line_off_kinks (a eps : ℝ) (t o d : List ℝ) (ho : o.length = t.length)
    (hd : d.length = t.length) (hk : All2 (fun ti oi => 1 - ti * oi ≠ 0) t o) :
    HasDerivAt (fun s : ℝ => value .hinge a eps t (line o d s)) (dot (vgrad .hinge a t o) d) 0 :=
  sum2_line_deriv_on _ hingeV hingeG hinge_deriv_off t o d ho hd hk

/-- pinball (any `alpha`): every output differs from its target -/
theorem pinball_hasDerivAt_line_off_kinks (a eps : ℝ) (t o d : List ℝ) (ho : o.length = t.length)
    (hd : d.length = t.length) (hk : All2 (fun ti oi => oi ≠ ti) t o) :
    HasDerivAt (fun s : ℝ => value .pinball a eps t (line o d s)) (dot (vgrad .pinball a t o) d) 0 :=
  sum2_line_deriv_on _ (pinballV a) (pinballG a) (pinball_deriv_off a) t o d ho hd hk

/-- chained LQ: no pair on the tie `v1 = v2` of its two pieces -/
theorem chained_lq_hasDerivAt_line_off_ties (x d : List ℝ) (hd : d.length = x.length)
    (hQ : AllPairs (fun a b => lqV1 a b ≠ lqV2 a b) x) :
    HasDerivAt (fun t : ℝ => chainedLqF (line x d t)) (dot (chainedLqG x) d) 0 := by
  refine pair_line_deriv_on _ lqPiece lqPieceG (fun a b da db hne => ?_) x d hd hQ
  have h1 := lqV1_deriv a b da db
  have h2 := lqV2_deriv a b da db
  simp only [lqPiece, lqPieceG, cmax_eq_max]
  rcases lt_or_gt_of_ne hne with h | h
  · rw [if_pos h]
    exact max_deriv_right h1.continuousAt h2 (by simpa only [zero_mul, add_zero] using h)
  · rw [if_neg h.not_gt]
    exact deriv_of_eq (max_deriv_right h2.continuousAt h1 (by simpa only [zero_mul, add_zero] using h))
      (fun t => max_comm _ _) (by ring)

/-- chained CB3 I: in every pair one of the three pieces is the strict maximum -/
theorem chained_cb3I_hasDerivAt_line_off_ties (x d : List ℝ) (hd : d.length = x.length)
    (hQ : AllPairs (fun a b => strictMax3 (cbV1 a b) (cbV2 a b) (cbV3 a b)) x) :
    HasDerivAt (fun t : ℝ => cb3IF (line x d t)) (dot (cb3IG x) d) 0 := by
  refine pair_line_deriv_on _ cb3Piece cb3PieceG (fun a b da db hs => ?_) x d hd hQ
  have h := cmax3_select_deriv (cbV1_deriv a b da db) (cbV2_deriv a b da db) (cbV3_deriv a b da db)
    (by simpa only [zero_mul, add_zero] using hs)
  refine h.congr_deriv ?_
  simp only [cb3PieceG, zero_mul, add_zero]
  split_ifs <;> rfl

/-- chained CB3 II: one of the three sums is the strict maximum -/
theorem chained_cb3II_hasDerivAt_line_off_ties (x d : List ℝ) (hd : d.length = x.length)
    (hs : strictMax3 (pairSum cbV1 x) (pairSum cbV2 x) (pairSum cbV3 x)) :
    HasDerivAt (fun t : ℝ => cb3IIF (line x d t)) (dot (cb3IIG x) d) 0 := by
  have h := cmax3_select_deriv (pair_line_deriv cbV1 cbG1 cbV1_deriv x d hd)
    (pair_line_deriv cbV2 cbG2 cbV2_deriv x d hd) (pair_line_deriv cbV3 cbG3 cbV3_deriv x d hd)
    (by simpa only [line_zero x d hd] using hs)
  refine h.congr_deriv ?_
  simp only [cb3IIG, line_zero x d hd]
  split_ifs <;> rfl

/-- kinks: no coordinate on a kink of any row -/
theorem kinks_hasDerivAt_line_off_kinks (K : List (List ℝ)) (off : ℝ) (x d : List ℝ) (hd : d.length = x.length)
    (hK : ∀ r ∈ K, r.length = x.length) (hk : ∀ r ∈ K, All2 (fun k xi => xi ≠ k) r x) :
    HasDerivAt (fun t : ℝ => kinksF K off (line x d t)) (dot (kinksG K x) d) 0 := by
  unfold kinksF
  rw [kinksG_dot K x d hK]
  refine HasDerivAt.sub_const off ?_
  induction K with
  | nil => exact hasDerivAt_const _ _
  | cons r K ih =>
    -- one row is the mae kernel with the kink positions as targets
    have h0 := sum2_line_deriv_on _ maeV maeG mae_deriv_off r x d (hK r List.mem_cons_self).symm
      (hd.trans (hK r List.mem_cons_self).symm) (hk r List.mem_cons_self)
    exact h0.add (ih (fun r' hr' => hK r' (List.mem_cons_of_mem _ hr')) fun r' hr' => hk r' (List.mem_cons_of_mem _ hr'))

/-- MAXQ: `x_idx²` is the strict maximum -/
theorem maxq_hasDerivAt_line_off_ties (x d : List ℝ) (hd : d.length = x.length) (idx : Nat) (hidx : idx < x.length)
    (hs : ∀ j, j < x.length → j ≠ idx → x.getD j 0 * x.getD j 0 < x.getD idx 0 * x.getD idx 0) :
    HasDerivAt (fun t : ℝ => maxqF (line x d t)) (dot (maxqG x) d) 0 := by
  have e : ∀ (l : List ℝ) j, (l.map fun v => v * v).getD j 0 = l.getD j 0 * l.getD j 0 :=
    Lst.getD_map (fun v => v * v) (mul_zero 0)
  have hsq : ∀ j, HasDerivAt (fun t => ((line x d t).map fun v => v * v).getD j 0)
      (2 * x.getD j 0 * d.getD j 0) 0 := fun j => by
    simp only [e, getD_line x d _ _ hd]
    have A := coord_deriv (x.getD j 0) (d.getD j 0)
    exact (A.fun_mul A).congr_deriv (by rw [zero_mul, add_zero]; ring)
  obtain ⟨hi, hder⟩ := maxCoeff_deriv (fun t => (line x d t).map fun v => v * v) (x.map fun v => v * v)
    (by rw [line_zero x d hd]) x.length idx (fun t => by rw [List.length_map, line_length x d t hd]) hidx
    (fun j _ => (hsq j).continuousAt) (fun j hj hji => by rw [e, e]; exact hs j hj hji)
  rw [maxqG, hi, onehot_dot_from_zero (fun xi => 2 * xi) idx x d hd]
  exact hder _ (hsq idx)

/-- MAXQUAD: the `idx`-th quadratic is the strict maximum (and its matrix acts symmetrically on `x`, `d`) -/
theorem maxquad_hasDerivAt_line_off_ties (As : List (List (List ℝ))) (bs : List (List ℝ)) (x d : List ℝ)
    (hl : As.length = bs.length) (hd : d.length = x.length)
    (hshape : ∀ k, k < As.length → (As.getD k []).length = (bs.getD k []).length)
    (idx : Nat) (hidx : idx < As.length)
    (hsym : dot x (mulVec (As.getD idx []) d) = dot d (mulVec (As.getD idx []) x))
    (hs : ∀ j, j < As.length → j ≠ idx → (mqVals As bs x).getD j 0 < (mqVals As bs x).getD idx 0) :
    HasDerivAt (fun t : ℝ => maxquadF As bs (line x d t)) (dot (maxquadG As bs x) d) 0 := by
  obtain ⟨hi, hder⟩ := maxCoeff_deriv (fun t => mqVals As bs (line x d t)) (mqVals As bs x)
    (by rw [line_zero x d hd]) As.length idx (fun t => mqVals_length As bs _ hl) hidx
    (fun j hj => by
      simp only [getD_mqVals As bs _ j hl]
      exact (mq_piece_deriv _ _ x d (hshape j hj) hd).continuousAt)
    hs
  rw [maxquadG, hi]
  refine hder _ ?_
  simp only [getD_mqVals As bs _ idx hl]
  refine (mq_piece_deriv _ _ x d (hshape idx hidx) hd).congr_deriv ?_
  rw [dot_vsub_left _ _ _ (by rw [smul_length, mulVec_length, hshape idx hidx]), dot_smul_left, hsym,
    dot_comm (mulVec _ x) d, two_mul]

/-- MAXHILB: `|W_idx·x|` is the strict maximum and not zero -/
theorem maxhilb_hasDerivAt_line_off_ties (x d : List ℝ) (hd : d.length = x.length) (idx : Nat) (hidx : idx < x.length)
    (hnz : dot x ((hilbert x.length : List (List ℝ)).getD idx []) ≠ 0)
    (hs : ∀ j, j < x.length → j ≠ idx →
      abs' (dot ((hilbert x.length : List (List ℝ)).getD j []) x) <
        abs' (dot ((hilbert x.length : List (List ℝ)).getD idx []) x)) :
    HasDerivAt (fun t : ℝ => maxhilbF (line x d t)) (dot (maxhilbG x) d) 0 := by
  unfold maxhilbF maxhilbG
  simp only [line_length x d _ hd]
  exact maxabs_grad_off (hilbert x.length) x d hd idx (by rwa [hilbert_length]) hnz
    (fun j hj => hs j (by rwa [hilbert_length] at hj))

/-! ### constraint kinds (all declared smooth); the two functional kinds wrap a function: see the theorems above -/

theorem ball_hasDerivAt_line (o : List ℝ) (r : ℝ) (x d : List ℝ) (hx : x.length = o.length) (hd : d.length = o.length) :
    HasDerivAt (fun t : ℝ => ballF o r (line x d t)) (dot (ballG o x) d) 0 := by
  unfold ballG
  rw [dot_smul_left]
  refine deriv_of_eq ((dot_self_line_deriv (vsub x o) d (by rw [vsub_length x o hx, hd])).sub_const (r * r))
    (fun t => ?_) rfl
  rw [ballF, vsub_line x d o t (hd.trans hx.symm) hx.symm]

theorem linear_hasDerivAt_line (q : List ℝ) (r : ℝ) (x d : List ℝ) (hd : d.length = x.length) :
    HasDerivAt (fun t : ℝ => linearF q r (line x d t)) (dot (linearG q x) d) 0 :=
  deriv_of_eq ((dot_const_line_deriv x d q hd).add_const r) (fun t => by rw [linearF, dot_comm]) rfl

/-- quadratic (equality and inequality kinds) with the symmetrised gradient `½(P + Pᵀ)x + q` (78c1895): the derivative
    for EVERY square `P`, symmetric or not, definite or not (with the former gradient `P x + q` this needs `P`
    self-adjoint) -/
theorem cquad_hasDerivAt_line (P : List (List ℝ)) (q : List ℝ) (r : ℝ) (x d : List ℝ) (n : Nat)
    (hP : P.length = n) (hrows : ∀ r ∈ P, r.length = n) (hq : q.length = n) (hx : x.length = n) (hd : d.length = n) :
    HasDerivAt (fun t : ℝ => cquadF P q r (line x d t)) (dot (cquadG P q x) d) 0 := by
  have hdx : d.length = x.length := hd.trans hx.symm
  have h := (((bilin_line_deriv P x d hdx).const_mul (1 / 2)).fun_add (dot_const_line_deriv x d q hdx)).add_const r
  refine deriv_of_eq h (fun t => by rw [cquadF, dot_comm q]) ?_
  rw [cquadG_dot P q x d n hP hrows hq hx, dot_comm (mulVec P x) d, add_comm (dot d _)]

theorem minimum_hasDerivAt_line (v : ℝ) (k : Nat) (x d : List ℝ) (hd : d.length = x.length) :
    HasDerivAt (fun t : ℝ => minimumF v k (line x d t)) (dot (minimumG k x) d) 0 :=
  deriv_of_eq ((coord_deriv (x.getD k 0) (d.getD k 0)).const_sub v)
    (fun t => by rw [minimumF, getD_line x d k t hd]) (by rw [minimumG, onehot_dot_from_zero (fun _ => -1) k x d hd, neg_one_mul])

/-- `maximum_t` and `constant_t` -/
theorem maximum_hasDerivAt_line (v : ℝ) (k : Nat) (x d : List ℝ) (hd : d.length = x.length) :
    HasDerivAt (fun t : ℝ => maximumF v k (line x d t)) (dot (maximumG k x) d) 0 :=
  deriv_of_eq ((coord_deriv (x.getD k 0) (d.getD k 0)).sub_const v)
    (fun t => by rw [maximumF, getD_line x d k t hd]) (by rw [maximumG, onehot_dot_from_zero (fun _ => 1) k x d hd, one_mul])

/-! ## `make(dims, summands)`, gradient buffers, the `function_t` base class -/

/-- `size()` of every registered prototype for EVERY requested dims 1..32 is the model's rule (`Gen/Flags.lean: sizes`,
    dumped from the implementation on every run): `dims`, `max(dims, 2)` (rosenbrock, elastic-net), `max(4, dims − dims % 4)`
    (powell). A prototype keeping a `dims` that its formulas do not cover breaks this theorem. -/
theorem sizes_covered :
    (sizes.all fun p => p.2 == (List.range 32).map (fun d => FnBase.sizeBy (sizeRuleOf p.1) (d + 1))) = true :=
  sizes_covered_table

/-- … and the rule the driver looks up by the registered id is the same one -/
theorem size_rule_by_id :
    (sizes.all fun p => decide (FnBase.sizeRuleOfId p.1.rawId = sizeRuleOf p.1)) = true := size_rule_by_id_table

/-- powell: the size is a positive multiple of four, the largest one not above `dims` -/
theorem powell_size (d : Nat) :
    4 ∣ FnBase.sizeBy .powell d ∧ 4 ≤ FnBase.sizeBy .powell d ∧ FnBase.sizeBy .powell d ≤ max 4 d ∧
      (4 ≤ d → d < FnBase.sizeBy .powell d + 4) := by
  simp only [FnBase.sizeBy]
  omega

section field
variable {α : Type} [Field α] [LinearOrder α] [IsStrictOrderedRing α]
set_option linter.unusedSectionVars false

/-- powell writes EVERY gradient component exactly when the dimension is a multiple of four — which `size()` always is
    (`powell_size`); for any other length the trailing `length % 4` coordinates enter neither value nor gradient: the model
    returns a SHORTER gradient (the harness pre-fills the buffer with a sentinel and the oracle rejects unwritten entries) -/
theorem powell_gradient_complete : ∀ (x : List α), (powellG x).length = x.length - x.length % 4
  | [] => rfl
  | [_] => rfl
  | [_, _] => rfl
  | [_, _, _] => rfl
  | a :: b :: c :: d :: r => by
    have ih := powell_gradient_complete r
    show (powellG r).length + 4 = r.length + 4 - (r.length + 4) % 4
    rw [ih, Nat.add_mod_right, Nat.sub_add_comm (Nat.mod_le _ _)]

theorem powell_value_ignores_tail (a b c d : α) (r : List α) (hr : r.length < 4) :
    powellF (a :: b :: c :: d :: r) = powellF [a, b, c, d] := by
  match r, hr with
  | [], _ => rfl
  | [_], _ => rfl
  | [_, _], _ => rfl
  | [_, _, _], _ => rfl

end field

section base
variable {α : Type} [Add α] [Sub α] [Mul α] [Div α] [Neg α] [LT α] [DecidableLT α] [OfNat α 0] [OfNat α 1] [OfNat α 2]
open NanoVerif.FnBase NanoVerif.Constraint

/-- `function_t::constrain` (all four overloads), for EVERY history on a fresh function: the size never changes, constraints
    are only appended, and every stored constraint is compatible with the function (dimensions in range, coefficient sizes
    right, radius positive) — so `vgrad` / `valid` of a stored constraint at a point of the function is well-defined -/
theorem function_constraints_invariant (eps : α) (n : Nat) (ops : List (Op α)) :
    (run eps (fresh n) ops).1.size = n ∧ BaseInv (run eps (fresh n : St α) ops).1 ∧
    countEq (run eps (fresh n : St α) ops).1.cons + countIneq (run eps (fresh n : St α) ops).1.cons =
      (run eps (fresh n : St α) ops).1.cons.length :=
  ⟨run_size eps ops _, run_inv eps ops _ (fresh_inv n), count_total _⟩

/-- acceptance rules: a generic constraint iff `compatible`; the box overloads iff `min < max` (and the dimension in range /
    both vectors of the function's size with `max − min > 0` everywhere); a refused call leaves the function unchanged -/
theorem function_constrain_acceptance (eps : α) (s : St α) :
    (∀ c : C α, ((step eps s (.cg c)).2 = some true ↔ c.compatible s.size = true) ∧
      ((step eps s (.cg c)).2 ≠ some true → (step eps s (.cg c)).1 = s)) ∧
    (∀ lo hi : α, ((step eps s (.cb lo hi)).2 = some true ↔ lo < hi) ∧
      ((step eps s (.cb lo hi)).2 ≠ some true → (step eps s (.cb lo hi)).1 = s)) ∧
    (∀ (lo hi : α) (dim : Int), ((step eps s (.cd lo hi dim)).2 = some true ↔ (lo < hi ∧ 0 ≤ dim ∧ dim < (s.size : Int))) ∧
      ((step eps s (.cd lo hi dim)).2 ≠ some true → (step eps s (.cd lo hi dim)).1 = s)) ∧
    (∀ lo hi : List α, ((step eps s (.cv lo hi)).2 = some true ↔
        (lo.length = s.size ∧ hi.length = s.size ∧ allPos lo hi = true)) ∧
      ((step eps s (.cv lo hi)).2 ≠ some true → (step eps s (.cv lo hi)).1 = s)) :=
  ⟨fun c => ⟨(cg_accepted_iff eps s c).1, (cg_accepted_iff eps s c).2.2⟩,
   fun lo hi => ⟨(cb_accepted_iff eps s lo hi).1, (cb_accepted_iff eps s lo hi).2.2⟩,
   fun lo hi d => ⟨(cd_accepted_iff eps s lo hi d).1, (cd_accepted_iff eps s lo hi d).2.2⟩,
   fun lo hi => ⟨(cv_accepted_iff eps s lo hi).1, (cv_accepted_iff eps s lo hi).2.2⟩⟩

/-- an accepted `constrain(min, max)` stores `2 · size` inequalities and no equality -/
theorem function_box_counts (eps : α) (s : St α) (lo hi : α) (h : lo < hi) :
    countIneq (step eps s (.cb lo hi)).1.cons = countIneq s.cons + 2 * s.size ∧
    countEq (step eps s (.cb lo hi)).1.cons = countEq s.cons := by
  simp only [step, h, if_true]
  unfold countIneq countEq
  rw [List.filter_append, List.filter_append, List.length_append, List.length_append]
  have hall := boxFrom_isEq lo hi s.size 0
  have e1 : (boxFrom lo hi s.size 0).filter (fun c => !c.isEq) = boxFrom lo hi s.size 0 := by
    apply List.filter_eq_self.2
    intro c hc; simp [hall c hc]
  have e2 : (boxFrom lo hi s.size 0).filter C.isEq = [] := by
    apply List.filter_eq_nil_iff.2
    intro c hc; simp [hall c hc]
  rw [e1, e2, boxFrom_length]
  simp

/-- `function_t::valid(x)`: every stored constraint is violated by less than the machine epsilon -/
theorem function_valid_iff (eps : α) (s : St α) (x : List α) :
    (step eps s (.valid x)).2 = some true ↔ ∀ c ∈ s.cons, c.valid x < eps := by
  simp [step, List.all_eq_true]

/-- `function_t::vgrad` counts calls: between two `clear_statistics`, `fcalls` = the number of calls, `gcalls` = the number
    of calls with a gradient buffer of the function's size; and for EVERY history `gcalls ≤ fcalls` -/
theorem function_call_counters (eps : α) (n : Nat) (ops : List (Op α)) :
    (noClr ops = true → (run eps (fresh n : St α) ops).1.fcalls = evalCount ops ∧
      (run eps (fresh n : St α) ops).1.gcalls = gradCount n ops) ∧
    (run eps (fresh n : St α) ops).1.gcalls ≤ (run eps (fresh n : St α) ops).1.fcalls := by
  refine ⟨fun h => ?_, run_calls_le eps ops _ (Nat.le_refl 0)⟩
  have := run_calls eps ops (fresh n : St α) h
  simpa [fresh] using this

end base

/-! ## the declared flags (regenerated from the implementation on every run: `Gen/Flags.lean`) -/

/-- objects whose convexity inequality is a theorem above (about their model) -/
def provenConvex : List Obj := [
  .fn_maxq, .fn_maxquad, .fn_maxhilb, .fn_chained_lq, .fn_chained_cb3I, .fn_chained_cb3II, .fn_trid, .fn_kinks, .fn_sargan, .fn_sphere, .fn_zakharov,
  .fn_quadratic, .fn_exponential, .fn_chung_reynolds, .fn_axis_ellipsoid, .fn_schumer_steiglitz, .fn_rotated_ellipsoid,
  .fn_geometric_optimization,
  -- elastic-net prototypes: `elastic_net_subgrad` + `elastic_net_kernels`
  .fn_mse_ridge_1, .fn_mse_ridge_100, .fn_mse_ridge_10000, .fn_mse_ridge_1e_06, .fn_mse_lasso_1, .fn_mse_lasso_100,
  .fn_mse_lasso_10000, .fn_mse_lasso_1e_06, .fn_mse_elasticnet_1_1, .fn_mse_elasticnet_100_100,
  .fn_mse_elasticnet_10000_10000, .fn_mse_elasticnet_1e_06_1e_06, .fn_mae_ridge_1, .fn_mae_lasso_1,
  .fn_mae_elasticnet_1_1, .fn_hinge_ridge_1, .fn_hinge_lasso_1, .fn_hinge_elasticnet_1_1, .fn_logistic_ridge_1,
  .fn_logistic_lasso_1, .fn_logistic_elasticnet_1_1,
  .loss_mae, .loss_mse, .loss_m_hinge, .loss_s_hinge, .loss_m_squared_hinge, .loss_s_squared_hinge, .loss_s_classnll,
  .loss_m_logistic, .loss_s_logistic, .loss_s_exponential, .loss_m_exponential, .loss_pinball,
  .ct_constant, .ct_minimum, .ct_maximum, .ct_ball_eq, .ct_ball_ineq, .ct_linear_eq, .ct_linear_ineq,
  .ct_quadratic_eq_psd, .ct_quadratic_ineq_psd, .ct_functional_eq_sphere, .ct_functional_ineq_sphere]

/-- objects flagged convex whose inequality is only tested by the search (with the reason) -/
def testedOnly : List (Obj × String) := []

/-- every object that DECLARES itself convex (any dimension of the dump) owns a convexity theorem or is on the explicit
    tested-only list: flipping a flag to `convex` in the source (e.g. rosenbrock) breaks this theorem -/
theorem flags_covered :
    (rows.all fun r => !r.convex || provenConvex.contains r.obj || (testedOnly.map Prod.fst).contains r.obj) = true := by
  simp only [obj_contains_eq_testBit]
  decide +kernel

/-- objects that DECLARE themselves smooth and own a "gradient = derivative along every line" theorem above (about
    their model); the functional constraint kinds wrap sphere / rosenbrock -/
def provenSmooth : List (Obj × String) := [
  (.fn_trid, "trid_hasDerivAt_line"), (.fn_qing, "qing_hasDerivAt_line"), (.fn_cauchy, "cauchy_fn_hasDerivAt_line"),
  (.fn_sargan, "sargan_hasDerivAt_line"), (.fn_powell, "powell_hasDerivAt_line"), (.fn_sphere, "sphere_hasDerivAt_line"),
  (.fn_zakharov, "zakharov_hasDerivAt_line"), (.fn_quadratic, "quadratic_hasDerivAt_line"),
  (.fn_rosenbrock, "rosenbrock_hasDerivAt_line"), (.fn_exponential, "exponential_fn_hasDerivAt_line"),
  (.fn_dixon_price, "dixon_price_hasDerivAt_line"), (.fn_chung_reynolds, "chung_reynolds_hasDerivAt_line"),
  (.fn_axis_ellipsoid, "axis_ellipsoid_hasDerivAt_line"), (.fn_styblinski_tang, "styblinski_tang_hasDerivAt_line"),
  (.fn_schumer_steiglitz, "schumer_steiglitz_hasDerivAt_line"),
  (.fn_rotated_ellipsoid, "rotated_ellipsoid_hasDerivAt_line"),
  (.fn_geometric_optimization, "geometric_hasDerivAt_line"),
  (.fn_mse_ridge_1, "elastic_net_ridge_hasDerivAt_line"), (.fn_mse_ridge_100, "elastic_net_ridge_hasDerivAt_line"),
  (.fn_mse_ridge_10000, "elastic_net_ridge_hasDerivAt_line"), (.fn_mse_ridge_1e_06, "elastic_net_ridge_hasDerivAt_line"),
  (.fn_logistic_ridge_1, "elastic_net_ridge_hasDerivAt_line"),
  (.loss_mse, "loss_hasDerivAt_line"), (.loss_cauchy, "loss_hasDerivAt_line"),
  (.loss_m_squared_hinge, "loss_hasDerivAt_line"), (.loss_s_squared_hinge, "loss_hasDerivAt_line"),
  (.loss_m_savage, "loss_hasDerivAt_line"), (.loss_s_savage, "loss_hasDerivAt_line"),
  (.loss_m_tangent, "loss_hasDerivAt_line"), (.loss_s_tangent, "loss_hasDerivAt_line"),
  (.loss_m_logistic, "loss_hasDerivAt_line"), (.loss_s_logistic, "loss_hasDerivAt_line"),
  (.loss_s_exponential, "loss_hasDerivAt_line"), (.loss_m_exponential, "loss_hasDerivAt_line"),
  (.loss_s_classnll, "classnll_hasDerivAt_line + classnll_value_eps_close"),
  (.ct_constant, "maximum_hasDerivAt_line"), (.ct_minimum, "minimum_hasDerivAt_line"),
  (.ct_maximum, "maximum_hasDerivAt_line"), (.ct_ball_eq, "ball_hasDerivAt_line"), (.ct_ball_ineq, "ball_hasDerivAt_line"),
  (.ct_linear_eq, "linear_hasDerivAt_line"), (.ct_linear_ineq, "linear_hasDerivAt_line"),
  (.ct_quadratic_eq_psd, "cquad_hasDerivAt_line"), (.ct_quadratic_ineq_psd, "cquad_hasDerivAt_line"),
  (.ct_quadratic_eq_indefinite, "cquad_hasDerivAt_line"), (.ct_quadratic_ineq_indefinite, "cquad_hasDerivAt_line"),
  (.ct_functional_eq_sphere, "sphere_hasDerivAt_line"), (.ct_functional_ineq_sphere, "sphere_hasDerivAt_line"),
  (.ct_functional_eq_rosenbrock, "rosenbrock_hasDerivAt_line"),
  (.ct_functional_ineq_rosenbrock, "rosenbrock_hasDerivAt_line")]

/-- objects flagged smooth whose gradient is only tested by difference quotients (with the reason) -/
def testedOnlySmooth : List (Obj × String) := []

/-- every object that DECLARES itself smooth (any dimension of the dump) owns a derivative theorem or is on the explicit
    tested-only list: a flag flipped to `smooth` in the source (e.g. of maxq or of a lasso prototype), or a new smooth
    prototype, breaks this theorem -/
theorem smooth_covered :
    (rows.all fun r => !r.smooth || (provenSmooth.map Prod.fst).contains r.obj ||
      (testedOnlySmooth.map Prod.fst).contains r.obj) = true := by
  simp only [obj_contains_eq_testBit]
  decide +kernel

/-- objects NOT declared smooth that own a "sub-gradient = derivative off the kinks / ties" theorem (`cauchy+ridge`
    is smooth in fact: `elastic_net_ridge_hasDerivAt_line` with the cauchy kernel of `elastic_net_smooth_kernels`) -/
def provenOffKinks : List (Obj × String) := [
  (.fn_maxq, "maxq_hasDerivAt_line_off_ties"), (.fn_maxquad, "maxquad_hasDerivAt_line_off_ties"), (.fn_maxhilb, "maxhilb_hasDerivAt_line_off_ties"),
  (.fn_chained_lq, "chained_lq_hasDerivAt_line_off_ties"), (.fn_chained_cb3I, "chained_cb3I_hasDerivAt_line_off_ties"),
  (.fn_chained_cb3II, "chained_cb3II_hasDerivAt_line_off_ties"), (.fn_kinks, "kinks_hasDerivAt_line_off_kinks"),
  (.fn_mse_lasso_1, "elastic_net_hasDerivAt_line_off_kinks"), (.fn_mse_lasso_100, "elastic_net_hasDerivAt_line_off_kinks"),
  (.fn_mse_lasso_10000, "elastic_net_hasDerivAt_line_off_kinks"),
  (.fn_mse_lasso_1e_06, "elastic_net_hasDerivAt_line_off_kinks"),
  (.fn_mse_elasticnet_1_1, "elastic_net_hasDerivAt_line_off_kinks"),
  (.fn_mse_elasticnet_100_100, "elastic_net_hasDerivAt_line_off_kinks"),
  (.fn_mse_elasticnet_10000_10000, "elastic_net_hasDerivAt_line_off_kinks"),
  (.fn_mse_elasticnet_1e_06_1e_06, "elastic_net_hasDerivAt_line_off_kinks"),
  (.fn_mae_ridge_1, "elastic_net_hasDerivAt_line_off_kinks"), (.fn_mae_lasso_1, "elastic_net_hasDerivAt_line_off_kinks"),
  (.fn_mae_elasticnet_1_1, "elastic_net_hasDerivAt_line_off_kinks"),
  (.fn_hinge_ridge_1, "elastic_net_hasDerivAt_line_off_kinks"), (.fn_hinge_lasso_1, "elastic_net_hasDerivAt_line_off_kinks"),
  (.fn_hinge_elasticnet_1_1, "elastic_net_hasDerivAt_line_off_kinks"),
  (.fn_cauchy_ridge_1, "elastic_net_ridge_hasDerivAt_line"), (.fn_cauchy_lasso_1, "elastic_net_hasDerivAt_line_off_kinks"),
  (.fn_cauchy_elasticnet_1_1, "elastic_net_hasDerivAt_line_off_kinks"),
  (.fn_logistic_lasso_1, "elastic_net_hasDerivAt_line_off_kinks"),
  (.fn_logistic_elasticnet_1_1, "elastic_net_hasDerivAt_line_off_kinks"),
  (.loss_mae, "mae_hasDerivAt_line_off_kinks"), (.loss_m_hinge, "hinge_hasDerivAt_line_off_kinks"),
  (.loss_s_hinge, "hinge_hasDerivAt_line_off_kinks"), (.loss_pinball, "pinball_hasDerivAt_line_off_kinks")]

/-- objects not declared smooth whose gradient is only tested by difference quotients (with the reason) -/
def testedOnlyOffKinks : List (Obj × String) := []

/-- every registered object owns a derivative theorem (unconditional if it declares itself smooth, off its kinks / ties
    otherwise) or is on one of the two explicit tested-only lists -/
theorem gradient_covered :
    (rows.all fun r =>
      (provenSmooth.map Prod.fst).contains r.obj || (testedOnlySmooth.map Prod.fst).contains r.obj ||
      (!r.smooth && ((provenOffKinks.map Prod.fst).contains r.obj ||
        (testedOnlyOffKinks.map Prod.fst).contains r.obj))) = true := by
  simp only [obj_contains_eq_testBit]
  decide +kernel

/-- objects whose declared strong-convexity coefficient is part of a theorem above -/
def provenStrong : List Obj := [
  .fn_sphere, .fn_axis_ellipsoid, .fn_exponential, .ct_ball_eq, .ct_ball_ineq, .ct_functional_eq_sphere,
  .ct_functional_ineq_sphere,
  -- `elastic_net_subgrad` carries the `α₂/2 ‖z − x‖²` term
  .fn_mse_ridge_1, .fn_mse_ridge_100, .fn_mse_ridge_10000, .fn_mse_ridge_1e_06, .fn_mse_elasticnet_1_1,
  .fn_mse_elasticnet_100_100, .fn_mse_elasticnet_10000_10000, .fn_mse_elasticnet_1e_06_1e_06, .fn_mae_ridge_1,
  .fn_mae_elasticnet_1_1, .fn_hinge_ridge_1, .fn_hinge_elasticnet_1_1, .fn_logistic_ridge_1,
  .fn_logistic_elasticnet_1_1]

def testedOnlyStrong : List (Obj × String) := [
  (.fn_quadratic, "smallest eigenvalue of A computed by Eigen"),
  (.ct_quadratic_eq_psd, "smallest eigenvalue of (P + Pᵀ)/2 computed by Eigen"),
  (.ct_quadratic_ineq_psd, "smallest eigenvalue of (P + Pᵀ)/2 computed by Eigen")]

/-- every CONVEX object that declares a positive strong-convexity coefficient owns a theorem with the `μ`-term or is on
    the tested-only list (the non-convex cauchy+ridge / cauchy+elasticnet prototypes also declare one; the statement only
    speaks about objects declaring themselves convex) -/
theorem strong_covered :
    (rows.all fun r => !(r.convex && r.strong) || provenStrong.contains r.obj ||
      (testedOnlyStrong.map Prod.fst).contains r.obj) = true := by
  simp only [obj_contains_eq_testBit]
  decide +kernel

/-- the elastic-net prototypes declare `strong_convexity(alpha2)`: the factor in their id (1, 100, 1e4, 1e6 as binary64
    bit patterns; 0 for the lasso prototypes) — the `μ` of `elastic_net_subgrad` -/
def enetMuBits : List (Obj × Nat) := [
  (.fn_mse_ridge_1, 0x3FF0000000000000), (.fn_mse_ridge_100, 0x4059000000000000),
  (.fn_mse_ridge_10000, 0x40C3880000000000), (.fn_mse_ridge_1e_06, 0x412E848000000000),
  (.fn_mse_lasso_1, 0), (.fn_mse_lasso_100, 0), (.fn_mse_lasso_10000, 0), (.fn_mse_lasso_1e_06, 0),
  (.fn_mse_elasticnet_1_1, 0x3FF0000000000000), (.fn_mse_elasticnet_100_100, 0x4059000000000000),
  (.fn_mse_elasticnet_10000_10000, 0x40C3880000000000), (.fn_mse_elasticnet_1e_06_1e_06, 0x412E848000000000),
  (.fn_mae_ridge_1, 0x3FF0000000000000), (.fn_mae_lasso_1, 0), (.fn_mae_elasticnet_1_1, 0x3FF0000000000000),
  (.fn_hinge_ridge_1, 0x3FF0000000000000), (.fn_hinge_lasso_1, 0), (.fn_hinge_elasticnet_1_1, 0x3FF0000000000000),
  (.fn_logistic_ridge_1, 0x3FF0000000000000), (.fn_logistic_lasso_1, 0),
  (.fn_logistic_elasticnet_1_1, 0x3FF0000000000000)]

/-- the VALUE of the declared coefficient is the one the theorems carry: 2 (bits 0x4000…) for sphere, axis-ellipsoid, the
    euclidean ball (and the functional constraint wrapping sphere); `2 / dims` for exponential — checked on the dumped
    dimensions that are powers of two, where `2 / 2^k = 2^(1-k)` has the bit pattern `(1024 - k) · 2^52` -/
def expectedMuBits (r : Row) : Option Nat :=
  if [Obj.fn_sphere, .fn_axis_ellipsoid, .ct_ball_eq, .ct_ball_ineq, .ct_functional_eq_sphere,
      .ct_functional_ineq_sphere].contains r.obj then some 0x4000000000000000
  else if r.obj = .fn_exponential then
    (if r.dims = 2 ^ r.dims.log2 then some ((1024 - r.dims.log2) * 2 ^ 52) else none)
  else if [Obj.ct_constant, .ct_minimum, .ct_maximum, .ct_linear_eq, .ct_linear_ineq, .ct_quadratic_eq_indefinite,
      .ct_quadratic_ineq_indefinite].contains r.obj then some 0   -- affine kinds; `max(0, λ_min)` of an indefinite P
  else if [Obj.ct_quadratic_eq_psd, .ct_quadratic_ineq_psd].contains r.obj then
    some 0x3FF0000000000000                                       -- the representative P = I: λ_min = 1 (`cquad_subgrad_mu`)
  else (enetMuBits.lookup r.obj)

/-- one evaluation of the table for `strong_values_covered` and for the number of rows it speaks of -/
theorem strong_values_scan :
    (rows.all fun r => (expectedMuBits r).all (r.muBits == ·)) = true ∧
    (rows.filter fun r => (expectedMuBits r).isSome).length ≥ 160 := by
  simp only [expectedMuBits, lookup_eq_guarded, obj_contains_eq_testBit]
  decide +kernel

theorem strong_values_covered :
    (rows.all fun r => match expectedMuBits r with | some b => r.muBits == b | none => true) = true := by
  have e : (fun r : Row => match expectedMuBits r with | some b => r.muBits == b | none => true) =
      fun r => (expectedMuBits r).all (r.muBits == ·) := funext fun r => by cases expectedMuBits r <;> rfl
  exact e ▸ strong_values_scan.1

/-! ## non-vacuity -/

-- the table is not empty and contains convex, non-convex, strongly convex rows
set_option maxRecDepth 100000 in
example : rows.length > 300 ∧ (rows.any fun r => r.convex) ∧ (rows.any fun r => !r.convex) ∧
    (rows.any fun r => r.strong) := by decide +kernel
-- `strong_values_covered` speaks of at least 160 rows
set_option maxRecDepth 100000 in
example : (rows.filter fun r => (expectedMuBits r).isSome).length ≥ 160 := strong_values_scan.2
-- rosenbrock is declared non-convex and is on no list: flipping its flag makes `flags_covered` false
example : ¬ provenConvex.contains Obj.fn_rosenbrock ∧ ¬ (testedOnly.map Prod.fst).contains Obj.fn_rosenbrock := by decide

-- hinge on both sides of and on the kink (t = 1): value and sub-gradient as coded
example : hingeV (1 : ℚ) 0 = 1 ∧ hingeG (1 : ℚ) 0 = -1 ∧ hingeV (1 : ℚ) 1 = 0 ∧ hingeG (1 : ℚ) 1 = -1 / 2 ∧
    hingeV (1 : ℚ) 2 = 0 ∧ hingeG (1 : ℚ) 2 = 0 := by
  unfold hingeV hingeG max0 sign'; norm_num

/-- the 2×2 matrix `c·I` acts as the scalar `c` (the witness of the satisfiability examples below) -/
theorem dot_mulVec_scalar2 {α : Type} [Field α] (c : α) (u v : List α) (hu : u.length = 2) (hv : v.length = 2) :
    dot u (mulVec [[c, 0], [0, c]] v) = c * dot u v := by
  match u, v, hu, hv with
  | [x, y], [a, b], _, _ => simp only [mulVec, List.map, dot]; ring

theorem id2_selfadjoint_psd {α : Type} [Field α] [LinearOrder α] [IsStrictOrderedRing α] :
    (∀ u v : List α, u.length = 2 → v.length = 2 →
      dot u (mulVec [[1, 0], [0, 1]] v) = dot v (mulVec [[1, 0], [0, 1]] u)) ∧
    (∀ d : List α, d.length = 2 → 0 ≤ dot d (mulVec [[1, 0], [0, 1]] d)) :=
  ⟨fun u v hu hv => by rw [dot_mulVec_scalar2 1 u v hu hv, dot_mulVec_scalar2 1 v u hv hu, dot_comm u v],
   fun d hd => by rw [dot_mulVec_scalar2 1 d d hd hd, one_mul]; exact dot_self_nonneg d⟩

-- the hypotheses of `quadratic_subgrad` / `cquad_subgrad` are satisfiable: the 2x2 identity
example : ∃ A : List (List ℚ), A.length = 2 ∧
    (∀ u v : List ℚ, u.length = 2 → v.length = 2 → dot u (mulVec A v) = dot v (mulVec A u)) ∧
    (∀ d : List ℚ, d.length = 2 → 0 ≤ dot d (mulVec A d)) :=
  ⟨[[1, 0], [0, 1]], rfl, id2_selfadjoint_psd⟩

-- the tie of chained_cb3 at which the former `>` selected an inactive piece: v1 = v2 exactly at (3/2, -13/64)
example : cbV1 (3 / 2 : ℝ) (-13 / 64) = cbV2 (3 / 2 : ℝ) (-13 / 64) := by unfold cbV1 cbV2; norm_num

-- chained LQ on its tie (1, 0): both pieces are equal and the code returns the gradient of the first one
example : lqV1 (1 : ℚ) 0 = lqV2 (1 : ℚ) 0 ∧ lqPieceG (1 : ℚ) 0 = (-1, -1) := by
  unfold lqPieceG lqV2 lqV1; norm_num

-- one-hot targets exist in the form `classnll_nonneg` asks for; with two positive targets the value is negative:
-- outputs (10, 10), targets (1, 1): log(0 + 2) - 20 + 10 < 0
example : classnllShift (0 : ℝ) 10 [1, 1] [10, 10] < 0 := by
  have h := classnllV_pair_lt 0 10 le_rfl zero_le_one [1, 1] (by norm_num [posSum])
  have hm : maxCoeff ([10, 10] : List ℝ) = 10 := by simp [maxCoeff]
  rwa [classnllV, hm] at h

-- the declared strong convexity of the linear model fails along the bias: one sample, input 0, target 2, mae loss,
-- ridge coefficient c on the weight only. F(w, b) = |b - 2| + c/2 w²; x = (0, 0), z = (0, 1), g(x) = (0, -1):
-- F(z) = 1 < F(x) + g·(z - x) + c/2 ‖z - x‖² = 1 + c/2 for every c > 0
example (c : ℚ) (hc : 0 < c) :
    let F : List ℚ → ℚ := fun p => maeV 2 (p.getD 1 0) + c / 2 * (p.getD 0 0 * p.getD 0 0)
    F [0, 1] < F [0, 0] + dot [c * 0, maeG 2 0] (vsub [0, 1] [0, 0]) + c / 2 * dot (vsub [0, 1] [0, 0]) (vsub [0, 1] [0, 0]) := by
  simp only [List.getD_cons_zero, List.getD_cons_succ, vsub, dot, maeV, maeG, abs', sign']
  norm_num
  linarith

-- smooth declarations exist, non-smooth ones too, and no non-smooth object is on the proven-smooth list by accident:
-- maxq (declared non-smooth) is on neither list, so declaring it smooth makes `smooth_covered` false
set_option maxRecDepth 100000 in
example : (rows.any fun r => r.smooth) ∧ (rows.any fun r => !r.smooth) ∧
    ¬ (provenSmooth.map Prod.fst).contains Obj.fn_maxq ∧ ¬ (testedOnlySmooth.map Prod.fst).contains Obj.fn_maxq := by
  decide +kernel

-- exactly the seven element-wise kinds of `loss_hasDerivAt_line` are smooth kinds (mae, hinge, pinball are not; classnll
-- has its own theorem)
example : ([Kind.mae, .mse, .cauchy, .hinge, .sqhinge, .savage, .tangent, .logistic, .exponential, .classnll,
    .pinball].filter smoothKind) = [.mse, .cauchy, .sqhinge, .savage, .tangent, .logistic, .exponential] := by decide

-- the line and the directional derivative are what they should be on a concrete input: rosenbrock at (0, 0) has the
-- gradient (-2, 0); along d = (1, 1) the derivative of t ↦ 100 (t - t²)² + (t - 1)² at 0 is -2
example : line [0, 0] [1, 1] (3 : ℝ) = [3, 3] ∧ dot (rosenbrockG ([0, 0] : List ℝ)) [1, 1] = -2 := by
  constructor
  · simp
  · simp [rosenbrockG, pairGrad, rosenPieceG, dot]

-- the hypotheses of `quadratic_hasDerivAt_line` / `geometric_hasDerivAt_line` are satisfiable (2x2 identity)
example : ∃ A : List (List ℝ), A.length = 2 ∧ (∀ r ∈ A, r.length = 2) ∧
    (∀ u v : List ℝ, u.length = 2 → v.length = 2 → dot u (mulVec A v) = dot v (mulVec A u)) :=
  ⟨[[1, 0], [0, 1]], rfl, by simp, id2_selfadjoint_psd.1⟩

-- the symmetry hypothesis of `quadratic_hasDerivAt_line` is needed: for A = [[0, 1], [0, 0]], a = 0, x = (0, 1),
-- d = (1, 0) the value along the line is t/2 (derivative 1/2) while the returned gradient gives (A x)·d = 1
example : ¬ HasDerivAt (fun t : ℝ => quadraticF [0, 0] [[0, 1], [0, 0]] (line [0, 1] [1, 0] t))
    (dot (quadraticG [0, 0] [[0, 1], [0, 0]] [0, 1]) [1, 0]) 0 := by
  intro h
  have e : (fun t : ℝ => quadraticF [0, 0] [[0, 1], [0, 0]] (line [0, 1] [1, 0] t)) = fun t => t * (1 / 2) := by
    funext t; simp only [quadraticF, line, mulVec, List.map, dot, vadd, smul]; ring
  have hv : dot (quadraticG ([0, 0] : List ℝ) [[0, 1], [0, 0]] [0, 1]) [1, 0] = 1 := by
    simp only [quadraticG, mulVec, List.map, dot, vadd]; ring
  rw [e, hv] at h
  have := h.unique ((hasDerivAt_id' (0 : ℝ)).mul_const (1 / 2 : ℝ))
  norm_num at this

-- `classnll_value_eps_close` is not vacuous and its lower bound is attained only at ε = 0: one output 0, ε = 1:
-- log(1 + 1) - log(1) = log 2 > 0
example : value .classnll (0 : ℝ) 1 [1] [0] - value .classnll (0 : ℝ) 0 [1] [0] = Real.log 2 := by
  show classnllV (1 : ℝ) [1] [0] - classnllV (0 : ℝ) [1] [0] = Real.log 2
  simp [classnllV, classnllShift, maxCoeff, expSum, posSum]
  norm_num

-- the side conditions of the off-kink theorems are satisfiable:
-- mae / pinball / kinks (outputs differ from targets), hinge (off the margin)
example : All2 (fun ti oi : ℝ => oi ≠ ti) [1, -1] [0, 0] ∧ All2 (fun ti oi : ℝ => 1 - ti * oi ≠ 0) [1, -1] [0, 3] := by
  simp [All2]; norm_num
-- chained LQ at (0, 0, 0): v1 = 0 ≠ v2 = -1 in both pairs
example : AllPairs (fun a b : ℝ => lqV1 a b ≠ lqV2 a b) [0, 0, 0] := by
  simp [AllPairs, lqV1, lqV2]
-- chained CB3 at (0, 0): v1 = 0, v2 = 8, v3 = 2: the second piece is the strict maximum (CB3 I and II)
example : AllPairs (fun a b : ℝ => strictMax3 (cbV1 a b) (cbV2 a b) (cbV3 a b)) [0, 0] ∧
    strictMax3 (pairSum cbV1 ([0, 0] : List ℝ)) (pairSum cbV2 [0, 0]) (pairSum cbV3 [0, 0]) := by
  have h : strictMax3 (cbV1 (0 : ℝ) 0) (cbV2 0 0) (cbV3 0 0) := by
    right; left
    simp only [cbV1, cbV2, cbV3, texp_eq]; norm_num
  exact ⟨⟨h, trivial⟩, by simpa [pairSum] using h⟩
-- MAXQ at (1, 2): the second coordinate is the strict maximum
example : ∀ j, j < ([1, 2] : List ℝ).length → j ≠ 1 →
    ([1, 2] : List ℝ).getD j 0 * ([1, 2] : List ℝ).getD j 0 < ([1, 2] : List ℝ).getD 1 0 * ([1, 2] : List ℝ).getD 1 0 := by
  intro j hj hne
  have : j = 0 := by simp at hj; omega
  subst this; norm_num
-- MAXHILB at (1, 1): W x = (3/2, 5/6): the first row is the strict maximum and not zero
example : dot ([1, 1] : List ℝ) ((hilbert 2 : List (List ℝ)).getD 0 []) = 3 / 2 ∧
    abs' (dot ((hilbert 2 : List (List ℝ)).getD 1 []) [1, 1]) < abs' (dot ((hilbert 2 : List (List ℝ)).getD 0 []) [1, 1]) := by
  simp [hilbert, dot, abs', List.range, List.range.loop]; norm_num

-- the hypotheses of `maxquad_subgrad` / `maxquad_hasDerivAt_line_off_ties` are satisfiable: two quadratics in two
-- dimensions (identity, b = (0,0) and b = (1,1)); at x = (1, 1) the values are 2 and 0: the first is the strict maximum
example : ∃ (As : List (List (List ℚ))) (bs : List (List ℚ)), As ≠ [] ∧ As.length = bs.length ∧
    (∀ A ∈ As, A.length = 2 ∧
      (∀ u v : List ℚ, u.length = 2 → v.length = 2 → dot u (mulVec A v) = dot v (mulVec A u)) ∧
      (∀ d : List ℚ, d.length = 2 → 0 ≤ dot d (mulVec A d))) ∧ (∀ b ∈ bs, b.length = 2) ∧
    mqVals As bs [1, 1] = [2, 0] := by
  refine ⟨[[[1, 0], [0, 1]], [[1, 0], [0, 1]]], [[0, 0], [1, 1]], by simp, rfl, ?_, by simp, ?_⟩
  · intro A hA
    have hA' : A = [[1, 0], [0, 1]] := by simpa using hA
    subst hA'
    exact ⟨rfl, id2_selfadjoint_psd⟩
  · simp [mqVals, mulVec, dot, vsub]; norm_num

-- three samples of two scalars: the second sample as a block, and as the loop sees it
example : sampleAt 2 1 [1, 2, 3, 4, 5, 6] = [3, 4] ∧
    batchMap (fun (t o : List Nat) => t.sum + o.sum) 2 3 [1, 2, 3, 4, 5, 6] [0, 0, 1, 1, 2, 2] = [3, 9, 15] := by decide
-- a batch of 3 samples of 2 outputs, mse: values (1/2, 0, 2), the gradient buffer has 6 entries
example : batchValues .mse (0 : ℝ) 0 2 3 [0, 0, 1, 1, 2, 2] [1, 0, 1, 1, 0, 2] = [1 / 2, 0, 2] ∧
    batchVgrads .mse (0 : ℝ) 2 3 [0, 0, 1, 1, 2, 2] [1, 0, 1, 1, 0, 2] = [1, 0, 0, 0, -2, 0] := by
  simp [batchValues, batchVgrads, batchMap, batchFlat, value, vgrad, sum2, map2, mseV, mseG]
-- the hypotheses of `quadratic_subgrad_mu` are satisfiable with a positive modulus: A = 2 I, μ = 2
example : ∃ (A : List (List ℚ)) (mu : ℚ), 0 < mu ∧ ∀ d : List ℚ, d.length = 2 → mu * dot d d ≤ dot d (mulVec A d) :=
  ⟨[[2, 0], [0, 2]], 2, by norm_num, fun d hd => (dot_mulVec_scalar2 2 d d hd hd).ge⟩
-- sizes: the table has 48 prototypes; powell at dims 1..9 is 4 4 4 4 4 4 4 8 8
set_option maxRecDepth 100000 in
example : sizes.length = 48 ∧ (List.range 9).map (fun d => FnBase.sizeBy .powell (d + 1)) = [4, 4, 4, 4, 4, 4, 4, 8, 8] := by
  decide +kernel
-- powell in 5 dimensions as the seeded change had it: the model's gradient has 4 entries (the fifth is never written)
example : (powellG ([1, 2, 3, 4, 5] : List ℚ)).length = 4 := by simp [powellG]
-- a history on a fresh 2-dimensional function (integer scalars, ε = 1): an accepted box, a refused box (min = max), a
-- dimension out of range, one value-only and one gradient call, a feasible and an infeasible point:
-- 4 constraints, 2 calls, 1 gradient call
def baseHistory : List (FnBase.Op Int) := [.cb (-1) 1, .cb 0 0, .cd 0 1 2, .eval 0, .eval 2, .valid [0, 0], .valid [2, 0]]
example : (FnBase.run (1 : Int) (FnBase.fresh 2) baseHistory).1.cons.length = 4 ∧
    (FnBase.run (1 : Int) (FnBase.fresh 2) baseHistory).1.fcalls = 2 ∧
    (FnBase.run (1 : Int) (FnBase.fresh 2) baseHistory).1.gcalls = 1 ∧
    (FnBase.run (1 : Int) (FnBase.fresh 2) baseHistory).2 =
      [some true, some false, some false, none, none, some true, some false] := by
  decide

end NanoVerif.C06
