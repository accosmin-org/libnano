import NanoVerif.Model.Tensor
import NanoVerif.Proofs.TensorRemoveIf
import NanoVerif.Proofs.TensorIntegral
import NanoVerif.Proofs.TensorReshape
import NanoVerif.Proofs.TensorStack
import NanoVerif.Proofs.TensorView
import NanoVerif.Proofs.TensorStorageOps
import NanoVerif.Proofs.TensorStorageHist
import NanoVerif.Proofs.TensorRange
/-!
  C16 — property theorems about the tensor addressing model (`Model/Tensor.lean`, views: `Model/TensorView.lean`) and, in
  namespace `Tensor.Store` below, about the three storages on the heap model (`Model/TensorStorage.lean`). Core Lean only.
  That the addressing model is the translated C++ is `Proofs/TensorGenerated.lean`.
-/
namespace NanoVerif.Tensor

/-! ### row-major bijection onto `[0, size)` -/

/-- No valid access touches memory outside the buffer. -/
theorem index_lt_size : ∀ (dims idx : List Nat), Valid dims idx → index dims idx < size dims
  | [], [], _ => by simp [index, size]
  | [], _ :: _, h => by simp [Valid] at h
  | _ :: _, [], h => by simp [Valid] at h
  | d :: ds, i :: is, h => cell_lt d (size ds) i (index ds is) h.1 (index_lt_size ds is h.2)

theorem unindex_index : ∀ (dims idx : List Nat), Valid dims idx → unindex dims (index dims idx) = idx
  | [], [], _ => by simp [unindex]
  | [], _ :: _, h => by simp [Valid] at h
  | _ :: _, [], h => by simp [Valid] at h
  | d :: ds, i :: is, h => by
    obtain ⟨h1, h2⟩ := cell_div_mod (size ds) i (index ds is) (index_lt_size ds is h.2)
    simp only [index, unindex]
    rw [h1, h2, unindex_index ds is h.2]

/-- distinct valid tuples address distinct elements -/
theorem index_injective (dims a b : List Nat) (ha : Valid dims a) (hb : Valid dims b)
    (h : index dims a = index dims b) : a = b := by
  rw [← unindex_index dims a ha, ← unindex_index dims b hb, h]

theorem size_pos_of_lt {ds : List Nat} {d o : Nat} (h : o < d * size ds) : 0 < size ds := by
  rcases Nat.eq_zero_or_pos (size ds) with h0 | h0
  · simp [h0] at h
  · exact h0

theorem valid_unindex : ∀ (dims : List Nat) (o : Nat), o < size dims → Valid dims (unindex dims o)
  | [], _, _ => by simp [unindex, Valid]
  | d :: ds, o, h => by
    simp only [size] at h
    have hpos := size_pos_of_lt h
    refine ⟨?_, valid_unindex ds _ (Nat.mod_lt _ hpos)⟩
    exact (Nat.div_lt_iff_lt_mul hpos).2 h

/-- every offset below `size` is the offset of a valid tuple (surjectivity) -/
theorem index_unindex : ∀ (dims : List Nat) (o : Nat), o < size dims → index dims (unindex dims o) = o
  | [], o, h => by simp [size] at h; simp [index, h]
  | d :: ds, o, h => by
    simp only [size] at h
    have hpos := size_pos_of_lt h
    simp only [unindex, index]
    rw [index_unindex ds _ (Nat.mod_lt _ hpos)]
    exact Nat.div_add_mod' o (size ds)

/-- the row-major offset is strictly monotone for the lexicographic order of valid tuples, and conversely:
    iterating the buffer visits the index tuples in lexicographic order -/
theorem index_lex_mono : ∀ (dims a b : List Nat), Valid dims a → Valid dims b →
    (LexLt a b ↔ index dims a < index dims b)
  | [], [], [], _, _ => by simp [LexLt, index]
  | [], _ :: _, _, h, _ => by simp [Valid] at h
  | [], [], _ :: _, _, h => by simp [Valid] at h
  | _ :: _, [], _, h, _ => by simp [Valid] at h
  | _ :: _, _ :: _, [], _, h => by simp [Valid] at h
  | d :: ds, i :: as, j :: bs, ha, hb => by
    simp only [LexLt, index]
    rw [cell_lt_iff i j (index_lt_size ds as ha.2) (index_lt_size ds bs hb.2), index_lex_mono ds as bs ha.2 hb.2]

/-- `LexLt` is the library's lexicographic `<` on lists (for tuples of equal length) -/
theorem lexLt_iff_lt : ∀ (a b : List Nat), a.length = b.length → (LexLt a b ↔ a < b)
  | [], [], _ => by simp [LexLt]
  | [], _ :: _, h => by simp at h
  | _ :: _, [], h => by simp at h
  | x :: as, y :: bs, h => by
    have ih := lexLt_iff_lt as bs (by simpa using h)
    simp only [LexLt, List.cons_lt_cons_iff, ih]

/-! ### partial-index views -/

theorem validPrefix_nil (dims : List Nat) : ValidPrefix dims [] := by
  cases dims <;> trivial

theorem index_nil (dims : List Nat) : index dims [] = 0 := by
  cases dims <;> rfl

/-- `offset(p ++ q) = offset0(p) + offset within dims0(p)`: a partial view followed by indexing inside it
    addresses the element obtained by full indexing. -/
theorem index_append : ∀ (dims p q : List Nat), ValidPrefix dims p →
    index dims (p ++ q) = index dims p + index (dims0 dims p.length) q
  | dims, [], q, _ => by
    show index dims q = index dims [] + index dims q
    rw [index_nil, Nat.zero_add]
  | [], _ :: _, _, h => by simp [ValidPrefix] at h
  | d :: ds, i :: is, q, h => by
    show i * size ds + index ds (is ++ q) = i * size ds + index ds is + index (dims0 ds is.length) q
    rw [index_append ds is q h.2, Nat.add_assoc]

/-- the buffer range `[offset0(p), offset0(p) + size(dims0(p)))` aliased by `vector(p…)`, `matrix(p…)`,
    `tensor(p…)` lies inside the tensor's buffer -/
theorem subview_in_bounds (dims p : List Nat) (h : ValidPrefix dims p) :
    index dims p + size (dims0 dims p.length) ≤ size dims :=
  match dims, p, h with
  | dims, [], _ => by
    show index dims [] + size dims ≤ size dims
    rw [index_nil, Nat.zero_add]
    exact Nat.le_refl _
  | d :: ds, i :: is, h => by
    have ih : index ds is + size (dims0 ds is.length) ≤ size ds := subview_in_bounds ds is h.2
    have := mul_add_le (size ds) h.1
    show i * size ds + index ds is + size (dims0 ds is.length) ≤ d * size ds
    omega

theorem valid_split : ∀ (dims p q : List Nat), ValidPrefix dims p → Valid (dims0 dims p.length) q →
    Valid dims (p ++ q)
  | dims, [], q, _, hq => by simpa [dims0] using hq
  | [], _ :: _, _, h, _ => by simp [ValidPrefix] at h
  | d :: ds, i :: is, q, h, hq => by
    refine ⟨h.1, valid_split ds is q h.2 ?_⟩
    simpa [dims0] using hq

/-! ### what a view aliases: partial-index views and first-axis slices of any storage; those of an owning tensor are its views copied out -/

theorem View.sub_some {v w : View} {p : List Nat} (hs : v.sub p = some w) :
    ValidPrefix v.dims p ∧ w = ⟨v.off + index v.dims p, dims0 v.dims p.length⟩ := by
  unfold View.sub at hs
  split at hs
  · exact ⟨‹_›, (Option.some.inj hs).symm⟩
  · cases hs

theorem View.slice_some {v w : View} {b e : Nat} (hs : v.slice b e = some w) :
    ∃ d ds, v.dims = d :: ds ∧ b ≤ e ∧ e ≤ d ∧ w = ⟨v.off + b * size ds, (e - b) :: ds⟩ := by
  unfold View.slice at hs
  split at hs
  · cases hs
  · split at hs
    · rename_i d ds hd hbe
      exact ⟨d, ds, hd, hbe.1, hbe.2, by simpa [index] using (Option.some.inj hs).symm⟩
    · cases hs

/-- the sub-tensors and slices of an owning tensor are its views, copied out -/
theorem T.sub_eq_view {α} (t : T α) (p : List Nat) : t.sub p = (t.view.sub p).map (assignView t.data) := by
  unfold T.sub View.sub
  simp only [T.view, Nat.zero_add]
  by_cases hp : ValidPrefix t.dims p
  · rw [if_pos hp, if_pos hp]
    rfl
  · rw [if_neg hp, if_neg hp]
    rfl

theorem T.slice_eq_view {α} (t : T α) (b e : Nat) : t.slice b e = (t.view.slice b e).map (assignView t.data) := by
  unfold T.slice View.slice
  simp only [T.view, Nat.zero_add]
  cases t.dims with
  | nil => rfl
  | cons d ds =>
    by_cases hbe : b ≤ e ∧ e ≤ d
    · simp only [if_pos hbe]
      rfl
    · simp only [if_neg hbe]
      rfl

/-- **a view aliases exactly the elements obtained by full indexing**: element `idx` of a non-owning tensor is the
    buffer element at `off + index dims idx` — below `off + size dims`, i.e. inside the viewed range -/
theorem view_get {α} (buf : List α) (v : View) (idx : List Nat) (hv : Valid v.dims idx) :
    (assignView buf v).get? idx = buf[v.off + index v.dims idx]? ∧ v.off + index v.dims idx < v.off + size v.dims := by
  have hlt := index_lt_size _ _ hv
  refine ⟨?_, by omega⟩
  simp only [assignView, View.read, T.get?, hv, if_true]
  rw [List.getElem?_take, if_pos hlt, List.getElem?_drop]

/-- for the owning tensor itself (`data()`, `tensor()`, the conversions to a map / constant map): the view of the whole
    buffer reads what full indexing reads — converting between the three storages changes no element -/
theorem owner_view_get {α} (t : T α) (idx : List Nat) (hv : Valid t.dims idx) :
    (assignView t.data t.view).get? idx = t.get? idx := by
  rw [(view_get t.data t.view idx hv).1]
  simp [T.view, T.get?, hv]

/-- owning → map → owning is the identity on well-formed tensors -/
theorem assign_full_view {α} (t : T α) (hwf : t.wf) : assignView t.data t.view = t := by
  unfold T.wf at hwf
  cases t with
  | mk dims data =>
    simp only [assignView, View.read, T.view, List.drop_zero] at *
    rw [List.take_of_length_le (Nat.le_of_eq hwf)]

theorem assign_wf {α} (buf : List α) (v : View) (hb : v.InBounds buf.length) :
    (assignView buf v).wf ∧ (assignView buf v).dims = v.dims := by
  unfold View.InBounds at hb
  refine ⟨?_, rfl⟩
  simp only [T.wf, assignView, View.read, List.length_take, List.length_drop]
  omega

theorem inBounds_of_owner {α} {t : T α} (hwf : t.wf) {w : View} (hb : w.off + size w.dims ≤ t.view.off + size t.view.dims) :
    w.InBounds t.data.length := by
  unfold View.InBounds
  unfold T.wf at hwf
  simp only [T.view, Nat.zero_add] at hb
  omega

/-- the buffer range `[offset0(b), offset0(b) + (e - b) * size(rest))` aliased by `slice(b, e)` lies inside the
    tensor's buffer (under the C++ assert `0 ≤ b ≤ e ≤ size<0>()`) -/
theorem slice_in_bounds (d : Nat) (ds : List Nat) (b e : Nat) (hbe : b ≤ e ∧ e ≤ d) :
    index (d :: ds) [b] + size ((e - b) :: ds) ≤ size (d :: ds) := by
  simp only [index, size, Nat.add_zero]
  have : b * size ds + (e - b) * size ds ≤ d * size ds := by
    rw [← Nat.add_mul]; apply Nat.mul_le_mul_right; omega
  omega

/-- partial-index views of ANY storage stay inside the tensor they are taken from (hence inside the buffer) -/
theorem view_sub_in_bounds (v w : View) (p : List Nat) (hs : v.sub p = some w) :
    v.off ≤ w.off ∧ w.off + size w.dims ≤ v.off + size v.dims := by
  obtain ⟨hp, rfl⟩ := View.sub_some hs
  have := subview_in_bounds v.dims p hp
  simp only
  omega

theorem view_slice_in_bounds (v w : View) (b e : Nat) (hs : v.slice b e = some w) :
    v.off ≤ w.off ∧ w.off + size w.dims ≤ v.off + size v.dims := by
  obtain ⟨d, ds, hd, hbe, hed, rfl⟩ := View.slice_some hs
  have := slice_in_bounds d ds b e ⟨hbe, hed⟩
  simp only [index, Nat.add_zero] at this
  rw [hd]
  simp only
  omega

/-- element `q` of `x.tensor(p…)` (also `vector` / `array` / `matrix`: same pointer, same elements) is element `p ++ q`
    of `x`, for `x` of any storage — in particular for a view of a view -/
theorem view_sub_elem {α} (buf : List α) (v w : View) (p q : List Nat) (hs : v.sub p = some w)
    (hq : Valid w.dims q) : (assignView buf w).get? q = (assignView buf v).get? (p ++ q) := by
  obtain ⟨hp, rfl⟩ := View.sub_some hs
  rw [(view_get buf _ q hq).1, (view_get buf v (p ++ q) (valid_split v.dims p q hp hq)).1, index_append v.dims p q hp]
  simp only [Nat.add_assoc]

/-- element `(i, q…)` of `x.slice(b, e)` is element `(b + i, q…)` of `x`, for `x` of any storage -/
theorem view_slice_elem {α} (buf : List α) (v w : View) (b e i : Nat) (q : List Nat) (hs : v.slice b e = some w)
    (hq : Valid w.dims (i :: q)) : (assignView buf w).get? (i :: q) = (assignView buf v).get? ((b + i) :: q) := by
  obtain ⟨d, ds, hd, hbe, hed, rfl⟩ := View.slice_some hs
  have hi : i < e - b := hq.1
  have hv : Valid v.dims ((b + i) :: q) := by rw [hd]; exact ⟨by omega, hq.2⟩
  rw [(view_get buf _ _ hq).1, (view_get buf v _ hv).1, hd]
  simp only [index, Nat.add_mul, Nat.add_assoc]

/-- Reading element `q` of the view obtained by fixing the leading indices `p` returns the element at the
    full index `p ++ q` of the tensor. -/
theorem sub_get {α} (t : T α) (p q : List Nat) (s : T α) (hs : t.sub p = some s)
    (hq : Valid s.dims q) : s.get? q = t.get? (p ++ q) := by
  rw [T.sub_eq_view] at hs
  obtain ⟨w, hw, rfl⟩ := Option.map_eq_some_iff.mp hs
  rw [view_sub_elem t.data t.view w p q hw hq]
  obtain ⟨hp, rfl⟩ := View.sub_some hw
  exact owner_view_get t _ (valid_split t.dims p q hp hq)

theorem sub_wf {α} (t : T α) (p : List Nat) (s : T α) (hwf : t.wf) (hs : t.sub p = some s) : s.wf := by
  rw [T.sub_eq_view] at hs
  obtain ⟨w, hw, rfl⟩ := Option.map_eq_some_iff.mp hs
  exact (assign_wf t.data w (inBounds_of_owner hwf (view_sub_in_bounds _ _ _ hw).2)).1

theorem slice_wf {α} (t : T α) (b e : Nat) (s : T α) (hwf : t.wf) (hs : t.slice b e = some s) : s.wf := by
  rw [T.slice_eq_view] at hs
  obtain ⟨w, hw, rfl⟩ := Option.map_eq_some_iff.mp hs
  exact (assign_wf t.data w (inBounds_of_owner hwf (view_slice_in_bounds _ _ _ _ hw).2)).1

/-- element `(i, q…)` of `slice(b, e)` is element `(b + i, q…)` of the tensor -/
theorem slice_get {α} (t : T α) (b e i : Nat) (q : List Nat) (s : T α)
    (hs : t.slice b e = some s) (hq : Valid s.dims (i :: q)) :
    s.get? (i :: q) = t.get? ((b + i) :: q) := by
  rw [T.slice_eq_view] at hs
  obtain ⟨w, hw, rfl⟩ := Option.map_eq_some_iff.mp hs
  rw [view_slice_elem t.data t.view w b e i q hw hq]
  obtain ⟨d, ds, hd, hbe, hed, rfl⟩ := View.slice_some hw
  have hi : i < e - b := hq.1
  exact owner_view_get t _ (by rw [show t.dims = d :: ds from hd]; exact ⟨by omega, hq.2⟩)

/-! ### reshape -/

theorem iprod_map_toNat : ∀ (ds : List Int), ds.all (· ≥ 0) = true →
    iprod ds = Int.ofNat (size (ds.map Int.toNat))
  | [], _ => by simp [iprod, size]
  | d :: ds, h => by
    simp only [List.all_cons, Bool.and_eq_true, decide_eq_true_eq] at h
    have ih := iprod_map_toNat ds h.2
    simp only [iprod, List.map_cons, size, ih]
    have : d = Int.ofNat d.toNat := by simp [Int.toNat_of_nonneg h.1]
    rw [this]; simp

/-- whenever `reshape` is accepted, the new shape has exactly the tensor's number of elements, so the
    reshaped view (same buffer, `T.reshape` keeps `data`) aliases the same offsets -/
theorem reshape_size (total : Nat) (sizes : List Int) (ds : List Nat)
    (h : reshapeDims total sizes = some ds) : size ds = total := by
  unfold reshapeDims at h
  split at h
  · cases h
  · rename_i ds' _
    split at h
    · rename_i hc
      cases h
      have := iprod_map_toNat ds' hc.1
      rw [hc.2] at this
      exact (Int.ofNat.inj this).symm
    · cases h

theorem reshape_wf {α} (t : T α) (sizes : List Int) (s : T α) (hwf : t.wf)
    (hs : t.reshape sizes = some s) : s.wf ∧ s.data = t.data := by
  obtain ⟨ds, hr, rfl⟩ := Option.map_eq_some_iff.mp hs
  exact ⟨(hwf.trans (reshape_size _ _ _ hr).symm : t.data.length = size ds), rfl⟩

/-- an entry below `-1` anywhere in the argument list is refused -/
theorem reshapeInfer_rejects_negative (total : Int) (d : Int) (hd : d < -1) (rest : List Int) :
    ∀ (l acc : List Int), reshapeInfer total acc (l ++ d :: rest) = none
  | [], acc => by
    have h1 : ¬ d = -1 := by omega
    have h2 : ¬ d ≥ 0 := by omega
    simp [reshapeInfer, h1, h2]
  | x :: l, acc => by
    simp only [List.cons_append, reshapeInfer]
    split
    · split
      · rfl
      · exact reshapeInfer_rejects_negative total d hd rest l _
    · split
      · exact reshapeInfer_rejects_negative total d hd rest l _
      · rfl

theorem reshape_rejects_negative (total : Nat) (pre rest : List Int) (d : Int) (hd : d < -1) :
    reshapeInfer (Int.ofNat total) pre (d :: rest) = none :=
  reshapeInfer_rejects_negative _ d hd rest [] pre

/-- **the inferred dimension.** If the argument list has exactly one `-1` (at position `pre.length`), all
    other entries are positive with product `P = size pre * size post` and `P ∣ total`, the reshape is
    accepted and the `-1` is replaced by `total / P` (the C++ code computes `-size() / size(dimensions)` with
    truncating division on a negative product). -/
theorem reshape_infer_one (total : Nat) (pre post : List Nat) (hpre : ∀ d ∈ pre, 0 < d)
    (hpost : ∀ d ∈ post, 0 < d) (hdvd : size pre * size post ∣ total) :
    reshapeDims total (pre.map Int.ofNat ++ -1 :: post.map Int.ofNat)
      = some (pre ++ total / (size pre * size post) :: post) := by
  rw [reshapeDims_one total pre post hpre hpost, if_pos (Nat.mul_div_cancel' hdvd)]

/-- explicit dimensions (no `-1`) are accepted exactly when their product is the number of elements -/
theorem reshape_explicit (total : Nat) (ds : List Nat) :
    reshapeDims total (ds.map Int.ofNat) = if size ds = total then some ds else none := by
  unfold reshapeDims
  have h := reshapeInfer_explicit (Int.ofNat total) ds [] []
  simp only [List.append_nil, List.nil_append] at h
  rw [h, reshapeInfer_nil]
  simp only [all_nonneg_ofNat, iprod_ofNat, map_toNat_ofNat, true_and]
  by_cases hc : size ds = total
  · simp [hc]
  · have : ¬ (Int.ofNat (size ds) = Int.ofNat total) := fun e => hc (Int.ofNat.inj e)
    rw [if_neg this, if_neg hc]

/-- **what is refused** (`none` = an `assert` of `treshape` fires, or the C++ code would divide by zero):
    (1) explicit dimensions whose product is not the number of elements;
    (2) one `-1` among positive entries whose product does not divide the number of elements;
    (3) one `-1` together with a `0` entry (division by zero);
    (4) any entry below `-1`. -/
theorem reshape_rejects (total : Nat) :
    (∀ ds : List Nat, size ds ≠ total → reshapeDims total (ds.map Int.ofNat) = none) ∧
    (∀ pre post : List Nat, (∀ d ∈ pre, 0 < d) → (∀ d ∈ post, 0 < d) → ¬ (size pre * size post ∣ total) →
      reshapeDims total (pre.map Int.ofNat ++ -1 :: post.map Int.ofNat) = none) ∧
    (∀ pre post : List Nat, size pre * size post = 0 →
      reshapeDims total (pre.map Int.ofNat ++ -1 :: post.map Int.ofNat) = none) ∧
    (∀ (l rest : List Int) (d : Int), d < -1 → reshapeDims total (l ++ d :: rest) = none) := by
  refine ⟨?_, ?_, ?_, ?_⟩
  · intro ds h
    rw [reshape_explicit, if_neg h]
  · intro pre post hpre hpost h
    rw [reshapeDims_one total pre post hpre hpost, if_neg]
    intro e
    exact h ⟨_, e.symm⟩
  · intro pre post h0
    unfold reshapeDims
    have h := reshapeInfer_explicit (Int.ofNat total) pre [] (-1 :: post.map Int.ofNat)
    rw [h, reshapeInfer]
    simp [iprod_one_neg, h0]
  · intro l rest d hd
    unfold reshapeDims
    rw [reshapeInfer_rejects_negative _ d hd rest l []]

/-- full indexing in the reshaped view reads the same buffer: element `idx` of `reshape(sizes…)` is
    `data[index newdims idx]` of the original buffer, at an offset below the tensor's size -/
theorem reshape_get {α} (t : T α) (sizes : List Int) (s : T α) (hs : t.reshape sizes = some s)
    (idx : List Nat) (hv : Valid s.dims idx) :
    s.get? idx = t.data[index s.dims idx]? ∧ index s.dims idx < size t.dims := by
  obtain ⟨ds, hr, rfl⟩ := Option.map_eq_some_iff.mp hs
  have hlt := index_lt_size ds idx hv
  rw [reshape_size _ _ _ hr] at hlt
  exact ⟨by simp [T.get?, hv], hlt⟩

/-! ### gather (`indexed`) -/

theorem T.gather_some {α} {t s : T α} {I : List Nat} (hs : t.gather I = some s) :
    ∃ d ds, t.dims = d :: ds ∧ (∀ i ∈ I, i < d) ∧
      s = ⟨I.length :: ds, I.flatMap (fun i => (t.data.drop (i * size ds)).take (size ds))⟩ := by
  unfold T.gather at hs
  split at hs
  · cases hs
  · split at hs
    · rename_i d ds hd hall
      exact ⟨d, ds, hd, fun i hi => by simpa using List.all_eq_true.mp hall i hi, (Option.some.inj hs).symm⟩
    · cases hs

theorem gather_dims {α} (t : T α) (I : List Nat) (s : T α) (hs : t.gather I = some s) :
    s.dims = I.length :: t.dims.drop 1 := by
  obtain ⟨d, ds, hd, _, rfl⟩ := T.gather_some hs
  rw [hd]
  rfl

/-- the gathered tensor is well-formed: `indices.size()` sub-tensors of the input's inner size -/
theorem gather_wf {α} (t : T α) (I : List Nat) (s : T α) (hwf : t.wf) (hs : t.gather I = some s) : s.wf := by
  obtain ⟨d, ds, hd, hall, rfl⟩ := T.gather_some hs
  unfold T.wf at hwf
  rw [hd] at hwf
  show (I.flatMap _).length = I.length * size ds
  rw [List.flatMap_def, flatten_length_of_rows (size ds) _ (List.forall_mem_map.mpr
    fun i hi => row_length t.data d (size ds) i hwf (hall i hi)), List.length_map]

/-- element `(j, q…)` of `indexed(I)` is element `(I[j], q…)` of the tensor -/
theorem gather_get {α} (t : T α) (I : List Nat) (s : T α) (j : Nat) (q : List Nat) (hwf : t.wf)
    (hs : t.gather I = some s) (hq : Valid s.dims (j :: q)) :
    ∃ hj : j < I.length, s.get? (j :: q) = t.get? (I[j] :: q) := by
  obtain ⟨d, ds, hd, hall, rfl⟩ := T.gather_some hs
  obtain ⟨hj, hq2⟩ := hq
  refine ⟨hj, ?_⟩
  have hk := index_lt_size ds q hq2
  have hv : Valid (d :: ds) (I[j] :: q) := ⟨hall _ (List.getElem_mem hj), hq2⟩
  have hv' : Valid (I.length :: ds) (j :: q) := ⟨hj, hq2⟩
  unfold T.wf at hwf
  rw [hd] at hwf
  simp only [T.get?, hv', hv, if_true, hd, index]
  rw [List.flatMap_def, flatten_get (size ds) _ j (index ds q) _
    (List.forall_mem_map.mpr fun i hi => row_length t.data d (size ds) i hwf (hall i hi))
    (by rw [List.getElem?_map, List.getElem?_eq_getElem hj]; rfl) hk, List.getElem?_take, if_pos hk, List.getElem?_drop]

/-! ### `remove_if`: the two-pointer loop computes the filter -/

/-- the specification, restated with the library filter: the rows whose flag is `false`, in order -/
theorem keptRows_eq_filter {α} : ∀ (mask : List Bool) (rs : List (List α)), mask.length = rs.length →
    keptRows mask rs = ((rs.zip mask).filter (fun p => !p.2)).map Prod.fst
  | [], [], _ => by simp [keptRows]
  | [], _ :: _, h => by simp at h
  | _ :: _, [], h => by simp at h
  | m :: ms, r :: rs, h => by
    have ih := keptRows_eq_filter ms rs (by simpa using h)
    cases m <;> simp [keptRows, ih]

/-- `remove_if` (the C++ two-pointer loop `removeIfRows`): the returned count is the number of kept rows and
    the first `count` rows of the tensor are exactly the kept rows, in their original order; the tensor keeps
    its number of rows (no allocation). Rows beyond `count` are not specified by the contract. -/
theorem removeIf_eq_filter {α} (mask : List Bool) (rs : List (List α)) (h : mask.length = rs.length) :
    (removeIfRows mask rs).1 = (keptRows mask rs).length ∧
    (removeIfRows mask rs).2.take (removeIfRows mask rs).1 = keptRows mask rs ∧
    (removeIfRows mask rs).2.length = rs.length := by
  have he : removeIfRows mask rs = removeIfLoop mask 0 0 rs := removeIfLoop_skip mask 0 rs
  rw [he]
  simpa using removeIfLoop_spec mask 0 0 rs (Nat.le_refl _) (by omega)

/-- tensor form: `remove_if` returns the number of unflagged first-axis indices, keeps the shape and the
    buffer size, and the first `count` sub-tensors are those `indexed(kept indices)` would copy — so by
    `gather_get` element `(j, q…)` of the result is element `(keptIdx[j], q…)` of the input. -/
theorem removeIf_eq_gather {α} (t : T α) (mask : List Bool) (k : Nat) (s : T α) (hwf : t.wf)
    (hs : t.removeIf mask = some (k, s)) :
    k = (keptIdx mask 0).length ∧ s.dims = t.dims ∧ s.wf ∧
    ∃ g, t.gather (keptIdx mask 0) = some g ∧ s.data.take (k * size (t.dims.drop 1)) = g.data := by
  unfold T.removeIf at hs
  split at hs
  · cases hs
  · rename_i d ds hd
    split at hs
    · rename_i hm
      unfold T.wf at hwf
      rw [hd] at hwf
      simp only [size] at hwf
      have hrl : (rows (size ds) d t.data).length = d := rows_length _ _ _
      have hrow := rows_row_length (size ds) d t.data hwf
      obtain ⟨f1, f2, f3⟩ := removeIf_eq_filter mask (rows (size ds) d t.data) (by rw [hrl]; exact hm)
      have hmem : ∀ r ∈ (removeIfRows mask (rows (size ds) d t.data)).2, r.length = size ds := by
        intro r hr
        unfold removeIfRows at hr
        exact hrow r (removeIfLoop_mem _ _ _ _ r hr)
      have hkl := keptRows_length mask 0 (rows (size ds) d t.data) (by rw [hrl]; exact hm)
      simp only [Option.some.injEq, Prod.mk.injEq] at hs
      obtain ⟨hk, hss⟩ := hs
      subst hss
      subst hk
      have hall : (keptIdx mask 0).all (· < d) = true := by
        rw [List.all_eq_true]
        intro i hi
        have := keptIdx_lt mask 0 i hi
        simp only [decide_eq_true_eq]; omega
      refine ⟨by rw [f1, hkl], by simp [hd], ?_, ?_⟩
      · unfold T.wf
        simp only [size]
        rw [flatten_length_of_rows (size ds) _ hmem, f3, hrl]
      · refine ⟨_, by rw [T.gather, hd]; simp only [hall, if_true]; rfl, ?_⟩
        simp only [hd, List.drop_succ_cons, List.drop_zero]
        rw [take_flatten_of_rows (size ds) _ _ hmem, f2]
        have := keptRows_rows_flatten (size ds) t.data mask 0
        simp only [Nat.zero_mul, List.drop_zero, hm] at this
        exact this
    · cases hs

/-! ### `integral`: the summed-area table equals the naive prefix sums (every rank) -/

/-- buffer level, every rank, by induction on the dimensions: if `f q` is the input element at the valid
    tuple `q`, the output buffer has the input's size and holds at `index dims idx` the sum of `f` over all
    tuples `q ≤ idx` componentwise. -/
theorem integralData_spec : ∀ (dims : List Nat) (xs : List Int) (f : List Nat → Int),
    xs.length = size dims → (∀ q, Valid dims q → xs[index dims q]? = some (f q)) →
    (integralData dims xs).length = size dims ∧
    ∀ idx, Valid dims idx → (integralData dims xs)[index dims idx]? = some (boxSum idx f)
  | [], xs, f, hl, hf => by
    refine ⟨by simpa only [integralData] using hl, ?_⟩
    intro idx hv
    cases idx with
    | nil => simpa only [integralData, boxSum] using hf [] hv
    | cons _ _ => simp only [Valid] at hv
  | [d], xs, f, hl, hf => by
    have hd : xs.length = d := by simpa only [size, Nat.mul_one] using hl
    have hg : ∀ j, j < xs.length → xs[j]? = some (f [j]) := by
      intro j hj
      have := hf [j] ⟨by omega, trivial⟩
      simpa only [index, size, Nat.mul_one, Nat.add_zero] using this
    refine ⟨by simp only [integralData, prefixSums1_length, hl], ?_⟩
    intro idx hv
    match idx, hv with
    | [i], hv =>
      have hi : i < d := hv.1
      have := prefixSums1_get xs (fun j => f [j]) hg i (by omega)
      simpa only [integralData, index, size, Nat.mul_one, Nat.add_zero, boxSum] using this
    | _ :: _ :: _, hv => exact absurd hv.2 (by simp [Valid])
  | d :: d2 :: ds, xs, f, hl, hf => by
    have hl' : xs.length = d * size (d2 :: ds) := hl
    have hrowlen : ∀ j, j < d → ((xs.drop (j * size (d2 :: ds))).take (size (d2 :: ds))).length
        = size (d2 :: ds) := fun j hj => row_length xs d _ j hl hj
    have hinner : ∀ j r, ((rows (size (d2 :: ds)) d xs).map (integralData (d2 :: ds)))[j]? = some r →
        IsRow (size (d2 :: ds)) (fun k => boxSum (unindex (d2 :: ds) k) (fun q => f (j :: q))) r := by
      intro j r hj
      rw [List.getElem?_map] at hj
      rcases Nat.lt_or_ge j d with hjd | hjd
      · rw [rows_get _ d xs j hjd] at hj
        simp only [Option.map_some, Option.some.injEq] at hj
        subst hj
        obtain ⟨il, ig⟩ := integralData_spec (d2 :: ds) _ (fun q => f (j :: q)) (hrowlen j hjd) (by
          intro q hq
          have hk := index_lt_size (d2 :: ds) q hq
          rw [List.getElem?_take, if_pos hk, List.getElem?_drop]
          have := hf (j :: q) ⟨hjd, hq⟩
          simpa only [index] using this)
        refine ⟨il, fun k hk => ?_⟩
        have := ig (unindex (d2 :: ds) k) (valid_unindex (d2 :: ds) k hk)
        rw [index_unindex (d2 :: ds) k hk] at this
        exact this
      · rw [List.getElem?_eq_none (by rw [rows_length]; exact hjd)] at hj
        simp at hj
    obtain ⟨R, hR⟩ : ∃ R, R = accRows1 ((rows (size (d2 :: ds)) d xs).map (integralData (d2 :: ds))) := ⟨_, rfl⟩
    have hint : integralData (d :: d2 :: ds) xs = R.flatten := by rw [hR]; rfl
    have hacc := accRows1_spec (size (d2 :: ds)) _ _ hinner
    rw [← hR] at hacc
    have hlen : R.length = d := by rw [hR, accRows1_length, List.length_map, rows_length]
    have hmem : ∀ r ∈ R, r.length = size (d2 :: ds) := fun r hr => by
      obtain ⟨i, hi⟩ := List.mem_iff_getElem?.1 hr
      exact (hacc i r hi).1
    rw [hint]
    refine ⟨by rw [flatten_length_of_rows _ _ hmem, hlen]; rfl, fun idx hv => ?_⟩
    match idx, hv with
    | i :: is, ⟨hi, his⟩ =>
      have hk := index_lt_size (d2 :: ds) is his
      have hrow : R[i]? = some (R[i]'(hlen ▸ hi)) := List.getElem?_eq_getElem _
      rw [index, flatten_get _ _ i _ _ hmem hrow hk, (hacc i _ hrow).2 _ hk]
      simp only [boxSum, unindex_index (d2 :: ds) is his]

/-- **summed-area table = naive prefix sums, every rank.** For a well-formed tensor whose element at the
    valid tuple `q` is `f q`, `nano::integral` yields a well-formed tensor of the same shape whose element
    at `idx` is the sum of the input over all `q ≤ idx` componentwise. -/
theorem integral_eq_prefix_sums (t : T Int) (f : List Nat → Int) (hwf : t.wf)
    (hf : ∀ q, Valid t.dims q → t.get? q = some (f q)) :
    t.integral.dims = t.dims ∧ t.integral.wf ∧
    ∀ idx, Valid t.dims idx → t.integral.get? idx = some (boxSum idx f) := by
  have hf' : ∀ q, Valid t.dims q → t.data[index t.dims q]? = some (f q) := by
    intro q hq
    have := hf q hq
    simpa [T.get?, hq] using this
  obtain ⟨hl, hg⟩ := integralData_spec t.dims t.data f hwf hf'
  unfold T.integral
  split
  · rename_i h0
    refine ⟨rfl, hwf, ?_⟩
    intro idx hv
    have := index_lt_size _ _ hv
    omega
  · refine ⟨rfl, hl, ?_⟩
    intro idx hv
    simp only [T.get?, hv, if_true]
    exact hg idx hv

/-- the table in terms of the buffer alone: the input element at `q` is `xs[index dims q]` -/
theorem integralData_getD (dims : List Nat) (xs : List Int) (hl : xs.length = size dims) (idx : List Nat)
    (hv : Valid dims idx) :
    (integralData dims xs)[index dims idx]? = some (boxSum idx (fun q => xs.getD (index dims q) 0)) :=
  (integralData_spec dims xs _ hl (fun q hq => by
    have := index_lt_size _ _ hq
    simp [List.getD, List.getElem?_eq_getElem (hl ▸ this)])).2 idx hv

/-- rank 1: `out[i] = Σ_{j ≤ i} xs[j]` -/
theorem integral_rank1 (xs : List Int) (i : Nat) (hi : i < xs.length) :
    (integralData [xs.length] xs)[i]? = some (sumTo i (fun j => xs.getD j 0)) := by
  simpa [index, size, boxSum] using integralData_getD [xs.length] xs (by simp [size]) [i] ⟨hi, trivial⟩

/-- rank 2: `out[i, k] = Σ_{j ≤ i} Σ_{l ≤ k} xs[j * c + l]` for an `r × c` row-major buffer -/
theorem integral_rank2 (r c : Nat) (xs : List Int) (hl : xs.length = r * c) (i k : Nat) (hi : i < r) (hk : k < c) :
    (integralData [r, c] xs)[i * c + k]?
      = some (sumTo i (fun j => sumTo k (fun l => xs.getD (j * c + l) 0))) := by
  simpa [index, size, boxSum] using integralData_getD [r, c] xs (by simp [size, hl]) [i, k] ⟨hi, hk, trivial⟩

/-! ### matrix form of `stack` -/

/-- **every block lands where the layout says.** If `stack(rows, cols, blocks…)` is accepted (no assert
    fires) and the blocks are compatible in size (`StackAligned`: a block continuing a block-row has the height
    of its left neighbour), the result is a `rows × cols` buffer in which element `(r, c)` of block `k` sits
    at `(row0 + r, col0 + c)`, `(row0, col0) = stackPos[k]` being the position the wrap rule assigns to the
    block — inside the matrix, and not overwritten by any later block. -/
theorem stack_block_get {α} (fill : α) (rows cols : Nat) (blocks : List (Block α)) (M : List α)
    (hal : StackAligned cols blocks 0) (h : stackMat fill rows cols blocks = some M) :
    M.length = rows * cols ∧
    ∀ (k : Nat) (bk : Block α) (row0 col0 : Nat), blocks[k]? = some bk →
      (stackPos cols blocks 0 0)[k]? = some (row0, col0) →
      ∀ r c, r < bk.rows → c < bk.cols →
        M[(row0 + r) * cols + (col0 + c)]? = bk.data[r * bk.cols + c]? ∧ row0 + r < rows ∧ col0 + c < cols := by
  cases blocks with
  | nil => simp [stackMat] at h
  | cons b bs =>
    simp only [stackMat] at h
    obtain ⟨h1, _, h3⟩ := stackMatGo_spec rows cols bs b 0 0 _ M hal h (by simp)
    exact ⟨h1, h3⟩

/-- vector form of `stack`: the result has the requested size and segment `k` starts where the previous
    segments end (`vector.segment(row, block.size()) = block`, `row` = sum of the earlier sizes) -/
theorem stackVec_get {α} (n : Nat) (blocks : List (List α)) (v : List α) (h : stackVec n blocks = some v) :
    v.length = n ∧ ∀ (k : Nat) (blk : List α) (i : Nat), blocks[k]? = some blk → i < blk.length →
      v[(blocks.take k).flatten.length + i]? = blk[i]? := by
  unfold stackVec at h
  simp only at h
  split at h
  · rename_i hl
    cases h
    refine ⟨hl, ?_⟩
    exact fun k blk i hk hi => getElem?_flatten_take blocks k blk i hk hi
  · cases h

/-- the first block-row of the header's example: two blocks side by side, then a full-width block below -/
example : stackMat (0 : Int) 3 3 [⟨2, 2, [1, 2, 3, 4]⟩, ⟨2, 1, [5, 6]⟩, ⟨1, 3, [7, 8, 9]⟩]
    = some [1, 2, 5, 3, 4, 6, 7, 8, 9] := by decide
example : stackPos 3 [(⟨2, 2, [1, 2, 3, 4]⟩ : Block Int), ⟨2, 1, [5, 6]⟩, ⟨1, 3, [7, 8, 9]⟩] 0 0
    = [(0, 0), (0, 2), (2, 0)] := by decide
example : StackAligned 3 [(⟨2, 2, [1, 2, 3, 4]⟩ : Block Int), ⟨2, 1, [5, 6]⟩, ⟨1, 3, [7, 8, 9]⟩] 0 :=
  ⟨fun _ => rfl, fun h => absurd h (by decide), trivial⟩
example : stackVec 5 [[1, 2], [], [3, 4, 5]] = some [1, 2, 3, 4, 5] ∧ stackVec 4 [[1, 2], [3, 4, 5]] = none := by
  decide
-- refused: the last block does not end at the bottom-right corner
example : stackMat (0 : Int) 3 3 [⟨2, 2, [1, 2, 3, 4]⟩, ⟨2, 1, [5, 6]⟩] = none := by decide

/-! ### non-owning tensors: reshaped views, assignments of views, writes through views -/

theorem view_reshape_in_bounds (v w : View) (sizes : List Int) (hs : v.reshape sizes = some w) :
    w.off = v.off ∧ size w.dims = size v.dims := by
  obtain ⟨ds, hr, rfl⟩ := Option.map_eq_some_iff.mp hs
  exact ⟨rfl, reshape_size _ _ _ hr⟩

/-- element `idx` of `x.reshape(sizes…)` is the `index newdims idx`-th element of `x` in row-major order, below `size` -/
theorem view_reshape_elem {α} (buf : List α) (v w : View) (sizes : List Int) (hs : v.reshape sizes = some w)
    (idx : List Nat) (hv : Valid w.dims idx) :
    (assignView buf w).get? idx = buf[v.off + index w.dims idx]? ∧ index w.dims idx < size v.dims := by
  obtain ⟨ho, hsz⟩ := view_reshape_in_bounds v w sizes hs
  have hlt := index_lt_size _ _ hv
  rw [(view_get buf w idx hv).1, ho]
  exact ⟨rfl, by omega⟩

/-- **`t = t.slice(b, e)`** (and `other = t.slice(b, e)`, from the owning tensor, its const form, a map or a constant map
    of it): element `(i, q…)` of the assigned tensor is element `(b + i, q…)` of `t` AS IT WAS BEFORE the assignment;
    the assigned tensor has the slice's dims and is well-formed -/
theorem assign_slice_elem {α} (t : T α) (hwf : t.wf) (b e : Nat) (w : View) (hs : t.view.slice b e = some w) :
    (assignView t.data w).dims = (e - b) :: t.dims.drop 1 ∧ (assignView t.data w).wf ∧
    ∀ i q, Valid w.dims (i :: q) → (assignView t.data w).get? (i :: q) = t.get? ((b + i) :: q) := by
  have hs' : t.slice b e = some (assignView t.data w) := by rw [T.slice_eq_view, hs]; rfl
  refine ⟨?_, slice_wf t b e _ hwf hs', fun i q hq => slice_get t b e i q _ hs' hq⟩
  obtain ⟨d, ds, hd, _, _, rfl⟩ := View.slice_some hs
  rw [show t.dims = d :: ds from hd]
  rfl

/-- **`x = t.tensor(p…)`**: element `q` of the assigned tensor is element `p ++ q` of `t` as it was before -/
theorem assign_sub_elem {α} (t : T α) (hwf : t.wf) (p : List Nat) (w : View) (hs : t.view.sub p = some w) :
    (assignView t.data w).dims = t.dims.drop p.length ∧ (assignView t.data w).wf ∧
    ∀ q, Valid w.dims q → (assignView t.data w).get? q = t.get? (p ++ q) := by
  have hs' : t.sub p = some (assignView t.data w) := by rw [T.sub_eq_view, hs]; rfl
  refine ⟨?_, sub_wf t p _ hwf hs', fun q hq => sub_get t p q _ hs' hq⟩
  obtain ⟨_, rfl⟩ := View.sub_some hs
  rfl

/-- **`t = t.reshape(sizes…)`**: the assigned tensor has the reshaped dims, as many elements as `t`, and its
    elements are those of `t` (as it was before) in row-major order -/
theorem assign_reshape_elem {α} (t : T α) (hwf : t.wf) (sizes : List Int) (w : View)
    (hs : t.view.reshape sizes = some w) :
    size (assignView t.data w).dims = size t.dims ∧ (assignView t.data w).data = t.data := by
  obtain ⟨ho, hsz⟩ := view_reshape_in_bounds _ _ _ hs
  unfold T.wf at hwf
  simp only [T.view] at ho hsz
  refine ⟨hsz, ?_⟩
  simp only [assignView, View.read, ho, List.drop_zero, hsz]
  rw [List.take_of_length_le (Nat.le_of_eq hwf)]

/-- **writes through a view change exactly the aliased offsets** (buffer level, any view): the buffer keeps its
    size, the `j`-th element of the view receives `vals[j]`, every offset outside `[off, off + size)` keeps its value -/
theorem write_through_view_frame {α} (v : View) (buf vals buf' : List α) (h : v.write buf vals = some buf') :
    buf'.length = buf.length ∧
    (∀ j, j < size v.dims → buf'[v.off + j]? = vals[j]?) ∧
    (∀ o, (o < v.off ∨ v.off + size v.dims ≤ o) → buf'[o]? = buf[o]?) := by
  unfold View.write at h
  split at h
  · rename_i hg
    obtain ⟨hl, hb⟩ := hg
    cases h
    refine ⟨splice_length _ _ _ (by omega), ?_, ?_⟩
    · intro j hj
      rw [splice_getElem? _ _ _ (by omega), if_pos (by omega), Nat.add_sub_cancel_left]
    · intro o ho
      rw [splice_getElem? _ _ _ (by omega), if_neg (by omega)]
  · cases h

theorem valid_drop : ∀ (dims idx : List Nat) (k : Nat), Valid dims idx → Valid (dims.drop k) (idx.drop k)
  | dims, idx, 0, h => by simpa using h
  | [], [], _ + 1, _ => by simp [Valid]
  | [], _ :: _, _, h => by simp [Valid] at h
  | _ :: _, [], _, h => by simp [Valid] at h
  | _ :: ds, _ :: is, k + 1, h => by
    simp only [List.drop_succ_cons]
    exact valid_drop ds is k h.2

/-- row-major addressing is injective, so a range of offsets every one of which is addressed by a tuple with property `P`
    is reached ONLY by tuples with `P`: no arithmetic on the shape of the range is needed to see what a view does not alias -/
theorem aliased_only {dims wd : List Nat} {off : Nat} {P : List Nat → Prop}
    (hcov : ∀ q, Valid wd q → ∃ j, Valid dims j ∧ index dims j = off + index wd q ∧ P j)
    {idx : List Nat} (hv : Valid dims idx) (h1 : off ≤ index dims idx) (h2 : index dims idx < off + size wd) : P idx := by
  have hlt : index dims idx - off < size wd := Nat.sub_lt_left_of_lt_add h1 h2
  obtain ⟨j, hj, hje, hP⟩ := hcov _ (valid_unindex wd _ hlt)
  rw [index_unindex wd _ hlt, Nat.add_sub_cancel' h1] at hje
  rwa [index_injective dims idx j hv hj hje.symm]

/-- a valid index tuple that does not start with the prefix `p` addresses an element outside the range
    `[offset0(p), offset0(p) + size(dims0(p)))` -/
theorem index_outside_subview (dims p idx : List Nat) (hp : ValidPrefix dims p) (hv : Valid dims idx)
    (h : idx.take p.length ≠ p) :
    index dims idx < index dims p ∨ index dims p + size (dims0 dims p.length) ≤ index dims idx := by
  rcases Nat.lt_or_ge (index dims idx) (index dims p) with h1 | h1
  · exact Or.inl h1
  · rcases Nat.lt_or_ge (index dims idx) (index dims p + size (dims0 dims p.length)) with h2 | h2
    · exact absurd (aliased_only (P := fun j => j.take p.length = p) (fun q hq =>
        ⟨p ++ q, valid_split dims p q hp hq, index_append dims p q hp, List.take_left' rfl⟩) hv h1 h2) h
    · exact Or.inr h2

/-- **index level, partial-index view**: after writing `vals` through `t.tensor(p…)` (`vector` / `array` / `matrix`
    alike), the element at a valid tuple `idx` is `vals[index within the view]` when `idx` starts with `p` and is
    unchanged otherwise; the dims are unchanged -/
theorem write_sub_get {α} (t : T α) (p : List Nat) (w : View) (vals buf' : List α)
    (hs : t.view.sub p = some w) (hw : w.write t.data vals = some buf') (idx : List Nat) (hv : Valid t.dims idx) :
    (⟨t.dims, buf'⟩ : T α).get? idx =
      if idx.take p.length = p then vals[index w.dims (idx.drop p.length)]? else t.get? idx := by
  obtain ⟨_, hin, hout⟩ := write_through_view_frame w t.data vals buf' hw
  obtain ⟨hp, rfl⟩ := View.sub_some hs
  simp only [T.view, Nat.zero_add] at hp hin hout ⊢
  simp only [T.get?, hv, if_true]
  split
  · rename_i htake
    have e : p ++ idx.drop p.length = idx := by
      calc p ++ idx.drop p.length = idx.take p.length ++ idx.drop p.length := by rw [htake]
        _ = idx := List.take_append_drop _ _
    have hi := index_append t.dims p (idx.drop p.length) hp
    rw [e] at hi
    rw [hi]
    exact hin _ (index_lt_size _ _ (valid_drop t.dims idx p.length hv))
  · rename_i htake
    exact hout _ (index_outside_subview t.dims p idx hp hv htake)

/-- **index level, first-axis slice**: after writing `vals` through `t.slice(b, e)`, element `(i, q…)` is
    `vals[index within the slice of (i - b, q…)]` when `b ≤ i < e` and is unchanged otherwise -/
theorem write_slice_get {α} (t : T α) (b e : Nat) (w : View) (vals buf' : List α)
    (hs : t.view.slice b e = some w) (hw : w.write t.data vals = some buf') (i : Nat) (q : List Nat)
    (hv : Valid t.dims (i :: q)) :
    (⟨t.dims, buf'⟩ : T α).get? (i :: q) =
      if b ≤ i ∧ i < e then vals[index w.dims ((i - b) :: q)]? else t.get? (i :: q) := by
  obtain ⟨_, hin, hout⟩ := write_through_view_frame w t.data vals buf' hw
  obtain ⟨d, ds, hd, hbe, hed, rfl⟩ := View.slice_some hs
  simp only [T.view] at hd
  simp only [T.view, Nat.zero_add, size] at hin hout
  rw [hd] at hv
  have hq := index_lt_size ds q hv.2
  simp only [T.get?, hd, hv, if_true, index]
  -- the slice is the offsets `[b * n, e * n)`: offset `i * n + r`, `r < n`, lies in it exactly when `b ≤ i < e`
  split
  · rename_i hie
    have h1 : i * size ds = b * size ds + (i - b) * size ds := by rw [← Nat.add_mul, Nat.add_sub_of_le hie.1]
    rw [h1, Nat.add_assoc]
    exact hin _ (cell_lt (e - b) (size ds) (i - b) (index ds q) (Nat.sub_lt_sub_right hie.1 hie.2) hq)
  · rename_i hie
    apply hout
    rcases Nat.lt_or_ge i b with hib | hib
    · exact Or.inl (cell_lt b (size ds) i (index ds q) hib hq)
    · right
      have h1 : b * size ds + (e - b) * size ds = e * size ds := by rw [← Nat.add_mul, Nat.add_sub_of_le hbe]
      have := Nat.mul_le_mul_right (size ds) (show e ≤ i by omega)
      omega

/-! ### gathers into a provided output -/

/-- the overload writing into mapped memory of the right shape copies what `indexed(indices)` returns, whatever the
    memory held -/
theorem gather_into_map_eq_gather {α} (t out : T α) (I : List Nat) (hwf : t.wf) (hout : out.wf) :
    t.gatherIntoMap I out = if out.dims = I.length :: t.dims.drop 1 then t.gather I else none := by
  unfold T.gatherIntoMap T.gather
  cases hd : t.dims with
  | nil => simp
  | cons d ds =>
    simp only [List.drop_succ_cons, List.drop_zero]
    by_cases hall : I.all (· < d) = true
    · by_cases ho : out.dims = I.length :: ds
      · simp only [hall, ho, and_self, if_true]
        unfold T.wf at hwf hout
        rw [hd] at hwf
        rw [ho] at hout
        simp only [size] at hwf hout
        have hrow : ∀ i ∈ I, ((t.data.drop (i * size ds)).take (size ds)).length = size ds :=
          fun i hi => row_length t.data d (size ds) i hwf (by simpa using List.all_eq_true.mp hall i hi)
        have hfl : (I.flatMap fun i => (t.data.drop (i * size ds)).take (size ds)).length = I.length * size ds := by
          rw [List.flatMap_def, flatten_length_of_rows (size ds) _ (List.forall_mem_map.mpr hrow), List.length_map]
        -- the loop overwrites the whole output, whatever it held
        rw [gatherRows_spec (size ds) t.data I 0 out.data (by rw [hout, Nat.zero_add]; exact Nat.le_refl _) hrow, Nat.zero_mul,
          splice_zero _ _ (by rw [hfl, hout]; exact Nat.le_refl _)]
      · simp [ho]
    · simp [hall]

/-- **gather into a provided owning output re-dimensions it**: whatever dims and contents the output had (more, fewer
    or as many elements), the result is the tensor `indexed(indices)` returns -/
theorem gather_into_eq_gather {α} (junk : α) (t out : T α) (I : List Nat) (hwf : t.wf) :
    t.gatherInto junk I out = t.gather I := by
  unfold T.gatherInto
  cases hd : t.dims with
  | nil => simp [T.gather, hd]
  | cons d ds =>
    simp only
    rw [gather_into_map_eq_gather t _ I hwf (by unfold T.wf; simp only; exact resizeBuf_length _ _ _)]
    simp [hd]

theorem gather_into_dims {α} (junk : α) (t out s : T α) (I : List Nat) (hwf : t.wf)
    (h : t.gatherInto junk I out = some s) : s.dims = I.length :: t.dims.drop 1 ∧ s.wf := by
  rw [gather_into_eq_gather junk t out I hwf] at h
  exact ⟨gather_dims t I s h, gather_wf t I s hwf h⟩

/-- element `(j, q…)` of the re-used output is element `(I[j], q…)` of the tensor -/
theorem gather_into_get {α} (junk : α) (t out s : T α) (I : List Nat) (j : Nat) (q : List Nat) (hwf : t.wf)
    (h : t.gatherInto junk I out = some s) (hq : Valid s.dims (j :: q)) :
    ∃ hj : j < I.length, s.get? (j :: q) = t.get? (I[j] :: q) := by
  rw [gather_into_eq_gather junk t out I hwf] at h
  exact gather_get t I s j q hwf h hq

/-! ### integral with distinct input / output scalar types -/

/-- **mixed-type summed-area table = prefix sums of the converted input**: with `conv` the conversion of an input
    element to the output type (exact for every pair the property names, the output being at least as wide), the
    table holds at `idx` the sum of the converted input over all `q ≤ idx` componentwise -/
theorem integralX_eq_prefix_sums {β} (conv : β → Int) (t : T β) (f : List Nat → β) (hwf : t.wf)
    (hf : ∀ q, Valid t.dims q → t.get? q = some (f q)) :
    (t.integralX conv).dims = t.dims ∧ (t.integralX conv).wf ∧
    ∀ idx, Valid t.dims idx → (t.integralX conv).get? idx = some (boxSum idx (fun q => conv (f q))) := by
  unfold T.integralX
  apply integral_eq_prefix_sums ⟨t.dims, t.data.map conv⟩ (fun q => conv (f q))
  · unfold T.wf at *
    simpa using hwf
  · intro q hq
    have := hf q hq
    simp only [T.get?, hq, if_true] at this ⊢
    rw [List.getElem?_map, this]
    rfl

/-- an integer inside the `w`-bit two's-complement range is not changed by wrapping -/
theorem wrap_exact (w : Nat) (hw : 0 < w) (x : Int) (hlo : -(2 ^ (w - 1) : Int) ≤ x) (hhi : x < 2 ^ (w - 1)) :
    (BitVec.ofInt w x).toInt = x :=
  BitVec.toInt_ofInt_eq_self hw hlo hhi

/-- **the table computed in `w`-bit two's-complement arithmetic** (an `int32_t` / `int64_t` output, sums that leave the
    type wrap around) holds at `idx` the wrapped exact prefix sum — hence the exact prefix sum whenever that fits the
    output type, even if sums formed on the way did not -/
theorem integralWrapped_spec (w : Nat) (hw : 0 < w) (dims : List Nat) (xs : List Int) (f : List Nat → Int)
    (hl : xs.length = size dims) (hf : ∀ q, Valid dims q → xs[index dims q]? = some (f q)) :
    (integralWrapped w dims xs).length = size dims ∧
    ∀ idx, Valid dims idx →
      (integralWrapped w dims xs)[index dims idx]? = some (BitVec.ofInt w (boxSum idx f)).toInt ∧
      (-(2 ^ (w - 1) : Int) ≤ boxSum idx f → boxSum idx f < 2 ^ (w - 1) →
        (integralWrapped w dims xs)[index dims idx]? = some (boxSum idx f)) := by
  obtain ⟨il, ig⟩ := integralData_spec dims xs f hl hf
  have hh : integralWrapped w dims xs = ((integralData dims xs).map (BitVec.ofInt w)).map BitVec.toInt := by
    unfold integralWrapped
    rw [integralData_hom (BitVec.ofInt w) (fun a b => BitVec.ofInt_add a b)]
  refine ⟨by rw [hh]; simp [il], ?_⟩
  intro idx hv
  have h1 : (integralWrapped w dims xs)[index dims idx]? = some (BitVec.ofInt w (boxSum idx f)).toInt := by
    rw [hh, List.getElem?_map, List.getElem?_map, ig idx hv]
    rfl
  refine ⟨h1, ?_⟩
  intro hlo hhi
  rw [h1, wrap_exact w hw _ hlo hhi]

/-! ### non-vacuity: the shape of the unit test, and a shape with a 0 and a 1 dimension -/

example : Valid [3, 7, 5, 4] [2, 6, 4, 3] ∧ index [3, 7, 5, 4] [2, 6, 4, 3] = 419 ∧ size [3, 7, 5, 4] = 420 := by
  decide
example : ValidPrefix [3, 7, 5, 4] [2, 6] ∧ index [3, 7, 5, 4] [2, 6] + size (dims0 [3, 7, 5, 4] 2) = 420 := by
  decide
example : LexLt [1, 6, 4, 3] [2, 0, 0, 0] ∧ index [3, 7, 5, 4] [1, 6, 4, 3] + 1 = index [3, 7, 5, 4] [2, 0, 0, 0] :=
  ⟨Or.inl (by decide), by decide⟩
example : ((T.slice ⟨[4, 2], [0, 1, 2, 3, 4, 5, 6, 7]⟩ 1 3).map fun s => (s.dims, s.data)) = some ([2, 2], [2, 3, 4, 5])
    ∧ ((T.gather ⟨[4, 2], [0, 1, 2, 3, 4, 5, 6, 7]⟩ [3, 0, 3]).map fun s => (s.dims, s.data))
        = some ([3, 2], [6, 7, 0, 1, 6, 7])
    ∧ ((T.reshape ⟨[4, 2], [0, 1, 2, 3, 4, 5, 6, 7]⟩ [2, -1, 2]).map fun s => (s.dims, s.data))
        = some ([2, 2, 2], [0, 1, 2, 3, 4, 5, 6, 7]) := by
  decide
example : size [2, 0, 1] = 0 ∧ ¬ Valid [2, 0, 1] [0, 0, 0] := by decide
example : reshapeDims 24 [2, -1, 3] = some [2, 4, 3] := by decide
example : reshapeDims 24 [5, -1] = none := by decide
example : reshapeDims 24 [4, 5] = none ∧ reshapeDims 24 [0, -1] = none ∧ reshapeDims 24 [-2, 12] = none
    ∧ reshapeDims 0 [3, -1, 2] = some [3, 0, 2] ∧ reshapeDims 24 [-1] = some [24] := by decide
-- integral: 2x3 table, a rank-3 table, and the specification side evaluated on a 2x3 box
example : integralData [2, 3] [1, 2, 3, 4, 5, 6] = [1, 3, 6, 5, 12, 21] := by decide
example : (T.integral ⟨[2, 2, 2], [1, 1, 1, 1, 1, 1, 1, -7]⟩).data = [1, 2, 2, 4, 2, 4, 4, 0] := by decide
example : boxSum [1, 2] (fun q => match q with | [a, b] => (10 * a + b : Int) | _ => 1000)
    = 0 + 1 + 2 + 10 + 11 + 12 := by decide
example : (T.integral ⟨[2, 0], ([] : List Int)⟩).data = [] ∧ ¬ Valid [2, 0] [0, 0] := by decide
-- remove_if: rows 1 and 3 flagged; 3 rows kept and compacted, the tail keeps what the loop left there
example : removeIfRows [false, true, false, true, false] [[0], [1], [2], [3], [4]]
    = (3, [[0], [2], [4], [3], [4]]) := by decide
example : keptRows [false, true, false, true, false] [[0], [1], [2], [3], [4]] = [[0], [2], [4]]
    ∧ keptIdx [false, true, false, true, false] 0 = [0, 2, 4] := by decide
example : (T.removeIf ⟨[3, 2], [0, 1, 2, 3, 4, 5]⟩ [true, false, false]).map (fun p => (p.1, p.2.data))
    = some (2, [2, 3, 4, 5, 4, 5]) := by decide
-- views: `t.slice(1, 3)` of a 4x2 tensor copied out (`t = t.slice(1, 3)`), a view of a view, a write through
-- `t.tensor(1)`, a refused write (size mismatch), a gather into a re-used output of another size
example : ((View.slice ⟨0, [4, 2]⟩ 1 3).map fun w => (w, (assignView [0, 1, 2, 3, 4, 5, 6, 7] w).dims,
    (assignView [0, 1, 2, 3, 4, 5, 6, 7] w).data)) = some (⟨2, [2, 2]⟩, [2, 2], [2, 3, 4, 5]) := by decide
example : ((View.reshape ⟨0, [8, 1]⟩ [2, -1, 2]).bind fun v => v.sub [1, 0]) = some ⟨4, [2]⟩ := by decide
example : ((View.sub ⟨0, [2, 3]⟩ [1]).bind fun w => w.write [1, 2, 3, 4, 5, 6] [-1, -2, -3])
    = some [1, 2, 3, -1, -2, -3] := by decide
example : (View.mk 0 [2, 3]).write [1, 2, 3, 4, 5, 6] [-1] = none ∧ (View.mk 4 [3]).write [1, 2, 3, 4, 5, 6] [7, 8, 9] = none := by
  decide
example : ((T.gatherInto (-99) ⟨[4, 2], [0, 1, 2, 3, 4, 5, 6, 7]⟩ [3, 0, 3] ⟨[1, 1], [-7]⟩).map fun s => (s.dims, s.data))
    = some ([3, 2], [6, 7, 0, 1, 6, 7]) := by decide
-- mixed-type integral: an 8-bit unsigned image into integers; 8-bit two's-complement arithmetic wraps on the way
-- (100 + 100) and is exact again where the prefix sum fits
example : (T.integralX (fun x : Nat => Int.ofNat x) ⟨[2, 2], [200, 201, 202, 203]⟩).data = [200, 401, 402, 806] := by decide
example : integralWrapped 8 [4] [100, 100, -100, -50] = [100, -56, 100, 50] := by decide

end NanoVerif.Tensor

/-!
  ### the three storages on the heap model (`Model/TensorStorage.lean`)

  The conversion / assignment / resize / move theorems live in `Proofs/TensorStorage*.lean` (their statements are the
  obligations); here: the views of any storage tied to the addressing theorems above, the headline statements, and the
  non-vacuity examples.
-/
namespace NanoVerif.Tensor.Store
open NanoVerif.Tensor

variable {α : Type}

/-- a view `w` (computed by the addressing model on the dims alone) of a readable object `o` of ANY storage: it reads exactly
    the elements `w.read` selects from what `o` reads — nothing outside `o`'s own elements, hence nothing outside the
    allocation -/
theorem obj_view_elems {h : Heap α} {o : Obj} {xs : List α} (k : Kind) (w : View) (ho : o.elems h = some xs)
    (hw : w.off + size w.dims ≤ size o.dims) :
    (⟨k, o.ptr.add w.off, w.dims⟩ : Obj).elems h = some (w.read xs) :=
  read_add ho w.off (size w.dims) hw

/-- `slice(b, e)` of any storage: in bounds of the object it is taken from, reading the elements the addressing model's
    slice selects (whose elements `view_slice_elem` identifies with full indexing) -/
theorem obj_slice_elems {h : Heap α} {o v : Obj} {xs : List α} (c : Bool) (b e : Nat) (ho : o.elems h = some xs)
    (hs : o.slice c b e = some v) :
    ∃ w, View.slice ⟨0, o.dims⟩ b e = some w ∧ v.dims = w.dims ∧ w.off + size w.dims ≤ size o.dims ∧
      v.elems h = some (w.read xs) := by
  obtain ⟨w, hw, rfl⟩ := Option.map_eq_some_iff.mp hs
  have hb := (view_slice_in_bounds ⟨0, o.dims⟩ w b e hw).2
  simp only [Nat.zero_add] at hb
  exact ⟨w, hw, rfl, hb, obj_view_elems _ w ho hb⟩

/-- `tensor(i…)` of any storage -/
theorem obj_sub_elems {h : Heap α} {o v : Obj} {xs : List α} (c : Bool) (pre : List Nat) (ho : o.elems h = some xs)
    (hs : o.sub c pre = some v) :
    ∃ w, View.sub ⟨0, o.dims⟩ pre = some w ∧ v.dims = w.dims ∧ w.off + size w.dims ≤ size o.dims ∧
      v.elems h = some (w.read xs) := by
  obtain ⟨w, hw, rfl⟩ := Option.map_eq_some_iff.mp hs
  have hb := (view_sub_in_bounds ⟨0, o.dims⟩ w pre hw).2
  simp only [Nat.zero_add] at hb
  exact ⟨w, hw, rfl, hb, obj_view_elems _ w ho hb⟩

/-- `reshape(sizes…)` of any storage: the same elements in the same flat order under the new dims -/
theorem obj_reshape_elems {h : Heap α} {o v : Obj} {xs : List α} (c : Bool) (sizes : List Int) (ho : o.elems h = some xs)
    (hs : o.reshape c sizes = some v) :
    size v.dims = size o.dims ∧ v.ptr = o.ptr ∧ v.elems h = some xs := by
  obtain ⟨w, hw, rfl⟩ := Option.map_eq_some_iff.mp hs
  obtain ⟨hoff, hsz⟩ := view_reshape_in_bounds ⟨0, o.dims⟩ w sizes hw
  simp only at hoff hsz
  have hp : o.ptr.add w.off = o.ptr := by
    rw [hoff]
    cases o.ptr with
    | none => rfl
    | some q => simp [Ptr.add]
  refine ⟨hsz, hp, ?_⟩
  show h.read (o.ptr.add w.off) (size w.dims) = some xs
  rw [hp, hsz]
  exact ho

/-- the non-owning conversions (`map(tensor)`, `cmap(tensor)`, `cmap(map)`, copies and moves of maps, move-assignment of a
    constant map): same pointer, same dims — they read what the source reads, in every heap, and neither read nor write
    anything themselves -/
theorem viewOf_elems (h : Heap α) (k : Kind) (src : Obj) :
    (viewOf k src).elems h = src.elems h ∧ (viewOf k src).dims = src.dims ∧ (viewOf k src).ptr = src.ptr := ⟨rfl, rfl, rfl⟩

/-- HEADLINE — `owning/mapping/constant-mapping storages convert without changing contents`: every conversion of a
    readable source, into an owning tensor (by construction or by assignment, the source possibly viewing the destination
    itself) or into a map, yields the source's dims and the source's element sequence as it was before the operation -/
theorem assign_preserves_elements {h : Heap α} {dst src : Obj} (hc : src.count h = size src.dims) (hd : dst.OkMem h) :
    (∀ h' o, memCopy h src = some (h', o) → o.dims = src.dims ∧ o.elems h' = src.elems h) ∧
    (∀ h' o, memAssignView h dst src = some (h', o) → o.dims = src.dims ∧ o.elems h' = src.elems h) ∧
    (∀ k, (viewOf k src).dims = src.dims ∧ (viewOf k src).elems h = src.elems h) :=
  ⟨fun _ _ hm => ⟨(memCopy_elems hc hm).1, (memCopy_elems hc hm).2.1⟩,
   fun _ _ hm => ⟨(memAssignView_elems hd hm).1, (memAssignView_elems hd hm).2.1⟩,
   fun _ => ⟨rfl, rfl⟩⟩

/-- writes through an object land exactly on its own cells: any other object `q` (a view of the same allocation at any
    offset and of any shape, or something else) reads afterwards what it read before, except at the positions whose cell
    the writer addresses — where it reads the written value -/
theorem write_alias_exact {h h' : Heap α} {w q : Obj} {b wo c qo : Nat} {vals ys : List α} (hwp : w.ptr = some (b, wo))
    (hqp : q.ptr = some (c, qo)) (hw : w.write h vals = some h') (hq : q.elems h = some ys) :
    ∃ ys', q.elems h' = some ys' ∧ ∀ j, j < size q.dims →
      ys'[j]? = if c = b ∧ wo ≤ qo + j ∧ qo + j < wo + size w.dims then vals[qo + j - wo]? else ys[j]? := by
  obtain ⟨_, hl, hw⟩ := Obj.write_some hw
  rw [hwp] at hw
  unfold Obj.elems at hq ⊢
  rw [hqp] at hq ⊢
  have := read_after_write hw hq
  rw [hl] at this
  exact this

/-! non-vacuity: the hypotheses of the storage theorems are satisfiable, and the operations compute what they say -/

-- `t = t.slice(1, 3)` of a 3x2 owner through a map of its own buffer: fresh allocation, previous one released
example : memAssignView [some [(1 : Int), 2, 3, 4, 5, 6]] ⟨.mem, some (0, 0), [3, 2]⟩ ⟨.map, some (0, 2), [2, 2]⟩
    = some ([none, some [3, 4, 5, 6]], ⟨.mem, some (1, 0), [2, 2]⟩) := by decide
example : (⟨.mem, some (0, 0), [3, 2]⟩ : Obj).OkMem [some [(1 : Int), 2, 3, 4, 5, 6]] :=
  ⟨rfl, Or.inr ⟨0, _, rfl, rfl, by decide, by decide⟩⟩
-- the slice as the addressing model computes it, as an object
example : (⟨.mem, some (0, 0), [3, 2]⟩ : Obj).slice false 1 3 = some ⟨.map, some (0, 2), [2, 2]⟩ := by decide
-- copy construction from a constant map not starting at the owner's first element; an empty source gives nullptr
example : memCopy [some [(1 : Int), 2, 3, 4]] ⟨.cmap, some (0, 1), [2]⟩ = some ([some [1, 2, 3, 4], some [2, 3]], ⟨.mem, some (1, 0), [2]⟩) := by
  decide
example : memCopy [some [(1 : Int), 2, 3, 4]] ⟨.cmap, some (0, 1), [0, 5]⟩ = some ([some [1, 2, 3, 4]], ⟨.mem, none, [0, 5]⟩) := by
  decide
-- resize: same count keeps the buffer, another count releases it
example : memResize (-99 : Int) [some [1, 2, 3, 4, 5, 6]] ⟨.mem, some (0, 0), [3, 2]⟩ [2, 3]
    = ([some [1, 2, 3, 4, 5, 6]], ⟨.mem, some (0, 0), [2, 3]⟩) := by decide
example : memResize (-99 : Int) [some [1, 2, 3, 4, 5, 6]] ⟨.mem, some (0, 0), [3, 2]⟩ [2]
    = ([none, some [-99, -99]], ⟨.mem, some (1, 0), [2]⟩) := by decide
-- owning = owning: same count re-uses the allocation, another count does not
example : memAssignMem [some [(1 : Int), 2], some [7, 8]] ⟨.mem, some (0, 0), [2]⟩ ⟨.mem, some (1, 0), [1, 2]⟩
    = some ([some [7, 8], some [7, 8]], ⟨.mem, some (0, 0), [1, 2]⟩) := by decide
example : memAssignMem [some [(1 : Int), 2], some [7, 8, 9]] ⟨.mem, some (0, 0), [2]⟩ ⟨.mem, some (1, 0), [3]⟩
    = some ([none, some [7, 8, 9], some [7, 8, 9]], ⟨.mem, some (2, 0), [3]⟩) := by decide
-- map = tensor of equal size, the map starting at element 2 of its owner; overlapping map = map in the supported direction
example : mapAssign [some [(1 : Int), 2, 3, 4, 5], some [8, 9]] ⟨.map, some (0, 2), [2]⟩ ⟨.mem, some (1, 0), [2]⟩
    = some [some [1, 2, 8, 9, 5], some [8, 9]] := by decide
example : mapAssign [some [(1 : Int), 2, 3, 4, 5]] ⟨.map, some (0, 0), [3]⟩ ⟨.map, some (0, 1), [3]⟩ = some [some [2, 3, 4, 4, 5]] := by
  decide
-- a stale view: after `t = t.slice(…)` the map of the previous allocation reads nothing
example : (⟨.map, some (0, 2), [2, 2]⟩ : Obj).elems [none, some [(3 : Int), 4, 5, 6]] = none := by decide
-- a whole history: owner 0 (3 elements), map 2 of it, owner 1 copy-constructed from the map, write through the map
example : (run (-99 : Int) ⟨[], [Obj.default .mem 1, Obj.default .mem 1, Obj.default .map 1]⟩
    [.new 0 [3], .fill 0 [1, 2, 3], .slice 2 0 false 1 3, .ctor 1 2, .fill 2 [8, 9]]).map (fun st => (st.heap, st.objs))
    = some ([some [1, 8, 9], some [2, 3]],
            [⟨.mem, some (0, 0), [3]⟩, ⟨.mem, some (1, 0), [2]⟩, ⟨.map, some (0, 1), [2]⟩]) := by decide
-- the ownership invariant: the initial state of a program satisfies it, hence so does every state a history reaches
example : Inv (⟨[], [Obj.default .mem 1, Obj.default .mem 1, Obj.default .map 1]⟩ : St Int) :=
  inv_init _ (by
    intro i x hx
    have hm : x ∈ [Obj.default .mem 1, Obj.default .mem 1, Obj.default .map 1] := List.mem_of_getElem? hx
    simp only [List.mem_cons, List.not_mem_nil, or_false] at hm
    rcases hm with rfl | rfl | rfl <;> rfl)
-- a moved-from owner as coded: dims kept, pointer gone (move construction) / the destination's old allocation (move assignment)
example : memMoveCtor ⟨.mem, some (0, 0), [2, 3]⟩ = (⟨.mem, some (0, 0), [2, 3]⟩, ⟨.mem, none, [2, 3]⟩) := by decide
example : memMoveAssign ⟨.mem, some (1, 0), [4]⟩ ⟨.mem, some (0, 0), [2, 3]⟩
    = (⟨.mem, some (0, 0), [2, 3]⟩, ⟨.mem, some (1, 0), [2, 3]⟩) := by decide
-- ranges, arange, make_matrix, stack of vectors as coded
example : (makeRange 1 3).valid 3 = true ∧ (makeRange 2 2).valid 3 = false ∧ sliceAssert 2 2 3 = true := by decide
example : arange (-2) 3 = some [-2, -1, 0, 1, 2] ∧ arange 4 4 = some [] ∧ arange 5 4 = none := by decide
example : (makeMatrix 2 [1, 2, 3, 4, 5, 6]).map (·.dims) = some [2, 3] ∧ (makeMatrix 4 [1, 2, 3, 4, 5, 6]).isNone := by decide
example : stackVecCoded (0 : Int) 5 [[1, 2], [], [3, 4, 5]] = some [1, 2, 3, 4, 5] ∧ stackVecCoded (0 : Int) 4 [[1, 2], [3, 4, 5]] = none := by
  decide
example : removeIfRowsN [false, true, false] [[[0], [1], [2]], [[10, 11], [20, 21], [30, 31]]]
    = (2, [[[0], [2], [2]], [[10, 11], [30, 31], [30, 31]]]) := by decide

end NanoVerif.Tensor.Store
