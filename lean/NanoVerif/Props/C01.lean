import NanoVerif.Proofs.SolverSkeleton
import NanoVerif.Proofs.SolverAlgebra
import NanoVerif.Proofs.SolverStepCompose
/-!
  C01 — L-BFGS/BFGS solve well-conditioned smooth convex problems, truthfully: the property theorems.

  * `converged_truthful*` hold for EVERY scalar type with the core operation classes (so also for `Float`, the type the
    driver runs the same definitions at), every objective, every direction rule and every line search that meets the
    contract `LsContract` (the state it leaves behind is an evaluation of `f`; proved for the five line searches in C07
    and monitored at run time against the wrapper's evaluation log). They are statements about the generated fragments
    (`doneCond`, `doneStatus`, `lbfgsConverged`, …): an edit of `solver_t::done` or of a `converged = …` line re-elaborates them.
  * the remaining theorems are exact arithmetic over an arbitrary linear ordered field.
  * `converged_truthful_composed*` (last section) need NO line-search hypothesis: the line search is the model
    `lsearch_t::get = lsearch0 ∘ lsearchk` of `Model/SolverStep.lean` (four step-initialisation strategies with their private
    members, the glue of lsearch.cpp, and the C07 model of `lsearchk_t::get` with the five searches); only `f` is an oracle.
  * NOT proved here (tested by `tools/props/c01.py` on the statement's problem class): "status `converged` within 1500
    evaluations" — a floating-point convergence-rate claim.
-/
namespace NanoVerif.Solver
open NanoVerif.Gen.DoneLogic

section generic
variable {α : Type} [Add α] [Sub α] [Mul α] [Div α] [Neg α] [LT α] [LE α] [DecidableLT α] [DecidableLE α] [∀ n, OfNat α n]

/-- For every objective `f`, direction rule (with any memory), line-search oracle meeting the contract, ε, budget and
    fuel: what `minimize` returns is an evaluation of `f`, and if its status is `converged` then the solver's convergence
    test holds for the gradient and value of `f` AT THE RETURNED POINT. -/
theorem converged_truthful {M : Type} (env : Env α) (rule : Rule α M) (ls : Ls α) (f : Objective α)
    (hls : LsContract f ls) (eps : α) (maxEvals fuel : Nat) (x0 : Vec α) :
    let r := lsMinimize env rule ls f eps maxEvals fuel x0
    r.fx = (f r.x).1 ∧ r.gx = (f r.x).2 ∧
    (r.status = Status.converged →
      rule.conv (gradientTest (infNorm (f r.x).2) (f r.x).1) eps = true ∨
      rule.convInit (gradientTest (infNorm (f r.x).2) (f r.x).1) eps = true) := by
  have h := lsMinimize_good env rule ls eps maxEvals f hls fuel x0
  exact ⟨h.cons.1, h.cons.2, h.truthful⟩

/-- the conclusion in the form of the statement, for any rule whose two generated tests imply `gradient_test < ε` -/
theorem converged_truthful_lt {M : Type} (env : Env α) (rule : Rule α M) (ls : Ls α) (f : Objective α)
    (hls : LsContract f ls) (eps : α) (maxEvals fuel : Nat) (x0 : Vec α)
    (h1 : ∀ g e, rule.conv g e = true → g < e) (h2 : ∀ g e, rule.convInit g e = true → g < e) :
    let r := lsMinimize env rule ls f eps maxEvals fuel x0
    r.status = Status.converged →
      r.fx = (f r.x).1 ∧ r.gx = (f r.x).2 ∧ gradientTest (infNorm (f r.x).2) (f r.x).1 < eps := by
  intro r hs
  have h := converged_truthful env rule ls f hls eps maxEvals fuel x0
  refine ⟨h.1, h.2.1, ?_⟩
  rcases h.2.2 hs with h3 | h3
  · exact h1 _ _ h3
  · exact h2 _ _ h3

/-- both generated convergence tests of a solver body (`converged = …` before and inside the loop) say `gradient_test < ε` -/
def ConvIsLt {M : Type} (rule : Rule α M) : Prop :=
  (∀ g e, rule.conv g e = true → g < e) ∧ (∀ g e, rule.convInit g e = true → g < e)

set_option linter.unusedSectionVars false
theorem gdRule_convIsLt : ConvIsLt (gdRule : Rule α Unit) :=
  ⟨fun g e h => by simpa [gdRule, gdConverged] using h, fun g e h => by simpa [gdRule, gdConvergedInit] using h⟩
set_option linter.unusedSectionVars true

theorem cgdRule_convIsLt (env : Env α) (kind : CgdKind) (eta orthotest : α) : ConvIsLt (cgdRule env kind eta orthotest) :=
  ⟨fun g e h => by simpa [cgdRule, cgdConverged] using h, fun g e h => by simpa [cgdRule, cgdConvergedInit] using h⟩

set_option linter.unusedSectionVars false
theorem lbfgsRule_convIsLt (history : Nat) : ConvIsLt (lbfgsRule history : Rule α (LbfgsMem α)) :=
  ⟨fun g e h => by simpa [lbfgsRule, lbfgsConverged] using h, fun g e h => by simpa [lbfgsRule, lbfgsConvergedInit] using h⟩
set_option linter.unusedSectionVars true

theorem quasiRule_convIsLt (env : Env α) (kind : QuasiKind) (r0 : α) (scaled : Bool) (n : Nat) :
    ConvIsLt (quasiRule env kind r0 scaled n) :=
  ⟨fun g e h => by simpa [quasiRule, quasiConverged] using h, fun g e h => by simpa [quasiRule, quasiConvergedInit] using h⟩

/-- gd (gd.cpp): `converged` ⇒ returned `gx = ∇f(x)`, `fx = f(x)` and `‖∇f(x)‖∞ / max(1, |f(x)|) < ε` -/
theorem converged_truthful_gd (env : Env α) (ls : Ls α) (f : Objective α) (hls : LsContract f ls) (eps : α)
    (maxEvals fuel : Nat) (x0 : Vec α) :
    let r := lsMinimize env (gdRule : Rule α Unit) ls f eps maxEvals fuel x0
    r.status = Status.converged →
      r.fx = (f r.x).1 ∧ r.gx = (f r.x).2 ∧ gradientTest (infNorm (f r.x).2) (f r.x).1 < eps :=
  converged_truthful_lt env gdRule ls f hls eps maxEvals fuel x0 gdRule_convIsLt.1 gdRule_convIsLt.2

/-- the ten cgd variants (cgd.cpp), whatever β formula, `orthotest` and `eta` -/
theorem converged_truthful_cgd (env : Env α) (kind : CgdKind) (eta orthotest : α) (ls : Ls α) (f : Objective α)
    (hls : LsContract f ls) (eps : α) (maxEvals fuel : Nat) (x0 : Vec α) :
    let r := lsMinimize env (cgdRule env kind eta orthotest) ls f eps maxEvals fuel x0
    r.status = Status.converged →
      r.fx = (f r.x).1 ∧ r.gx = (f r.x).2 ∧ gradientTest (infNorm (f r.x).2) (f r.x).1 < eps :=
  converged_truthful_lt env (cgdRule env kind eta orthotest) ls f hls eps maxEvals fuel x0
    (cgdRule_convIsLt env kind eta orthotest).1 (cgdRule_convIsLt env kind eta orthotest).2

/-- L-BFGS (lbfgs.cpp), whatever the history size -/
theorem converged_truthful_lbfgs (env : Env α) (history : Nat) (ls : Ls α) (f : Objective α) (hls : LsContract f ls)
    (eps : α) (maxEvals fuel : Nat) (x0 : Vec α) :
    let r := lsMinimize env (lbfgsRule history) ls f eps maxEvals fuel x0
    r.status = Status.converged →
      r.fx = (f r.x).1 ∧ r.gx = (f r.x).2 ∧ gradientTest (infNorm (f r.x).2) (f r.x).1 < eps :=
  converged_truthful_lt env (lbfgsRule history) ls f hls eps maxEvals fuel x0
    (lbfgsRule_convIsLt history).1 (lbfgsRule_convIsLt history).2

/-- SR1 / DFP / BFGS / Hoshino / Fletcher (quasi.cpp), whatever the initialisation and `r` -/
theorem converged_truthful_quasi (env : Env α) (kind : QuasiKind) (r0 : α) (scaled : Bool) (n : Nat) (ls : Ls α)
    (f : Objective α) (hls : LsContract f ls) (eps : α) (maxEvals fuel : Nat) (x0 : Vec α) :
    let r := lsMinimize env (quasiRule env kind r0 scaled n) ls f eps maxEvals fuel x0
    r.status = Status.converged →
      r.fx = (f r.x).1 ∧ r.gx = (f r.x).2 ∧ gradientTest (infNorm (f r.x).2) (f r.x).1 < eps :=
  converged_truthful_lt env (quasiRule env kind r0 scaled n) ls f hls eps maxEvals fuel x0
    (quasiRule_convIsLt env kind r0 scaled n).1 (quasiRule_convIsLt env kind r0 scaled n).2

end generic

section field
variable {α : Type} [Field α] [LinearOrder α] [IsStrictOrderedRing α]

/-- reading of the conclusion of `converged_truthful_*` in exact arithmetic: every component of the gradient of `f` at the
    returned point is below `ε · max(1, |f(x)|)` -/
theorem converged_components (g : Vec α) (fx eps : α) (h : gradientTest (infNorm g) fx < eps) :
    ∀ v ∈ g, |v| < eps * max 1 |fx| := by
  intro v hv
  unfold gradientTest at h
  rw [cmax_eq_max, absv_eq_abs] at h
  exact lt_of_le_of_lt (le_infNorm g v hv) ((div_lt_iff₀ (lt_of_lt_of_le one_pos (le_max_left _ _))).mp h)

/-- the L-BFGS two-loop recursion gives a descent direction whenever every stored pair has `s·y > 0`
    (it is the product form of a positive definite operator). NB: lbfgs.cpp does NOT test `s·y > 0` when it stores a pair —
    hence `direction_is_descent_lbfgs` below, which needs no such hypothesis. -/
theorem twoloop_descent (n : Nat) (hist : List (Vec α × Vec α)) (g : Vec α) (hok : HistOK n hist) (hg : g.length = n)
    (hne : ∃ a ∈ g, a ≠ 0) : vdot g (lbfgsRaw hist g) < 0 := by
  unfold lbfgsRaw
  rw [vdot_vneg_right]
  exact neg_neg_of_pos (twoLoop_pos (lbfgsGamma hist) (lbfgsGamma_ok n hist hok) n hist g hok hg hne)

theorem vdot_self_vneg_neg (g : Vec α) (hne : ∃ a ∈ g, a ≠ 0) : vdot g (vneg g) < 0 := by
  rw [vdot_vneg_right]; exact neg_neg_of_pos (vdot_self_pos g hne)

/-- what L-BFGS hands to the line search is ALWAYS a descent direction (recursion result, or the forced `−g` fallback),
    for any history whatsoever -/
theorem direction_is_descent_lbfgs (m : LbfgsMem α) (c : State α) (hne : ∃ a ∈ c.gx, a ≠ 0) :
    vdot c.gx (lbfgsDirection m c).1 < 0 := by
  unfold lbfgsDirection
  simp only
  split
  · rename_i h; simpa [hasDescent] using h
  · exact vdot_self_vneg_neg c.gx hne

/-- the same for the quasi-Newton solvers (restart with `H = I` when `−H g` is not a descent direction) -/
theorem direction_is_descent_quasi (n : Nat) (m : QuasiMem α) (c : State α) (hne : ∃ a ∈ c.gx, a ≠ 0) :
    vdot c.gx (quasiDirection n m c).1 < 0 := by
  unfold quasiDirection
  simp only
  split
  · rename_i h; simpa [hasDescent] using h
  · exact vdot_self_vneg_neg c.gx hne

/-- the same for the ten cgd variants (restart with `−g`), whatever β is (even a division by zero) -/
theorem direction_is_descent_cgd (env : Env α) (kind : CgdKind) (eta orthotest : α) (m : Option (Vec α)) (p c : State α)
    (hne : ∃ a ∈ c.gx, a ≠ 0) : vdot c.gx (cgdDirection env kind eta orthotest m p c).1 < 0 := by
  unfold cgdDirection
  cases m with
  | none => exact vdot_self_vneg_neg c.gx hne
  | some pd =>
    simp only
    split
    · exact vdot_self_vneg_neg c.gx hne
    · rename_i h
      simp only [Bool.or_eq_true, Bool.not_eq_true', not_or] at h
      have h1 := h.1
      simp only [Bool.not_eq_false] at h1
      simpa [hasDescent] using h1

theorem direction_is_descent_gd (p c : State α) (hne : ∃ a ∈ c.gx, a ≠ 0) :
    vdot c.gx ((gdRule : Rule α Unit).direction () p c).1 < 0 := vdot_self_vneg_neg c.gx hne

/-- the BFGS update satisfies the secant equation `H⁺ y = s` (for any `H`, when `s·y ≠ 0`) -/
theorem bfgs_update_secant (env : Env α) (r : α) (n : Nat) (H : Mat α) (s y : Vec α) (hs : s.length = n)
    (hy : y.length = n) (hsy : vdot s y ≠ 0) : matVec (quasiUpdateH env QuasiKind.bfgs r n H s y) y = s := by
  have hI := identity_rows_length (α := α) n
  have hO : ∀ u : Vec α, ∀ r ∈ matDiv (outer u s) (vdot s y), r.length = n := fun u =>
    matDiv_rows_length _ _ n (fun r hr => (outer_rows_length u s r hr).trans hs)
  -- `B y = y − y (s·y)/(s·y) = 0` for `B = I − y sᵀ/(s·y)`
  have hBy : matVec (matSub (identity n) (matDiv (outer y s) (vdot s y))) y = List.replicate n 0 := by
    rw [matVec_matSub _ _ y n hI (hO y), matVec_outer_div, div_self hsy, map_mul_one, ← hy, matVec_identity, vsub_self]
  have hB : ∀ r ∈ matSub (identity n) (matDiv (outer y s) (vdot s y)), r.length = n :=
    matZipWith_rows_length _ n _ _ hI (hO y)
  have hl : (matMul n (matSub (identity n) (matDiv (outer s y) (vdot s y))) H).length = s.length := by
    simp only [matMul, matSub, matZipWith_eq_zipWith, matDiv, outer, List.length_map, List.length_zipWith, identity_length,
      hs, Nat.min_self]
  -- `H⁺ y = (A H) (B y) + s (s·y)/(s·y) = 0 + s`
  show matVec (matAdd (matMul n (matMul n _ H) _) (matDiv (outer s s) (vdot s y))) y = s
  rw [matVec_matAdd _ _ y n (matMul_rows_length n _ _) (hO s),
    matVec_matMul n _ _ y hB, hBy, matVec_zero, matVec_outer_div, div_self hsy,
    map_mul_one, hl]
  exact vadd_replicate_zero_left s

/-- gradient of `½ xᵀA x + aᵀx` -/
def quadGrad (A : Mat α) (a x : Vec α) : Vec α := vadd (matVec A x) a

set_option linter.unusedVariables false
/-- strongly convex quadratics (exact): if `vᵀA v ≥ λ‖v‖²` for all `v` and `∇f(x*) = 0`, then
    `λ² ‖x − x*‖₂² ≤ ‖∇f(x)‖₂²` -/
theorem strongly_convex_gradient_bound (n : Nat) (A : Mat α) (a xs x : Vec α) (lam : α) (hlam : 0 ≤ lam)
    (hA : ∀ r ∈ A, r.length = n) (hAl : A.length = n) (ha : a.length = n) (hxs : xs.length = n) (hx : x.length = n)
    (hstar : quadGrad A a xs = List.replicate n 0)
    (hconv : ∀ v : Vec α, v.length = n → lam * vdot v v ≤ vdot v (matVec A v)) :
    lam * lam * vdot (vsub x xs) (vsub x xs) ≤ vdot (quadGrad A a x) (quadGrad A a x) := by
  have hv : (vsub x xs).length = n := (vsub_length x xs (hx.trans hxs.symm)).trans hx
  have hAa : ∀ z : Vec α, (matVec A z).length = a.length := fun z => ((matVec_length A z).trans hAl).trans ha.symm
  -- `v·∇f(x) = v·A v` for `v = x − x*`, because `∇f(x) − ∇f(x*) = A v` and `∇f(x*) = 0`
  have h1 : vdot (vsub x xs) (quadGrad A a x) = vdot (vsub x xs) (matVec A (vsub x xs)) := by
    have h0 : vdot (vsub x xs) (quadGrad A a xs) = 0 := by rw [hstar, vdot_replicate_zero_right]
    unfold quadGrad at h0 ⊢
    rw [vdot_vadd_right _ _ _ (hAa xs)] at h0
    rw [vdot_vadd_right _ _ _ (hAa x), matVec_vsub A x xs (hx.trans hxs.symm),
      vdot_vsub_right _ _ _ ((hAa x).trans (hAa xs).symm), eq_neg_of_add_eq_zero_right h0, sub_eq_add_neg]
  exact sq_mul_le_of_mul_le_of_sq_le lam _ _ _ hlam (vdot_self_nonneg _) (vdot_self_nonneg _)
    ((hconv _ hv).trans_eq h1.symm) (vdot_sq_le _ _)
set_option linter.unusedVariables true

/-- the accuracy clause of the statement (squared, exact): for `f(x) = ½xᵀAx + aᵀx` with `vᵀAv ≥ λ‖v‖²`, minimiser `x*`, ANY
    line-search solver of the model, ANY line search meeting the contract: status `converged` implies
    `λ² ‖x − x*‖₂² ≤ n · (ε · max(1, |f(x)|))²`, i.e. `‖x − x*‖₂ ≤ √n · ε · max(1, |f(x)|) / λ`. -/
theorem strongly_convex_accuracy {M : Type} (env : Env α) (rule : Rule α M) (ls : Ls α) (n : Nat) (A : Mat α)
    (a xs : Vec α) (lam : α) (value : Vec α → α) (hlam : 0 ≤ lam)
    (hA : ∀ r ∈ A, r.length = n) (hAl : A.length = n) (ha : a.length = n) (hxs : xs.length = n)
    (hstar : quadGrad A a xs = List.replicate n 0)
    (hconv : ∀ v : Vec α, v.length = n → lam * vdot v v ≤ vdot v (matVec A v))
    (hls : LsContract (fun x => (value x, quadGrad A a x)) ls)
    (h1 : ∀ g e, rule.conv g e = true → g < e) (h2 : ∀ g e, rule.convInit g e = true → g < e)
    (eps : α) (maxEvals fuel : Nat) (x0 : Vec α)
    (hx : (lsMinimize env rule ls (fun x => (value x, quadGrad A a x)) eps maxEvals fuel x0).x.length = n) :
    let r := lsMinimize env rule ls (fun x => (value x, quadGrad A a x)) eps maxEvals fuel x0
    r.status = Status.converged →
      lam * lam * vdot (vsub r.x xs) (vsub r.x xs) ≤ (n : α) * ((eps * max 1 |value r.x|) * (eps * max 1 |value r.x|)) := by
  intro r hs
  have ht := converged_truthful_lt env rule ls (fun x => (value x, quadGrad A a x)) hls eps maxEvals fuel x0 h1 h2 hs
  have hcomp := converged_components _ _ _ ht.2.2
  have hb := strongly_convex_gradient_bound n A a xs r.x lam hlam hA hAl ha hxs hx hstar hconv
  have hlen : (quadGrad A a r.x).length = n :=
    (vadd_length _ a (((matVec_length A _).trans hAl).trans ha.symm)).trans ((matVec_length A _).trans hAl)
  have hle := vdot_self_le_of_components (quadGrad A a r.x) (eps * max 1 |value r.x|)
    (fun c hc => le_of_lt (hcomp c hc))
  rw [hlen] at hle
  exact le_trans hb hle

end field

/-! ### non-vacuity: `converged` is reached, and the hypotheses of the theorems are satisfiable -/

section examples

def envZ : Env Int := ⟨fun _ => true, fun x => x, -1000000, 1000000⟩
/-- `f(x) = x²` in one dimension over `Int` -/
def sqF : Objective Int := fun x => (vdot x x, x.map (fun v => 2 * v))
/-- an exact line search: jumps to the minimiser and evaluates `f` there -/
def lsExact : Ls Int := fun _ s _ => (⟨[0], (sqF [0]).1, (sqF [0]).2, s.status, s.fcalls + 1, s.gcalls + 1⟩, true)

theorem lsExact_contract : LsContract sqF lsExact := fun _ _ _ => ⟨fun _ => ⟨rfl, rfl⟩, rfl⟩

/-- gd, L-BFGS and BFGS do not stop at the start `x0 = [1]` (gradient test 2 ≥ ε = 1), take one iteration and report
    `converged` at `[0]`: the premise of `converged_truthful` is not vacuous -/
example : (lsMinimize envZ (gdRule : Rule Int Unit) lsExact sqF 1 100 5 [1]).status = Status.converged := by decide
example : (lsMinimize envZ (gdRule : Rule Int Unit) lsExact sqF 1 100 5 [1]).x = [0] := by decide
example : (lsMinimize envZ (lbfgsRule 5) lsExact sqF 1 100 5 [1]).status = Status.converged := by decide
example : (lsMinimize envZ (quasiRule envZ QuasiKind.bfgs 0 false 1) lsExact sqF 1 100 5 [1]).x = [0] := by decide
/-- … and a run whose line search makes no progress stops on the budget and keeps the default status -/
example : (lsMinimize envZ (gdRule : Rule Int Unit) (fun _ s _ => ({ s with fcalls := s.fcalls + 60 }, true)) sqF 1 100 5 [1]).status
    = Status.max_iters := by decide
/-- … and a failing line search gives `failed` -/
example : (lsMinimize envZ (lbfgsRule 5) (fun _ s _ => (s, false)) sqF 1 100 5 [1]).status = Status.failed := by decide

/-- a history with `s·y > 0` exists: the hypothesis of `twoloop_descent` is satisfiable -/
example : HistOK (α := ℚ) 2 [([1, 0], [2, 1]), ([0, 1], [1, 3])] := by
  intro p hp
  simp only [List.mem_cons, List.not_mem_nil, or_false] at hp
  rcases hp with rfl | rfl <;> refine ⟨rfl, rfl, ?_⟩ <;> norm_num [vdot]

/-- the identity matrix is strongly convex with λ = 1: the hypotheses of `strongly_convex_gradient_bound` are satisfiable -/
example {α : Type} [Field α] [LinearOrder α] [IsStrictOrderedRing α] :
    ∀ v : Vec α, v.length = 2 → (1 : α) * vdot v v ≤ vdot v (matVec (identity 2) v) := by
  intro v hv
  have h := matVec_identity v
  rw [hv] at h
  rw [h, one_mul]

end examples

end NanoVerif.Solver

/-! ## the line search modelled: `lsearch_t::get = lsearch0 ∘ lsearchk` (Model/SolverStep.lean), only `f` left as an oracle -/
namespace NanoVerif.SolverStep
open NanoVerif.Gen.DoneLogic NanoVerif.Solver

section generic
variable {α : Type} [Add α] [Sub α] [Mul α] [Div α] [Neg α] [LT α] [LE α] [DecidableLT α] [DecidableLE α] [∀ n, OfNat α n]

/-- `converged_truthful` WITHOUT a line-search hypothesis: for every objective `f`, direction rule, step-initialisation strategy,
    line search (of the five), parameter values (in or out of their domains), ε, budget and fuel — and every scalar type —
    what `minimize` returns is an evaluation of `f`, and `converged` implies the solver's convergence test on the gradient and
    value of `f` at the returned point. -/
theorem converged_truthful_composed {M : Type} (env : Env α) (rule : Rule α M) (st : Strategy) (P : Params α)
    (m : LSearch.Method) (cfg : LSearch.Cfg α) (f : Objective α) (eps : α) (maxEvals fuel : Nat) (x0 : Vec α) :
    let r := lsMinimizeS env rule st P m cfg f eps maxEvals fuel x0
    r.fx = (f r.x).1 ∧ r.gx = (f r.x).2 ∧
    (r.status = Status.converged →
      rule.conv (gradientTest (infNorm (f r.x).2) (f r.x).1) eps = true ∨
      rule.convInit (gradientTest (infNorm (f r.x).2) (f r.x).1) eps = true) := by
  obtain ⟨ls, hls, e⟩ := lsMinimizeS_eq_lsMinimize env rule st P m cfg f eps maxEvals fuel x0
  rw [e]
  exact converged_truthful env rule ls f hls eps maxEvals fuel x0

/-- the conclusion in the form of the statement, for any rule whose two generated tests imply `gradient_test < ε` -/
theorem converged_truthful_composed_lt {M : Type} (env : Env α) (rule : Rule α M) (st : Strategy) (P : Params α)
    (m : LSearch.Method) (cfg : LSearch.Cfg α) (f : Objective α) (eps : α) (maxEvals fuel : Nat) (x0 : Vec α)
    (h1 : ∀ g e, rule.conv g e = true → g < e) (h2 : ∀ g e, rule.convInit g e = true → g < e) :
    let r := lsMinimizeS env rule st P m cfg f eps maxEvals fuel x0
    r.status = Status.converged →
      r.fx = (f r.x).1 ∧ r.gx = (f r.x).2 ∧ gradientTest (infNorm (f r.x).2) (f r.x).1 < eps := by
  obtain ⟨ls, hls, e⟩ := lsMinimizeS_eq_lsMinimize env rule st P m cfg f eps maxEvals fuel x0
  rw [e]
  exact converged_truthful_lt env rule ls f hls eps maxEvals fuel x0 h1 h2

/-- L-BFGS with the line search modelled, whatever the history size: `converged` ⇒ the returned state is an evaluation of `f`
    and `‖∇f(x)‖∞ / max(1, |f(x)|) < ε` -/
theorem converged_truthful_composed_lbfgs (env : Env α) (history : Nat) (st : Strategy) (P : Params α) (m : LSearch.Method)
    (cfg : LSearch.Cfg α) (f : Objective α) (eps : α) (maxEvals fuel : Nat) (x0 : Vec α) :
    let r := lsMinimizeS env (lbfgsRule history) st P m cfg f eps maxEvals fuel x0
    r.status = Status.converged →
      r.fx = (f r.x).1 ∧ r.gx = (f r.x).2 ∧ gradientTest (infNorm (f r.x).2) (f r.x).1 < eps :=
  converged_truthful_composed_lt env (lbfgsRule history) st P m cfg f eps maxEvals fuel x0
    (lbfgsRule_convIsLt history).1 (lbfgsRule_convIsLt history).2

/-- BFGS (and SR1 / DFP / Hoshino / Fletcher) with the line search modelled, whatever the initialisation and `r` -/
theorem converged_truthful_composed_quasi (env : Env α) (kind : QuasiKind) (r0 : α) (scaled : Bool) (n : Nat) (st : Strategy)
    (P : Params α) (m : LSearch.Method) (cfg : LSearch.Cfg α) (f : Objective α) (eps : α) (maxEvals fuel : Nat) (x0 : Vec α) :
    let r := lsMinimizeS env (quasiRule env kind r0 scaled n) st P m cfg f eps maxEvals fuel x0
    r.status = Status.converged →
      r.fx = (f r.x).1 ∧ r.gx = (f r.x).2 ∧ gradientTest (infNorm (f r.x).2) (f r.x).1 < eps :=
  converged_truthful_composed_lt env (quasiRule env kind r0 scaled n) st P m cfg f eps maxEvals fuel x0
    (quasiRule_convIsLt env kind r0 scaled n).1 (quasiRule_convIsLt env kind r0 scaled n).2

/-- gd and the ten cgd variants with the line search modelled -/
theorem converged_truthful_composed_gd_cgd (env : Env α) (kind : CgdKind) (eta orthotest : α) (st : Strategy)
    (P : Params α) (m : LSearch.Method) (cfg : LSearch.Cfg α) (f : Objective α) (eps : α) (maxEvals fuel : Nat) (x0 : Vec α) :
    ((lsMinimizeS env (gdRule : Rule α Unit) st P m cfg f eps maxEvals fuel x0).status = Status.converged →
      gradientTest (infNorm (f (lsMinimizeS env (gdRule : Rule α Unit) st P m cfg f eps maxEvals fuel x0).x).2)
        (f (lsMinimizeS env (gdRule : Rule α Unit) st P m cfg f eps maxEvals fuel x0).x).1 < eps) ∧
    ((lsMinimizeS env (cgdRule env kind eta orthotest) st P m cfg f eps maxEvals fuel x0).status = Status.converged →
      gradientTest (infNorm (f (lsMinimizeS env (cgdRule env kind eta orthotest) st P m cfg f eps maxEvals fuel x0).x).2)
        (f (lsMinimizeS env (cgdRule env kind eta orthotest) st P m cfg f eps maxEvals fuel x0).x).1 < eps) := by
  exact ⟨fun hs => (converged_truthful_composed_lt env (gdRule : Rule α Unit) st P m cfg f eps maxEvals fuel x0
      gdRule_convIsLt.1 gdRule_convIsLt.2 hs).2.2,
    fun hs => (converged_truthful_composed_lt env (cgdRule env kind eta orthotest) st P m cfg f eps maxEvals fuel x0
      (cgdRule_convIsLt env kind eta orthotest).1 (cgdRule_convIsLt env kind eta orthotest).2 hs).2.2⟩

end generic

section field
variable {α : Type} [Field α] [LinearOrder α] [IsStrictOrderedRing α]

/-- `lsearch_t::get` reports success ⇒ the state it leaves is the evaluation of `f` at `x + t d` with `t > 0` the step it stores
    as `m_last_step_size` (every strategy, every search, parameters in their domains, every earlier history of the object) -/
theorem lsearch_success_is_evaluation_at_positive_step (env : Env α) (st : Strategy) (P : Params α) (m : LSearch.Method)
    (cfg : LSearch.Cfg α) (f : Objective α) (o : Obj α) (c : State α) (d : Vec α) (hd : LkDom cfg) (hc : Consistent f c)
    (hlen : (m = .morethuente ∨ m = .cgdescent) → d.length = c.x.length)
    (hok : (lsearchGetM env st P m cfg f o c d).ok = true) :
    ∃ t, t = (lsearchGetM env st P m cfg f o c d).obj.last ∧ 0 < t ∧
      (lsearchGetM env st P m cfg f o c d).state.x = axpy c.x t d ∧
      (lsearchGetM env st P m cfg f o c d).state.fx = (f (axpy c.x t d)).1 ∧
      (lsearchGetM env st P m cfg f o c d).state.gx = (f (axpy c.x t d)).2 :=
  ⟨_, rfl, lsearchGetM_success env st P m cfg f o c d hd hc hlen hok⟩

/-- the initial step handed to `lsearchk_t::get` is what the strategy's formula gives on the members left by the previous call,
    the last step size, and this call's state — spelled out per strategy (`min`/`max` are the mathematical ones):
    constant `t0`; linear / quadratic `1` on a first call (`last < 0`), else `min(1, α·max(−last·dg_prev, βε)/(−dg))` resp.
    `min(1, α·2·max(f_prev − f, βε)/(−dg_prev))`; CG_DESCENT `phi0‖x‖∞/‖g‖∞`, `phi0|f|/‖g‖₂²` or `1` on a first call, else the
    parabola minimiser `dg·t1²/(2(dg·t1 + f − f1))` (`t1 = last·phi1`, `f1 = f(x + t1 d)`) when `f1 < f` and the parabola is convex,
    else `last·phi2` -/
theorem initial_step_formula (env : Env α) (P : Params α) (m : LSearch.Method) (cfg : LSearch.Cfg α) (f : Objective α)
    (o : Obj α) (c : State α) (d : Vec α) :
    let dg := vdot c.gx d
    let t1 := o.last * P.phi1
    let f1 := (f (axpy c.x t1 d)).1
    (lsearchGetM env .constant P m cfg f o c d).t0 = P.constT0 ∧
    (lsearchGetM env .linear P m cfg f o c d).t0 =
      (if o.last < 0 then 1 else min 1 (P.linAlpha * max (-(o.last * o.mem.prevdg)) (P.linBeta * P.epsilon) / (-dg))) ∧
    (lsearchGetM env .quadratic P m cfg f o c d).t0 =
      (if o.last < 0 then 1
       else min 1 (P.quadAlpha * (2 * max (o.mem.prevf - c.fx) (P.quadBeta * P.epsilon)) / (-o.mem.prevdg))) ∧
    (lsearchGetM env .cgdescent P m cfg f o c d).t0 =
      (if o.last < 0 then
        (if 0 < infNorm c.x then P.phi0 * infNorm c.x / infNorm c.gx
         else if 0 < |c.fx| then P.phi0 * |c.fx| / sqNorm c.gx else 1)
       else if f1 < c.fx ∧ c.fx + t1 * dg < f1 then dg * t1 * t1 / (2 * (dg * t1 + (c.fx - f1)))
       else o.last * P.phi2) := by
  intro dg t1 f1
  refine ⟨rfl, ?_, ?_, ?_⟩
  · rw [lsearchGetM_t0]
    by_cases h : o.last < 0
    · simp only [t0Of, if_pos h]; exact linear_first P o.mem _ h
    · simp only [t0Of, if_neg h]; exact linear_formula P o.mem _ h
  · rw [lsearchGetM_t0]
    by_cases h : o.last < 0
    · simp only [t0Of, if_pos h]; exact quadratic_first P o.mem _ h
    · simp only [t0Of, if_neg h]; exact quadratic_formula P o.mem _ h
  · rw [lsearchGetM_t0]
    by_cases h : o.last < 0
    · simp only [t0Of, if_pos h]; exact cg_first_formula P _ h
    · simp only [t0Of, if_neg h]
      rw [cg_next_formula P _ h]
      simp [scalOf, needsTrial, h, trialPoint, dg, t1, f1]

set_option linter.unusedSectionVars false
/-- the members of the strategy after a call are the documented function of the call: quadratic `(f, g·d)`, linear `g·d`
    (whatever branch computed the step, whether the search then succeeds or not); constant and CG_DESCENT keep none -/
theorem strategy_members_after_call (env : Env α) (P : Params α) (m : LSearch.Method) (cfg : LSearch.Cfg α)
    (f : Objective α) (o : Obj α) (c : State α) (d : Vec α) :
    (lsearchGetM env .quadratic P m cfg f o c d).obj.mem = ⟨c.fx, vdot c.gx d⟩ ∧
    (lsearchGetM env .linear P m cfg f o c d).obj.mem = ⟨o.mem.prevf, vdot c.gx d⟩ ∧
    (lsearchGetM env .constant P m cfg f o c d).obj.mem = o.mem ∧
    (lsearchGetM env .cgdescent P m cfg f o c d).obj.mem = o.mem := ⟨rfl, rfl, rfl, rfl⟩
set_option linter.unusedSectionVars true

/-- positivity of the initial step under the conditions that hold at every call inside a solver run: parameters in their
    domains, a descent direction now, and `ObjInv`: either the first call or a previous call that returned a positive step
    (for the quadratic strategy: along a descent direction). (Outside: `linear_neg_of_ascent`, `quadratic_neg_of_prev_ascent`, `cg_zero_last`,
    `cg_first_zero_gradient`, and the kernel-checked runs below.) -/
theorem initial_step_positive_in_run (env : Env α) (st : Strategy) (P : Params α) (m : LSearch.Method)
    (cfg : LSearch.Cfg α) (f : Objective α) (o : Obj α) (c : State α) (d : Vec α) (hd : Dom P) (hdg : vdot c.gx d < 0)
    (hprev : ObjInv st o) : 0 < (lsearchGetM env st P m cfg f o c d).t0 :=
  t0_pos_in_run st P _ o c d hd hdg hprev

/-- `ObjInv` does hold at every call of every run (from the fresh object of `make_lsearch` on): so inside a run the initial step
    of every call made along a descent direction is positive -/
theorem initial_step_positive_throughout_run {M : Type} (env : Env α) (rule : Rule α M) (st : Strategy) (P : Params α)
    (m : LSearch.Method) (cfg : LSearch.Cfg α) (f : Objective α) (eps : α) (maxEvals fuel : Nat) (hP : Dom P) (hd : LkDom cfg)
    (hdir : (m = .morethuente ∨ m = .cgdescent) →
      (∀ x, (f x).2.length = x.length) ∧ ∀ mem p c, c.gx.length = c.x.length → (rule.direction mem p c).1.length = c.x.length)
    (mem : M) (p c0 : State α) (hc : Consistent f c0) :
    ∀ ob ∈ (lsLoopS env rule (lsearchGetM env st P m cfg f) eps maxEvals fuel mem Obj.init p c0).2,
      ∀ (c : State α) (d : Vec α), vdot c.gx d < 0 → 0 < (lsearchGetM env st P m cfg f ob c d).t0 :=
  fun ob hob c d hdg => t0_pos_in_run st P _ ob c d hP hdg
    (objects_of_run_inv env rule st P m cfg f eps maxEvals hd hdir fuel mem Obj.init p c0 (objInv_init st) hc ob hob)

/-- the invariant behind `hprev`: after a SUCCESSFUL call along a descent direction the object satisfies the second disjunct
    for the linear and quadratic strategies (positive last step, `m_prevdg < 0`), and the last step is positive for all four -/
theorem object_after_success (env : Env α) (st : Strategy) (P : Params α) (m : LSearch.Method) (cfg : LSearch.Cfg α)
    (f : Objective α) (o : Obj α) (c : State α) (d : Vec α) (hd : LkDom cfg) (hc : Consistent f c)
    (hlen : (m = .morethuente ∨ m = .cgdescent) → d.length = c.x.length) (hdg : vdot c.gx d < 0) (hok : (lsearchGetM env st P m cfg f o c d).ok = true) :
    0 < (lsearchGetM env st P m cfg f o c d).obj.last ∧
    ((st = .linear ∨ st = .quadratic) → (lsearchGetM env st P m cfg f o c d).obj.mem.prevdg < 0) := by
  refine ⟨(lsearchGetM_success env st P m cfg f o c d hd hc hlen hok).1, ?_⟩
  rintro (rfl | rfl) <;> exact hdg

end field

/-! ### non-vacuity and kernel-checked runs (over ℚ) -/
section examples

def envQ : Env ℚ := ⟨fun _ => true, fun x => x, -1000000, 1000000⟩
/-- `f(x) = Σ xᵢ²` -/
def sqQ : Objective ℚ := fun x => (vdot x x, x.map (fun v => 2 * v))
/-- the registered defaults (`lsearch0::epsilon` as `make_lsearch` sets it from `solver::epsilon = 1e-8`) -/
def paramsQ : Params ℚ :=
  { epsilon := 1 / 100000000, constT0 := 1, linBeta := 10, linAlpha := 101 / 100, quadBeta := 10, quadAlpha := 101 / 100,
    phi0 := 1 / 100, phi1 := 1 / 10, phi2 := 2 }
/-- the registered defaults of the searches with quadratic interpolation -/
def cfgQ : LSearch.Cfg ℚ :=
  { c1 := 1 / 10000, c2 := 9 / 10, maxIter := 20, fin := fun _ => true,
    interp := fun u v => LSearch.quadratic u v, cubic := fun u v => LSearch.bisection u v,
    eps0 := 1 / 1000000000000, eps1 := 1 / 1000000000, macheps := 1 / 10000000000000000, safeguard := 1 / 10,
    tau1 := 9, tau2 := 1 / 10, tau3 := 1 / 2, delta := 66 / 100, cgEpsilon := 1 / 1000000, cgTheta := 1 / 2,
    cgGamma := 66 / 100, cgRo := 5 }

example : Dom paramsQ := by constructor <;> decide +kernel
example : LkDom cfgQ := by
  refine ⟨⟨?_, ?_, ?_, ?_, ?_, ?_, ?_, ?_⟩, ⟨?_, ?_, ?_, ?_⟩, ?_, ?_⟩ <;> decide +kernel

/-- L-BFGS and BFGS with the quadratic strategy and backtracking, gd with CG_DESCENT's strategy and LeMaréchal, on `x²` from
    `x0 = 1`: `converged` at the minimiser — the premise of `converged_truthful_composed*` is reachable -/
example : (lsMinimizeS envQ (lbfgsRule 5) .quadratic paramsQ .backtrack cfgQ sqQ (1 / 10) 100 10 [1]).status
    = Status.converged := by decide +kernel
example : (lsMinimizeS envQ (lbfgsRule 5) .quadratic paramsQ .backtrack cfgQ sqQ (1 / 10) 100 10 [1]).x = [0] := by
  decide +kernel
example : (lsMinimizeS envQ (quasiRule envQ QuasiKind.bfgs 0 false 1) .linear paramsQ .backtrack cfgQ sqQ (1 / 10) 100 10 [1]).status
    = Status.converged := by decide +kernel

/-- the state at `x = 1` of `x²` -/
def atOne : State ℚ := ⟨[1], 1, [2], Status.initial, 1, 1⟩

example : Consistent sqQ atOne := ⟨by decide +kernel, by decide +kernel⟩

/-- a successful call: quadratic strategy, first call (`t0 = 1`), backtracking along `−g`: success, `t = 1/2`, the state left is
    the evaluation at `1 + (1/2)(−2) = 0`, the object remembers `t`, `f = 1`, `g·d = −4` -/
example : (lsearchGetM envQ .quadratic paramsQ .backtrack cfgQ sqQ Obj.init atOne [-2]).ok = true ∧
    (lsearchGetM envQ .quadratic paramsQ .backtrack cfgQ sqQ Obj.init atOne [-2]).t0 = 1 ∧
    (lsearchGetM envQ .quadratic paramsQ .backtrack cfgQ sqQ Obj.init atOne [-2]).obj.last = 1 / 2 ∧
    (lsearchGetM envQ .quadratic paramsQ .backtrack cfgQ sqQ Obj.init atOne [-2]).state.x = [0] ∧
    (lsearchGetM envQ .quadratic paramsQ .backtrack cfgQ sqQ Obj.init atOne [-2]).obj.mem.prevf = 1 ∧
    (lsearchGetM envQ .quadratic paramsQ .backtrack cfgQ sqQ Obj.init atOne [-2]).obj.mem.prevdg = -4 := by decide +kernel

/-- WITNESS (quadratic strategy, a stand-alone `lsearch_t` used twice): a first call along the ASCENT direction `d = +1` is
    refused, but the object now holds `last = 1` (the refused initial step) and `m_prevdg = +2`; the second call, along the
    descent direction `d = −1`, hands the NEGATIVE initial step `−101/1000000000` to `lsearchk_t::get` — which clamps it to
    `stpmin()` (lsearchk.cpp:52), so the search starts from a step of `1e-15`. Replayed on the real code: corpus/C01/ops.txt,
    `ls0 glue quadratic backtrack … # witness-negative-t0`. Cannot happen inside a solver run (a refused search ends the run). -/
theorem quadratic_negative_step_after_refusal :
    let first := lsearchGetM envQ .quadratic paramsQ .backtrack cfgQ sqQ Obj.init atOne [1]
    let second := lsearchGetM envQ .quadratic paramsQ .backtrack cfgQ sqQ first.obj atOne [-1]
    first.ok = false ∧ first.obj.last = 1 ∧ first.obj.mem.prevdg = 2 ∧ first.state.x = [1] ∧
    second.t0 = -(101 / 1000000000) ∧ LSearch.initialStep cfgQ second.t0 = 1 / 1000000000000000 := by decide +kernel

/-- WITNESS (linear strategy): not a first call, ascent direction: the initial step is negative (the search then refuses) -/
theorem linear_negative_step_on_ascent :
    (lsearchGetM envQ .linear paramsQ .backtrack cfgQ sqQ ⟨1 / 2, ⟨0, -4⟩⟩ atOne [1]).t0 = -(101 / 100) ∧
    (lsearchGetM envQ .linear paramsQ .backtrack cfgQ sqQ ⟨1 / 2, ⟨0, -4⟩⟩ atOne [1]).ok = false := by decide +kernel

/-- WITNESS (CG_DESCENT's strategy): after a last step `0` the initial step is `0`; at a stationary point away from the origin
    the first step is `phi0‖x‖∞ / 0` (`0` here, `+inf` in binary64: corpus `ls0 hist cgdescent … # zero-gradient`) -/
theorem cgdescent_zero_steps :
    (lsearchGetM envQ .cgdescent paramsQ .backtrack cfgQ sqQ ⟨0, Mem.init⟩ atOne [-2]).t0 = 0 ∧
    (l0get .cgdescent paramsQ (fun x => (sqQ x).1) Mem.init ⟨[1], 5, [0], Status.initial, 1, 1⟩ [-1] (-1)).t0 = 0 := by
  decide +kernel

/-- a later call of CG_DESCENT's strategy: last step `1/2` ⇒ trial step `1/20`, `f(1 − 1/10) = 81/100 < 1` above the tangent ⇒
    the parabola minimiser `1/2` (exact on a quadratic: the true minimiser of `t ↦ (1 − 2t)²`), one extra value evaluation -/
example : (l0get .cgdescent paramsQ (fun x => (sqQ x).1) Mem.init atOne [-2] (1 / 2)).t0 = 1 / 2 ∧
    (l0get .cgdescent paramsQ (fun x => (sqQ x).1) Mem.init atOne [-2] (1 / 2)).extra = 1 := by decide +kernel

/-- the hypotheses of `initial_step_positive_in_run` hold at the second call of a run -/
example : ObjInv .quadratic (lsearchGetM envQ .quadratic paramsQ .backtrack cfgQ sqQ Obj.init atOne [-2]).obj ∧
    vdot ([2] : Vec ℚ) [-2] < 0 :=
  ⟨Or.inr ⟨by decide +kernel, fun _ => by decide +kernel⟩, by decide +kernel⟩
/-- the hypothesis `hdir` of `initial_step_positive_throughout_run` holds for gd -/
example : ∀ (mem : Unit) (p c : State ℚ), c.gx.length = c.x.length →
    ((gdRule : Rule ℚ Unit).direction mem p c).1.length = c.x.length := by
  intro _ _ c h; simp [gdRule, vneg, h]

end examples
end NanoVerif.SolverStep
