import NanoVerif.Proofs.AugLag
import NanoVerif.Proofs.PenaltySolver
import NanoVerif.Proofs.PenaltyState
import NanoVerif.Proofs.PenaltyGen
import Mathlib.Algebra.Order.Ring.Abs
import Mathlib.Algebra.Order.Field.Rat
import Mathlib.Tactic.NormNum
/-!
  C05 — property theorems: the penalty / augmented-Lagrangian functions of `Model/Penalty.lean` (the three `do_vgrad`s as
  coded) equal the defining formulas of the header comments of `include/nano/function/penalty.h` (value and gradient),
  coincide with the objective on feasible points, and the augmented-Lagrangian outer loop reports `converged` only at
  points that are feasible within `epsilon` — for every inner-solver behaviour.

  All statements are about exact arithmetic: `α` is an arbitrary linear ordered field. Helper lemmas and the
  specification-side definitions (`linearDef`, `quadraticDef`, `alDef`, `…Grad`, `Feasible`, `Consistent`) live in
  `Proofs/Penalty.lean` and `Proofs/AugLag.lean`.

  Translated: the per-constraint kernels of the three `do_vgrad`s, `make_ro1`, `make_criterion`, the decisions and updates of
  both outer loops and `solver_t::more_precise` are regenerated from the C++ text on every check (`Gen/PenaltyKernels.lean`,
  `Gen/AugLagStep.lean`, by `tools/props/c05_translate.py`); `Proofs/PenaltyGen.lean` proves, for every scalar type, that the model's
  definitions ARE the generated ones (`model_…_is_generated`), so every theorem below is about the formulas of the current source.
-/
namespace NanoVerif.Penalty
open NanoVerif.Constraint
set_option linter.unusedSectionVars false

variable {α : Type} [Field α] [LinearOrder α] [IsStrictOrderedRing α]

/-! ### the constraint kinds -/

/-- `nano::valid` (three kinds coded directly, eight through `vgrad`) is the violation measure of the property:
    `|h(x)|` for an equality, `max(g(x), 0)` for an inequality. -/
theorem valid_eq_violation (c : C α) (x : List α) :
    c.valid x = if c.isEq then |(c.vgrad x).1| else max (c.vgrad x).1 0 := by
  cases c <;> simp only [C.valid, C.vgrad, C.isEq, absv_eq_abs, cmax_eq_max, if_true, Bool.false_eq_true, if_false]
  -- `constant_t` is coded as `fabs(value - x(dim))`, its function value as `x(dim) - value`
  exact abs_sub_comm _ _

/-- a point violates no constraint (`valid = 0`) iff the equality is zero / the inequality non-positive -/
theorem valid_eq_zero_iff (c : C α) (x : List α) :
    c.valid x = 0 ↔ if c.isEq then (c.vgrad x).1 = 0 else (c.vgrad x).1 ≤ 0 := by
  rw [valid_eq_violation]
  cases c.isEq
  · simp only [Bool.false_eq_true, if_false]
    constructor
    · intro h; rw [← h]; exact le_max_left _ _
    · intro h; exact max_eq_right h
  · simp only [if_true]; exact abs_eq_zero

/-- the gradient of a compatible constraint has the dimension of the function; for the functional kinds this is
    the contract of the wrapped function, named as the hypothesis `hf` -/
theorem vgrad_length_of_compatible (n : Nat) (c : C α) (x : List α) (hx : x.length = n)
    (hc : c.compatible n = true)
    (hf : ∀ size f, (c = .funEq size f ∨ c = .funIneq size f) → (f x).2.length = n) :
    (c.vgrad x).2.length = n := by
  cases c with
  | constant v d | minimum v d | maximum v d =>
    simp only [C.vgrad, unitVec, List.length_map, List.length_range, hx]
  | ballEq o r | ballIneq o r =>
    simp only [C.compatible, Bool.and_eq_true, decide_eq_true_eq] at hc
    simp only [C.vgrad, ballVgrad, vsub, List.length_map, List.length_zipWith, hx, hc.1, Nat.min_self]
  | linEq q r | linIneq q r => exact of_decide_eq_true hc
  | quadEq P q r | quadIneq P q r =>
    simp only [C.compatible, Bool.and_eq_true, decide_eq_true_eq] at hc
    simp only [C.vgrad, quadVgrad, vadd, matVec, matTVec, List.length_map, List.length_zipWith, List.length_range, hx,
      hc.1.1, hc.2, Nat.min_self]
  | funEq size f => exact hf size f (Or.inl rfl)
  | funIneq size f => exact hf size f (Or.inr rfl)

/-! ### the scalar outer functions: the coefficients used in the gradients are their (sub)derivatives -/

/-- `sgn` is a sub-gradient of `|·|` (also at `0`, where the code picks `+1`) -/
theorem abs_subgradient (y z : α) : |y| + sgn y * (z - y) ≤ |z| := by
  unfold sgn
  split
  · rw [abs_of_nonneg ‹_›, one_mul, add_sub_cancel]; exact le_abs_self z
  · rw [abs_of_neg (not_le.mp ‹_›), neg_one_mul, ← neg_add, add_sub_cancel]; exact neg_le_abs z

/-- `step` is a sub-gradient of `max(0, ·)` (also at `0`, where the code picks `0`) -/
theorem hinge_subgradient (y z : α) : max 0 y + step y * (z - y) ≤ max 0 z := by
  unfold step
  split
  · rw [max_eq_right (le_of_lt ‹_›), one_mul, add_sub_cancel]; exact le_max_right 0 z
  · rw [max_eq_left (not_lt.mp ‹_›), zero_mul, add_zero]; exact le_max_left 0 z

/-- `2 y` is the derivative of `y ↦ y^2`: the first-order remainder is exactly quadratic -/
theorem sq_derivative (y z : α) : z ^ 2 - y ^ 2 - 2 * y * (z - y) = (z - y) ^ 2 := by ring

/-- the first-order remainder of `y ↦ max(0, y)^2` at `y` lies between `0` (convexity) and `(z - y)^2` -/
theorem hinge_sq_remainder (y z : α) :
    0 ≤ (max 0 z) ^ 2 - (max 0 y) ^ 2 - 2 * max 0 y * (z - y) ∧
    (max 0 z) ^ 2 - (max 0 y) ^ 2 - 2 * max 0 y * (z - y) ≤ (z - y) ^ 2 := by
  rcases le_total 0 y with hy | hy <;> rcases le_total 0 z with hz | hz
  · rw [max_eq_right hy, max_eq_right hz, sq_derivative]
    exact ⟨sq_nonneg _, le_refl _⟩
  · -- the remainder is `y (y - 2 z)`, and `(z - y)^2` exceeds it by `z^2`
    rw [max_eq_right hy, max_eq_left hz]
    have h := mul_nonneg hy (neg_nonneg.mpr hz)
    exact ⟨by linarith only [h, mul_self_nonneg y], by linarith only [mul_self_nonneg z]⟩
  · -- the remainder is `z^2`, and `(z - y)^2` exceeds it by `y (y - 2 z)`
    rw [max_eq_left hy, max_eq_right hz]
    have h := mul_nonneg (neg_nonneg.mpr hy) hz
    exact ⟨by linarith only [mul_self_nonneg z], by linarith only [h, mul_self_nonneg y]⟩
  · rw [max_eq_left hy, max_eq_left hz, mul_zero, zero_mul, sub_zero, sub_self]
    exact ⟨le_refl _, sq_nonneg _⟩

/-- `2 max(0, y)` is the derivative of `y ↦ max(0, y)^2`: the first-order remainder is at most quadratic -/
theorem hinge_sq_derivative (y z : α) :
    |(max 0 z) ^ 2 - (max 0 y) ^ 2 - 2 * max 0 y * (z - y)| ≤ (z - y) ^ 2 := by
  obtain ⟨h0, h1⟩ := hinge_sq_remainder y z
  rw [abs_of_nonneg h0]
  exact h1

theorem half_scale (ro A B a d : α) : ro / 2 * A - ro / 2 * B - ro * a * d = ro / 2 * (A - B - 2 * a * d) := by ring

/-- `ro max(0, y + miu/ro)` is the derivative of the augmented-Lagrangian term `y ↦ ro/2 max(0, y + miu/ro)^2` -/
theorem al_term_derivative (ro miu y z : α) (hro : 0 < ro) :
    |ro / 2 * (max 0 (z + miu / ro)) ^ 2 - ro / 2 * (max 0 (y + miu / ro)) ^ 2
        - ro * max 0 (y + miu / ro) * (z - y)| ≤ ro / 2 * (z - y) ^ 2 := by
  obtain ⟨h0, h1⟩ := hinge_sq_remainder (y + miu / ro) (z + miu / ro)
  rw [add_sub_add_right_eq_sub] at h0 h1
  have hr : 0 ≤ ro / 2 := le_of_lt (half_pos hro)
  rw [half_scale, abs_of_nonneg (mul_nonneg hr h0)]
  exact mul_le_mul_of_nonneg_left h1 hr

/-! ### the three penalty functions equal their definitions (value and gradient) -/

/-- `linear_penalty_function_t::do_vgrad` returns `f(x) + c Σ_j |h_j(x)| + c Σ_i max(0, g_i(x))` and the gradient
    `∇f + c Σ_j sgn(h_j) ∇h_j + c Σ_i step(g_i) ∇g_i` — for any list of evaluated constraints and any `c`. -/
theorem linear_penalty_eq_def (c : α) (f : α × List α) (es : List (Eval α))
    (hes : ∀ e ∈ es, e.gc.length = f.2.length) :
    (linearPenalty c f es).1 = linearDef c f.1 es ∧
    (linearPenalty c f es).2.length = f.2.length ∧
    ∀ i, (linearPenalty c f es).2.getD i 0 = linearDefGrad c f.2 es i := by
  refine penaltyVgrad_def c (fun y => c * absv y) (fun y => c * (if 0 ≤ y then 1 else -1)) (fun y => |y|)
    (fun y => max 0 y) sgn step (fun y => by rw [absv_eq_abs]) (fun y => ?_) (fun y => rfl) (fun y => ?_)
    f.2.length es f.1 f.2 rfl hes
  · -- a violated inequality: `|g| = g = max(0, g)`
    split
    · rw [absv_eq_abs, abs_of_pos ‹_›, max_eq_right (le_of_lt ‹_›)]
    · rw [max_eq_left (not_lt.mp ‹_›), mul_zero]
  · unfold step
    split
    · rw [if_pos (le_of_lt ‹_›)]
    · rw [mul_zero]

/-- `quadratic_penalty_function_t::do_vgrad` returns `f(x) + c Σ_j h_j(x)^2 + c Σ_i max(0, g_i(x))^2` and the gradient
    `∇f + c Σ_j 2 h_j ∇h_j + c Σ_i 2 max(0, g_i) ∇g_i`. -/
theorem quadratic_penalty_eq_def (c : α) (f : α × List α) (es : List (Eval α))
    (hes : ∀ e ∈ es, e.gc.length = f.2.length) :
    (quadraticPenalty c f es).1 = quadraticDef c f.1 es ∧
    (quadraticPenalty c f es).2.length = f.2.length ∧
    ∀ i, (quadraticPenalty c f es).2.getD i 0 = quadraticDefGrad c f.2 es i := by
  refine penaltyVgrad_def c (fun y => c * y * y) (fun y => c * 2 * y) (fun y => y ^ 2) (fun y => (max 0 y) ^ 2)
    (fun y => 2 * y) (fun y => 2 * max 0 y) (fun y => by rw [sq, mul_assoc]) (fun y => ?_) (fun y => mul_assoc c 2 y)
    (fun y => ?_) f.2.length es f.1 f.2 rfl hes
  · split
    · rw [max_eq_right (le_of_lt ‹_›), sq, mul_assoc]
    · rw [max_eq_left (not_lt.mp ‹_›), sq, mul_zero, mul_zero]
  · split
    · rw [max_eq_right (le_of_lt ‹_›), mul_assoc]
    · rw [max_eq_left (not_lt.mp ‹_›), mul_zero, mul_zero]

theorem alValue_eq (ro fc mu : α) : Gen.PenaltyKernels.alValue ro fc mu = ro / 2 * (fc + mu / ro) ^ 2 := by
  unfold Gen.PenaltyKernels.alValue; ring

/-- `augmented_lagrangian_function_t::do_vgrad` returns
    `f(x) + ro/2 Σ_j (h_j(x) + lambda_j/ro)^2 + ro/2 Σ_i max(0, g_i(x) + miu_i/ro)^2` and the gradient
    `∇f + ro Σ_j (h_j + lambda_j/ro) ∇h_j + ro Σ_i max(0, g_i + miu_i/ro) ∇g_i`, under exactly the constructor's asserts
    (one `lambda` per equality, one `miu` per inequality); any `ro` (the formulas agree even for `ro ≤ 0`). -/
theorem al_eq_def (ro : α) (lambda miu : List α) (f : α × List α) (es : List (Eval α))
    (hes : ∀ e ∈ es, e.gc.length = f.2.length)
    (hl : lambda.length = (eqs es).length) (hm : miu.length = (ineqs es).length) :
    ∃ r, augLagrangian ro lambda miu f es = some r ∧
      r.1 = alDef ro lambda miu f.1 es ∧ r.2.length = f.2.length ∧
      ∀ i, r.2.getD i 0 = alDefGrad ro lambda miu f.2 es i := by
  unfold augLagrangian alDef alDefGrad
  induction es generalizing lambda miu f with
  | nil =>
    rw [List.length_eq_zero_iff.mp hl, List.length_eq_zero_iff.mp hm]
    refine ⟨(f.1, f.2), rfl, ?_, rfl, fun i => ?_⟩
    · rw [List.zipWith_nil_right, List.zipWith_nil_right, List.sum_nil, mul_zero, add_zero, add_zero]
    · rw [List.zipWith_nil_right, List.zipWith_nil_right, List.sum_nil, mul_zero, add_zero, add_zero]
  | cons e es ih =>
    obtain ⟨isEq, fc, gc⟩ := e
    have hel : gc.length = f.2.length := hes _ List.mem_cons_self
    have hax : ∀ s : α, (axpy s gc f.2).length = f.2.length := fun s => axpy_length _ _ _ hel
    -- the rest of the fold, from `(fx, gx)` with the gradient's length kept
    have hrest : ∀ (fx : α) (gx : List α), gx.length = f.2.length → ∀ e' ∈ es, e'.gc.length = (fx, gx).2.length :=
      fun fx gx hgx e' he' => (hes e' (List.mem_cons_of_mem _ he')).trans hgx.symm
    cases isEq
    · simp only [eqs_cons, ineqs_cons, Bool.false_eq_true, if_false] at hl hm ⊢
      match miu, hm with
      | m :: miu', hm =>
        simp only [List.zipWith_cons_cons, List.sum_cons]
        rw [model_alVgrad_ineq_is_generated]
        by_cases hpos : 0 < fc + m / ro
        · -- a violated inequality contributes like an equality: `max(0, t) = t`
          obtain ⟨r, hr, h1, h2, h3⟩ := ih lambda miu' (f.1 + Gen.PenaltyKernels.alValue ro fc m,
            axpy (Gen.PenaltyKernels.alFactor ro fc m) gc f.2) (hrest _ _ (hax _)) hl (Nat.succ.inj hm)
          rw [show Gen.PenaltyKernels.alActive false ro fc m = true from decide_eq_true hpos, if_pos rfl,
            max_eq_right (le_of_lt hpos)]
          exact ⟨r, hr, by rw [h1, alValue_eq, acc_second], h2.trans (hax _),
            fun i => by rw [h3 i, axpy_getD _ _ _ _ hel, Gen.PenaltyKernels.alFactor, mul_assoc, acc_second]⟩
        · obtain ⟨r, hr, h1, h2, h3⟩ := ih lambda miu' f (hrest _ _ rfl) hl (Nat.succ.inj hm)
          rw [show Gen.PenaltyKernels.alActive false ro fc m = false from decide_eq_false hpos, if_neg Bool.false_ne_true,
            max_eq_left (not_lt.mp hpos)]
          exact ⟨r, hr, by rw [h1, sq, mul_zero, zero_add], h2, fun i => by rw [h3 i, zero_mul, zero_add]⟩
    · simp only [eqs_cons, ineqs_cons, if_true] at hl hm ⊢
      match lambda, hl with
      | l :: lambda', hl =>
        obtain ⟨r, hr, h1, h2, h3⟩ := ih lambda' miu (f.1 + Gen.PenaltyKernels.alValue ro fc l,
          axpy (Gen.PenaltyKernels.alFactor ro fc l) gc f.2) (hrest _ _ (hax _)) (Nat.succ.inj hl) hm
        simp only [List.zipWith_cons_cons, List.sum_cons]
        rw [(model_alVgrad_eq_is_generated ro l lambda' miu f.1 fc f.2 gc es).2]
        exact ⟨r, hr, by rw [h1, alValue_eq, acc_first], h2.trans (hax _),
          fun i => by rw [h3 i, axpy_getD _ _ _ _ hel, Gen.PenaltyKernels.alFactor, mul_assoc, acc_first]⟩

/-- the error branch of `al_eq_def`: a multiplier vector of the wrong size (the constructor's `assert`) has no value -/
theorem al_none_of_size_mismatch (ro : α) (lambda miu : List α) (f : α × List α) (es : List (Eval α))
    (h : lambda.length ≠ (eqs es).length ∨ miu.length ≠ (ineqs es).length) :
    augLagrangian ro lambda miu f es = none := by
  unfold augLagrangian
  induction es generalizing lambda miu f with
  | nil =>
    cases lambda with
    | cons _ _ => cases miu <;> rfl
    | nil =>
      cases miu with
      | cons _ _ => rfl
      | nil => exact h.elim (absurd rfl) (absurd rfl)
  | cons e es ih =>
    obtain ⟨isEq, fc, gc⟩ := e
    cases isEq
    · simp only [eqs_cons, ineqs_cons, Bool.false_eq_true, if_false] at h
      cases miu with
      | nil => cases lambda <;> rfl
      | cons m miu' =>
        have h' := h.imp_right (fun hm hh => hm (congrArg Nat.succ hh))
        rw [model_alVgrad_ineq_is_generated]
        split
        · exact ih _ _ (_, _) h'
        · exact ih _ _ f h'
    · simp only [eqs_cons, ineqs_cons, if_true] at h
      cases lambda with
      | nil => cases miu <;> rfl
      | cons l lambda' =>
        rw [(model_alVgrad_eq_is_generated ro l lambda' miu f.1 fc f.2 gc es).2]
        exact ih _ _ (_, _) (h.imp_left (fun hl hh => hl (congrArg Nat.succ hh)))

/-! ### the same for a list of constraints of the modelled kinds: the header formulas verbatim -/

theorem eqs_map_evalC (φ : α → α) (cs : List (C α)) (x : List α) :
    (eqs (cs.map (evalC x))).map (fun e => φ e.fc) = (evalEq cs x).map φ := by
  unfold eqs evalEq
  rw [List.filter_map, List.map_map, List.map_map]
  rfl

theorem ineqs_map_evalC (φ : α → α) (cs : List (C α)) (x : List α) :
    (ineqs (cs.map (evalC x))).map (fun e => φ e.fc) = (evalIneq cs x).map φ := by
  unfold ineqs evalIneq
  rw [List.filter_map, List.map_map, List.map_map]
  rfl

/-- value of the linear penalty of `f` with the constraints `cs` at `x`, with `h = evalEq cs x`, `g = evalIneq cs x` -/
theorem linear_penalty_value_eq_header (c : α) (f : List α → α × List α) (cs : List (C α)) (x : List α)
    (hlen : ∀ k ∈ cs, (k.vgrad x).2.length = (f x).2.length) :
    (linearPenaltyAt c f cs x).1
      = (f x).1 + c * ((evalEq cs x).map (fun h => |h|)).sum + c * ((evalIneq cs x).map (fun g => max 0 g)).sum := by
  unfold linearPenaltyAt
  rw [(linear_penalty_eq_def c (f x) (cs.map (evalC x)) (List.forall_mem_map.mpr hlen)).1, linearDef,
    eqs_map_evalC (fun h => |h|), ineqs_map_evalC (fun g => max 0 g)]

/-- value of the quadratic penalty of `f` with the constraints `cs` at `x` -/
theorem quadratic_penalty_value_eq_header (c : α) (f : List α → α × List α) (cs : List (C α)) (x : List α)
    (hlen : ∀ k ∈ cs, (k.vgrad x).2.length = (f x).2.length) :
    (quadraticPenaltyAt c f cs x).1
      = (f x).1 + c * ((evalEq cs x).map (fun h => h ^ 2)).sum
          + c * ((evalIneq cs x).map (fun g => (max 0 g) ^ 2)).sum := by
  unfold quadraticPenaltyAt
  rw [(quadratic_penalty_eq_def c (f x) (cs.map (evalC x)) (List.forall_mem_map.mpr hlen)).1, quadraticDef,
    eqs_map_evalC (fun h => h ^ 2), ineqs_map_evalC (fun g => (max 0 g) ^ 2)]

/-! ### the penalties coincide with the objective on feasible points -/

theorem feasible_eqs {es : List (Eval α)} (h : Feasible es) : ∀ e ∈ eqs es, e.fc = 0 := by
  intro e he
  obtain ⟨hmem, heq⟩ := List.mem_filter.mp he
  have := h e hmem
  rwa [if_pos heq] at this

theorem feasible_ineqs {es : List (Eval α)} (h : Feasible es) : ∀ e ∈ ineqs es, e.fc ≤ 0 := by
  intro e he
  obtain ⟨hmem, heq⟩ := List.mem_filter.mp he
  have := h e hmem
  rwa [if_neg (by simpa using heq)] at this

theorem sum_map_zero {β : Type} (f : β → α) (l : List β) (h : ∀ b ∈ l, f b = 0) : (l.map f).sum = 0 := by
  induction l with
  | nil => simp
  | cons b bs ih =>
    simp only [List.map_cons, List.sum_cons]
    rw [h b (by simp), ih (fun b' hb' => h b' (by simp [hb'])), add_zero]

theorem zipWith_sum_zero {β γ : Type} (f : β → γ → α) (l1 : List β) (l2 : List γ)
    (h : ∀ b ∈ l1, ∀ c ∈ l2, f b c = 0) : (List.zipWith f l1 l2).sum = 0 := by
  rw [← List.map_uncurry_zip_eq_zipWith]
  exact sum_map_zero _ _ fun p hp => h p.1 (List.of_mem_zip hp).1 p.2 (List.of_mem_zip hp).2

/-- At a feasible point (every `h_j = 0`, every `g_i ≤ 0`) the linear and the quadratic penalty return the objective's
    value for every penalty parameter, the augmented Lagrangian does so with zero multipliers; the quadratic penalty and
    the augmented Lagrangian also return the objective's gradient (the linear penalty adds the sub-gradient `c ∇h_j` of
    `c |h_j|` at `h_j = 0`, as coded). -/
theorem penalty_eq_objective_on_feasible (c ro : α) (lambda miu : List α) (f : α × List α) (es : List (Eval α))
    (hes : ∀ e ∈ es, e.gc.length = f.2.length) (hfeas : Feasible es)
    (hl : lambda.length = (eqs es).length) (hm : miu.length = (ineqs es).length)
    (hl0 : ∀ l ∈ lambda, l = 0) (hm0 : ∀ m ∈ miu, m = 0) :
    (linearPenalty c f es).1 = f.1 ∧
    (quadraticPenalty c f es).1 = f.1 ∧ (∀ i, (quadraticPenalty c f es).2.getD i 0 = f.2.getD i 0) ∧
    ∃ r, augLagrangian ro lambda miu f es = some r ∧ r.1 = f.1 ∧ ∀ i, r.2.getD i 0 = f.2.getD i 0 := by
  have he := feasible_eqs hfeas
  have hi := feasible_ineqs hfeas
  have hq : ∀ e ∈ ineqs es, max 0 e.fc = 0 := fun e h => max_eq_left (hi e h)
  -- every term of both sums of each definition vanishes
  have hz : ∀ x k S T : α, S = 0 → T = 0 → x + k * S + k * T = x := fun x k S T hS hT => by
    rw [hS, hT, mul_zero, add_zero, add_zero]
  refine ⟨?_, ?_, fun i => ?_, ?_⟩
  · rw [(linear_penalty_eq_def c f es hes).1]
    exact hz _ _ _ _ (sum_map_zero _ _ fun e h => by rw [he e h, abs_zero]) (sum_map_zero _ _ hq)
  · rw [(quadratic_penalty_eq_def c f es hes).1]
    exact hz _ _ _ _ (sum_map_zero _ _ fun e h => by rw [he e h, sq, mul_zero])
      (sum_map_zero _ _ fun e h => by rw [hq e h, sq, mul_zero])
  · rw [(quadratic_penalty_eq_def c f es hes).2.2 i]
    exact hz _ _ _ _ (sum_map_zero _ _ fun e h => by rw [he e h, mul_zero, zero_mul])
      (sum_map_zero _ _ fun e h => by rw [hq e h, mul_zero, zero_mul])
  · obtain ⟨r, hr, h1, _, h3⟩ := al_eq_def ro lambda miu f es hes hl hm
    have ht : ∀ e ∈ eqs es, ∀ l ∈ lambda, e.fc + l / ro = 0 := fun e h l hl' => by
      rw [he e h, hl0 l hl', zero_div, add_zero]
    have hu : ∀ e ∈ ineqs es, ∀ m ∈ miu, max 0 (e.fc + m / ro) = 0 := fun e h m hm' => by
      rw [hm0 m hm', zero_div, add_zero, hq e h]
    refine ⟨r, hr, ?_, fun i => ?_⟩
    · rw [h1]
      exact hz _ _ _ _ (zipWith_sum_zero _ _ _ fun e h l hl' => by rw [ht e h l hl', sq, mul_zero])
        (zipWith_sum_zero _ _ _ fun e h m hm' => by rw [hu e h m hm', sq, mul_zero])
    · rw [h3 i]
      exact hz _ _ _ _ (zipWith_sum_zero _ _ _ fun e h l hl' => by rw [ht e h l hl', zero_mul])
        (zipWith_sum_zero _ _ _ fun e h m hm' => by rw [hu e h m hm', zero_mul])

/-! ### the outer loop of the augmented-Lagrangian solver -/

set_option linter.unusedVariables false in
/-- `make_criterion` dominates the feasibility residual whenever `miu ≥ 0` and `ro > 0`:
    `max(max_j |h_j|, max_i max(g_i, 0)) ≤ max(|h|_inf, |max(g, -miu/ro)|_inf)`. -/
theorem criterion_ge_violation (c : St α) (miu : List α) (ro : α) (hro : 0 < ro)
    (hm : ∀ m ∈ miu, 0 ≤ m) (hlen : miu.length = c.cineq.length) :
    violation c ≤ criterion c miu ro :=
  criterion_ge_violation_st c miu ro hlen

/-- `make_ro1` returns a positive penalty parameter (`std::clamp` to `[ro_min, ro_max]`, `0 < ro_min ≤ ro_max`) -/
theorem makeRo1_pos (fx : α) (s : St α) (tiny roMin roMax : α) (h0 : 0 < roMin) (h1 : roMin ≤ roMax) :
    0 < makeRo1 fx s tiny roMin roMax := by
  unfold makeRo1 clamp
  simp only
  split
  · exact h0
  · split
    · exact lt_of_lt_of_le h0 h1
    · exact lt_of_lt_of_le h0 (not_lt.mp ‹_›)

/-- The multiplier estimates `miu` of the inequalities are non-negative in every state the outer loop reaches — for
    every inner-solver behaviour (`miu_max ≥ 0` is the parameter's domain). -/
theorem miu_nonneg_invariant (cs : List (C α)) (p : Params α) (hmiuMax : 0 ≤ p.miuMax)
    (inner : Nat → ALState α → Answer α) (x0 : List α) (ro1 : α) (fuel : Nat) :
    ∀ m ∈ (alLoop cs p inner fuel (alInit cs x0 ro1)).miu, 0 ≤ m :=
  (alLoop_multInv cs p hmiuMax inner fuel _ (alInit_multInv cs x0 ro1)).miu_nonneg

/-- The constraint values stored in the state the solver returns are those of the function's constraints at the
    returned point (`bstate.update` re-evaluates them) — for every inner-solver behaviour, no hypothesis. -/
theorem al_state_constraints_recomputed (cs : List (C α)) (p : Params α)
    (inner : Nat → ALState α → Answer α) (x0 : List α) (ro1 : α) (fuel : Nat) :
    let r := alLoop cs p inner fuel (alInit cs x0 ro1)
    r.best.ceq = evalEq cs r.best.x ∧ r.best.cineq = evalIneq cs r.best.x := by
  -- every step keeps `bstate` a state of the constrained function: it is the old one or `mkState cs` of the answer's point
  have h := (alLoop_isLoop cs p inner).invariant (fun s => s.best = mkState cs s.best.x) (fun s hs => by
    show (alStep cs p s _).1.best = mkState cs (alStep cs p s _).1.best.x
    rw [(alStep_kept cs p s _).1]
    split
    · rfl
    · exact hs) fuel (alInit cs x0 ro1) rfl
  exact ⟨congrArg St.ceq h, congrArg St.cineq h⟩

set_option linter.unusedVariables false in
/-- Loop invariant: the feasibility residual of `bstate` never exceeds `old_criterion`, in every state the outer loop
    reaches (also the stopped ones), for every inner solver whose answers are states of the constrained function. -/
theorem al_best_violation_le_criterion (cs : List (C α)) (p : Params α) (hgamma : 1 < p.gamma)
    (hmiuMax : 0 ≤ p.miuMax) (inner : Nat → ALState α → Answer α) (hinner : ∀ k s, Consistent cs (inner k s))
    (x0 : List α) (ro1 : α) (hro : 0 < ro1) (fuel : Nat) :
    violation (alLoop cs p inner fuel (alInit cs x0 ro1)).best ≤ (alLoop cs p inner fuel (alInit cs x0 ro1)).oldCrit :=
  (alLoop_inv cs p inner hinner fuel _ (alInit_inv cs x0 ro1)).viol_le

/-- `al_converged_feasible` for every value of the parameters and every `ro1`: the argument uses nothing of `gamma`, `miu_max` or
    the sign of `ro` -/
theorem al_converged_within_eps (cs : List (C α)) (p : Params α) (inner : Nat → ALState α → Answer α)
    (hinner : ∀ k s, Consistent cs (inner k s)) (x0 : List α) (ro1 : α) (fuel : Nat) :
    let r := alLoop cs p inner fuel (alInit cs x0 ro1)
    r.status = 1 →
      (∀ h ∈ evalEq cs r.best.x, |h| ≤ p.eps) ∧ (∀ g ∈ evalIneq cs r.best.x, max 0 g ≤ p.eps) := by
  intro r hst
  obtain ⟨e1, e2⟩ := al_state_constraints_recomputed cs p inner x0 ro1 fuel
  rw [← e1, ← e2]
  exact bounds_of_violation_le r.best p.eps ((alLoop_inv cs p inner hinner fuel _ (alInit_inv cs x0 ro1)).conv_le hst)

set_option linter.unusedVariables false in
/-- **For every inner-solver behaviour** (`inner` is an arbitrary function of the iteration number and the loop state
    whose answers are states of the constrained function), every objective, every starting point and every number of
    outer iterations: if the augmented-Lagrangian loop ends with status `converged`, then at the returned point every
    equality satisfies `|h_j(x)| ≤ epsilon` and every inequality `max(0, g_i(x)) ≤ epsilon` — the values being those of
    the function's constraints evaluated at the returned point. -/
theorem al_converged_feasible (cs : List (C α)) (p : Params α) (hgamma : 1 < p.gamma) (hmiuMax : 0 ≤ p.miuMax)
    (inner : Nat → ALState α → Answer α) (hinner : ∀ k s, Consistent cs (inner k s))
    (x0 : List α) (ro1 : α) (hro : 0 < ro1) (fuel : Nat) :
    let r := alLoop cs p inner fuel (alInit cs x0 ro1)
    r.status = 1 →
      (∀ h ∈ evalEq cs r.best.x, |h| ≤ p.eps) ∧ (∀ g ∈ evalIneq cs r.best.x, max 0 g ≤ p.eps) :=
  al_converged_within_eps cs p inner hinner x0 ro1 fuel

set_option linter.unusedVariables false in
/-- the same with the inner solver reduced to what it is free to choose — the point it returns and the two validity
    flags — and the starting penalty computed by `make_ro1` -/
theorem al_converged_feasible_solver (cs : List (C α)) (p : Params α) (hgamma : 1 < p.gamma) (hmiuMax : 0 ≤ p.miuMax)
    (innerX : Nat → ALState α → List α × Bool × Bool)
    (x0 : List α) (fx0 tiny roMin roMax : α) (h0 : 0 < roMin) (h1 : roMin ≤ roMax) (fuel : Nat) :
    let inner : Nat → ALState α → Answer α :=
      fun k s => ⟨mkState cs (innerX k s).1, (innerX k s).2.1, (innerX k s).2.2⟩
    let r := alLoop cs p inner fuel (alInit cs x0 (makeRo1 fx0 (mkState cs x0) tiny roMin roMax))
    r.status = 1 →
      (∀ h ∈ evalEq cs r.best.x, |h| ≤ p.eps) ∧ (∀ g ∈ evalIneq cs r.best.x, max 0 g ≤ p.eps) := by
  intro inner
  exact al_converged_within_eps cs p inner (fun _ _ => rfl) x0 _ fuel

/-! ### the outer loop of the linear-penalty and the quadratic-penalty solver (`solver_penalty_t::minimize`)

  In all theorems `inner` — the inner solver together with the objective — is an arbitrary function of the outer
  iteration and the loop state, the constraint list, the parameters, the starting point and `max_outer_iters` are
  arbitrary; `r.calls` is the ghost log of the calls of the inner solver, in order. -/

theorem penSolve_fin (cs : List (C α)) (p : PParams α) (penalty0 eps0 : α) (maxOuters : Nat)
    (inner : Nat → PState α → PAnswer α) (x0 : List α) :
    PFin cs p penalty0 eps0 x0 inner (penSolve cs p penalty0 eps0 maxOuters inner x0) :=
  (penLoop_fin cs p penalty0 eps0 x0 inner maxOuters _ (penInit_run cs p penalty0 eps0 x0 inner)).1

theorem geom_schedule {c g : α} (hc : 0 < c) (hg : 1 ≤ g) {j n : Nat} (hjn : j ≤ n) :
    0 < c * g ^ j ∧ c ≤ c * g ^ j ∧ c * g ^ j ≤ c * g ^ n :=
  have hpow : 1 ≤ g ^ j := one_le_pow₀ hg
  ⟨mul_pos hc (lt_of_lt_of_le one_pos hpow), le_mul_of_one_le_right (le_of_lt hc) hpow,
    mul_le_mul_of_nonneg_left (pow_le_pow_right₀ hg hjn) (le_of_lt hc)⟩

theorem map_absv (l : List α) : l.map absv = l.map (fun v => |v|) :=
  List.map_congr_left (fun v _ => absv_eq_abs v)

theorem state_residuals (c : St α) :
    kktTest2 c = maxL (c.ceq.map (fun h => |h|)) ∧ kktTest1 c = maxL (c.cineq.map (fun g => max g 0)) ∧
    violation c = max (kktTest2 c) (kktTest1 c) :=
  ⟨congrArg maxL (map_absv c.ceq), congrArg maxL (List.map_congr_left (fun g _ => cmax_eq_max g 0)), cmax_eq_max _ _⟩

/-- **status `converged` ⇒ the documented stopping test held at the returned point**: the returned point is the answer
    of the last call of the inner solver, that answer was valid, and it differs from the point the call was started at
    (the last valid answer before it, `x0` when none) by less than `epsilon * max(1, |start|_inf)` in the sup norm.
    Nothing else is implied: see `pen_converged_not_feasible`. -/
theorem pen_converged_stopping_test (cs : List (C α)) (p : PParams α) (penalty0 eps0 : α) (maxOuters : Nat)
    (inner : Nat → PState α → PAnswer α) (x0 : List α) :
    let r := penSolve cs p penalty0 eps0 maxOuters inner x0
    r.status = 1 → ∃ (init : List (PCall α)) (last : PCall α), r.calls = init ++ [last] ∧ last.iterOk = true ∧
      r.best.x = last.cx ∧ last.start = lastValid x0 init ∧
      maxL ((vsub r.best.x last.start).map (fun v => |v|)) < p.eps * max 1 (maxL (last.start.map (fun v => |v|))) := by
  intro r hst
  have hfin := penSolve_fin cs p penalty0 eps0 maxOuters inner x0
  obtain ⟨init, last, hcalls, _, hok, hx, _, hcase⟩ := hfin.stopped (by rw [hst]; decide)
  have hcall := hfin.sched.call init last [] hcalls
  refine ⟨init, last, hcalls, hok, hx, hcall.start_eq, ?_⟩
  rcases hcase with ⟨_, hconv⟩ | ⟨h2, _⟩
  · rw [hcall.xconv_eq] at hconv
    have := of_decide_eq_true hconv
    rw [map_absv, map_absv, cmax_eq_max] at this
    rw [hx]; exact this
  · rw [hst] at h2; cases h2

/-- the same, coordinate by coordinate -/
theorem pen_converged_step_small (cs : List (C α)) (p : PParams α) (penalty0 eps0 : α) (maxOuters : Nat)
    (inner : Nat → PState α → PAnswer α) (x0 : List α) :
    let r := penSolve cs p penalty0 eps0 maxOuters inner x0
    r.status = 1 → ∃ (init : List (PCall α)) (last : PCall α), r.calls = init ++ [last] ∧
      ∀ d ∈ vsub r.best.x last.start, |d| < p.eps * max 1 (maxL (last.start.map (fun v => |v|))) := by
  intro r hst
  obtain ⟨init, last, hcalls, _, _, _, hlt⟩ := pen_converged_stopping_test cs p penalty0 eps0 maxOuters inner x0 hst
  refine ⟨init, last, hcalls, fun d hd => lt_of_le_of_lt ?_ hlt⟩
  exact le_maxL (List.mem_map.mpr ⟨d, hd, rfl⟩)

/-- The number of outer iterations equals the number of calls of the inner solver and is at most `max_outer_iters`;
    status `max_iters` means that all of them were used, any other status that at least one call was made. -/
theorem pen_iteration_count (cs : List (C α)) (p : PParams α) (penalty0 eps0 : α) (maxOuters : Nat)
    (inner : Nat → PState α → PAnswer α) (x0 : List α) :
    let r := penSolve cs p penalty0 eps0 maxOuters inner x0
    r.calls.length = r.iters ∧ r.iters ≤ maxOuters ∧ (r.status = 0 → r.iters = maxOuters) ∧ (r.status ≠ 0 → 1 ≤ r.iters) := by
  intro r
  obtain ⟨hfin, h1, h2, h3⟩ := penLoop_fin cs p penalty0 eps0 x0 inner maxOuters _ (penInit_run cs p penalty0 eps0 x0 inner)
  rw [show (penInit cs x0 penalty0 eps0).iters = 0 from rfl, Nat.zero_add] at h1 h2
  exact ⟨hfin.calls_len, h1, h2, h3⟩

/-- The penalty parameter passed to the inner solver at its `k`-th call (`k` = the number of calls before it) is
    `penalty0 * eta^k`: positive, at least `penalty0`, multiplied by `eta` from one call to the next, and never above
    `penalty0 * eta^(max_outer_iters - 1)` (`penalty0 > 0`, `eta > 1`: the registered domains). -/
theorem pen_penalty_schedule (cs : List (C α)) (p : PParams α) (penalty0 eps0 : α) (maxOuters : Nat)
    (inner : Nat → PState α → PAnswer α) (x0 : List α) (h0 : 0 < penalty0) (heta : 1 < p.eta) :
    let r := penSolve cs p penalty0 eps0 maxOuters inner x0
    ∀ (l1 : List (PCall α)) (c : PCall α) (l2 : List (PCall α)), r.calls = l1 ++ c :: l2 →
      c.penalty = penalty0 * p.eta ^ l1.length ∧ 0 < c.penalty ∧ penalty0 ≤ c.penalty ∧
      c.penalty ≤ penalty0 * p.eta ^ (maxOuters - 1) ∧
      (∀ (d : PCall α) (l3 : List (PCall α)), l2 = d :: l3 → d.penalty = c.penalty * p.eta) := by
  intro r l1 c l2 hcalls
  have hfin := penSolve_fin cs p penalty0 eps0 maxOuters inner x0
  have hcall := hfin.sched.call l1 c l2 hcalls
  have hlen : l1.length ≤ maxOuters - 1 := by
    have h1 : r.calls.length = r.iters := hfin.calls_len
    have h2 : r.iters ≤ maxOuters := (pen_iteration_count cs p penalty0 eps0 maxOuters inner x0).2.1
    rw [hcalls, List.length_append, List.length_cons] at h1
    omega
  obtain ⟨h1, h2, h3⟩ := geom_schedule h0 (le_of_lt heta) hlen
  rw [hcall.penalty_eq]
  refine ⟨rfl, h1, h2, h3, fun d l3 hl2 => ?_⟩
  have hd := hfin.sched.call (l1 ++ [c]) d l3 (by rw [hcalls, hl2, List.append_assoc]; rfl)
  rw [hd.penalty_eq, List.length_append, List.length_singleton, pow_succ, mul_assoc]

/-- The constraint values stored in the state the solver returns are those of the function's constraints at the
    returned point (`bstate.update(cstate.x())` and the constructor both re-evaluate them: never stale), and the two
    feasibility residuals `kkt_optimality_test1/2` are derived from them — no hypothesis. -/
theorem pen_state_constraints_recomputed (cs : List (C α)) (p : PParams α) (penalty0 eps0 : α) (maxOuters : Nat)
    (inner : Nat → PState α → PAnswer α) (x0 : List α) :
    let r := penSolve cs p penalty0 eps0 maxOuters inner x0
    r.best.ceq = evalEq cs r.best.x ∧ r.best.cineq = evalIneq cs r.best.x ∧
    kktTest2 r.best = maxL ((evalEq cs r.best.x).map (fun h => |h|)) ∧
    kktTest1 r.best = maxL ((evalIneq cs r.best.x).map (fun g => max g 0)) ∧
    violation r.best = max (kktTest2 r.best) (kktTest1 r.best) := by
  intro r
  have hb : r.best = mkState cs (lastValid x0 r.calls) := (penSolve_fin cs p penalty0 eps0 maxOuters inner x0).best_eq
  have e1 : r.best.ceq = evalEq cs r.best.x := by rw [hb]; rfl
  have e2 : r.best.cineq = evalIneq cs r.best.x := by rw [hb]; rfl
  refine ⟨e1, e2, ?_⟩
  rw [← e1, ← e2]
  exact state_residuals r.best

/-- The returned point is the last valid answer of the inner solver, `x0` when there was none: it is `x0` or the point
    `cstate.x()` of an answer `inner k s` with `cstate.valid()`. (Not the best point seen: the loop keeps no record of the
    earlier answers.) -/
theorem pen_returned_point (cs : List (C α)) (p : PParams α) (penalty0 eps0 : α) (maxOuters : Nat)
    (inner : Nat → PState α → PAnswer α) (x0 : List α) :
    let r := penSolve cs p penalty0 eps0 maxOuters inner x0
    r.best.x = lastValid x0 r.calls ∧
    (r.best.x = x0 ∨ ∃ (k : Nat) (s : PState α), k < r.iters ∧ (inner k s).iterOk = true ∧ r.best.x = (inner k s).cx) := by
  intro r
  have hfin := penSolve_fin cs p penalty0 eps0 maxOuters inner x0
  have hx : r.best.x = lastValid x0 r.calls := by rw [hfin.best_eq]; rfl
  refine ⟨hx, ?_⟩
  rcases lastValid_mem x0 r.calls with h | ⟨c, hc, hok, he⟩
  · exact Or.inl (hx.trans h)
  · right
    obtain ⟨l1, l2, hl⟩ := List.append_of_mem hc
    obtain ⟨s, hs1, _, _, _, hans⟩ := (hfin.sched.call l1 c l2 hl).answer
    refine ⟨l1.length, s, ?_, ?_, ?_⟩
    · rw [← hfin.calls_len, hl]; simp
    · rw [hans]; exact hok
    · rw [hans, hx, he]

/-- Every call of the inner solver is started at the last valid answer before it (`x0` when none), in a loop state that
    carries the penalty parameter and the precision recorded for the call; its record is the oracle's answer. -/
theorem pen_start_points (cs : List (C α)) (p : PParams α) (penalty0 eps0 : α) (maxOuters : Nat)
    (inner : Nat → PState α → PAnswer α) (x0 : List α) :
    let r := penSolve cs p penalty0 eps0 maxOuters inner x0
    ∀ (l1 : List (PCall α)) (c : PCall α) (l2 : List (PCall α)), r.calls = l1 ++ c :: l2 →
      c.start = lastValid x0 l1 ∧ c.xconv = xConverged c.start c.cx p.eps ∧
      ∃ s : PState α, s.iters = l1.length ∧ s.penalty = c.penalty ∧ s.innerEps = c.innerEps ∧ s.best.x = c.start ∧
        inner l1.length s = ⟨c.cx, c.iterOk, c.bvalid⟩ := by
  intro r l1 c l2 hcalls
  have hcall := (penSolve_fin cs p penalty0 eps0 maxOuters inner x0).sched.call l1 c l2 hcalls
  exact ⟨hcall.start_eq, hcall.xconv_eq, hcall.answer⟩

/-- The status is `max_iters`, `converged` or `failed`. Only the last call can stop the loop: every call before it
    either failed (`!cstate.valid()`) or was valid, did not meet the stopping test and left a valid `bstate`.
    `failed` means: the last answer was valid, did not meet the stopping test, and `bstate` became invalid when updated
    to it. A failing inner solver alone never yields `failed`: the loop increases the penalty and tries again. -/
theorem pen_status_meaning (cs : List (C α)) (p : PParams α) (penalty0 eps0 : α) (maxOuters : Nat)
    (inner : Nat → PState α → PAnswer α) (x0 : List α) :
    let r := penSolve cs p penalty0 eps0 maxOuters inner x0
    (r.status = 0 ∨ r.status = 1 ∨ r.status = 2) ∧
    (r.status = 0 → ∀ c ∈ r.calls, NonStop c) ∧
    (r.status ≠ 0 → ∃ (init : List (PCall α)) (last : PCall α), r.calls = init ++ [last] ∧ (∀ c ∈ init, NonStop c) ∧
      last.iterOk = true ∧ (r.status = 1 ↔ last.xconv = true) ∧
      (r.status = 2 ↔ (last.xconv = false ∧ last.bvalid = false))) := by
  intro r
  have hfin : PFin cs p penalty0 eps0 x0 inner r := penSolve_fin cs p penalty0 eps0 maxOuters inner x0
  refine ⟨?_, fun h => (hfin.running h).1, fun h => ?_⟩
  · by_cases h : r.status = 0
    · exact Or.inl h
    · obtain ⟨_, _, _, _, _, _, _, hcase⟩ := hfin.stopped h
      exact Or.inr (hcase.imp And.left And.left)
  · obtain ⟨init, last, hcalls, hns, hok, _, _, hcase⟩ := hfin.stopped h
    refine ⟨init, last, hcalls, hns, hok, ?_⟩
    -- the two ways of stopping exclude each other
    rcases hcase with ⟨h1, hc⟩ | ⟨h2, hc, hb⟩
    · simp [h1, hc]
    · simp [h2, hc, hb]

/-- The precision `solver::epsilon` of the inner solver at a call is `epsilon0 * epsilonK^m`, `m` = the number of valid
    answers before it (`more_precise` after every iteration that goes on with a valid answer): positive and at most
    `epsilon0` for `0 < epsilonK ≤ 1`. -/
theorem pen_inner_precision (cs : List (C α)) (p : PParams α) (penalty0 eps0 : α) (maxOuters : Nat)
    (inner : Nat → PState α → PAnswer α) (x0 : List α) (h0 : 0 < eps0) (hK0 : 0 < p.epsK) (hK1 : p.epsK ≤ 1) :
    let r := penSolve cs p penalty0 eps0 maxOuters inner x0
    ∀ (l1 : List (PCall α)) (c : PCall α) (l2 : List (PCall α)), r.calls = l1 ++ c :: l2 →
      c.innerEps = eps0 * p.epsK ^ (l1.countP (fun d => d.iterOk)) ∧ 0 < c.innerEps ∧ c.innerEps ≤ eps0 := by
  intro r l1 c l2 hcalls
  have hcall := (penSolve_fin cs p penalty0 eps0 maxOuters inner x0).sched.call l1 c l2 hcalls
  rw [hcall.innerEps_eq]
  exact ⟨rfl, mul_pos h0 (pow_pos hK0 _), mul_le_of_le_one_right (le_of_lt h0) (pow_le_one₀ (le_of_lt hK0) hK1)⟩

/-- both penalty solvers: when the inner problem is `F penalty` for a family `F` of functions, the inner solver is given,
    at its `k`-th call, `F (penalty0 * eta^k)`, the precision recorded for the call and the last valid answer -/
theorem penSolve_inner_objective (F : α → List α → α × List α) (cs : List (C α)) (p : PParams α)
    (penalty0 eps0 : α) (maxOuters : Nat) (solver : InnerSolver α) (x0 : List α) :
    let r := penSolve cs p penalty0 eps0 maxOuters (fun k s => solver k (F s.penalty) s.innerEps s.best.x) x0
    ∀ (l1 : List (PCall α)) (c : PCall α) (l2 : List (PCall α)), r.calls = l1 ++ c :: l2 →
      (⟨c.cx, c.iterOk, c.bvalid⟩ : PAnswer α)
        = solver l1.length (F (penalty0 * p.eta ^ l1.length)) c.innerEps (lastValid x0 l1) := by
  intro r l1 c l2 hcalls
  have hcall := (penSolve_fin cs p penalty0 eps0 maxOuters _ x0).sched.call l1 c l2 hcalls
  obtain ⟨s, _, h2, h3, h4, h5⟩ := hcall.answer
  rw [← h5, ← hcall.penalty_eq, ← hcall.start_eq, ← h2, ← h3, ← h4]

/-- `solver_linear_penalty_t`: at its `k`-th call the inner solver is given the linear penalty function of the objective
    with the penalty parameter `penalty0 * eta^k` and is started at the last valid answer. -/
theorem linear_penalty_solver_inner_objective (f : List α → α × List α) (cs : List (C α)) (p : PParams α)
    (penalty0 eps0 : α) (maxOuters : Nat) (solver : InnerSolver α) (x0 : List α) :
    let r := linearPenaltySolve f cs p penalty0 eps0 maxOuters solver x0
    ∀ (l1 : List (PCall α)) (c : PCall α) (l2 : List (PCall α)), r.calls = l1 ++ c :: l2 →
      (⟨c.cx, c.iterOk, c.bvalid⟩ : PAnswer α)
        = solver l1.length (linearPenaltyAt (penalty0 * p.eta ^ l1.length) f cs) c.innerEps (lastValid x0 l1) :=
  penSolve_inner_objective (fun c => linearPenaltyAt c f cs) cs p penalty0 eps0 maxOuters solver x0

/-- `solver_quadratic_penalty_t`: the same with the quadratic penalty function. -/
theorem quadratic_penalty_solver_inner_objective (f : List α → α × List α) (cs : List (C α)) (p : PParams α)
    (penalty0 eps0 : α) (maxOuters : Nat) (solver : InnerSolver α) (x0 : List α) :
    let r := quadraticPenaltySolve f cs p penalty0 eps0 maxOuters solver x0
    ∀ (l1 : List (PCall α)) (c : PCall α) (l2 : List (PCall α)), r.calls = l1 ++ c :: l2 →
      (⟨c.cx, c.iterOk, c.bvalid⟩ : PAnswer α)
        = solver l1.length (quadraticPenaltyAt (penalty0 * p.eta ^ l1.length) f cs) c.innerEps (lastValid x0 l1) :=
  penSolve_inner_objective (fun c => quadraticPenaltyAt c f cs) cs p penalty0 eps0 maxOuters solver x0

/-! ### the augmented-Lagrangian loop: iteration count and returned point -/

/-- the augmented-Lagrangian loop makes at most `fuel` (= `max_outer_iters`) outer iterations, one inner solve each -/
theorem al_iteration_count (cs : List (C α)) (p : Params α) (inner : Nat → ALState α → Answer α) :
    ∀ (fuel : Nat) (s : ALState α), (alLoop cs p inner fuel s).iters ≤ s.iters + fuel :=
  (alLoop_isLoop cs p inner).iters_le ALState.iters (fun s => (alStep_kept cs p s _).2.2.2)

/-- The point the augmented-Lagrangian solver returns is `x0` or the point of a valid answer of the inner solver: any
    property of `x0` and of all valid answers holds of it. -/
theorem al_returned_point (cs : List (C α)) (p : Params α) (inner : Nat → ALState α → Answer α) (x0 : List α) (ro1 : α)
    (fuel : Nat) (P : List α → Prop) (h0 : P x0) (hans : ∀ k s, (inner k s).iterOk = true → P (inner k s).cstate.x) :
    P (alLoop cs p inner fuel (alInit cs x0 ro1)).best.x := by
  refine (alLoop_isLoop cs p inner).invariant (fun s => P s.best.x) (fun s hs => ?_) fuel _ h0
  show P (alStep cs p s (inner s.iters s)).1.best.x
  rw [(alStep_kept cs p s _).1]
  split
  · exact hans _ _ ((alImproved_iff s _).mp ‹_›).1
  · exact hs

/-- The feasibility residuals `kkt_optimality_test1/2` of the state the augmented-Lagrangian solver returns are derived from
    the constraint values of the problem recomputed at the returned point — no hypothesis, every inner-solver behaviour. -/
theorem al_state_residuals (cs : List (C α)) (p : Params α) (inner : Nat → ALState α → Answer α) (x0 : List α) (ro1 : α)
    (fuel : Nat) :
    let r := alLoop cs p inner fuel (alInit cs x0 ro1)
    kktTest2 r.best = maxL ((evalEq cs r.best.x).map (fun h => |h|)) ∧
    kktTest1 r.best = maxL ((evalIneq cs r.best.x).map (fun g => max g 0)) ∧
    violation r.best = max (kktTest2 r.best) (kktTest1 r.best) := by
  intro r
  obtain ⟨e1, e2⟩ := al_state_constraints_recomputed cs p inner x0 ro1 fuel
  rw [← e1, ← e2]
  exact state_residuals r.best

/-- The penalty parameter `ro` of the augmented-Lagrangian loop follows the documented schedule: in every state the loop
    reaches (any number of outer iterations) it is `ro1 * gamma^j` for some `j` not above the number of iterations made —
    positive, at least the starting value `ro1`, at most `ro1 * gamma^max_outer_iters` (`ro1 > 0`, `gamma > 1`). -/
theorem al_penalty_schedule (cs : List (C α)) (p : Params α) (hgamma : 1 < p.gamma)
    (inner : Nat → ALState α → Answer α) (x0 : List α) (ro1 : α) (hro : 0 < ro1) (fuel : Nat) :
    let r := alLoop cs p inner fuel (alInit cs x0 ro1)
    (∃ j, j ≤ r.iters ∧ r.ro = ro1 * p.gamma ^ j) ∧ 0 < r.ro ∧ ro1 ≤ r.ro ∧ r.ro ≤ ro1 * p.gamma ^ fuel := by
  intro r
  obtain ⟨j, hj, hr⟩ : ∃ j, j ≤ r.iters ∧ r.ro = ro1 * p.gamma ^ j :=
    (alLoop_isLoop cs p inner).invariant (fun s => ∃ j, j ≤ s.iters ∧ s.ro = ro1 * p.gamma ^ j)
      (fun s hs => alStep_ro_schedule cs p s _ ro1 hs) fuel _ ⟨0, Nat.zero_le _, by rw [pow_zero, mul_one]; rfl⟩
  have hit : r.iters ≤ 0 + fuel := al_iteration_count cs p inner fuel (alInit cs x0 ro1)
  obtain ⟨h1, h2, h3⟩ := geom_schedule hro (le_of_lt hgamma) (show j ≤ fuel by omega)
  rw [hr]
  exact ⟨⟨j, hj, rfl⟩, h1, h2, h3⟩

/-! ### `solver_state_t`: the gradient of the Lagrangian, the KKT residuals, the stored multipliers -/

/-- `update_constraints` leaves in `m_lgx` the gradient of the Lagrangian `∇f + Σ_j meq_j ∇h_j + Σ_i mineq_i ∇g_i`,
    component by component — for any constraint list, under the sizes the constructor establishes. -/
theorem lagrangian_grad_eq_def (gx : List α) (es : List (Eval α)) (meq mineq : List α)
    (hes : ∀ e ∈ es, e.gc.length = gx.length) (hl : meq.length = (eqs es).length)
    (hm : mineq.length = (ineqs es).length) :
    ∃ r, lagrangianGrad gx es meq mineq = some r ∧ r.length = gx.length ∧
      ∀ i, r.getD i 0 = gx.getD i 0 + (List.zipWith (fun e m => m * e.gc.getD i 0) (eqs es) meq).sum
        + (List.zipWith (fun e m => m * e.gc.getD i 0) (ineqs es) mineq).sum := by
  obtain ⟨ps, h1, h2, h3⟩ := assignMult_spec gx.length es meq mineq hl hm hes
  obtain ⟨h4, h5⟩ := foldl_axpy_spec gx.length ps gx rfl h2
  refine ⟨_, by simp [lagrangianGrad, h1], h4, fun i => ?_⟩
  rw [h5 i, h3 i, add_assoc]

/-- `kkt_optimality_test3` vanishes exactly when every stored multiplier of an inequality is non-negative -/
theorem kkt3_eq_zero_iff (mineq : List α) : kkt3 mineq = 0 ↔ ∀ m ∈ mineq, 0 ≤ m := by
  -- `max(-m, 0) = 0` says `0 ≤ m`
  have hm0 : ∀ m : α, cmax (-m) 0 = 0 ↔ 0 ≤ m := fun m => by rw [cmax_eq_max, max_eq_right_iff, neg_nonpos]
  unfold kkt3
  rw [maxL_eq_zero_iff (fun x hx => by
    obtain ⟨m, _, rfl⟩ := List.mem_map.mp hx
    rw [cmax_eq_max]; exact le_max_right _ _)]
  exact ⟨fun h m hm => (hm0 m).mp (h _ (List.mem_map_of_mem hm)),
    fun h x hx => by obtain ⟨m, hm, rfl⟩ := List.mem_map.mp hx; exact (hm0 m).mpr (h m hm)⟩

/-- `kkt_optimality_test() ≤ ε` makes the state an ε-KKT point of the stored quantities: every inequality at most `ε`,
    every equality within `ε`, every inequality multiplier at least `-ε`, complementarity `|mineq_i g_i| ≤ ε`, and every
    component of the Lagrangian gradient within `ε`. -/
theorem kktAll_le_imp_eps_kkt (ceq cineq mineq lgx : List α) (ε : α) (h : kktAll ceq cineq mineq lgx ≤ ε) :
    (∀ g ∈ cineq, g ≤ ε) ∧ (∀ v ∈ ceq, |v| ≤ ε) ∧ (∀ m ∈ mineq, -ε ≤ m) ∧
    (∀ (i : Nat) (h1 : i < mineq.length) (h2 : i < cineq.length), |mineq[i] * cineq[i]| ≤ ε) ∧
    (∀ l ∈ lgx, |l| ≤ ε) ∧ 0 ≤ ε := by
  unfold kktAll at h
  simp only [cmax_eq_max, max_le_iff] at h
  obtain ⟨⟨⟨⟨h1, h2⟩, h3⟩, h4⟩, h5⟩ := h
  refine ⟨fun g hg => ?_, fun v hv => ?_, fun m hm => ?_, fun i i1 i2 => ?_, fun l hl => ?_, le_trans (maxL_nonneg _) h1⟩
  · have := maxL_map_le h1 g hg
    rw [cmax_eq_max] at this
    exact le_trans (le_max_left _ _) this
  · rw [← absv_eq_abs]; exact maxL_map_le h2 v hv
  · have := maxL_map_le h3 m hm
    rw [cmax_eq_max] at this
    exact neg_le.mp (le_trans (le_max_left _ _) this)
  · rw [← absv_eq_abs]
    refine le_trans (le_maxL (List.mem_iff_getElem.mpr ⟨i, ?_, ?_⟩)) h4
    · rw [List.length_zipWith]; exact Nat.lt_min.mpr ⟨i1, i2⟩
    · rw [List.getElem_zipWith]
  · rw [← absv_eq_abs]; exact maxL_map_le h5 l hl

/-- The state the augmented-Lagrangian solver returns stores one multiplier per constraint, those of the inequalities
    non-negative: its `kkt_optimality_test3` is exactly zero — for every inner-solver behaviour (`miu_max ≥ 0`). -/
theorem al_returned_multipliers (cs : List (C α)) (p : Params α) (hmiuMax : 0 ≤ p.miuMax)
    (inner : Nat → ALState α → Answer α) (x0 : List α) (ro1 : α) (fuel : Nat) :
    let r := alLoop cs p inner fuel (alInit cs x0 ro1)
    (∀ m ∈ r.bmineq, 0 ≤ m) ∧ kkt3 r.bmineq = 0 ∧ r.bmeq.length = countEq cs ∧ r.bmineq.length = countIneq cs := by
  intro r
  have h := alLoop_multInv cs p hmiuMax inner fuel _ (alInit_multInv cs x0 ro1)
  exact ⟨h.bmineq_nonneg, (kkt3_eq_zero_iff _).mpr h.bmineq_nonneg, h.bmeq_len, h.bmineq_len⟩

/-- with zero multipliers (every state the penalty solvers return: they never pass multipliers to `update`) the Lagrangian
    gradient is the objective's gradient and `test3 = test4 = 0` -/
theorem zero_multipliers_state (gx : List α) (es : List (Eval α)) (cineq : List α)
    (hes : ∀ e ∈ es, e.gc.length = gx.length) :
    (∃ r, lagrangianGrad gx es (zeros (eqs es).length) (zeros (ineqs es).length) = some r ∧ r.length = gx.length ∧
      ∀ i, r.getD i 0 = gx.getD i 0) ∧
    kkt3 (zeros (ineqs es).length : List α) = 0 ∧ kkt4 (zeros (ineqs es).length) cineq = 0 := by
  have hz : ∀ {n : Nat} (e : Eval α) (i : Nat), ∀ m ∈ (zeros n : List α), m * e.gc.getD i 0 = 0 := fun e i m hm => by
    rw [List.eq_of_mem_replicate hm, zero_mul]
  refine ⟨?_, (kkt3_eq_zero_iff _).mpr fun m hm => le_of_eq (List.eq_of_mem_replicate hm).symm, ?_⟩
  · obtain ⟨r, h1, h2, h3⟩ := lagrangian_grad_eq_def gx es (zeros (eqs es).length) (zeros (ineqs es).length) hes
      List.length_replicate List.length_replicate
    refine ⟨r, h1, h2, fun i => ?_⟩
    rw [h3 i, zipWith_sum_zero _ _ _ fun e _ => hz e i, zipWith_sum_zero _ _ _ fun e _ => hz e i, add_zero, add_zero]
  · refine le_antisymm (maxL_le (le_refl _) fun x hx => ?_) (maxL_nonneg _)
    obtain ⟨i, hi, rfl⟩ := List.mem_iff_getElem.mp hx
    simp only [List.getElem_zipWith, zeros, List.getElem_replicate, zero_mul, absv_eq_abs, abs_zero, le_refl]

/-! ### non-vacuity: concrete instances over `ℚ` -/

section Examples

/-- objective `f(x) = x₀ + x₁` -/
private def exF : List ℚ → ℚ × List ℚ := fun x => (x.getD 0 0 + x.getD 1 0, [1, 1])

/-- `h(x) = x₀ - 1 = 0` and `g(x) = x₁ - 0 ≤ 0` -/
private def exCs : List (C ℚ) := [.constant 1 0, .maximum 0 1]

-- at `x = (3, 2)` both constraints are violated (`h = 2`, `g = 2`)
example : linearPenaltyAt 2 exF exCs [3, 2] = (13, [3, 3]) := by decide +kernel
example : quadraticPenaltyAt 2 exF exCs [3, 2] = (21, [9, 9]) := by decide +kernel
example : augLagrangianAt 2 [1] [4] exF exCs [3, 2] = some (109 / 4, [6, 9]) := by decide +kernel
-- the assert of the constructor: a missing multiplier has no value
example : augLagrangianAt 2 [] [4] exF exCs [3, 2] = none := by decide +kernel
-- at `x = (1, -1)` the point is feasible: all three coincide with the objective (`f = 0`)
example : (linearPenaltyAt 2 exF exCs [1, -1]).1 = 0 ∧ quadraticPenaltyAt 2 exF exCs [1, -1] = (0, [1, 1]) ∧
    augLagrangianAt 2 [0] [0] exF exCs [1, -1] = some (0, [1, 1]) := by decide +kernel
-- the hypotheses of the `*_eq_def` theorems hold for this instance
example : ∀ k ∈ exCs, (k.vgrad [3, 2]).2.length = (exF [3, 2]).2.length := by decide +kernel
-- an incompatible constraint is refused by `constrain`
example : (constrain 2 ([.constant 1 2, .ballIneq [0, 0] 0, .linEq [1] 0, .maximum 0 1] : List (C ℚ))).length = 1 := by
  decide +kernel

/-- one inequality `g(x) = x₀ - 1 ≤ 0` in one dimension -/
private def exCs1 : List (C ℚ) := [.maximum 1 0]

private def exP : Params ℚ := ⟨1 / 10, 1 / 2, 10, 100, -100, 100⟩

/-- an inner solver that returns `3/2`, then `1`, then `1` (always valid states of the constrained function) -/
private def exInner : Nat → ALState ℚ → Answer ℚ := fun k _ =>
  ⟨mkState exCs1 [if k = 0 then 3 / 2 else 1], true, true⟩

/-- an inner solver that fails at once -/
private def exInnerBad : Nat → ALState ℚ → Answer ℚ := fun _ _ => ⟨mkState exCs1 [7], false, true⟩

-- the hypotheses of `al_converged_feasible` are satisfiable …
example : 1 < exP.gamma ∧ 0 ≤ exP.miuMax ∧ (∀ k s, Consistent exCs1 (exInner k s)) ∧ (0 : ℚ) < 1 :=
  ⟨by decide +kernel, by decide +kernel, fun _ _ => rfl, by decide +kernel⟩
-- … and its premise is reached by a run that needs three outer iterations (the criterion is below `epsilon` at the
-- second one, where the iterate still moves): from the infeasible `x0 = 3` (`g = 2`) the loop returns `x = 1`
example : (alLoop exCs1 exP exInner 10 (alInit exCs1 [3] 1)).status = 1 ∧
    (alLoop exCs1 exP exInner 10 (alInit exCs1 [3] 1)).iters = 3 ∧
    (alLoop exCs1 exP exInner 10 (alInit exCs1 [3] 1)).best.x = [1] ∧
    (alLoop exCs1 exP exInner 10 (alInit exCs1 [3] 1)).miu = [1 / 2] := by decide +kernel
-- the conclusion is not trivially true: the starting point violates it
example : ¬ (∀ g ∈ evalIneq exCs1 [3], max 0 g ≤ exP.eps) := by decide +kernel
-- with two outer iterations only the status stays `max_iters`, with a failing inner solver it is `failed`
example : (alLoop exCs1 exP exInner 2 (alInit exCs1 [3] 1)).status = 0 ∧
    (alLoop exCs1 exP exInnerBad 10 (alInit exCs1 [3] 1)).status = 2 := by decide +kernel

/-! #### the penalty solvers -/

private def exPP : PParams ℚ := ⟨1 / 1000, 5, 1 / 2⟩

/-- an inner solver that returns `3/2`, then `1`, then `1` (always valid) -/
private def exInnerP : Nat → PState ℚ → PAnswer ℚ := fun k _ => ⟨[if k = 0 then 3 / 2 else 1], true, true⟩

/-- an inner solver that fails twice and then returns `7` -/
private def exInnerPF : Nat → PState ℚ → PAnswer ℚ := fun k _ => ⟨[7], decide (2 ≤ k), true⟩

-- the hypotheses of `pen_penalty_schedule` and `pen_inner_precision` hold for the registered defaults
example : (0 : ℚ) < 10 ∧ 1 < exPP.eta ∧ (0 : ℚ) < 1 / 100 ∧ 0 < exPP.epsK ∧ exPP.epsK ≤ 1 := by decide +kernel
-- a run that converges at the third outer iteration: penalties 10, 50, 250; the starting points chain through the answers;
-- the stored constraint value is that of `g(x) = x - 1` at the returned point
example : (penSolve exCs1 exPP 10 (1 / 100) 20 exInnerP [3]).status = 1 ∧
    (penSolve exCs1 exPP 10 (1 / 100) 20 exInnerP [3]).iters = 3 ∧
    (penSolve exCs1 exPP 10 (1 / 100) 20 exInnerP [3]).best.x = [1] ∧
    (penSolve exCs1 exPP 10 (1 / 100) 20 exInnerP [3]).best.cineq = [0] ∧
    (penSolve exCs1 exPP 10 (1 / 100) 20 exInnerP [3]).calls.map (·.penalty) = [10, 50, 250] ∧
    (penSolve exCs1 exPP 10 (1 / 100) 20 exInnerP [3]).calls.map (·.start) = [[3], [3 / 2], [1]] ∧
    (penSolve exCs1 exPP 10 (1 / 100) 20 exInnerP [3]).calls.map (·.innerEps) = [1 / 100, 1 / 200, 1 / 400] := by
  decide +kernel
-- a failing inner solver: the penalty grows, `bstate` and the inner precision stay; the returned point is the last valid answer
example : (penSolve exCs1 exPP 10 (1 / 100) 20 exInnerPF [3]).status = 1 ∧
    (penSolve exCs1 exPP 10 (1 / 100) 20 exInnerPF [3]).iters = 4 ∧
    (penSolve exCs1 exPP 10 (1 / 100) 20 exInnerPF [3]).best.x = [7] ∧
    (penSolve exCs1 exPP 10 (1 / 100) 20 exInnerPF [3]).best.cineq = [6] ∧
    (penSolve exCs1 exPP 10 (1 / 100) 20 exInnerPF [3]).calls.map (·.start) = [[3], [3], [3], [7]] ∧
    (penSolve exCs1 exPP 10 (1 / 100) 20 exInnerPF [3]).calls.map (·.penalty) = [10, 50, 250, 1250] ∧
    (penSolve exCs1 exPP 10 (1 / 100) 20 exInnerPF [3]).calls.map (·.innerEps) = [1 / 100, 1 / 100, 1 / 100, 1 / 200] := by
  decide +kernel
-- an inner solver that always fails: all outer iterations are used, the status stays `max_iters`, `x0` is returned;
-- a valid answer that makes `bstate` invalid: `failed`; two outer iterations only: `max_iters`
example : (penSolve exCs1 exPP 10 (1 / 100) 20 (fun _ _ => ⟨[7], false, true⟩) [3]).status = 0 ∧
    (penSolve exCs1 exPP 10 (1 / 100) 20 (fun _ _ => ⟨[7], false, true⟩) [3]).iters = 20 ∧
    (penSolve exCs1 exPP 10 (1 / 100) 20 (fun _ _ => ⟨[7], false, true⟩) [3]).best.x = [3] ∧
    (penSolve exCs1 exPP 10 (1 / 100) 20 (fun _ _ => ⟨[7], true, false⟩) [3]).status = 2 ∧
    (penSolve exCs1 exPP 10 (1 / 100) 2 exInnerP [3]).status = 0 ∧
    (penSolve exCs1 exPP 10 (1 / 100) 2 exInnerP [3]).iters = 2 := by
  decide +kernel
-- `al_iteration_count`, `al_returned_point` on the run of the augmented-Lagrangian example
example : (alLoop exCs1 exP exInner 10 (alInit exCs1 [3] 1)).iters ≤ 0 + 10 ∧
    (alLoop exCs1 exP exInner 10 (alInit exCs1 [3] 1)).best.x = (exInner 1 (alInit exCs1 [3] 1)).cstate.x := by
  decide +kernel

-- the state the augmented-Lagrangian loop keeps is NOT the best one seen: `bstate` is replaced whenever the criterion improves on
-- that of the PREVIOUS iteration (`old_criterion = criterion` every iteration). Criteria 1/10, 1/2, 3/10 (from 2 at `x0`):
-- the loop returns the third answer (`|h| = 3/10`) although the first one had `|h| = 1/10`
example : (alLoop [.constant 1 0] exP (fun k _ => ⟨mkState [.constant 1 0] [if k = 0 then 11 / 10 else if k = 1 then 3 / 2 else 13 / 10],
      true, true⟩) 3 (alInit [.constant 1 0] [3] 1)).best.x = [13 / 10] ∧
    (alLoop [.constant 1 0] exP (fun k _ => ⟨mkState [.constant 1 0] [if k = 0 then 11 / 10 else if k = 1 then 3 / 2 else 13 / 10],
      true, true⟩) 3 (alInit [.constant 1 0] [3] 1)).status = 0 := by
  decide +kernel

-- `solver_state_t`: the Lagrangian gradient of `exCs` (h = x₀ - 1, g = x₁) at multipliers 3 and 2: ∇f + 3 ∇h + 2 ∇g; the residuals
example : lagrangianGrad [1, 1] (exCs.map (evalC [3, 2])) [3] [2] = some ([4, 3] : List ℚ) ∧
    lagrangianGrad [1, 1] (exCs.map (evalC [3, 2])) [] [2] = (none : Option (List ℚ)) ∧
    kkt3 ([2, -1 / 2] : List ℚ) = 1 / 2 ∧ kkt3 ([2, 0] : List ℚ) = 0 ∧ kkt4 ([2, 3] : List ℚ) [-1, 1 / 2] = 2 ∧
    kktAll ([1 / 10] : List ℚ) [-1, 1 / 5] [2, 0] [1 / 4, -1 / 3] = 2 := by decide +kernel
-- the hypotheses of `lagrangian_grad_eq_def` hold for this instance, and `kktAll ≤ ε` is reachable
example : (∀ e ∈ exCs.map (evalC [3, 2]), e.gc.length = ([1, 1] : List ℚ).length) ∧
    ([3] : List ℚ).length = (eqs (exCs.map (evalC [3, 2]))).length ∧
    kktAll ([1 / 10] : List ℚ) [-1, 1 / 5] [0, 0] [1 / 4, -1 / 3] ≤ 1 / 3 := by decide +kernel
-- the run of the augmented-Lagrangian example stores the multiplier estimate of the iteration that produced the returned point
example : (alLoop exCs1 exP exInner 10 (alInit exCs1 [3] 1)).bmineq = [1 / 2] ∧
    (alLoop exCs1 exP exInner 10 (alInit exCs1 [3] 1)).bmeq = [] := by decide +kernel

/-- objective `f(x) = x₀²` -/
private def exF2 : List ℚ → ℚ × List ℚ := fun x => (x.getD 0 0 * x.getD 0 0, [2 * x.getD 0 0])

/-- `g(x) = 1 - x₀ ≤ 0` -/
private def exCs2 : List (C ℚ) := [.minimum 1 0]

/-- `x = 1/2` minimises `x² + max(0, 1 - x)²` over all points -/
private theorem exQuadMin (ys : List ℚ) :
    (quadraticPenaltyAt 1 exF2 exCs2 [1 / 2]).1 ≤ (quadraticPenaltyAt 1 exF2 exCs2 ys).1 := by
  have h1 : (quadraticPenaltyAt 1 exF2 exCs2 [1 / 2]).1 = 1 / 2 := by decide +kernel
  rw [h1]
  simp only [quadraticPenaltyAt, quadraticPenalty, exCs2, List.map, evalC, C.vgrad, C.isEq, penaltyVgrad, Bool.false_or,
    exF2, quadraticOp]
  split
  · -- `x² + (1 - x)² = 1/2 + (2 x - 1)² / 2`
    linarith only [mul_self_nonneg (2 * ys.getD 0 0 - 1)]
  · rename_i h
    simp only [decide_eq_true_eq, not_lt, sub_nonpos] at h
    linarith only [mul_le_mul h h zero_le_one (le_trans zero_le_one h)]

end Examples

/-- **`converged` does not imply feasibility for the penalty solvers.** A run of the quadratic-penalty solver inside the
    registered parameter domains, with an *exact* inner solver (its answer is a global minimiser of the penalty function it
    was given), on `min x²  s.t.  x ≥ 1`: started at `x0 = 1/2` — the minimiser of `x² + 1·max(0, 1 - x)²` — the first inner
    solve returns `x0`, the iterate has not moved, the status is `converged` after one outer iteration, and the returned
    point violates the constraint by `1/2`, five hundred times `epsilon`. -/
theorem pen_converged_not_feasible :
    ∃ (f : List ℚ → ℚ × List ℚ) (cs : List (C ℚ)) (p : PParams ℚ) (penalty0 eps0 : ℚ) (maxOuters : Nat)
      (solver : InnerSolver ℚ) (x0 : List ℚ),
      0 < p.eps ∧ p.eps ≤ 1 / 10 ∧ 1 < p.eta ∧ p.eta ≤ 1000 ∧ 0 < p.epsK ∧ p.epsK ≤ 1 ∧ 0 < penalty0 ∧ penalty0 ≤ 1000 ∧
      0 < eps0 ∧ eps0 ≤ 1 / 100 ∧ 10 ≤ maxOuters ∧ maxOuters ≤ 100 ∧
      (quadraticPenaltySolve f cs p penalty0 eps0 maxOuters solver x0).status = 1 ∧
      (quadraticPenaltySolve f cs p penalty0 eps0 maxOuters solver x0).iters = 1 ∧
      500 * p.eps ≤ violation (quadraticPenaltySolve f cs p penalty0 eps0 maxOuters solver x0).best ∧
      (∀ ys : List ℚ, (quadraticPenaltyAt penalty0 f cs (quadraticPenaltySolve f cs p penalty0 eps0 maxOuters solver x0).best.x).1
        ≤ (quadraticPenaltyAt penalty0 f cs ys).1) := by
  refine ⟨exF2, exCs2, ⟨1 / 1000, 5, 1 / 2⟩, 1, 1 / 1000000, 20, fun _ _ _ x => ⟨x, true, true⟩, [1 / 2],
    by decide +kernel, by decide +kernel, by decide +kernel, by decide +kernel, by decide +kernel, by decide +kernel,
    by decide +kernel, by decide +kernel, by decide +kernel, by decide +kernel, by decide, by decide,
    by decide +kernel, by decide +kernel, by decide +kernel, ?_⟩
  have hx : (quadraticPenaltySolve exF2 exCs2 ⟨1 / 1000, 5, 1 / 2⟩ 1 (1 / 1000000) 20 (fun _ _ _ x => ⟨x, true, true⟩)
      [1 / 2]).best.x = [1 / 2] := by decide +kernel
  rw [hx]
  exact exQuadMin

end NanoVerif.Penalty
