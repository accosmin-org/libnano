import NanoVerif.Proofs.EarlyStopping
import NanoVerif.Proofs.Boost
import NanoVerif.Proofs.BoostFit
import NanoVerif.Proofs.MLResult
import NanoVerif.Proofs.BoostFitTop
import Mathlib.Data.List.Induction
import Mathlib.Tactic.NormNum
/-!
  C11 — property theorems: the early-stopping monitor (`early_stopping_t::done`, regenerated from the source into
  `Gen/EarlyStopping.lean`) over every history of calls, and the bookkeeping of the boosting round loop / the fold
  averaging (`Model/Boost.lean`).

  All theorems are over an arbitrary ordered field `α`, every ε (positivity is assumed only where stated), every
  patience, every history `h : List (Call α)` — a call carries the mean training error, the mean validation error, the
  number of weak learners `n`, the number of validation samples and a name `idx` for its per-sample tensor.
  `Improves eps best c` is the specification of "accepted" (see `Model/EarlyStopping.lean`).
  The initial `m_value = DBL_MAX` enters as the hypothesis `c.valid < v0 - eps` on observed validation errors.

  ### Gap table (every function of the anchored files; `modelled` = hand-written Lean definition tied by a correspondence family,
  `translated` = regenerated into Gen/, `oracle` = a parameter of the model with the stated contract, `outside` = not in any model)

  | file: function | status |
  |---|---|
  | gboost/early_stopping.cpp: constructor, `done` | translated — `Gen.EarlyStopping.init`, `done` (family `es`) |
  | gboost/model.cpp: `make_params` | outside (the grid of the `global` ratio is C13's parameter space); only "one parameter in `global` mode" is used |
  | … `decode_params` | modelled — `BoostFit.startRatio` (gbloop: ratio column of the rows) |
  | … `selected` | modelled — `foldResult.trainValues / validValues` |
  | … `make_cluster` | modelled (dimension only) — `clusterGroups`; the cluster itself is C10's `splitOne`; monitor: `len(x) = 1` in gboost mode |
  | … `::fit` | modelled — `fitStart`, `shrunk`, `roundStep`, `roundLoop`, `fitRun`, `foldResult`, `fitFold` (control: `Boost.step/loop/fit`, tied by gbloop; data flow: rows, ratios, tune scan tied by the gbloop extension `X`). Oracles: bias fit `b`; `gfunction.gradients` (inside the weak-learner fit oracle); `sampler.sample` (oracle here, modelled by C12 `Split.gboostSample`; contract monitored with hook H3b); `wlearner->fit` (C10's models; here `RoundOr.cands`); the scaling solve `RoundOr.x/xmin` (objective: C09); `loss.error/value` = `Env.err/loss` (C06) |
  | … `gboost_model_t` constructor / copies / `prototypes` / `read` / `write` / `features` | outside (C19 parameters, C15 serialization) |
  | … `gboost_model_t::fit` | modelled — `gboostFit` = `MLResult.runTune` ∘ `gbBatch` (tuning), `optimumOf`, `foldModels`, `finalize` (clear, sum, merge, scale by 1/folds; gbloop `M`), `finalValues`, `storeFinal` |
  | … `do_predict` | modelled — `Boost.predict`, `modelOut` (family `fit`: prediction = bias + Σ) |
  | gboost/result.cpp: constructor | modelled (`rows`); copies: outside |
  | … `update` (both) | modelled — `statsRow` columns 0-4 (families `gbres`, gbloop `X`); columns 5-7 (solver calls, status): outside |
  | … `done` | modelled — `foldResult` (`take round`, rows `take (round+1)`, then `merge` = oracle with `MergeLaw`, proved for C10's model) |
  | gboost/util.cpp: `evaluate` | oracle — `Env.err / Env.loss` per sample (C06 kernels) |
  | … `tune_shrinkage` | modelled — `shrinkValue`, `shrinkScan`, `tuneShrinkage` (gbloop `X` with hook H3b: every grid value and the answer); the residue of the in-place `+= / -=` at double is outside |
  | … `mean_loss`, `mean_error` | modelled — `EarlyStopping.meanError` inside `statsRow` (bit-exact in `gbres`, gbloop `X`) |
  | gboost/sampler.cpp: constructor, `sample` | oracle — `RoundOr.fitSamples` / `sampleOf` (`off` coded); C12 owns the model; monitored (⊆ train, size, no repetition for `subsample`) |
  | linear.cpp: `make_x0`, `::fit` | oracle — `LinearFit.Env.solve params samples extra` (the warm-start argument is modelled: which trial's data is handed over) |
  | … `linear_t::fit` | modelled — `linearFit` = `callback`, `batchFit`, `MLResult.runTune`, `optimumOf`, `refit`; family `fit linear` (python recomputation), `mlres` for the storage |
  | … constructor, `read`, `write`, `all`, `do_predict` | outside / oracle `evalOn` |
  | linear/util.cpp: `predict`, `evaluate` | oracle — `Env.evalOn` (python recomputes `W x + b` sample by sample) |
  | … `feature_importance`, `sparsity_ratio`, `make_param_space` | outside (not in the statement; the space is C13's) |
  | machine/tune.cpp: `tune` | modelled — C13 `Tune.runBatch` (imported) under `MLResult.runTune`, `cbOf` |
  | machine/result.cpp: constructors, `add`, `optimum_trial`, `closest_trial`, `params`, `value`, `values`, `extra(t,f)` | modelled by C13 (`Tune.Result.*`, imported); here `optimumOf`, `meanValidErr`, `extraOf` (family `mlres`) |
  | … `store(trial, fold, …)`, `store(final)`, `stats(t,f,split,kind)`, `stats(kind)`, `extra()` | modelled — `storeCell`, `store`, `storeFinal`, `stats`, `Full.stats` (family `mlres`) |
  | … `make_random_path`, `log_path`, `refit_log_path` | outside |
  | machine/stats.cpp: `store_stats`, `load_stats` | modelled by C20 — `Stats.storeStats` (imported) |
  | learner.cpp: `predict` | modelled through `modelOut` (zeroed buffer + `do_predict`); `evaluate`: oracle; `critical_compatible`, `fit_dataset`, `read`, `write`: outside |
  | wlearner/util.cpp: `scale`, `merge` | oracle with contracts `ScaleLaw`, `MergeLaw` — both PROVED for C10's model of the code (`Proofs/BoostFitC10.lean`); `clone`: outside |

  Hypotheses: `ScaleLaw` is needed in `local` mode only and is necessary there (kernel-checked witness `envBad` below; on
  the real code: seeded change C11-c2); `MergeLaw` enters only through `done`/`finalize`; the `DBL_MAX` hypothesis `hv` of the loop
  theorems (`fit_keeps_last_accepted`, `fold_model_is_snapshot_model`) is necessary for `snap = round + 1` (witness below; corpus op with
  an infinite validation error) — the data-flow theorems (`kept_model_reproduces_optimum_row`) do without it (`snap - 1 = round` holds in
  both cases, the constructor snapshot being the bias-only values); nothing is `_partial`.
-/
set_option linter.unusedSectionVars false

namespace NanoVerif.EarlyStopping
open NanoVerif.Gen.EarlyStopping

variable {α : Type} [Field α] [LinearOrder α] [IsStrictOrderedRing α]

/-- `done` answers true at the call `c` following the history `pre` ⇔ the training error is below ε, or the call is not
    accepted and the number of learners reached `round + patience` (round = the recorded one). -/
theorem es_stop_iff (eps : α) (pat : Nat) (s0 : State α) (pre : List (Call α)) (c : Call α) :
    (answers eps pat s0 (pre ++ [c])).getLast? = some true ↔
      (c.train < eps ∨ (¬ Improves eps (stateAfter eps pat s0 pre).value c ∧ (stateAfter eps pat s0 pre).round + pat ≤ c.n)) := by
  rw [getLast?_answers_snoc, Option.some.injEq]
  exact done_stop_iff eps pat _ c

/-- The full invariant. After any history, either nothing was ever accepted (the state is still the initial one and
    no call improved on it), or the state records exactly one call `c` of the history — its learner count, its
    validation error, its per-sample tensor — that call was accepted when it was made, **and no later call had a
    training error below ε, lacked validation samples, or improved on the recorded validation error by more than ε**. -/
theorem es_no_missed_improvement (eps : α) (pat : Nat) (s0 : State α) (h : List (Call α)) :
    (stateAfter eps pat s0 h = s0 ∧ ∀ c ∈ h, ¬ Improves eps s0.value c) ∨
    (∃ pre c post, h = pre ++ c :: post ∧ Improves eps (stateAfter eps pat s0 pre).value c ∧
        stateAfter eps pat s0 h = record c ∧ ∀ d ∈ post, ¬ Improves eps c.valid d) := by
  induction h using List.reverseRecOn with
  | nil => exact Or.inl ⟨rfl, by simp⟩
  | append_singleton h d ih =>
    rw [stateAfter_snoc]
    rcases done_state_cases eps pat (stateAfter eps pat s0 h) d with ⟨hs, hni⟩ | ⟨hs, hi⟩
    · -- not accepted: the state stays, and `d` joins the calls that did not improve on it
      rw [hs]
      rcases ih with ⟨h0, hall⟩ | ⟨pre, c, post, rfl, hacc, hst, hpost⟩
      · rw [h0] at hni
        exact Or.inl ⟨h0, List.forall_mem_append.mpr ⟨hall, List.forall_mem_singleton.mpr hni⟩⟩
      · rw [hst] at hni
        exact Or.inr ⟨pre, c, post ++ [d], by simp, hacc, hst,
          List.forall_mem_append.mpr ⟨hpost, List.forall_mem_singleton.mpr hni⟩⟩
    · -- accepted: the state records d
      exact Or.inr ⟨h, d, [], rfl, hi, hs, by simp⟩

/-- the stored round / value / per-sample snapshot are those of a call of the history that was accepted when made
    (stated with the `DBL_MAX` hypothesis: every observed validation error is below `v0 - ε`) -/
theorem es_snapshot_is_accepted (eps : α) (pat : Nat) (v0 : α) (h : List (Call α)) (hne : h ≠ [])
    (hv : ∀ c ∈ h, c.valid < v0 - eps) :
    ∃ pre c post, h = pre ++ c :: post ∧ Improves eps (stateAfter eps pat (init v0) pre).value c ∧
      stateAfter eps pat (init v0) h = record c := by
  rcases es_no_missed_improvement eps pat (init v0) h with ⟨_, hall⟩ | ⟨pre, c, post, e, hacc, hst, _⟩
  · obtain ⟨c, hc⟩ := List.exists_mem_of_ne_nil h hne
    exact absurd (Or.inr (Or.inl (hv c hc))) (hall c hc)
  · exact ⟨pre, c, post, e, hacc, hst⟩

/-- the first call of a fresh monitor is accepted whenever its validation error is below `v0 - ε` (`v0 = DBL_MAX`) -/
theorem es_first_call_accepted (eps : α) (pat : Nat) (v0 : α) (c : Call α) (hv : c.valid < v0 - eps) :
    (done eps pat (init v0) c).1 = record c :=
  done_state_of_improves eps pat (init v0) c (Or.inr (Or.inl hv))

/-- one call: the state is unchanged, or the call had a training error below ε, or no validation samples, or the
    stored validation error dropped by more than ε -/
theorem es_strict_improvement (eps : α) (pat : Nat) (s0 : State α) (pre : List (Call α)) (c : Call α) :
    stateAfter eps pat s0 (pre ++ [c]) = stateAfter eps pat s0 pre ∨ c.train < eps ∨ c.nvalid = 0 ∨
      (stateAfter eps pat s0 (pre ++ [c])).value < (stateAfter eps pat s0 pre).value - eps := by
  rw [stateAfter_snoc]
  rcases done_state_cases eps pat (stateAfter eps pat s0 pre) c with ⟨hs, _⟩ | ⟨hs, h1 | h2 | h3⟩
  · exact Or.inl hs
  · exact Or.inr (Or.inl h1)
  · rw [hs]; exact Or.inr (Or.inr (Or.inr h2))
  · exact Or.inr (Or.inr (Or.inl h3))

/-- over any stretch of calls with validation samples and training error ≥ ε (pure validation monitoring), ε > 0: the
    state is unchanged or the stored validation error dropped by more than ε — successive accepted values decrease -/
theorem es_value_decreases (eps : α) (heps : 0 < eps) (pat : Nat) (s : State α) (post : List (Call α))
    (hp : ∀ d ∈ post, ¬ d.train < eps ∧ d.nvalid ≠ 0) :
    stateAfter eps pat s post = s ∨ (stateAfter eps pat s post).value < s.value - eps := by
  induction post using List.reverseRecOn with
  | nil => exact Or.inl rfl
  | append_singleton l d ih =>
    obtain ⟨hl, hd⟩ := List.forall_mem_append.mp hp
    rcases es_strict_improvement eps pat s l d with h | h | h | h
    · rw [h]; exact ih hl
    · exact absurd h (hd d (List.mem_singleton_self d)).1
    · exact absurd h (hd d (List.mem_singleton_self d)).2
    · rcases ih hl with e | e
      · rw [e] at h; exact Or.inr h
      · exact Or.inr ((h.trans (sub_lt_self _ heps)).trans e)

/-- with learner counts that never decrease along the history (and start at or above the initial round, 0), the
    recorded round never exceeds the current number of learners: `result.done(round)` erases inside the vector -/
theorem es_round_le_learners (eps : α) (pat : Nat) (s0 : State α) (h : List (Call α)) (c : Call α)
    (hmono : List.Pairwise (fun a b : Call α => a.n ≤ b.n) (h ++ [c])) (h0 : s0.round ≤ c.n) :
    (stateAfter eps pat s0 (h ++ [c])).round ≤ c.n := by
  -- the recorded round is the initial one or the learner count of a call of the history
  refine stateAfter_ind (P := fun s => s.round ≤ c.n) eps pat h0 (fun d hd => ?_)
  rcases List.mem_append.mp hd with hd | hd
  · exact (List.pairwise_append.mp hmono).2.2 d hd c (List.mem_singleton_self c)
  · rw [List.mem_singleton.mp hd]; exact Nat.le_refl _

/-- without validation samples the monitor never stops for lack of improvement: a `true` means training error < ε -/
theorem no_valid_never_patience_stops (eps : α) (pat : Nat) (s0 : State α) (pre : List (Call α)) (c : Call α)
    (hnv : c.nvalid = 0) (h : (answers eps pat s0 (pre ++ [c])).getLast? = some true) : c.train < eps := by
  rcases (es_stop_iff eps pat s0 pre c).mp h with h1 | ⟨h2, _⟩
  · exact h1
  · exact absurd (Or.inr (Or.inr hnv)) h2

/-- a training error below ε always stops, and that call is the recorded one -/
theorem es_train_stops (eps : α) (pat : Nat) (s0 : State α) (pre : List (Call α)) (c : Call α) (ht : c.train < eps) :
    (answers eps pat s0 (pre ++ [c])).getLast? = some true ∧ stateAfter eps pat s0 (pre ++ [c]) = record c := by
  refine ⟨(es_stop_iff eps pat s0 pre c).mpr (Or.inl ht), ?_⟩
  rw [stateAfter_snoc]
  exact done_state_of_improves eps pat _ c (Or.inl ht)

/-- From a state recording round `r`, calls that do not improve on the stored value and see `r+1, r+2, …`
    learners are answered `false` as long as fewer than `patience` of them were made and `true` from the `patience`-th
    on — the monitor does not stop early and does not stop late. -/
theorem es_patience_rounds_conv (eps : α) (pat : Nat) (s : State α) (l : List (Call α))
    (hni : ∀ e ∈ l, ¬ Improves eps s.value e)
    (hnum : ∀ pre e post, l = pre ++ e :: post → e.n = s.round + pre.length + 1)
    (pre : List (Call α)) (e : Call α) (post : List (Call α)) (hl : l = pre ++ e :: post) :
    ((done eps pat (stateAfter eps pat s pre) e).2 = true ↔ pat ≤ pre.length + 1) := by
  have hpre : stateAfter eps pat s pre = s :=
    stateAfter_of_no_improve eps pat s pre (fun y hy => hni y (by rw [hl]; simp [hy]))
  have he : ¬ Improves eps s.value e := hni e (by rw [hl]; simp)
  have hn := hnum pre e post hl
  rw [hpre, done_stop_iff]
  constructor
  · rintro (h1 | ⟨_, h2⟩)
    · exact absurd (Or.inl h1) he
    · omega
  · intro h; exact Or.inr ⟨he, by omega⟩

/-- The fit loop (`n_k = k`), patience ≥ 1, observed validation errors below `v0 - ε`: if the calls `h` all answered
    false and the next call `d` answers true although its training error is not below ε, then the recorded call `c` is
    followed by **exactly `patience`** calls (the last one being `d`), none of which was accepted — the monitor stops at
    the first call that is `patience` rounds past the snapshot, and reports the snapshot's round `c.n = |pre|`. -/
theorem es_patience_rounds (eps : α) (pat : Nat) (hpat : 1 ≤ pat) (v0 : α) (h : List (Call α)) (d : Call α)
    (hnum : FitNumbered (h ++ [d])) (hv : ∀ c ∈ h ++ [d], c.valid < v0 - eps)
    (hfalse : ∀ b ∈ answers eps pat (init v0) h, b = false)
    (htrue : (done eps pat (stateAfter eps pat (init v0) h) d).2 = true) (hd : ¬ d.train < eps) :
    ∃ pre c post, h = pre ++ c :: post ∧ Improves eps (stateAfter eps pat (init v0) pre).value c ∧
      stateAfter eps pat (init v0) (h ++ [d]) = record c ∧ c.n = pre.length ∧
      (∀ e ∈ post ++ [d], ¬ Improves eps c.valid e) ∧ (post ++ [d]).length = pat := by
  rcases (done_stop_iff eps pat _ d).mp htrue with h1 | ⟨hni, _⟩
  · exact absurd h1 hd
  rcases es_no_missed_improvement eps pat (init v0) h with ⟨hs, _⟩ | ⟨pre, c, post, rfl, hacc, hst, hpost⟩
  · -- nothing accepted so far: impossible under the DBL_MAX hypothesis
    rw [hs] at hni
    exact absurd (Or.inr (Or.inl (hv d (by simp)))) hni
  rw [hst] at hni
  have hcn : c.n = pre.length := hnum pre c (post ++ [d]) (by simp)
  have hall : ∀ e ∈ post ++ [d], ¬ Improves eps c.valid e :=
    List.forall_mem_append.mpr ⟨hpost, List.forall_mem_singleton.mpr hni⟩
  -- from `c` on the monitor is in the state `record c`, and the calls after `c` are numbered `c.n + 1, c.n + 2, …`
  have hfrom : ∀ p, stateAfter eps pat (init v0) (pre ++ c :: p) = stateAfter eps pat (record c) p := by
    intro p
    rw [stateAfter_append]
    exact congrArg (stateAfter eps pat · p) (done_state_of_improves eps pat _ c hacc)
  have hwin := es_patience_rounds_conv eps pat (record c) (post ++ [d]) hall (by
    intro p e q he
    rw [hnum (pre ++ c :: p) e q (by rw [List.append_assoc, List.cons_append, he]; simp)]
    show _ = c.n + p.length + 1
    rw [hcn, List.length_append, List.length_cons]; omega)
  refine ⟨pre, c, post, rfl, hacc, ?_, hcn, hall, ?_⟩
  · rw [stateAfter_snoc, hst]; exact done_state_of_not_improves eps pat _ d hni
  · -- `d` stopped, the call before it (if any) did not
    have hlow : pat ≤ post.length + 1 := (hwin post d [] rfl).mp (by rw [← hfrom]; exact htrue)
    have hup : post.length + 1 ≤ pat := by
      rcases List.eq_nil_or_concat post with rfl | ⟨post', x, hp⟩
      · exact hpat
      · rw [List.concat_eq_append] at hp
        subst hp
        have hx : (done eps pat (stateAfter eps pat (record c) post') x).2 = false := by
          rw [← hfrom]
          exact hfalse _ (by
            rw [show pre ++ c :: (post' ++ [x]) = (pre ++ c :: post') ++ x :: [] by simp]
            exact done_mem_answers eps pat _ _ x [])
        have := (hwin post' x [d] (by simp)).not.mp (by rw [hx]; simp)
        rw [List.length_append, List.length_singleton]; omega
    rw [List.length_append, List.length_singleton]; omega

/-! ### non-vacuity (ℚ, ε = 1/4, patience 2): an accepted, a rejected, a too-small and an exactly-ε improvement -/

def mk (t v : ℚ) (n : Nat) : Call ℚ := { train := t, valid := v, n := n, ntrain := 1, nvalid := 1, idx := n + 1 }

/-- history: 1, 1/2 (accepted), 1/4 (improvement of exactly ε: rejected), 3/8 (rejected; patience reached → stop) -/
def ex1 : List (Call ℚ) := [mk 1 1 0, mk 1 (1/2) 1, mk 1 (1/4) 2, mk 1 (3/8) 3]

example : answers (1/4 : ℚ) 2 (init 1000) ex1 = [false, false, false, true] := by decide +kernel
example : (stateAfter (1/4 : ℚ) 2 (init 1000) ex1).round = 1 ∧ (stateAfter (1/4 : ℚ) 2 (init 1000) ex1).value = 1/2 ∧
    (stateAfter (1/4 : ℚ) 2 (init 1000) ex1).snap = 2 := by decide +kernel
example : FitNumbered ex1 :=
  forall_split_cons.mpr ⟨rfl, forall_split_cons.mpr ⟨rfl, forall_split_cons.mpr ⟨rfl, forall_split_cons.mpr ⟨rfl,
    forall_split_nil⟩⟩⟩⟩
example : Improves (1/4 : ℚ) 1 (mk 1 (1/2) 1) ∧ ¬ Improves (1/4 : ℚ) (1/2) (mk 1 (1/4) 2) := by
  unfold Improves mk; norm_num
/-- training error below ε stops at once and records the call -/
example : answers (1/4 : ℚ) 2 (init 1000) [mk 1 1 0, mk (1/8) 2 1] = [false, true] ∧
    (stateAfter (1/4 : ℚ) 2 (init 1000) [mk 1 1 0, mk (1/8) 2 1]).round = 1 := by decide +kernel
/-- without validation samples: never stops, always records the last call -/
example : answers (1/4 : ℚ) 1 (init 1000)
      [{ train := 1, valid := 0, n := 0, ntrain := 1, nvalid := 0, idx := 1 },
       { train := 1, valid := 0, n := 1, ntrain := 1, nvalid := 0, idx := 2 },
       { train := 1, valid := 0, n := 2, ntrain := 1, nvalid := 0, idx := 3 }] = [false, false, false] := by decide +kernel

end NanoVerif.EarlyStopping

namespace NanoVerif.Boost
open NanoVerif.Gen.EarlyStopping NanoVerif.EarlyStopping

variable {L X α : Type} [Field α] [LinearOrder α] [IsStrictOrderedRing α]

/-- for every behaviour of the iterations (any learners, any errors, no-learner and scaling-failure exits, any
    `max_rounds`): when the loop is left, the recorded round is at most the number of learners appended so far, so
    `erase(begin() + round, end())` stays inside the vector -/
theorem fold_round_le_learners (eps : α) (pat ntrain nvalid maxRounds : Nat) (vmax train0 valid0 : α)
    (evs : List (RoundEv L α)) :
    (fitLoop eps pat ntrain nvalid maxRounds vmax train0 valid0 evs).es.round ≤
      (fitLoop eps pat ntrain nvalid maxRounds vmax train0 valid0 evs).learners.length :=
  (fitLoop_stretch eps pat ntrain nvalid maxRounds vmax train0 valid0 evs).round_le

/-- `result.done(optimum.round())` keeps **exactly** the first `round` of the learners the iterations appended (also
    when the loop was left through the scaling-failure branch, whose learner is appended without a `done` call) -/
theorem fold_keeps_round_learners (eps : α) (pat ntrain nvalid maxRounds : Nat) (vmax train0 valid0 : α)
    (evs : List (RoundEv L α)) :
    (fit eps pat ntrain nvalid maxRounds vmax train0 valid0 evs).1.length =
        (fit eps pat ntrain nvalid maxRounds vmax train0 valid0 evs).2.round ∧
    (fit eps pat ntrain nvalid maxRounds vmax train0 valid0 evs).1 =
        (learnersOf (evs.take maxRounds)).take (fit eps pat ntrain nvalid maxRounds vmax train0 valid0 evs).2.round := by
  obtain ⟨_, hle, ⟨k, hk⟩, _, _, _⟩ := fitLoop_stretch eps pat ntrain nvalid maxRounds vmax train0 valid0 evs
  unfold fit
  dsimp only at hk ⊢
  refine ⟨by rw [List.length_take]; omega, ?_⟩
  rw [hk, List.nil_append] at hle ⊢
  rw [List.take_take]
  congr 1
  rw [List.length_take] at hle
  omega

/-! ### the loop and the monitor: every history the loop can produce -/

/-- For every behaviour of the iterations: the monitor with which `::fit` reaches `result.done` is a fresh monitor driven
    over the calls the fit made (`fitCalls`: the one on the bias-only model, then one per regular round); these calls are
    numbered like the histories of `es_patience_rounds` (the `k`-th call sees `k` learners), and every call but the last
    one answered `false` — so all the theorems about histories apply to the loop. -/
theorem fit_monitor_history (eps : α) (pat ntrain nvalid maxRounds : Nat) (vmax train0 valid0 : α)
    (evs : List (RoundEv L α)) :
    (fit eps pat ntrain nvalid maxRounds vmax train0 valid0 evs).2 =
      stateAfter eps pat (init vmax) (fitCalls eps pat ntrain nvalid maxRounds vmax train0 valid0 evs) ∧
    FitNumbered (fitCalls eps pat ntrain nvalid maxRounds vmax train0 valid0 evs) ∧
    (∀ pre c post, fitCalls eps pat ntrain nvalid maxRounds vmax train0 valid0 evs = pre ++ c :: post → post ≠ [] →
      (answers eps pat (init vmax) (pre ++ [c])).getLast? = some false) := by
  obtain ⟨hes, _, _, _, hnum, hq⟩ := fitLoop_stretch eps pat ntrain nvalid maxRounds vmax train0 valid0 evs
  refine ⟨hes, fun pre c post e => (hnum pre c post e).trans (Nat.zero_add _), fun pre c post e hne => ?_⟩
  rw [getLast?_answers_snoc]
  exact congrArg some (hq pre c post e hne)

/-- **The number of learners the fold keeps is the round of the last accepted improvement** — for every history the loop
    can produce (first call accepted, i.e. `valid0 < DBL_MAX - ε`): the calls of the fit split as `pre ++ c :: post` where
    `c` was accepted when it was made, no call after `c` was accepted (training error below ε, no validation samples, or
    an improvement of more than ε on `c`'s validation error), the monitor reports exactly `c`, and the fold keeps exactly
    the first `|pre|` learners the iterations appended — `|pre|` being the number of learners `c` saw. -/
theorem fit_keeps_last_accepted (eps : α) (pat ntrain nvalid maxRounds : Nat) (vmax train0 valid0 : α)
    (evs : List (RoundEv L α)) (hv : valid0 < vmax - eps) :
    ∃ pre c post, fitCalls eps pat ntrain nvalid maxRounds vmax train0 valid0 evs = pre ++ c :: post ∧
      Improves eps (stateAfter eps pat (init vmax) pre).value c ∧ (∀ d ∈ post, ¬ Improves eps c.valid d) ∧
      (fit eps pat ntrain nvalid maxRounds vmax train0 valid0 evs).2 = record c ∧ c.n = pre.length ∧
      (fit eps pat ntrain nvalid maxRounds vmax train0 valid0 evs).1 = (learnersOf (evs.take maxRounds)).take pre.length ∧
      (fit eps pat ntrain nvalid maxRounds vmax train0 valid0 evs).1.length = pre.length := by
  obtain ⟨hst, hnum, _⟩ := fit_monitor_history eps pat ntrain nvalid maxRounds vmax train0 valid0 evs
  obtain ⟨hlen, hkept⟩ := fold_keeps_round_learners eps pat ntrain nvalid maxRounds vmax train0 valid0 evs
  rcases es_no_missed_improvement eps pat (init vmax) (fitCalls eps pat ntrain nvalid maxRounds vmax train0 valid0 evs) with
    ⟨_, hall⟩ | ⟨pre, c, post, e, hacc, hrec, hpost⟩
  · -- the call on the bias-only model improves on DBL_MAX
    exact absurd (Or.inr (Or.inl hv)) (hall (callOf ntrain nvalid 0 train0 valid0) List.mem_cons_self)
  · have hcn : c.n = pre.length := hnum pre c post e
    rw [hst, hrec] at hlen hkept
    exact ⟨pre, c, post, e, hacc, hpost, by rw [hst, hrec], hcn, by rw [hkept, show (record c).round = pre.length from hcn], hlen.trans hcn⟩

/-- (first call accepted, i.e. `valid0 < DBL_MAX - ε`) the per-sample values the monitor hands back are those of the
    call made when exactly `round` learners were present — the statistics reported for the fold are those of the model
    that is kept -/
theorem fold_model_is_snapshot_model (eps : α) (pat ntrain nvalid maxRounds : Nat) (vmax train0 valid0 : α)
    (evs : List (RoundEv L α)) (hv : valid0 < vmax - eps) :
    (fit eps pat ntrain nvalid maxRounds vmax train0 valid0 evs).2.snap =
      (fit (L := L) eps pat ntrain nvalid maxRounds vmax train0 valid0 evs).2.round + 1 := by
  obtain ⟨pre, c, post, e, _, _, hrec, _⟩ := fit_keeps_last_accepted eps pat ntrain nvalid maxRounds vmax train0 valid0 evs hv
  rw [hrec]
  exact (fitLoop_stretch eps pat ntrain nvalid maxRounds vmax train0 valid0 evs).idx c (by rw [e]; simp)

/-- The patience exit of the loop, patience ≥ 1, observed validation errors below `DBL_MAX - ε`: when the last call `d` of the
    fit answered `true` although its training error is not below ε, the reported call `c` is followed by **exactly
    `patience`** calls, none of them accepted, and the fold keeps the `|pre|` learners that `c` saw. -/
theorem fit_patience_stop (eps : α) (pat : Nat) (hpat : 1 ≤ pat) (ntrain nvalid maxRounds : Nat) (vmax train0 valid0 : α)
    (evs : List (RoundEv L α)) (h : List (Call α)) (d : Call α)
    (hcalls : fitCalls eps pat ntrain nvalid maxRounds vmax train0 valid0 evs = h ++ [d])
    (hv : ∀ c ∈ h ++ [d], c.valid < vmax - eps)
    (htrue : (done eps pat (stateAfter eps pat (init vmax) h) d).2 = true) (hd : ¬ d.train < eps) :
    ∃ pre c post, h = pre ++ c :: post ∧ Improves eps (stateAfter eps pat (init vmax) pre).value c ∧
      (fit eps pat ntrain nvalid maxRounds vmax train0 valid0 evs).2 = record c ∧
      (fit eps pat ntrain nvalid maxRounds vmax train0 valid0 evs).1.length = pre.length ∧
      (∀ e ∈ post ++ [d], ¬ Improves eps c.valid e) ∧ (post ++ [d]).length = pat := by
  obtain ⟨hst, hnum, _⟩ := fit_monitor_history eps pat ntrain nvalid maxRounds vmax train0 valid0 evs
  obtain ⟨hlen, _⟩ := fold_keeps_round_learners eps pat ntrain nvalid maxRounds vmax train0 valid0 evs
  have hq := (fitLoop_stretch eps pat ntrain nvalid maxRounds vmax train0 valid0 evs).quiet
  rw [hcalls] at hst hnum hq
  have hfalse : ∀ b ∈ answers eps pat (init vmax) h, b = false := by
    intro b hb
    obtain ⟨pre, c, post, e, rfl⟩ := mem_answers eps pat (init vmax) h b hb
    exact hq pre c (post ++ [d]) (by rw [e]; simp) (by simp)
  obtain ⟨pre, c, post, e, hacc, hrec, hcn, hpost, hcount⟩ :=
    es_patience_rounds eps pat hpat vmax h d hnum hv hfalse htrue hd
  rw [hst, hrec] at hlen ⊢
  exact ⟨pre, c, post, e, hacc, rfl, hlen.trans hcn, hpost, hcount⟩

/-- the observation-driven fit (`fitObs`, what the differential run executes on the logged oracle answers) keeps exactly
    the first `round` learners of those its iterations appended, whatever was observed -/
theorem fitObs_keeps_round_learners (eps : α) (pat ntrain nvalid maxRounds : Nat) (vmax noFit epsMach train0 valid0 : α)
    (obs : List (RoundObs L α)) :
    (fitObs eps pat ntrain nvalid maxRounds vmax noFit epsMach train0 valid0 obs).1.length =
        (fitObs eps pat ntrain nvalid maxRounds vmax noFit epsMach train0 valid0 obs).2.round ∧
    (fitObs eps pat ntrain nvalid maxRounds vmax noFit epsMach train0 valid0 obs).1 =
        (learnersOf ((obs.map (roundEv noFit epsMach)).take maxRounds)).take
          (fitObs eps pat ntrain nvalid maxRounds vmax noFit epsMach train0 valid0 obs).2.round :=
  fold_keeps_round_learners eps pat ntrain nvalid maxRounds vmax train0 valid0 (obs.map (roundEv noFit epsMach))

/-- `loopTrace` (what the differential run prints iteration by iteration) is the loop with its intermediate states: the
    state after the last executed iteration is the loop's result, at most one iteration per event is executed, and only the
    last executed iteration can have left the loop -/
theorem loopTrace_is_loop (eps : α) (pat ntrain nvalid : Nat) (st : LoopSt L α) (evs : List (RoundEv L α)) :
    loop eps pat ntrain nvalid st evs = (((loopTrace eps pat ntrain nvalid st evs).getLast?).map (·.1)).getD st ∧
    (loopTrace eps pat ntrain nvalid st evs).length ≤ evs.length ∧
    (∀ pre r post, loopTrace eps pat ntrain nvalid st evs = pre ++ r :: post → post ≠ [] → r.2 = false) := by
  induction evs generalizing st with
  | nil => exact ⟨rfl, Nat.le_refl _, forall_split_nil⟩
  | cons ev rest ih =>
    obtain ⟨i1, i2, i3⟩ := ih (step eps pat ntrain nvalid st ev).1
    unfold loop loopTrace
    by_cases hd : (step eps pat ntrain nvalid st ev).2 = true
    · rw [if_pos hd, if_pos hd]
      exact ⟨rfl, Nat.le_add_left _ _, forall_split_cons.mpr ⟨fun hne => absurd rfl hne, forall_split_nil⟩⟩
    · rw [if_neg hd, if_neg hd, i1, List.getLast?_cons, Option.map_some, Option.getD_some, Option.getD_map]
      exact ⟨rfl, Nat.succ_le_succ i2, forall_split_cons.mpr ⟨fun _ => (Bool.not_eq_true _).mp hd, i3⟩⟩

/-! ### the choice of the weak learner (`best_score` / `best_wlearner`, model.cpp:134-149) -/

/-- the loop is left for want of a learner ⇔ no prototype returned a score below `no_fit_score()` -/
theorem pickBest_none_iff (noFit : α) (cands : List (α × L)) :
    (pickBest noFit cands).2 = none ↔ ∀ c ∈ cands, ¬ c.1 < noFit := by
  unfold pickBest
  rcases pickBest_go cands noFit none with ⟨e, hall⟩ | ⟨pre, s, w, post, e1, e2, h1, _, _⟩
  · rw [e]; exact ⟨fun _ => hall, fun _ => rfl⟩
  · rw [e2]
    exact ⟨fun h => absurd h (by simp), fun hall => absurd h1 (hall (s, w) (by rw [e1]; simp))⟩

/-- the chosen learner is the **first** candidate with the **smallest** score, that score is below `no_fit_score()` and
    it is the reported `best_score` -/
theorem pickBest_first_min (noFit : α) (cands : List (α × L)) (w : L) (h : (pickBest noFit cands).2 = some w) :
    ∃ pre s post, cands = pre ++ (s, w) :: post ∧ (pickBest noFit cands).1 = s ∧ s < noFit ∧
      (∀ c ∈ pre, s < c.1) ∧ ∀ c ∈ post, s ≤ c.1 := by
  unfold pickBest at h ⊢
  rcases pickBest_go cands noFit none with ⟨e, _⟩ | ⟨pre, s, w', post, e1, e2, h1, h2, h3⟩
  · rw [e] at h; exact absurd h (by simp)
  · rw [e2] at h ⊢
    obtain rfl : w' = w := Option.some.inj h
    exact ⟨pre, s, post, e1, rfl, h1, h2, h3⟩

/-- which branch an iteration takes, from what it observes: no learner ⇔ no score below `no_fit_score()`; otherwise the
    scaling-failure branch ⇔ `gstate.x().min() < numeric_limits::epsilon()`, with the first best candidate appended -/
theorem roundEv_spec (noFit epsMach : α) (o : RoundObs L α) :
    (roundEv noFit epsMach o = .noLearner ↔ ∀ c ∈ o.cands, ¬ c.1 < noFit) ∧
    (∀ w, roundEv noFit epsMach o = .scaleFail w ↔ ((pickBest noFit o.cands).2 = some w ∧ o.xmin < epsMach)) ∧
    (∀ w t v, roundEv noFit epsMach o = .fitted w t v ↔
      ((pickBest noFit o.cands).2 = some w ∧ ¬ o.xmin < epsMach ∧ t = o.train ∧ v = o.valid)) := by
  rw [← pickBest_none_iff]
  unfold roundEv
  cases (pickBest noFit o.cands).2 with
  | none => simp
  | some w0 => by_cases hx : o.xmin < epsMach <;> simp [hx, eq_comm]

/-- the boosting model's prediction is its bias plus the sum of its weak learners' predictions -/
theorem predict_append (bias : α) (ws : List (X → α)) (x : X) :
    predict bias ws x = bias + (ws.map (fun w => w x)).sum :=
  foldl_add_map ws (fun w => w x) bias

/-- the final model (biases summed and multiplied by `1/folds`, all fold learners concatenated and scaled by
    `1/folds`) predicts the average of the per-fold models, for any number of folds ≥ 1 and any learners -/
theorem averaged_model_predicts_mean (folds : List (α × List (X → α))) (hF : folds ≠ []) (x : X) :
    predict (averaged 0 (1 / (folds.length : α)) folds).1 (averaged 0 (1 / (folds.length : α)) folds).2 x =
      (folds.map (fun f => predict f.1 f.2 x)).sum / (folds.length : α) := by
  -- `hF` is not used: with no fold both sides are 0 (`x / 0 = 0`)
  have _ := hF
  unfold averaged
  simp only [predict_append]
  rw [sum_scale, sum_map_flatMap, foldl_add_map, zero_add, List.sum_map_add, ← add_mul, mul_one_div]

/-! ### non-vacuity: two fitted rounds, the second not accepted (exactly ε better), a third worse: patience 2 stops -/

example : (fit (L := Nat) (1/4 : ℚ) 2 1 1 100 1000 1 1
    [.fitted 10 1 (1/2), .fitted 11 1 (1/4), .fitted 12 1 (3/8), .fitted 13 1 0]).1 = [10] := by decide +kernel
/-- scaling failure after one accepted round: the failed learner is appended, then erased -/
example : (fit (L := Nat) (1/4 : ℚ) 2 1 1 100 1000 1 1 [.fitted 10 1 (1/2), .scaleFail 11, .fitted 12 1 0]).1 = [10] := by
  decide +kernel
/-- the same fit from observations: round 0 has two prototypes (scores 5 and 3: the second is chosen), round 1 ties (the
    first is chosen), round 2 fails the scaling (`x.min() = 0`), no score below `no_fit_score() = 100` would end the loop -/
example : (fitObs (L := Nat) (1/4 : ℚ) 2 1 1 100 1000 100 (1/1000) 1 1
    [{ cands := [(5, 10), (3, 11)], xmin := 1, train := 1, valid := 1/2 },
     { cands := [(2, 20), (2, 21)], xmin := 1, train := 1, valid := 1/8 },
     { cands := [(1, 30)], xmin := 0, train := 1, valid := 0 }]).1 = [11, 20] := by decide +kernel
example : roundEv (L := Nat) (100 : ℚ) (1/1000) { cands := [(100, 1), (200, 2)], xmin := 1, train := 0, valid := 0 } = .noLearner :=
  (roundEv_spec _ _ _).1.mpr (by decide +kernel)
/-- the calls of the four-round fit above: numbered 0..3, the last one stops -/
example : (fitCalls (L := Nat) (1/4 : ℚ) 2 1 1 100 1000 1 1
    [.fitted 10 1 (1/2), .fitted 11 1 (1/4), .fitted 12 1 (3/8), .fitted 13 1 0]).map (·.n) = [0, 1, 2, 3] := by decide +kernel
/-- the `DBL_MAX` hypothesis of `fold_model_is_snapshot_model` is necessary: a first validation error that is not below
    `v0 − ε` (e.g. an infinite one) is not accepted, the monitor keeps the tensor it was constructed with (`snap = 0 ≠ round + 1`) -/
example : (fit (L := Nat) (1/4 : ℚ) 2 1 1 100 1000 1 1000 [.fitted 10 1 1000]).2.snap = 0 ∧
    (fit (L := Nat) (1/4 : ℚ) 2 1 1 100 1000 1 1000 [.fitted 10 1 1000]).2.round = 0 := by decide +kernel
/-- two folds `(1, [x ↦ x])`, `(3, [x ↦ 2x, x ↦ 1])`: the average predicts `(1 + 2) + (3 + 4 + 1)` / 2 at `x = 2` -/
example : predict (averaged (0 : ℚ) (1/2) [(1, [fun x : ℚ => x]), (3, [fun x => 2 * x, fun _ => 1])]).1
    (averaged (0 : ℚ) (1/2) [(1, [fun x : ℚ => x]), (3, [fun x => 2 * x, fun _ => 1])]).2 2 = 11 / 2 := by
  norm_num [predict, averaged, scale]

end NanoVerif.Boost

/-! ## the fold fit with its data flow (`Model/BoostFit.lean`): what the reported numbers are numbers *of*

  `cfg` carries every mode (`shrinkage` off / global / local, `subsample`, `wscale`) and parameter, `env` the weak-learner and
  loss operations, `ors` the oracle answers of the iterations (sampler, weak-learner fits, scaling solver), `b` the fitted bias,
  `params` the tuned hyper-parameters: all universally quantified. The only contracts: `ScaleLaw env` — needed in `local` mode
  only, where the code multiplies the tracked predictions by the tuned ratio *instead of* re-predicting with the re-scaled
  learner — and `MergeLaw env` for `wlearner::merge`; both are theorems of C10 for the modelled learners (`scale_scales`,
  `merge_preserves_sum`; instantiated in `Proofs/BoostFitC10.lean`). -/
namespace NanoVerif.BoostFit
open NanoVerif.Gen.EarlyStopping NanoVerif.EarlyStopping NanoVerif.Boost

variable {W X S α : Type} [Field α] [LinearOrder α] [IsStrictOrderedRing α]

/-- **The invariant that makes the per-round statistics reproducible from the stored model.** After any number of rounds, for
    every oracle behaviour and every mode: the predictions at the call of `optimum.done` made with `k` learners are
    `bias + Σ` predictions of the first `k` stored (scaled, shrunk) learners; the tracked `outputs` are those of the last such call;
    the stored learners are these, plus at most one (the unscaled learner the scaling-failure exit appends). -/
theorem tracked_outputs_eq_model_prediction (cfg : Cfg α) (env : Env W X S α) (hs : cfg.shrinkage = .local_ → ScaleLaw env)
    (train valid : List S) (params : List α) (b : X → α) (ors : List (RoundOr W S α)) :
    (∀ (k : Nat) (h : X → α), (fitRun cfg env train valid params b ors).hist[k]? = some h →
        h = modelOut env b ((fitRun cfg env train valid params b ors).ws.take k)) ∧
    (fitRun cfg env train valid params b ors).out =
      modelOut env b ((fitRun cfg env train valid params b ors).ws.take ((fitRun cfg env train valid params b ors).hist.length - 1)) ∧
    (fitRun cfg env train valid params b ors).hist.length - 1 ≤ (fitRun cfg env train valid params b ors).ws.length ∧
    (fitRun cfg env train valid params b ors).ws.length ≤ (fitRun cfg env train valid params b ors).hist.length := by
  have g := fitRun_good cfg env train valid b hs params ors
  exact ⟨g.outs, g.outs _ _ g.out_last, Nat.sub_le_of_le_add g.hist_le, g.ws_le⟩

/-- the statistics row `k` is (mean training error, mean training loss, mean validation error, mean validation loss) of the
    predictions of the model made of the bias and the first `k` stored learners — on the training / validation samples of the
    fold, in the order of the sample lists, with `mean_error`'s `max(size, 1)` denominator — together with the ratio of the round -/
theorem stats_row_is_means_of_outputs (cfg : Cfg α) (env : Env W X S α) (hs : cfg.shrinkage = .local_ → ScaleLaw env)
    (train valid : List S) (params : List α) (b : X → α) (ors : List (RoundOr W S α)) (k : Nat)
    (hk : k < (fitRun cfg env train valid params b ors).hist.length) :
    ∃ r : α, (fitRun cfg env train valid params b ors).rows[k]? =
      some (statsRow cfg env train valid (modelOut env b ((fitRun cfg env train valid params b ors).ws.take k)) r) := by
  have g := fitRun_good cfg env train valid b hs params ors
  obtain ⟨r, hr⟩ := g.rows k _ (List.getElem?_eq_getElem hk)
  exact ⟨r, by rw [hr, g.outs k _ (List.getElem?_eq_getElem hk)]⟩

/-- **The kept model reproduces the optimum round's row and the reported per-sample values.** What `::fit` returns after
    `result.done(optimum.round())` (+ `merge`): `round + 1` statistics rows, the last of which is the row of means of the
    *returned* model's own predictions, and the per-sample (error, loss) lists handed to `ml::result_t::store` are
    `loss.error` / `loss.value` of the returned model's predictions on the training / validation samples of the fold. -/
theorem kept_model_reproduces_optimum_row (cfg : Cfg α) (env : Env W X S α) (hs : cfg.shrinkage = .local_ → ScaleLaw env)
    (hm : MergeLaw env) (train valid : List S) (params : List α) (b : X → α) (ors : List (RoundOr W S α)) :
    (fitFold cfg env train valid params b ors).rows.length = (fitRun cfg env train valid params b ors).es.round + 1 ∧
    (∃ r : α, (fitFold cfg env train valid params b ors).rows[(fitRun cfg env train valid params b ors).es.round]? =
      some (statsRow cfg env train valid
        (modelOut env (fitFold cfg env train valid params b ors).bias (fitFold cfg env train valid params b ors).ws) r)) ∧
    (fitFold cfg env train valid params b ors).trainValues = train.map (fun s =>
      (env.err (modelOut env (fitFold cfg env train valid params b ors).bias (fitFold cfg env train valid params b ors).ws) s,
       env.loss (modelOut env (fitFold cfg env train valid params b ors).bias (fitFold cfg env train valid params b ors).ws) s)) ∧
    (fitFold cfg env train valid params b ors).validValues = valid.map (fun s =>
      (env.err (modelOut env (fitFold cfg env train valid params b ors).bias (fitFold cfg env train valid params b ors).ws) s,
       env.loss (modelOut env (fitFold cfg env train valid params b ors).bias (fitFold cfg env train valid params b ors).ws) s)) := by
  have g := fitRun_good cfg env train valid b hs params ors
  unfold fitFold foldResult
  dsimp only
  generalize fitRun cfg env train valid params b ors = st at g ⊢
  -- the entry of the history at the recorded round: the snapshot, and the prediction of the learners that are kept
  obtain ⟨h, hh⟩ : ∃ h, st.hist[st.es.round]? = some h := ⟨_, List.getElem?_eq_getElem g.round_lt⟩
  have hsnap : st.hist.getD (st.es.snap - 1) b = modelOut env b (st.ws.take st.es.round) := by
    rw [g.snap, List.getD_eq_getElem?_getD, hh]; exact g.outs _ h hh
  rw [modelOut_merge env hm, hsnap]
  refine ⟨?_, ?_, rfl, rfl⟩
  · rw [List.length_take]; have := g.round_lt; have := g.rows_ge; omega
  · obtain ⟨r, hr⟩ := g.rows _ h hh
    exact ⟨r, by rw [List.getElem?_take_of_lt (Nat.lt_succ_self _), hr, g.outs _ h hh]⟩

/-- the fold fit *is* the control skeleton of `Model/Boost.lean` run on the events its iterations are: every theorem about
    the skeleton (`fit_keeps_last_accepted`, `fit_patience_stop`, `fold_keeps_round_learners`, the `es_*` family) applies to
    the learners the fold keeps (before `merge`) and to its monitor -/
theorem fold_fit_refines_loop (cfg : Cfg α) (env : Env W X S α) (train valid : List S) (params : List α) (b : X → α)
    (ors : List (RoundOr W S α)) :
    ((fitRun cfg env train valid params b ors).ws.take (fitRun cfg env train valid params b ors).es.round,
      (fitRun cfg env train valid params b ors).es) =
    fit cfg.eps cfg.pat train.length valid.length cfg.maxRounds cfg.vmax
      (statsRow cfg env train valid b (startRatio cfg params)).trainErr
      (statsRow cfg env train valid b (startRatio cfg params)).validErr
      (evsOf cfg env train valid (fitStart cfg env train valid params b).1 ors) := by
  unfold fit
  rw [← fitRun_ctl]; rfl

/-- `gboost::tune_shrinkage`: the answer is the **first** grid ratio with the **smallest** mean validation loss of
    `outputs + ratio · woutputs` (and `0` only when no grid point has a mean below `DBL_MAX`, e.g. all NaN) -/
theorem tuneShrinkage_spec (cfg : Cfg α) (env : Env W X S α) (valid : List S) (out wout : X → α) :
    (tuneShrinkage cfg env valid out wout = cfg.zero ∧ ∀ s ∈ cfg.grid, ¬ shrinkValue cfg env valid out wout s < cfg.vmax) ∨
    (∃ pre s post, cfg.grid = pre ++ s :: post ∧ tuneShrinkage cfg env valid out wout = s ∧
      shrinkValue cfg env valid out wout s < cfg.vmax ∧
      (∀ t ∈ pre, shrinkValue cfg env valid out wout s < shrinkValue cfg env valid out wout t) ∧
      (∀ t ∈ post, shrinkValue cfg env valid out wout s ≤ shrinkValue cfg env valid out wout t)) := by
  unfold tuneShrinkage shrinkScan
  cases hb : (pickBest cfg.vmax (cfg.grid.map fun s => (shrinkValue cfg env valid out wout s, s))).2 with
  | none => exact Or.inl ⟨rfl, fun s hsg => (pickBest_none_iff _ _).mp hb _ (List.mem_map_of_mem hsg)⟩
  | some s =>
    -- the first minimum of the list of (value, ratio) pairs, read back on the grid
    obtain ⟨pre, v, post, e, _, hv, hpre, hpost⟩ := pickBest_first_min _ _ s hb
    obtain ⟨p1, r1, e1, rfl, er⟩ := List.map_eq_append_iff.mp e
    obtain ⟨s', q1, rfl, es, rfl⟩ := List.map_eq_cons_iff.mp er
    obtain ⟨rfl, rfl⟩ := Prod.mk.inj es
    exact Or.inr ⟨p1, s', q1, e1, rfl, hv, fun t ht => hpre _ (List.mem_map_of_mem ht),
      fun t ht => hpost _ (List.mem_map_of_mem ht)⟩

/-- the scale that is applied is the solver's: in `gboost` mode (one group, `x = [x₀]`) and without local tuning, a round adds
    `x₀ · ratio ·` (the fitted learner's prediction) to every tracked prediction, and stores the learner scaled by `x₀ · ratio` -/
theorem round_update_gboost (cfg : Cfg α) (env : Env W X S α) (hsl : ScaleLaw env) (hl : cfg.shrinkage ≠ .local_)
    (valid : List S) (out : X → α) (ratio x0 : α) (w : W) (c : X) :
    (shrunk cfg env valid out ratio [x0] w).1 = ratio ∧
    (shrunk cfg env valid out ratio [x0] w).2.1 = env.scaleW [x0 * ratio] w ∧
    (shrunk cfg env valid out ratio [x0] w).2.2 c = env.pred w c * (x0 * ratio) := by
  unfold shrunk
  cases h : cfg.shrinkage with
  | local_ => exact absurd h hl
  | off => exact ⟨rfl, rfl, hsl _ _ _⟩
  | global => exact ⟨rfl, rfl, hsl _ _ _⟩

/-- **A second `fit()` starts from the cleared state**: the model `gboost_model_t::fit` leaves is a function of the fold models
    of the optimum trial only — whatever bias and weak learners an earlier fit left in the object. -/
theorem refit_starts_cleared (env : Env W X S α) (zero denom : α) (prev prev' : GModel W X α) (folds : List (GModel W X α)) :
    finalize env zero denom prev folds = finalize env zero denom prev' folds := rfl

/-- the final model predicts the average of the per-fold models of the optimum trial (on every cell), for the learners as
    stored: with the scale law for the `1 / folds` scaling and the merge law -/
theorem finalize_predicts_mean (env : Env W X S α) (hsl : ScaleLaw env) (hm : MergeLaw env) (prev : GModel W X α)
    (folds : List (GModel W X α)) (hF : folds ≠ []) (c : X) :
    modelOut env (finalize env 0 (1 / (folds.length : α)) prev folds).bias (finalize env 0 (1 / (folds.length : α)) prev folds).ws c =
      (folds.map (fun f => modelOut env f.bias f.ws c)).sum / (folds.length : α) := by
  -- `hF` is not used: with no fold both sides are 0 (`x / 0 = 0`)
  have _ := hF
  obtain ⟨hb, hw⟩ := foldl_gmodel folds c { bias := fun _ => (0 : α), ws := [] }
  simp only [modelOut_eq]
  unfold finalize
  dsimp only
  rw [hb, hw, List.map_map, zero_add, List.nil_append,
    show (fun w => env.pred w c) ∘ env.scaleW [1 / (folds.length : α)] = fun w => env.pred w c * (1 / (folds.length : α)) from
      funext fun w => hsl _ w c,
    List.sum_map_mul_right, hm, sum_map_flatMap, List.sum_map_add, ← add_mul, mul_one_div]

/-- the final statistics are statistics of the final model's own predictions on the samples `fit` was given -/
theorem final_values_are_of_final_model (env : Env W X S α) (m : GModel W X α) (samples : List S) :
    finalValues env m samples = samples.map (fun s =>
      (env.err (fun c => predict (m.bias c) (m.ws.map env.pred) c) s, env.loss (fun c => predict (m.bias c) (m.ws.map env.pred) c) s)) :=
  rfl

end NanoVerif.BoostFit

/-! ## `ml::result_t` filled by `ml::tune`: the reported statistics are `store_stats` of what the model callback returned

  Generic in the scalar (core classes only: nothing arithmetic is used), in the model-specific data `E`, in the `nth_element`
  oracle `sort`, in the number / sizes of the batches the tuner asks for and in the order in which the pool runs the tasks of a
  batch (`Scheduled`: every index once — C13 `tune_calls_once`). `trialsOf pre + t` is the global number of the batch's trial `t`. -/
namespace NanoVerif.MLResult
open NanoVerif.Tune NanoVerif.Stats

section generic
variable {E α : Type} [Add α] [Sub α] [Mul α] [Div α] [LT α] [LE α] [DecidableLT α] [DecidableLE α]
  [OfNat α 0] [OfNat α 1] [OfNat α 2] [OfNat α 50] [OfNat α 100] [FloorI α] [HasSqrt α]

/-- **What `result.stats(trial, fold, split, kind)` returns is `storeStats` of the per-sample values of the fold model on that
    split** — the values the model callback of the trial's batch returned for (trial, fold) — and `extra(trial, fold)` is the
    model-specific data returned with them; `given` = the data of the closest trial the callback was handed. No off-by-one in the
    trial / fold / split / kind indexing, for any history of batches and any execution order. -/
theorem reported_stats_are_stats_of_recomputed (sort : List α → List α) (folds : Nat) (pre : List (Batch E α)) (b : Batch E α)
    (post : List (Batch E α)) (hs : Scheduled folds (pre ++ b :: post)) (t f : Nat) (ht : t < b.k) (hf : f < folds)
    (split : Split) (kind : Kind) :
    stats (runTune sort folds (pre ++ b :: post)) (trialsOf pre + t) f split kind =
      storeStats sort (column ((b.fit t f (extraOf ((runTune sort folds pre).add b.k) (b.closest t) f)).sel split) kind) ∧
    extraOf (runTune sort folds (pre ++ b :: post)) (trialsOf pre + t) f =
      some (b.fit t f (extraOf ((runTune sort folds pre).add b.k) (b.closest t) f)).extra := by
  have h := tune_slot sort folds pre b post hs t f ht hf
  unfold stats extraOf
  rw [h]
  refine ⟨?_, rfl⟩
  simp only [Option.bind_some, cbOf, storeCell_sel]
  cases split <;> rfl

/-- outside the asserts of `stats` / `extra` (trial or fold out of range) the model answers `none` -/
theorem stats_out_of_range (r : Result (Payload E α)) (trial fold : Nat) (split : Split) (kind : Kind)
    (h : r.folds ≤ fold ∨ r.trials ≤ trial) : stats r trial fold split kind = none ∧ extraOf r trial fold = none := by
  have : r.get? trial fold = none := by
    unfold Result.get?
    rw [if_neg]; intro hc; rcases h with h | h
    · exact absurd hc.1 (by omega)
    · exact absurd hc.2 (by omega)
  unfold stats extraOf; rw [this]; exact ⟨rfl, rfl⟩

/-- the final statistics (`result.stats(kind)`) are `storeStats` of the per-sample values handed to `store(values, extra)` -/
theorem final_stats_are_stats_of_values (sort : List α → List α) (r : Result (Payload E α)) (vals : List (α × α))
    (extra : Option E) (kind : Kind) :
    (storeFinal sort r vals extra).stats kind = storeStats sort (column vals kind) ∧
    (storeFinal sort r vals extra).extra = extra ∧ (storeFinal sort r vals extra).tuned = r := by
  cases kind <;> exact ⟨rfl, rfl, rfl⟩

/-- the run is well-formed: `folds` folds, as many trials as the batches asked for, one slot per (trial, fold) -/
theorem tune_shape (sort : List α → List α) (folds : Nat) (bs : List (Batch E α)) :
    (runTune sort folds bs).wf ∧ (runTune sort folds bs).folds = folds ∧ (runTune sort folds bs).trials = trialsOf bs :=
  runTune_wf sort folds bs

/-- in the first batch there is no earlier trial: whatever trial `closest_trial` names, the data read is the empty `std::any` -/
theorem first_batch_reads_nothing (sort : List α → List α) (folds k c f : Nat) :
    extraOf (((runTune sort folds ([] : List (Batch E α))).add k)) c f = none := by
  have hr : (runTune sort folds ([] : List (Batch E α))).add k =
      ⟨folds, 0 + k, [] ++ List.replicate (k * folds) none⟩ := rfl
  unfold extraOf Result.get?
  rw [hr]
  dsimp only
  by_cases h : f < folds ∧ c < 0 + k
  · rw [if_pos h, List.nil_append, List.getElem?_replicate]
    split <;> rfl
  · rw [if_neg h]; rfl

end generic
end NanoVerif.MLResult

namespace NanoVerif.LinearFit
open NanoVerif.Tune NanoVerif.Stats NanoVerif.MLResult

section generic
variable {P M S α : Type} [Add α] [Sub α] [Mul α] [Div α] [LT α] [LE α] [DecidableLT α] [DecidableLE α]
  [OfNat α 0] [OfNat α 1] [OfNat α 2] [OfNat α 50] [OfNat α 100] [FloorI α] [HasSqrt α]

/-- `linear_t::fit`, the tuning loop: for every trial of every batch and every fold, the stored model `m` is what `::fit`
    returned for the trial's parameters on the fold's **training** samples (started from the data of the closest trial), and the
    four reported statistics blocks are `storeStats` of `linear::evaluate` **of that same model** on the fold's training /
    validation samples -/
theorem linear_fold_stats_are_of_returned_model (sort : List α → List α) (env : Env P M S α) (folds : Nat)
    (pre post : List (Batch M α)) (k : Nat) (order : List Nat) (closest : Nat → Nat) (rows : Nat → P)
    (splits : Nat → List S × List S)
    (hs : Scheduled folds (pre ++ { k := k, order := order, closest := closest, fit := batchFit env rows splits } :: post))
    (t f : Nat) (ht : t < k) (hf : f < folds) :
    ∃ m : M,
      m = env.solve (rows t) (splits f).1 (extraOf ((runTune sort folds pre).add k) (closest t) f) ∧
      extraOf (runTune sort folds (pre ++ { k := k, order := order, closest := closest, fit := batchFit env rows splits } :: post))
        (trialsOf pre + t) f = some m ∧
      ∀ (split : Split) (kind : Kind),
        stats (runTune sort folds (pre ++ { k := k, order := order, closest := closest, fit := batchFit env rows splits } :: post))
          (trialsOf pre + t) f split kind =
        storeStats sort (column ((match split with | .train => (splits f).1 | .valid => (splits f).2).map (env.evalOn m)) kind) := by
  refine ⟨_, rfl, ?_, ?_⟩
  · exact (reported_stats_are_stats_of_recomputed sort folds pre _ post hs t f ht hf .train .errors).2
  · intro split kind
    rw [(reported_stats_are_stats_of_recomputed sort folds pre _ post hs t f ht hf split kind).1]
    cases split <;> rfl

/-- the refit: the final statistics are `storeStats` of `linear::evaluate` of the model fitted on **all** given samples with
    the optimum parameters from a **cold** start; that model is the one the object keeps (`m_bias`, `m_weights`) and the one
    stored as `result.extra()`; the tuned part of the result is untouched -/
theorem linear_final_stats_are_of_refit_model (sort : List α → List α) (env : Env P M S α) (prev : Obj M)
    (tuned : Result (Payload M α)) (optParams : P) (samples : List S) (kind : Kind) :
    (refit sort env prev tuned optParams samples).2.stats kind =
      storeStats sort (column (samples.map (env.evalOn (env.solve optParams samples none))) kind) ∧
    (refit sort env prev tuned optParams samples).1.model = some (env.solve optParams samples none) ∧
    (refit sort env prev tuned optParams samples).2.extra = some (env.solve optParams samples none) ∧
    (refit sort env prev tuned optParams samples).2.tuned = tuned := by
  cases kind <;> exact ⟨rfl, rfl, rfl, rfl⟩

/-- a second `fit()` of the same object does not read what the first one left -/
theorem linear_refit_ignores_previous_object (sort : List α → List α) (env : Env P M S α) (prev prev' : Obj M)
    (tuned : Result (Payload M α)) (optParams : P) (samples : List S) :
    refit sort env prev tuned optParams samples = refit sort env prev' tuned optParams samples := rfl

end generic

/-- the warm start reads only earlier trials (C13 `tune_reads_only_earlier` on this payload): with `old` the parameter rows of
    the earlier batches (at least one trial) and `new` those of the batch in flight, the trial `closest_trial(p, old_trials)`
    names is an earlier one, does not depend on the batch in flight, and its model data is the one the earlier batches stored -/
theorem linear_warm_start_reads_only_earlier {M π β α : Type} [Field β] [LinearOrder β] [IsStrictOrderedRing β]
    [Add α] [Sub α] [Mul α] [Div α] [LT α] [LE α] [DecidableLT α] [DecidableLE α]
    [OfNat α 0] [OfNat α 1] [OfNat α 2] [OfNat α 50] [OfNat α 100] [FloorI α] [HasSqrt α]
    (sort : List α → List α) (folds : Nat) (pre : List (Batch M α)) (top : β) (dist : π → π → β) (old new : List π)
    (hold : old.length = trialsOf pre) (hpos : 0 < trialsOf pre) (p : π) (f : Nat) :
    closestTrial top dist (old ++ new) p (trialsOf pre) < trialsOf pre ∧
    closestTrial top dist (old ++ new) p (trialsOf pre) = closestTrial top dist old p (trialsOf pre) ∧
    extraOf ((runTune sort folds pre).add new.length) (closestTrial top dist (old ++ new) p (trialsOf pre)) f =
      extraOf (runTune sort folds pre) (closestTrial top dist (old ++ new) p (trialsOf pre)) f := by
  obtain ⟨w1, _, w3⟩ := runTune_wf sort folds pre
  have h := Tune.tune_reads_only_earlier top dist (runTune sort folds pre) w1 old new (by rw [w3]; exact hold)
    (by rw [w3]; exact hpos) p f
  rw [w3] at h
  exact ⟨h.1, h.2.1, by unfold extraOf; rw [h.2.2]⟩

end NanoVerif.LinearFit

namespace NanoVerif.BoostFit
open NanoVerif.Tune NanoVerif.Stats NanoVerif.MLResult NanoVerif.Boost

variable {W X S α : Type} [Field α] [LinearOrder α] [IsStrictOrderedRing α] [FloorI α] [HasSqrt α]

/-- what the model callback of `gboost_model_t::fit` returns (model.cpp:295-305): the fold fit's per-sample values and, as the
    model-specific data, its `gboost::result_t`; the data of the closest trial is ignored (unnamed `const std::any&`) -/
def toFoldFit (R : FoldResult W X α) : FoldFit (FoldResult W X α) α :=
  { trainValues := R.trainValues, validValues := R.validValues, extra := R }

/-- the batch of `ml::tune` whose model callback is the fold fit: trial `t` of the batch has the parameters `cfgOf t`, `rows t`;
    fold `f` the samples `splits f`; `bias t f`, `ors t f` are the oracle answers of that fold fit -/
def gbBatch (env : BoostFit.Env W X S α) (cfgOf : Nat → Cfg α) (k : Nat) (order : List Nat) (closest : Nat → Nat)
    (rows : Nat → List α) (splits : Nat → List S × List S) (bias : Nat → Nat → X → α)
    (ors : Nat → Nat → List (RoundOr W S α)) : Batch (FoldResult W X α) α :=
  ⟨k, order, closest, fun t f _ => toFoldFit (fitFold (cfgOf t) env (splits f).1 (splits f).2 (rows t) (bias t f) (ors t f))⟩

/-- **gboost, end to end in the model**: for every trial of every batch and every fold, the four statistics blocks
    `result.stats(trial, fold, split, kind)` are `storeStats` of `loss.error` / `loss.value` of the predictions of the **stored
    fold model** (`extra(trial, fold)`: bias + its kept, merged weak learners) on the fold's training / validation samples — for
    every mode, every oracle behaviour of sampler / weak-learner fits / solvers, every batch history and execution order. -/
theorem gboost_reported_stats_are_stats_of_recomputed (sort : List α → List α) (env : BoostFit.Env W X S α)
    (cfgOf : Nat → Cfg α) (hs : ∀ t, (cfgOf t).shrinkage = .local_ → ScaleLaw env) (hm : MergeLaw env) (folds : Nat)
    (pre post : List (Batch (FoldResult W X α) α)) (k : Nat) (order : List Nat) (closest : Nat → Nat)
    (rows : Nat → List α) (splits : Nat → List S × List S) (bias : Nat → Nat → X → α) (ors : Nat → Nat → List (RoundOr W S α))
    (hsch : Scheduled folds (pre ++ gbBatch env cfgOf k order closest rows splits bias ors :: post))
    (t f : Nat) (ht : t < k) (hf : f < folds) :
    ∃ R : FoldResult W X α,
      extraOf (runTune sort folds (pre ++ gbBatch env cfgOf k order closest rows splits bias ors :: post))
        (trialsOf pre + t) f = some R ∧
      ∀ (split : Split) (kind : Kind),
        stats (runTune sort folds (pre ++ gbBatch env cfgOf k order closest rows splits bias ors :: post))
          (trialsOf pre + t) f split kind =
        storeStats sort (column ((match split with | .train => (splits f).1 | .valid => (splits f).2).map (fun s =>
          (env.err (modelOut env R.bias R.ws) s, env.loss (modelOut env R.bias R.ws) s))) kind) := by
  obtain ⟨_, _, htv, hvv⟩ := kept_model_reproduces_optimum_row (cfgOf t) env (hs t) hm (splits f).1 (splits f).2 (rows t)
    (bias t f) (ors t f)
  refine ⟨_, (reported_stats_are_stats_of_recomputed sort folds pre _ post hsch t f ht hf .train .errors).2, ?_⟩
  intro split kind
  rw [(reported_stats_are_stats_of_recomputed sort folds pre _ post hsch t f ht hf split kind).1]
  cases split
  · exact congrArg (fun v => storeStats sort (column v kind)) htv
  · exact congrArg (fun v => storeStats sort (column v kind)) hvv

end NanoVerif.BoostFit

/-! ## the two `fit()` functions end to end (`Model/BoostFitTop.lean`) -/
namespace NanoVerif.BoostFit
open NanoVerif.Tune NanoVerif.Stats NanoVerif.MLResult NanoVerif.Boost

variable {W X S P M α : Type} [Field α] [LinearOrder α] [IsStrictOrderedRing α] [FloorI α] [HasSqrt α]

/-- **`gboost_model_t::fit` end to end**, for every history of tuner batches and pool schedules, every oracle behaviour inside the
    fold fits (they only enter through the stored `extra`s), `folds ≥ 1`, the optimum trial being one of the trials (`hopt`: C13
    `optimum_is_argmin` when at least one trial has a value): (1) what an earlier `fit()` left in the object is irrelevant; (2) every
    fold of the optimum trial has a stored model; (3) **the final model predicts, on every cell, the average of the stored per-fold
    models of the optimum trial**; (4) the final statistics are `storeStats` of `loss.error` / `loss.value` of the final model's own
    predictions on the samples `fit` was given; no model data is stored with them and the tuned part is untouched. -/
theorem gboost_fit_end_to_end (sort : List α → List α) (env : BoostFit.Env W X S α) (hsl : ScaleLaw env) (hm : MergeLaw env)
    (top dflt : α) (folds : Nat) (hfolds : 0 < folds) (bs : List (Batch (FoldResult W X α) α)) (hs : Scheduled folds bs)
    (hopt : optimumOf top dflt (runTune sort folds bs) < trialsOf bs) (samples : List S) (prev prev' : GModel W X α) :
    gboostFit sort env top dflt 0 (1 / (folds : α)) folds bs samples prev =
      gboostFit sort env top dflt 0 (1 / (folds : α)) folds bs samples prev' ∧
    (∀ f, f < folds → (extraOf (runTune sort folds bs) (optimumOf top dflt (runTune sort folds bs)) f).isSome) ∧
    (∀ c : X, modelOut env (gboostFit sort env top dflt 0 (1 / (folds : α)) folds bs samples prev).1.bias
        (gboostFit sort env top dflt 0 (1 / (folds : α)) folds bs samples prev).1.ws c =
      ((List.range folds).map (fun f =>
        match extraOf (runTune sort folds bs) (optimumOf top dflt (runTune sort folds bs)) f with
        | some R => modelOut env R.bias R.ws c
        | none => 0)).sum / (folds : α)) ∧
    (∀ kind : Kind, (gboostFit sort env top dflt 0 (1 / (folds : α)) folds bs samples prev).2.stats kind =
      storeStats sort (column (samples.map (fun s =>
        (env.err (modelOut env (gboostFit sort env top dflt 0 (1 / (folds : α)) folds bs samples prev).1.bias
            (gboostFit sort env top dflt 0 (1 / (folds : α)) folds bs samples prev).1.ws) s,
         env.loss (modelOut env (gboostFit sort env top dflt 0 (1 / (folds : α)) folds bs samples prev).1.bias
            (gboostFit sort env top dflt 0 (1 / (folds : α)) folds bs samples prev).1.ws) s))) kind)) ∧
    (gboostFit sort env top dflt 0 (1 / (folds : α)) folds bs samples prev).2.extra = none ∧
    (gboostFit sort env top dflt 0 (1 / (folds : α)) folds bs samples prev).2.tuned = runTune sort folds bs := by
  have hset := fun f hf => all_slots_set sort folds bs hs _ f hopt hf
  refine ⟨rfl, fun f hf => ?_, fun c => ?_, fun kind => by cases kind <;> rfl, rfl, rfl⟩
  · obtain ⟨R, hR⟩ := hset f hf
    rw [hR]; rfl
  · -- the final model averages the fold models, and these are the stored ones, fold by fold
    have hmap := foldModels_map _ _ folds hset (fun m => modelOut env m.bias m.ws c)
      (fun f => match extraOf (runTune sort folds bs) (optimumOf top dflt (runTune sort folds bs)) f with
        | some R => modelOut env R.bias R.ws c | none => 0) fun f R hR => by rw [hR]
    have hlen := congrArg List.length hmap
    rw [List.length_map, List.length_map, List.length_range] at hlen
    have hmean := finalize_predicts_mean env hsl hm prev _ (List.ne_nil_of_length_pos (hlen.symm ▸ hfolds)) c
    rw [hlen, hmap] at hmean
    exact hmean

/-- **`linear_t::fit` end to end**: the final statistics are `storeStats` of `linear::evaluate` of the model fitted cold on all given
    samples with the parameters of the optimum trial; that model is the one the object keeps and the one stored as `extra()`;
    the per-trial / per-fold part is the tuning run; the previous state of the object is irrelevant -/
theorem linear_fit_end_to_end (sort : List α → List α) (env : LinearFit.Env P M S α) (top dflt : α) (folds : Nat)
    (bs : List (Batch M α)) (rowOf : Nat → P) (samples : List S) (prev prev' : LinearFit.Obj M) (kind : Kind) :
    linearFit sort env top dflt folds bs rowOf samples prev = linearFit sort env top dflt folds bs rowOf samples prev' ∧
    (linearFit sort env top dflt folds bs rowOf samples prev).2.stats kind =
      storeStats sort (column (samples.map (env.evalOn
        (env.solve (rowOf (optimumOf top dflt (runTune sort folds bs))) samples none))) kind) ∧
    (linearFit sort env top dflt folds bs rowOf samples prev).1.model =
      some (env.solve (rowOf (optimumOf top dflt (runTune sort folds bs))) samples none) ∧
    (linearFit sort env top dflt folds bs rowOf samples prev).2.extra =
      some (env.solve (rowOf (optimumOf top dflt (runTune sort folds bs))) samples none) ∧
    (linearFit sort env top dflt folds bs rowOf samples prev).2.tuned = runTune sort folds bs := by
  cases kind <;> exact ⟨rfl, rfl, rfl, rfl, rfl⟩

end NanoVerif.BoostFit

/-! ## non-vacuity of the data-flow theorems, and the necessity of the scale law (ℚ; one cell, one sample; target 3, error = loss
    = squared distance; a learner is the constant it predicts; `local` shrinkage over the grid {1/2, 1}) -/
namespace NanoVerif.BoostFit.Examples
open NanoVerif.BoostFit NanoVerif.Boost NanoVerif.Tune NanoVerif.MLResult

def cfgEx : Cfg ℚ :=
  { eps := 1/4, pat := 2, maxRounds := 5, shrinkage := .local_, subsample := .off, wscale := .gboost, vmax := 1000, noFit := 100,
    epsMach := 1/1000, zero := 0, one := 1, ofNat := fun n => (n : ℚ), grid := [1/2, 1] }

/-- `scale` multiplies the constant: the scale law holds -/
def envEx : Env ℚ Unit Unit ℚ :=
  { pred := fun w _ => w, scaleW := fun sc w => w * sc.headD 1, merge := id, groups := fun _ => 1,
    err := fun out _ => (out () - 3) * (out () - 3), loss := fun out _ => (out () - 3) * (out () - 3) }

/-- the seeded change: the ratio is not applied to the stored learner -/
def envBad : Env ℚ Unit Unit ℚ := { envEx with scaleW := fun _ w => w }

def orsEx : List (RoundOr ℚ Unit ℚ) :=
  [{ fitSamples := [], cands := [(1, 2)], x := [1], xmin := 1 }, { fitSamples := [], cands := [(5, 9), (1, 4)], x := [1], xmin := 1 }]

example : ScaleLaw envEx := by intro c w x; simp [envEx]
example : MergeLaw envEx := by intro ws x; rfl
/-- round 1 adds the learner 2 with the tuned ratio 1, round 2 the learner 4 with the tuned ratio 1/2 (stored as 2): the tracked
    prediction 4 is bias 0 + 2 + 2 -/
example : (fitRun cfgEx envEx [()] [()] [] (fun _ => 0) orsEx).ws = [2, 2] ∧
    (fitRun cfgEx envEx [()] [()] [] (fun _ => 0) orsEx).out () = 4 ∧
    modelOut envEx (fun _ => 0) (fitRun cfgEx envEx [()] [()] [] (fun _ => 0) orsEx).ws () = 4 ∧
    (fitRun cfgEx envEx [()] [()] [] (fun _ => 0) orsEx).ratio = 1/2 ∧
    (fitRun cfgEx envEx [()] [()] [] (fun _ => 0) orsEx).es.round = 1 := by decide +kernel
/-- the fold keeps one learner and two statistics rows: the second is the row of the kept model (error 1) -/
example : (fitFold cfgEx envEx [()] [()] [] (fun _ => 0) orsEx).ws = [2] ∧
    (fitFold cfgEx envEx [()] [()] [] (fun _ => 0) orsEx).rows.map (·.validErr) = [9, 1] ∧
    (fitFold cfgEx envEx [()] [()] [] (fun _ => 0) orsEx).validValues = [(1, 1)] := by decide +kernel
/-- **the scale law is necessary** in `local` mode: with a `scale` that does not multiply the prediction (and nothing else
    changed) the tracked prediction is 4 while the stored model predicts 0 + 2 + 4 = 6 -/
example : ¬ ScaleLaw envBad := by
  intro h; have := h (1/2) 4 (); simp [envBad, envEx] at this
example : (fitRun cfgEx envBad [()] [()] [] (fun _ => 0) orsEx).out () = 4 ∧
    modelOut envBad (fun _ => 0) (fitRun cfgEx envBad [()] [()] [] (fun _ => 0) orsEx).ws () = 6 := by decide +kernel
/-- without `local` shrinkage no law is needed: the same bad `scale`, shrinkage off, and the invariant holds -/
example : (fitRun { cfgEx with shrinkage := .off } envBad [()] [()] [] (fun _ => 0) orsEx).out () =
    modelOut envBad (fun _ => 0) (fitRun { cfgEx with shrinkage := .off } envBad [()] [()] [] (fun _ => 0) orsEx).ws () := by
  decide +kernel
/-- as coded (model.cpp:178 reads the mutable `shrinkage_ratio`): in `local` mode the ratio tuned in round `k − 1` also multiplies
    the solver's scale of round `k` — the learner −4 of round 2 is stored as −4 · (1 · 1/2) · 1/2 = −1, round 1 having tuned 1/2 -/
example : (fitRun cfgEx envEx [()] [()] [] (fun _ => 0)
    [{ fitSamples := [], cands := [(1, 8)], x := [1], xmin := 1 }, { fitSamples := [], cands := [(1, -4)], x := [1], xmin := 1 }]).ws
      = [4, -1] := by decide +kernel
/-- `tune_shrinkage` on the second round: grid values 1 (at 1/2) and 9 (at 1): the first smallest -/
example : tuneShrinkage cfgEx envEx [()] (fun _ => 2) (fun _ => 4) = 1/2 := by decide +kernel
/-- the final model of two such folds predicts their mean -/
example : modelOut envEx (finalize envEx 0 (1/2) ⟨fun _ => 7, [5]⟩ [⟨fun _ => 0, [2]⟩, ⟨fun _ => 1, [2, 2]⟩]).bias
    (finalize envEx 0 (1/2) ⟨fun _ => 7, [5]⟩ [⟨fun _ => 0, [2]⟩, ⟨fun _ => 1, [2, 2]⟩]).ws () = 7/2 := by decide +kernel
/-- a schedule: one batch of two trials on two folds, run in the order 3, 0, 2, 1 -/
example (fit : Nat → Nat → Option Nat → FoldFit Nat ℚ) : Scheduled 2 [(⟨2, [3, 0, 2, 1], id, fit⟩ : Batch Nat ℚ)] := by
  intro b hb
  have : b = ⟨2, [3, 0, 2, 1], id, fit⟩ := by simpa using hb
  subst this
  show List.Perm [3, 0, 2, 1] (List.range (2 * 2))
  decide

end NanoVerif.BoostFit.Examples
