import NanoVerif.Proofs.SolverSkeleton
import NanoVerif.Proofs.SolverAlgebra
import NanoVerif.Proofs.SolverNM
/-!
  C02 — every solver returns an honest, self-consistent result within bounded budget: the property theorems about the
  shared skeleton (`solver_t::done`, the loop of the line-search solvers, `update_if_better` / `value_test`, the generic
  non-monotonic loop, the call counters).

  The iteration bodies of sgm, cocob, sda, wda, pgm, dgm, fgm, asga2, asga4, osga (`Model/SolverNM.lean`) are in the model: for them
  the hypotheses of the skeleton theorems (`hstep`, `hK`) are discharged here, for every objective, every parameter value and every
  start. For the other
  solver bodies what each hands to `update_if_better` / `done` is the hypothesis of the theorems about `nmLoop` (`hstep`) and is
  monitored at run time against the wrapper's evaluation log; termination of the bodies and the numerical value of their
  per-iteration evaluation bound `K` are observed, not proved.
-/
namespace NanoVerif.Solver
open NanoVerif.Gen.DoneLogic

section generic
variable {α : Type} [Add α] [Sub α] [Mul α] [Div α] [Neg α] [LT α] [LE α] [DecidableLT α] [DecidableLE α] [∀ n, OfNat α n]

/-- `solver_t::done`, as generated from the source: stops iff `converged || !(iter_ok && valid)`; `converged` wins over
    `failed`; a call that does not stop leaves the status alone and certifies a valid state and an ok step; it never
    touches the point, the value or the gradient. -/
theorem done_decision (env : Env α) (s : State α) (iterOk conv : Bool) :
    ((done env s iterOk conv).2 = true ↔ (conv = true ∨ ¬ (iterOk = true ∧ valid env s = true))) ∧
    ((done env s iterOk conv).2 = true →
      (done env s iterOk conv).1.status = (if conv then Status.converged else Status.failed)) ∧
    ((done env s iterOk conv).2 = false →
      (done env s iterOk conv).1.status = s.status ∧ iterOk = true ∧ valid env s = true ∧ conv = false) ∧
    (done env s iterOk conv).1.x = s.x ∧ (done env s iterOk conv).1.fx = s.fx ∧ (done env s iterOk conv).1.gx = s.gx :=
  ⟨(done_spec env s iterOk conv).1, (done_spec env s iterOk conv).2.1, (done_spec env s iterOk conv).2.2, rfl, rfl, rfl⟩

/-- line-search family (gd, 10 cgd, lbfgs, 5 quasi-Newton = any `rule`): for every objective and every line search within
    the contract, the returned `(x, fx, gx)` is an evaluation of `f` -/
theorem ls_solver_consistent {M : Type} (env : Env α) (rule : Rule α M) (ls : Ls α) (f : Objective α)
    (hls : LsContract f ls) (eps : α) (maxEvals fuel : Nat) (x0 : Vec α) :
    let r := lsMinimize env rule ls f eps maxEvals fuel x0
    r.fx = (f r.x).1 ∧ r.gx = (f r.x).2 := by
  exact (lsMinimize_good env rule ls eps maxEvals f hls fuel x0).cons

/-- … and its status is `max_iters`, `converged` or `failed` (for any line search that leaves the status alone) -/
theorem ls_status_trichotomy {M : Type} (env : Env α) (rule : Rule α M) (ls : Ls α) (f : Objective α)
    (hst : ∀ k s d, (ls k s d).1.status = s.status) (eps : α) (maxEvals fuel : Nat) (x0 : Vec α) :
    let r := lsMinimize env rule ls f eps maxEvals fuel x0
    r.status = Status.max_iters ∨ r.status = Status.converged ∨ r.status = Status.failed :=
  lsRun_inv env rule ls eps maxEvals (fun s => Tri s.status) (fun s => Tri s.status) (fun _ h => h)
    (fun k c d _ hJ =>
      have h := done_tri env (ls k c d).1 (ls k c d).2 (rule.conv (gradientTestS (ls k c d).1) eps) (by rw [hst]; exact hJ)
      ⟨h, fun _ => h⟩)
    fuel (initState f x0) (done_tri env _ true _ (Or.inl rfl)) (fun _ => done_tri env _ true _ (Or.inl rfl))

/-- `return cstate.valid() ? cstate : pstate` (cgd.cpp, lbfgs.cpp, quasi.cpp — the three generated return rules are the
    identity on the validity flag): when the start is not already a stopping point, what is returned is a valid state,
    for ANY line search, direction rule and objective -/
theorem ls_result_valid (env : Env α) (ls : Ls α) (eps : α) (maxEvals fuel : Nat) (c0 : State α) :
    (∀ (kind : CgdKind) (eta orthotest : α),
      (done env c0 true (cgdConvergedInit (gradientTestS c0) eps)).2 = false →
      valid env (lsRun env (cgdRule env kind eta orthotest) ls eps maxEvals fuel c0).1 = true) ∧
    (∀ history : Nat,
      (done env c0 true (lbfgsConvergedInit (gradientTestS c0) eps)).2 = false →
      valid env (lsRun env (lbfgsRule history) ls eps maxEvals fuel c0).1 = true) ∧
    (∀ (kind : QuasiKind) (r : α) (scaled : Bool) (n : Nat),
      (done env c0 true (quasiConvergedInit (gradientTestS c0) eps)).2 = false →
      valid env (lsRun env (quasiRule env kind r scaled n) ls eps maxEvals fuel c0).1 = true) := by
  refine ⟨fun kind eta orthotest h => ?_, fun history h => ?_, fun kind r scaled n h => ?_⟩
  · exact lsRun_valid env (cgdRule env kind eta orthotest) ls eps maxEvals fuel c0
      (fun b => by cases b <;> rfl) h
  · exact lsRun_valid env (lbfgsRule history) ls eps maxEvals fuel c0 (fun b => by cases b <;> rfl) h
  · exact lsRun_valid env (quasiRule env kind r scaled n) ls eps maxEvals fuel c0 (fun b => by cases b <;> rfl) h

/-- the budget of the line-search family, for EVERY line-search oracle that performs at most `K` evaluations per call
    (`K` is C07's `evals_per_get_le` + the evaluations of `lsearch0`; it is a hypothesis here and measured by the oracle):
    the reported evaluations never reach `max_evals + K` -/
theorem budget_overshoot_le (env : Env α) (ls : Ls α) (f : Objective α) (eps : α) (maxEvals K fuel : Nat) (x0 : Vec α)
    (hK : ∀ k s d, evals (ls k s d).1 ≤ evals s + K) (h0 : 2 < maxEvals + K) :
    (∀ (kind : CgdKind) (eta orthotest : α),
      evals (lsMinimize env (cgdRule env kind eta orthotest) ls f eps maxEvals fuel x0) < maxEvals + K) ∧
    (∀ history : Nat, evals (lsMinimize env (lbfgsRule history) ls f eps maxEvals fuel x0) < maxEvals + K) ∧
    (∀ (kind : QuasiKind) (r : α) (scaled : Bool) (n : Nat),
      evals (lsMinimize env (quasiRule env kind r scaled n) ls f eps maxEvals fuel x0) < maxEvals + K) ∧
    evals (lsMinimize env (gdRule : Rule α Unit) ls f eps maxEvals fuel x0) < maxEvals + K := by
  have key : ∀ {M : Type} (rule : Rule α M), (∀ a b m, rule.guard a b m = true → a + b < m) →
      evals (lsMinimize env rule ls f eps maxEvals fuel x0) < maxEvals + K := fun rule hguard =>
    have hi : evals (initState f x0) < maxEvals + K := (show (1 : Nat) + 1 < maxEvals + K by omega)
    lsRun_inv env rule ls eps maxEvals (fun s => evals s < maxEvals + K) (fun s => evals s < maxEvals + K) (fun _ h => h)
      (fun k c d hg _ =>
        have h : evals (ls k c d).1 < maxEvals + K :=
          Nat.lt_of_le_of_lt (hK k c d) (Nat.add_lt_add_right (hguard _ _ _ hg) K)
        ⟨h, fun _ => h⟩)
      fuel (initState f x0) hi (fun _ => hi)
  refine ⟨fun kind eta orthotest => key _ ?_, fun history => key _ ?_, fun kind r scaled n => key _ ?_, key _ ?_⟩
  · intro a b m h; simpa [cgdRule, cgdGuard] using h
  · intro a b m h; simpa [lbfgsRule, lbfgsGuard] using h
  · intro a b m h; simpa [quasiRule, quasiGuard] using h
  · intro a b m h; simpa [gdRule, gdGuard] using h

/-- best-state tracking: the state a non-monotonic solver returns is one of the triples it handed to `update_if_better`
    or its initial state — stated for every predicate `P` (take `P := "is the initial triple or one of the candidates"`,
    `P := "fx = f(x)"`, …): if the initial state and every candidate satisfy `P`, so does the returned state -/
theorem best_state_is_an_evaluation (env : Env α) (P : Vec α → Vec α → α → Prop)
    (step : Nat → Nat × Nat → BState α → NmStep α) (patience : Nat) (eps : α) (maxEvals fuel : Nat) (b0 : BState α)
    (h0 : P b0.st.x b0.st.gx b0.st.fx) (hstep : ∀ k g b, ∀ c ∈ (step k g b).cands, P c.1 c.2.1 c.2.2) :
    let r := (nmLoop env step patience eps maxEvals fuel 0 b0.st.fcalls b0.st.gcalls b0).1
    P r.st.x r.st.gx r.st.fx :=
  nmLoop_inv env step patience eps maxEvals P hstep fuel 0 _ _ b0 h0

/-- the instance the statement asks for: if every candidate is an evaluation of `f` (value; and gradient when the solver
    passes the gradient of that point), the returned value is `f` at the returned point -/
theorem best_state_value (env : Env α) (f : Objective α) (step : Nat → Nat × Nat → BState α → NmStep α) (patience : Nat)
    (eps : α) (maxEvals fuel : Nat) (b0 : BState α) (h0 : b0.st.fx = (f b0.st.x).1)
    (hstep : ∀ k g b, ∀ c ∈ (step k g b).cands, c.2.2 = (f c.1).1) :
    let r := (nmLoop env step patience eps maxEvals fuel 0 b0.st.fcalls b0.st.gcalls b0).1
    r.st.fx = (f r.st.x).1 :=
  best_state_is_an_evaluation env (fun x _ fx => fx = (f x).1) step patience eps maxEvals fuel b0 h0 hstep

/-- the status of a non-monotonic solver is `max_iters`, `converged` or `failed` -/
theorem nm_status_trichotomy (env : Env α) (step : Nat → Nat × Nat → BState α → NmStep α) (patience : Nat) (eps : α)
    (maxEvals fuel : Nat) (b0 : BState α) (h0 : b0.st.status = Status.initial) :
    let r := (nmLoop env step patience eps maxEvals fuel 0 b0.st.fcalls b0.st.gcalls b0).1
    r.st.status = Status.max_iters ∨ r.st.status = Status.converged ∨ r.st.status = Status.failed :=
  nmLoop_tri env step patience eps maxEvals fuel 0 _ _ b0 (Or.inl h0)

/-- budget of the generic loop: if one iteration performs at most `K` evaluations and `done` reports counters read no
    later than the next loop guard, the reported evaluations never reach `max_evals + K` -/
theorem nm_budget_overshoot_le (env : Env α) (step : Nat → Nat × Nat → BState α → NmStep α) (patience : Nat) (eps : α)
    (maxEvals K fuel : Nat) (b0 : BState α)
    (hK : ∀ k g b, (step k g b).fcalls + (step k g b).gcalls ≤ (step k g b).guardF + (step k g b).guardG ∧
      (step k g b).guardF + (step k g b).guardG ≤ g.1 + g.2 + K)
    (h0 : evals b0.st < maxEvals + K) :
    evals (nmLoop env step patience eps maxEvals fuel 0 b0.st.fcalls b0.st.gcalls b0).1.st < maxEvals + K :=
  nmLoop_budget env step patience eps maxEvals K hK fuel 0 _ _ b0 h0

/-- `value_test(patience)`: 0 ("converged" for every ε > 0) exactly when none of the `patience` most recent
    `update_if_better` calls improved and at least `patience` calls were made; `max(df, dx)` of the most recent
    improvement when one of them did; `numeric_limits::max()` before `patience` calls without any improvement -/
theorem valueTest_spec (env : Env α) (patience : Nat) (b : BState α) :
    ((∀ e ∈ b.hist.take patience, ¬ (e.1 > 0)) → patience ≤ b.hist.length → valueTest env patience b = 0) ∧
    ((∃ e ∈ b.hist.take patience, e.1 > 0) →
      ∃ df dx, (df, dx) ∈ b.hist.take patience ∧ df > 0 ∧ valueTest env patience b = cmax df dx) ∧
    ((∀ e ∈ b.hist, ¬ (e.1 > 0)) → b.hist.length < patience → valueTest env patience b = env.maxv) := by
  have hs := lastImprovement_spec b.hist 0
  unfold valueTest
  cases hl : lastImprovement b.hist 0 with
  | none =>
    rw [hl] at hs
    simp only at hs ⊢
    refine ⟨fun _ hp => by simp [hp], fun ⟨e, he, hpos⟩ => absurd hpos (hs e (List.mem_of_mem_take he)), fun _ hlt => ?_⟩
    have : ¬ (b.hist.length ≥ patience) := by omega
    simp [this]
  | some r =>
    obtain ⟨k, df, dx⟩ := r
    rw [hl] at hs
    simp only at hs ⊢
    obtain ⟨i, hk, hi, hpos, hbefore⟩ := hs
    have hki : k = i := by omega
    subst hki
    refine ⟨fun hnone _ => ?_, fun ⟨e, he, hepos⟩ => ?_, fun hnone _ => ?_⟩
    · by_cases hkp : k < patience
      · exact absurd hpos (hnone (df, dx) (mem_take_of_getElem? _ _ _ _ hi hkp))
      · simp [hkp]
    · have hkp : k < patience := by
        rw [List.mem_iff_getElem?] at he
        obtain ⟨j, hj⟩ := he
        rw [List.getElem?_take] at hj
        by_cases hjp : j < patience
        · simp only [hjp, if_true] at hj
          by_cases hkp : k < patience
          · exact hkp
          · exact absurd hepos (hbefore j (by omega) e hj)
        · simp [hjp] at hj
      exact ⟨df, dx, mem_take_of_getElem? _ _ _ _ hi hkp, hpos, by simp [hkp]⟩
    · exact absurd hpos (hnone (df, dx) (List.mem_of_getElem? hi))

/-- the reported counters are copies (`update_calls`) of the function's counters, which only grow (`function_t::vgrad`):
    whenever a state copies them — after any prefix of the evaluations performed — the copies are at most the number of
    value evaluations / gradient evaluations actually performed by the end -/
theorem calls_never_exceed_actual (evs : List Bool) (k : Nat) :
    (updateCalls (countersAfter (evs.take k)).1 (countersAfter (evs.take k)).2).1 ≤ evs.length ∧
    (updateCalls (countersAfter (evs.take k)).1 (countersAfter (evs.take k)).2).2 ≤ evs.count true ∧
    (countersAfter evs).1 = evs.length ∧ (countersAfter evs).2 = evs.count true := by
  have h1 := countersAfter_eq (evs.take k)
  have h2 := countersAfter_eq evs
  refine ⟨?_, ?_, h2.1, h2.2⟩
  · show (countersAfter (evs.take k)).1 ≤ evs.length
    rw [h1.1, List.length_take]; exact Nat.min_le_right _ _
  · show (countersAfter (evs.take k)).2 ≤ evs.count true
    rw [h1.2]
    exact List.Sublist.count_le true (List.take_sublist k evs)

end generic

section field
variable {α : Type} [Field α] [LinearOrder α] [IsStrictOrderedRing α]

/-- `update_if_better` replaces the stored state only on a STRICT decrease of the value (exact arithmetic); then the stored
    triple is exactly the candidate; otherwise the state is untouched -/
theorem update_only_on_strict_decrease (env : Env α) (b : BState α) (x gx : Vec α) (fx : α) :
    ((updateIfBetter env b x gx fx).2 = true →
      fx < b.st.fx ∧ (updateIfBetter env b x gx fx).1.st = { b.st with x := x, fx := fx, gx := gx }) ∧
    ((updateIfBetter env b x gx fx).2 = false → (updateIfBetter env b x gx fx).1.st = b.st) := by
  rcases updateIfBetter_cases env b x gx fx with ⟨h1, h2⟩ | ⟨h1, _, h3, h4⟩
  · exact ⟨fun h => (by rw [h1] at h; cases h), fun _ => h2⟩
  · exact ⟨fun _ => ⟨(uibBetter_iff _ _).mp h3, h4⟩, fun h => (by rw [h1] at h; cases h)⟩

/-- the value a non-monotonic solver returns is never larger than the value at its start, whatever its steps propose -/
theorem best_value_nonincreasing (env : Env α) (step : Nat → Nat × Nat → BState α → NmStep α) (patience : Nat) (eps : α)
    (maxEvals fuel : Nat) (b0 : BState α) :
    (nmLoop env step patience eps maxEvals fuel 0 b0.st.fcalls b0.st.gcalls b0).1.st.fx ≤ b0.st.fx :=
  nmLoop_ind env step patience eps maxEvals (fun r => r.st.fx ≤ b0.st.fx) (fun r => r.st.fx ≤ b0.st.fx) (fun _ h => h)
    (fun k gf gg b _ hJ =>
      have h : (nmIter env patience eps b (step k (gf, gg) b)).b.st.fx ≤ b0.st.fx :=
        applyCands_ind env (fun s => s.fx ≤ b0.st.fx) _ b hJ
          fun c _ b' hb' => le_trans (updateIfBetter_fx_le env b' c.1 c.2.1 c.2.2) hb'
      ⟨h, fun _ => h⟩)
    fuel 0 _ _ b0 (le_refl _)

end field


/-! ### the modelled non-monotonic bodies (`Model/SolverNM.lean`): the hypotheses of the skeleton theorems discharged

  For every objective `f` (an arbitrary function `Vec α → α × Vec α`), every value of the solver's parameters (no domain
  restriction is needed), every start `x0`, every `epsilon`, `max_evals`, `patience` and any number of iterations (`fuel`). -/
section modelled
variable {α : Type} [Add α] [Sub α] [Mul α] [Div α] [Neg α] [LT α] [LE α] [DecidableLT α] [DecidableLE α] [∀ n, OfNat α n]

/-- sgm (sgm.cpp): every triple handed to `update_if_better` is `(x, ∇f(x), f(x))` at the point `x` the recurrence produced, so the
    returned `(x, gx, fx)` is an evaluation of `f`; one iteration makes exactly one `vgrad(x, g)` (2 evaluations) or none, so the
    reported evaluations stay below `max_evals + 2`; the status is one of the three -/
theorem sgm_honest (env : Env α) (nm : EnvNM α) (f : Objective α) (power : α) (patience : Nat) (eps : α)
    (maxEvals fuel : Nat) (x0 : Vec α) :
    (∀ c m, ∀ cand ∈ (sgmBody env nm (fun _ => f) power c m).cands, cand.2.2 = (f cand.1).1 ∧ cand.2.1 = (f cand.1).2) ∧
    ((sgmMinimize env nm (fun _ => f) power patience eps maxEvals fuel x0).st.fx =
        (f (sgmMinimize env nm (fun _ => f) power patience eps maxEvals fuel x0).st.x).1 ∧
      (sgmMinimize env nm (fun _ => f) power patience eps maxEvals fuel x0).st.gx =
        (f (sgmMinimize env nm (fun _ => f) power patience eps maxEvals fuel x0).st.x).2) ∧
    (1 ≤ maxEvals → evals (sgmMinimize env nm (fun _ => f) power patience eps maxEvals fuel x0).st < maxEvals + 2) ∧
    ((sgmMinimize env nm (fun _ => f) power patience eps maxEvals fuel x0).st.status = Status.max_iters ∨
      (sgmMinimize env nm (fun _ => f) power patience eps maxEvals fuel x0).st.status = Status.converged ∨
      (sgmMinimize env nm (fun _ => f) power patience eps maxEvals fuel x0).st.status = Status.failed) :=
  ⟨fun c m => (sgmBody_spec env nm _ power c m).1.isEval,
   nmMinimize_honest_spec env f _ _ patience eps maxEvals 2 fuel x0 (fun c m => (sgmBody_spec env nm _ power c m).1)
    (Nat.le_refl 2)⟩

/-- sgm reports `converged` only through its two documented tests: `value_test(patience) < epsilon` on the history of the
    returned state, or a gradient with `‖g‖∞ < numeric_limits::epsilon()` at the current iterate of some iteration `k` -/
theorem sgm_converged_only_by_test (env : Env α) (nm : EnvNM α) (F : ObjectiveI α) (power : α) (patience : Nat) (eps : α)
    (maxEvals fuel : Nat) (x0 : Vec α)
    (h : (sgmMinimize env nm F power patience eps maxEvals fuel x0).st.status = Status.converged) :
    valueTest env patience (sgmMinimize env nm F power patience eps maxEvals fuel x0) < eps ∨
    ∃ k, infNorm (memAt (sgmBody env nm F power) (sgmInit F x0) 1 k).1.g < nm.epsMach :=
  nmMinimize_converged_by env F (fun _ (m : SgmMem α) => infNorm m.g < nm.epsMach) _ _ patience eps maxEvals fuel x0
    (fun c m => (sgmBody_spec env nm F power c m).2.2.1.mp) h

/-- cocob (cocob.cpp): as `sgm_honest`; every iteration makes exactly one `vgrad(x, gx)`: 2 evaluations -/
theorem cocob_honest (env : Env α) (nm : EnvNM α) (f : Objective α) (l0 : α) (patience : Nat) (eps : α)
    (maxEvals fuel : Nat) (x0 : Vec α) :
    (∀ c m, ∀ cand ∈ (cocobBody env nm (fun _ => f) x0 c m).cands, cand.2.2 = (f cand.1).1 ∧ cand.2.1 = (f cand.1).2) ∧
    ((cocobMinimize env nm (fun _ => f) l0 patience eps maxEvals fuel x0).st.fx =
        (f (cocobMinimize env nm (fun _ => f) l0 patience eps maxEvals fuel x0).st.x).1 ∧
      (cocobMinimize env nm (fun _ => f) l0 patience eps maxEvals fuel x0).st.gx =
        (f (cocobMinimize env nm (fun _ => f) l0 patience eps maxEvals fuel x0).st.x).2) ∧
    (1 ≤ maxEvals → evals (cocobMinimize env nm (fun _ => f) l0 patience eps maxEvals fuel x0).st < maxEvals + 2) ∧
    ((cocobMinimize env nm (fun _ => f) l0 patience eps maxEvals fuel x0).st.status = Status.max_iters ∨
      (cocobMinimize env nm (fun _ => f) l0 patience eps maxEvals fuel x0).st.status = Status.converged ∨
      (cocobMinimize env nm (fun _ => f) l0 patience eps maxEvals fuel x0).st.status = Status.failed) :=
  ⟨fun c m => (cocobBody_spec env nm _ x0 c m).1.isEval,
   nmMinimize_honest_spec env f _ _ patience eps maxEvals 2 fuel x0 (fun c m => (cocobBody_spec env nm _ x0 c m).1)
    (Nat.le_refl 2)⟩

/-- cocob reports `converged` only through `value_test(patience) < epsilon` on the history of the returned state -/
theorem cocob_converged_only_by_test (env : Env α) (nm : EnvNM α) (F : ObjectiveI α) (l0 : α) (patience : Nat) (eps : α)
    (maxEvals fuel : Nat) (x0 : Vec α)
    (h : (cocobMinimize env nm F l0 patience eps maxEvals fuel x0).st.status = Status.converged) :
    valueTest env patience (cocobMinimize env nm F l0 patience eps maxEvals fuel x0) < eps :=
  nmMinimize_converged_valueTest env F _ _ patience eps maxEvals fuel x0
    (fun c m hk => by rw [(cocobBody_spec env nm F x0 c m).2.2.1] at hk; cases hk) h

/-- sda and wda (pdsgm.cpp; `wda = false / true`): as `sgm_honest` -/
theorem pdsgm_honest (env : Env α) (nm : EnvNM α) (f : Objective α) (wda : Bool) (D : α) (patience : Nat) (eps : α)
    (maxEvals fuel : Nat) (x0 : Vec α) :
    (∀ c m, ∀ cand ∈ (pdsgmBody env nm (fun _ => f) wda D x0 c m).cands, cand.2.2 = (f cand.1).1 ∧ cand.2.1 = (f cand.1).2) ∧
    ((pdsgmMinimize env nm (fun _ => f) wda D patience eps maxEvals fuel x0).st.fx =
        (f (pdsgmMinimize env nm (fun _ => f) wda D patience eps maxEvals fuel x0).st.x).1 ∧
      (pdsgmMinimize env nm (fun _ => f) wda D patience eps maxEvals fuel x0).st.gx =
        (f (pdsgmMinimize env nm (fun _ => f) wda D patience eps maxEvals fuel x0).st.x).2) ∧
    (1 ≤ maxEvals → evals (pdsgmMinimize env nm (fun _ => f) wda D patience eps maxEvals fuel x0).st < maxEvals + 2) ∧
    ((pdsgmMinimize env nm (fun _ => f) wda D patience eps maxEvals fuel x0).st.status = Status.max_iters ∨
      (pdsgmMinimize env nm (fun _ => f) wda D patience eps maxEvals fuel x0).st.status = Status.converged ∨
      (pdsgmMinimize env nm (fun _ => f) wda D patience eps maxEvals fuel x0).st.status = Status.failed) :=
  ⟨pdsgmBody_cands env nm f wda D x0,
   nmMinimize_honest env f _ _ patience eps maxEvals 2 fuel x0 (pdsgmBody_cands env nm f wda D x0)
    (fun c m => (pdsgmBody_evals env nm _ wda D x0 c m).1) (Nat.le_refl 2)⟩

/-- sda / wda report `converged` only through `value_test(patience) < epsilon` on the history of the returned state, or a
    gradient with `‖g‖∞ < numeric_limits::epsilon()` at the current iterate of some iteration `k` -/
theorem pdsgm_converged_only_by_test (env : Env α) (nm : EnvNM α) (F : ObjectiveI α) (wda : Bool) (D : α) (patience : Nat)
    (eps : α) (maxEvals fuel : Nat) (x0 : Vec α)
    (h : (pdsgmMinimize env nm F wda D patience eps maxEvals fuel x0).st.status = Status.converged) :
    valueTest env patience (pdsgmMinimize env nm F wda D patience eps maxEvals fuel x0) < eps ∨
    ∃ k, infNorm (memAt (pdsgmBody env nm F wda D x0) (pdsgmInit F x0) 1 k).1.gx < nm.epsMach :=
  nmMinimize_converged_by env F (fun _ (m : PdsgmMem α) => infNorm m.gx < nm.epsMach) _ _ patience eps maxEvals fuel x0
    (fun c m => (pdsgmBody_evals env nm F wda D x0 c m).2.2.1.mp) h

/-- pgm (universal.cpp): only an accepted trial `(xk1, ∇f(xk1), f(xk1))` of the inner line search is handed to `update_if_better`, so the
    returned triple is an evaluation of `f`; one iteration makes at most `lsearch_max_iters` calls `vgrad(xk1, gxk1)`, so the reported
    evaluations stay below `max_evals + 2·lsearch_max_iters` (registered domain of `lsearch_max_iters`: [10, 100]); the status is one
    of the three -/
theorem pgm_honest (env : Env α) (f : Objective α) (l0 : α) (lsmax patience : Nat) (eps : α)
    (maxEvals fuel : Nat) (x0 : Vec α) (hls : 1 ≤ lsmax) :
    (∀ c m, ∀ cand ∈ (pgmBody env (fun _ => f) eps lsmax c m).cands, cand.2.2 = (f cand.1).1 ∧ cand.2.1 = (f cand.1).2) ∧
    ((pgmMinimize env (fun _ => f) l0 lsmax patience eps maxEvals fuel x0).st.fx = (f (pgmMinimize env (fun _ => f) l0 lsmax patience eps maxEvals fuel x0).st.x).1 ∧
      (pgmMinimize env (fun _ => f) l0 lsmax patience eps maxEvals fuel x0).st.gx = (f (pgmMinimize env (fun _ => f) l0 lsmax patience eps maxEvals fuel x0).st.x).2) ∧
    (∀ (F : ObjectiveI α) c m, (pgmBody env F eps lsmax c m).nf + (pgmBody env F eps lsmax c m).ng ≤ 2 * lsmax) ∧
    (1 ≤ maxEvals → evals (pgmMinimize env (fun _ => f) l0 lsmax patience eps maxEvals fuel x0).st < maxEvals + 2 * lsmax) ∧
    ((pgmMinimize env (fun _ => f) l0 lsmax patience eps maxEvals fuel x0).st.status = Status.max_iters ∨
      (pgmMinimize env (fun _ => f) l0 lsmax patience eps maxEvals fuel x0).st.status = Status.converged ∨
      (pgmMinimize env (fun _ => f) l0 lsmax patience eps maxEvals fuel x0).st.status = Status.failed) :=
  have h := nmMinimize_honest_spec env f _ _ patience eps maxEvals (2 * lsmax) fuel x0
    (fun c m => (pgmBody_spec env _ eps lsmax c m).1) (by omega)
  ⟨fun c m => (pgmBody_spec env _ eps lsmax c m).1.isEval, h.1, fun F c m => (pgmBody_spec env F eps lsmax c m).1.evals, h.2⟩

/-- pgm reports `converged` only through `value_test(patience) < epsilon` on the history of the returned state (an iteration
    whose line search fails hands `converged = false` to `done`) -/
theorem pgm_converged_only_by_test (env : Env α) (F : ObjectiveI α) (l0 : α) (lsmax patience : Nat) (eps : α)
    (maxEvals fuel : Nat) (x0 : Vec α)
    (h : (pgmMinimize env F l0 lsmax patience eps maxEvals fuel x0).st.status = Status.converged) :
    valueTest env patience (pgmMinimize env F l0 lsmax patience eps maxEvals fuel x0) < eps :=
  nmMinimize_converged_valueTest env F _ _ patience eps maxEvals fuel x0 (fun c m => (pgmBody_spec env F eps lsmax c m).2) h

/-- dgm (universal.cpp): as `pgm_honest`; one trial is `vgrad(xk1, gxk1)` plus, when that value is finite, the value-only `vgrad(yk)`:
    at most `3·lsearch_max_iters` evaluations per iteration -/
theorem dgm_honest (env : Env α) (f : Objective α) (l0 : α) (lsmax patience : Nat) (eps : α)
    (maxEvals fuel : Nat) (x0 : Vec α) (hls : 1 ≤ lsmax) :
    (∀ c m, ∀ cand ∈ (dgmBody env (fun _ => f) eps lsmax c m).cands, cand.2.2 = (f cand.1).1 ∧ cand.2.1 = (f cand.1).2) ∧
    ((dgmMinimize env (fun _ => f) l0 lsmax patience eps maxEvals fuel x0).st.fx = (f (dgmMinimize env (fun _ => f) l0 lsmax patience eps maxEvals fuel x0).st.x).1 ∧
      (dgmMinimize env (fun _ => f) l0 lsmax patience eps maxEvals fuel x0).st.gx = (f (dgmMinimize env (fun _ => f) l0 lsmax patience eps maxEvals fuel x0).st.x).2) ∧
    (∀ (F : ObjectiveI α) c m, (dgmBody env F eps lsmax c m).nf + (dgmBody env F eps lsmax c m).ng ≤ 3 * lsmax) ∧
    (1 ≤ maxEvals → evals (dgmMinimize env (fun _ => f) l0 lsmax patience eps maxEvals fuel x0).st < maxEvals + 3 * lsmax) ∧
    ((dgmMinimize env (fun _ => f) l0 lsmax patience eps maxEvals fuel x0).st.status = Status.max_iters ∨
      (dgmMinimize env (fun _ => f) l0 lsmax patience eps maxEvals fuel x0).st.status = Status.converged ∨
      (dgmMinimize env (fun _ => f) l0 lsmax patience eps maxEvals fuel x0).st.status = Status.failed) :=
  have h := nmMinimize_honest env f _ _ patience eps maxEvals (3 * lsmax) fuel x0 (dgmBody_cands env f eps lsmax)
    (fun c m => (dgmBody_evals env _ eps lsmax c m).1) (by omega)
  ⟨dgmBody_cands env f eps lsmax, h.1, fun F c m => (dgmBody_evals env F eps lsmax c m).1, h.2⟩

/-- dgm reports `converged` only through `value_test(patience) < epsilon` on the history of the returned state (an iteration
    whose line search fails hands `converged = false` to `done`) -/
theorem dgm_converged_only_by_test (env : Env α) (F : ObjectiveI α) (l0 : α) (lsmax patience : Nat) (eps : α)
    (maxEvals fuel : Nat) (x0 : Vec α)
    (h : (dgmMinimize env F l0 lsmax patience eps maxEvals fuel x0).st.status = Status.converged) :
    valueTest env patience (dgmMinimize env F l0 lsmax patience eps maxEvals fuel x0) < eps :=
  nmMinimize_converged_valueTest env F _ _ patience eps maxEvals fuel x0 (fun c m => (dgmBody_evals env F eps lsmax c m).2) h

/-- fgm (universal.cpp): as `pgm_honest`, the candidate is `(yk1, ∇f(yk1), f(yk1))`; one trial is `vgrad(xk1, gxk1)` and
    `vgrad(yk1, gyk1)`: at most `4·lsearch_max_iters` evaluations per iteration -/
theorem fgm_honest (env : Env α) (f : Objective α) (l0 : α) (lsmax patience : Nat) (eps : α)
    (maxEvals fuel : Nat) (x0 : Vec α) (hls : 1 ≤ lsmax) :
    (∀ c m, ∀ cand ∈ (fgmBody env (fun _ => f) eps lsmax c m).cands, cand.2.2 = (f cand.1).1 ∧ cand.2.1 = (f cand.1).2) ∧
    ((fgmMinimize env (fun _ => f) l0 lsmax patience eps maxEvals fuel x0).st.fx = (f (fgmMinimize env (fun _ => f) l0 lsmax patience eps maxEvals fuel x0).st.x).1 ∧
      (fgmMinimize env (fun _ => f) l0 lsmax patience eps maxEvals fuel x0).st.gx = (f (fgmMinimize env (fun _ => f) l0 lsmax patience eps maxEvals fuel x0).st.x).2) ∧
    (∀ (F : ObjectiveI α) c m, (fgmBody env F eps lsmax c m).nf + (fgmBody env F eps lsmax c m).ng ≤ 4 * lsmax) ∧
    (1 ≤ maxEvals → evals (fgmMinimize env (fun _ => f) l0 lsmax patience eps maxEvals fuel x0).st < maxEvals + 4 * lsmax) ∧
    ((fgmMinimize env (fun _ => f) l0 lsmax patience eps maxEvals fuel x0).st.status = Status.max_iters ∨
      (fgmMinimize env (fun _ => f) l0 lsmax patience eps maxEvals fuel x0).st.status = Status.converged ∨
      (fgmMinimize env (fun _ => f) l0 lsmax patience eps maxEvals fuel x0).st.status = Status.failed) :=
  have h := nmMinimize_honest env f _ _ patience eps maxEvals (4 * lsmax) fuel x0 (fgmBody_cands env f eps lsmax)
    (fun c m => (fgmBody_evals env _ eps lsmax c m).1) (by omega)
  ⟨fgmBody_cands env f eps lsmax, h.1, fun F c m => (fgmBody_evals env F eps lsmax c m).1, h.2⟩

/-- fgm reports `converged` only through `value_test(patience) < epsilon` on the history of the returned state (an iteration
    whose line search fails hands `converged = false` to `done`) -/
theorem fgm_converged_only_by_test (env : Env α) (F : ObjectiveI α) (l0 : α) (lsmax patience : Nat) (eps : α)
    (maxEvals fuel : Nat) (x0 : Vec α)
    (h : (fgmMinimize env F l0 lsmax patience eps maxEvals fuel x0).st.status = Status.converged) :
    valueTest env patience (fgmMinimize env F l0 lsmax patience eps maxEvals fuel x0) < eps :=
  nmMinimize_converged_valueTest env F _ _ patience eps maxEvals fuel x0 (fun c m => (fgmBody_evals env F eps lsmax c m).2) h

/-- asga2 (asga.cpp): the triple handed to `update_if_better` after the inner loop is `(xk1, ∇f(xk1), f(xk1))` of its last trial
    (`lsearch_max_iters ≥ 1`; registered domain [10, 1000]), so the returned triple is an evaluation of `f`; one trial is `vgrad(yk, gyk)`
    and `vgrad(xk1, gxk1)`: at most `4·lsearch_max_iters` evaluations per iteration; the status is one of the three -/
theorem asga2_honest (env : Env α) (nm : EnvNM α) (f : Objective α) (miu l0 gamma1 gamma2 : α) (lsmax patience : Nat) (eps : α)
    (maxEvals fuel : Nat) (x0 : Vec α) (hls : 1 ≤ lsmax) :
    (∀ c m, ∀ cand ∈ (asga2Body env (fun _ => f) eps miu gamma1 gamma2 lsmax x0 c m).cands,
      cand.2.2 = (f cand.1).1 ∧ cand.2.1 = (f cand.1).2) ∧
    ((asga2Minimize env nm (fun _ => f) miu l0 gamma1 gamma2 lsmax patience eps maxEvals fuel x0).st.fx = (f (asga2Minimize env nm (fun _ => f) miu l0 gamma1 gamma2 lsmax patience eps maxEvals fuel x0).st.x).1 ∧
      (asga2Minimize env nm (fun _ => f) miu l0 gamma1 gamma2 lsmax patience eps maxEvals fuel x0).st.gx = (f (asga2Minimize env nm (fun _ => f) miu l0 gamma1 gamma2 lsmax patience eps maxEvals fuel x0).st.x).2) ∧
    (∀ (F : ObjectiveI α) c m, (asga2Body env F eps miu gamma1 gamma2 lsmax x0 c m).nf +
      (asga2Body env F eps miu gamma1 gamma2 lsmax x0 c m).ng ≤ 4 * lsmax) ∧
    (1 ≤ maxEvals → evals (asga2Minimize env nm (fun _ => f) miu l0 gamma1 gamma2 lsmax patience eps maxEvals fuel x0).st < maxEvals + 4 * lsmax) ∧
    ((asga2Minimize env nm (fun _ => f) miu l0 gamma1 gamma2 lsmax patience eps maxEvals fuel x0).st.status = Status.max_iters ∨
      (asga2Minimize env nm (fun _ => f) miu l0 gamma1 gamma2 lsmax patience eps maxEvals fuel x0).st.status = Status.converged ∨
      (asga2Minimize env nm (fun _ => f) miu l0 gamma1 gamma2 lsmax patience eps maxEvals fuel x0).st.status = Status.failed) := by
  have h : Honest f maxEvals (4 * lsmax) (asga2Minimize env nm (fun _ => f) miu l0 gamma1 gamma2 lsmax patience eps maxEvals fuel x0) := by
    -- `if (state.gradient_test() < epsilon()) return state;` before the loop
    unfold asga2Minimize
    split
    · exact initBState_honest f maxEvals _ x0 (by omega)
    · exact nmMinimize_honest_spec env f _ _ patience eps maxEvals _ fuel x0
        (fun c m => (asga2Body_spec env _ eps miu gamma1 gamma2 lsmax x0 c m).1 hls) (by omega)
  exact ⟨fun c m => ((asga2Body_spec env _ eps miu gamma1 gamma2 lsmax x0 c m).1 hls).isEval, h.1,
    fun F c m => (asga2Body_spec env F eps miu gamma1 gamma2 lsmax x0 c m).2.1, h.2⟩

/-- asga2 reports `converged` only through `value_test(patience) < epsilon` on the history of the returned state (the early
    `return state` at a stationary start leaves the status `max_iters`) -/
theorem asga2_converged_only_by_test (env : Env α) (nm : EnvNM α) (F : ObjectiveI α) (miu l0 gamma1 gamma2 : α)
    (lsmax patience : Nat) (eps : α) (maxEvals fuel : Nat) (x0 : Vec α)
    (h : (asga2Minimize env nm F miu l0 gamma1 gamma2 lsmax patience eps maxEvals fuel x0).st.status = Status.converged) :
    valueTest env patience (asga2Minimize env nm F miu l0 gamma1 gamma2 lsmax patience eps maxEvals fuel x0) < eps := by
  unfold asga2Minimize at h ⊢
  split at h
  · rw [initBState_status] at h; cases h
  · rename_i hg
    rw [if_neg hg]
    exact nmMinimize_converged_valueTest env F _ _ patience eps maxEvals fuel x0
      (fun c m hk => by rw [(asga2Body_spec env F eps miu gamma1 gamma2 lsmax x0 c m).2.2] at hk; cases hk) h

/-- asga4 (asga.cpp): as `asga2_honest`, the candidate is `(yk1, ∇f(yk1), f(yk1))` -/
theorem asga4_honest (env : Env α) (nm : EnvNM α) (f : Objective α) (miu l0 gamma1 gamma2 : α) (lsmax patience : Nat) (eps : α)
    (maxEvals fuel : Nat) (x0 : Vec α) (hls : 1 ≤ lsmax) :
    (∀ c m, ∀ cand ∈ (asga4Body env (fun _ => f) eps miu gamma1 gamma2 lsmax x0 c m).cands,
      cand.2.2 = (f cand.1).1 ∧ cand.2.1 = (f cand.1).2) ∧
    ((asga4Minimize env nm (fun _ => f) miu l0 gamma1 gamma2 lsmax patience eps maxEvals fuel x0).st.fx = (f (asga4Minimize env nm (fun _ => f) miu l0 gamma1 gamma2 lsmax patience eps maxEvals fuel x0).st.x).1 ∧
      (asga4Minimize env nm (fun _ => f) miu l0 gamma1 gamma2 lsmax patience eps maxEvals fuel x0).st.gx = (f (asga4Minimize env nm (fun _ => f) miu l0 gamma1 gamma2 lsmax patience eps maxEvals fuel x0).st.x).2) ∧
    (∀ (F : ObjectiveI α) c m, (asga4Body env F eps miu gamma1 gamma2 lsmax x0 c m).nf +
      (asga4Body env F eps miu gamma1 gamma2 lsmax x0 c m).ng ≤ 4 * lsmax) ∧
    (1 ≤ maxEvals → evals (asga4Minimize env nm (fun _ => f) miu l0 gamma1 gamma2 lsmax patience eps maxEvals fuel x0).st < maxEvals + 4 * lsmax) ∧
    ((asga4Minimize env nm (fun _ => f) miu l0 gamma1 gamma2 lsmax patience eps maxEvals fuel x0).st.status = Status.max_iters ∨
      (asga4Minimize env nm (fun _ => f) miu l0 gamma1 gamma2 lsmax patience eps maxEvals fuel x0).st.status = Status.converged ∨
      (asga4Minimize env nm (fun _ => f) miu l0 gamma1 gamma2 lsmax patience eps maxEvals fuel x0).st.status = Status.failed) := by
  have h : Honest f maxEvals (4 * lsmax) (asga4Minimize env nm (fun _ => f) miu l0 gamma1 gamma2 lsmax patience eps maxEvals fuel x0) := by
    -- `if (state.gradient_test() < epsilon()) return state;` before the loop
    unfold asga4Minimize
    split
    · exact initBState_honest f maxEvals _ x0 (by omega)
    · exact nmMinimize_honest env f _ _ patience eps maxEvals _ fuel x0 (asga4Body_cands env f eps miu gamma1 gamma2 lsmax x0 hls)
        (fun c m => (asga4Body_evals env _ eps miu gamma1 gamma2 lsmax x0 c m).1) (by omega)
  exact ⟨asga4Body_cands env f eps miu gamma1 gamma2 lsmax x0 hls, h.1,
    fun F c m => (asga4Body_evals env F eps miu gamma1 gamma2 lsmax x0 c m).1, h.2⟩

/-- asga4 reports `converged` only through `value_test(patience) < epsilon` on the history of the returned state (the early
    `return state` at a stationary start leaves the status `max_iters`) -/
theorem asga4_converged_only_by_test (env : Env α) (nm : EnvNM α) (F : ObjectiveI α) (miu l0 gamma1 gamma2 : α)
    (lsmax patience : Nat) (eps : α) (maxEvals fuel : Nat) (x0 : Vec α)
    (h : (asga4Minimize env nm F miu l0 gamma1 gamma2 lsmax patience eps maxEvals fuel x0).st.status = Status.converged) :
    valueTest env patience (asga4Minimize env nm F miu l0 gamma1 gamma2 lsmax patience eps maxEvals fuel x0) < eps := by
  unfold asga4Minimize at h ⊢
  split at h
  · rw [initBState_status] at h; cases h
  · rename_i hg
    rw [if_neg hg]
    exact nmMinimize_converged_valueTest env F _ _ patience eps maxEvals fuel x0
      (fun c m hk => by rw [(asga4Body_evals env F eps miu gamma1 gamma2 lsmax x0 c m).2] at hk; cases hk) h

/-- osga (osga.cpp): the pair handed to `update_if_better(xb_hat, fb_hat)` is the best of `x`, `x_prime` (both evaluated in this
    iteration) and the previous best `xb` — always a point with ITS value of `f` (the stored gradient stays the one of the start:
    `update_if_better(x, fx)` does not change it); so the returned value is `f` at the returned point and the returned gradient
    is the gradient at `x0`; one iteration is `vgrad(x, g)` and the value-only `vgrad(x_prime)`: 3 evaluations; the status is one
    of the three -/
theorem osga_honest (env : Env α) (nm : EnvNM α) (f : Objective α) (miu lambda alphaMax kappaP kappa : α) (patience : Nat) (eps : α)
    (maxEvals fuel : Nat) (x0 : Vec α) :
    ((osgaMinimize env nm (fun _ => f) miu lambda alphaMax kappaP kappa patience eps maxEvals fuel x0).st.fx = (f (osgaMinimize env nm (fun _ => f) miu lambda alphaMax kappaP kappa patience eps maxEvals fuel x0).st.x).1 ∧
      (osgaMinimize env nm (fun _ => f) miu lambda alphaMax kappaP kappa patience eps maxEvals fuel x0).st.gx = (f x0).2) ∧
    (∀ (F : ObjectiveI α) z0 g0 c m, (osgaBody env nm F eps miu lambda alphaMax kappaP kappa z0 g0 c m).nf +
      (osgaBody env nm F eps miu lambda alphaMax kappaP kappa z0 g0 c m).ng ≤ 3) ∧
    (1 ≤ maxEvals → evals (osgaMinimize env nm (fun _ => f) miu lambda alphaMax kappaP kappa patience eps maxEvals fuel x0).st < maxEvals + 3) ∧
    ((osgaMinimize env nm (fun _ => f) miu lambda alphaMax kappaP kappa patience eps maxEvals fuel x0).st.status = Status.max_iters ∨
      (osgaMinimize env nm (fun _ => f) miu lambda alphaMax kappaP kappa patience eps maxEvals fuel x0).st.status = Status.converged ∨
      (osgaMinimize env nm (fun _ => f) miu lambda alphaMax kappaP kappa patience eps maxEvals fuel x0).st.status = Status.failed) := by
  refine ⟨?_, fun F z0 g0 c m => (osgaBody_evals env nm F eps miu lambda alphaMax kappaP kappa z0 g0 c m).1, fun h1 => ?_, ?_⟩
  · exact nmMinimize_inv_mem env (fun m => m.fb = (f m.xb).1) (fun x gx fx => fx = (f x).1 ∧ gx = (f x0).2) _ _ patience eps
      maxEvals fuel _ ⟨rfl, rfl⟩ rfl
      (fun c m hm => osgaBody_cands env nm f eps miu lambda alphaMax kappaP kappa x0 (f x0).2 c m hm)
  · apply nmMinimize_budget env _ _ patience eps maxEvals 3 fuel _
      (fun c m => (osgaBody_evals env nm _ eps miu lambda alphaMax kappaP kappa x0 _ c m).1)
    rw [initBState_evals]; omega
  · exact nmMinimize_tri env _ _ patience eps maxEvals fuel _ (Or.inl rfl)

/-- osga reports `converged` only through its documented tests: `value_test(patience) < epsilon` on the history of the returned
    state, `eta_hat < epsilon` in some iteration `k`, or a gradient at the start with `‖g‖∞ < epsilon0` -/
theorem osga_converged_only_by_test (env : Env α) (nm : EnvNM α) (F : ObjectiveI α) (miu lambda alphaMax kappaP kappa : α)
    (patience : Nat) (eps : α) (maxEvals fuel : Nat) (x0 : Vec α)
    (h : (osgaMinimize env nm F miu lambda alphaMax kappaP kappa patience eps maxEvals fuel x0).st.status = Status.converged) :
    valueTest env patience (osgaMinimize env nm F miu lambda alphaMax kappaP kappa patience eps maxEvals fuel x0) < eps ∨
    infNorm (F 0 x0).2 < nm.eps0 ∨
    ∃ k, (osgaIter env F miu (osgaQ0 env nm x0) x0
      (memAt (osgaBody env nm F eps miu lambda alphaMax kappaP kappa x0 (F 0 x0).2) (osgaInit env nm F miu alphaMax x0) 1 k).2
      (memAt (osgaBody env nm F eps miu lambda alphaMax kappaP kappa x0 (F 0 x0).2) (osgaInit env nm F miu alphaMax x0) 1 k).1).etaHat
        < eps := by
  rcases nmMinimize_converged_by env F _ _ _ patience eps maxEvals fuel x0
    (fun c m => (osgaBody_evals env nm F eps miu lambda alphaMax kappaP kappa x0 _ c m).2) h with h1 | ⟨k, h1 | h1⟩
  · exact Or.inl h1
  · exact Or.inr (Or.inl h1)
  · exact Or.inr (Or.inr ⟨k, h1⟩)

/-- the loop the driver runs (`nmLoopM`, private variables threaded) IS `nmLoop` with the body in its oracle slot: the
    correspondence runs of the family `solvernm` exercise the very definitions the theorems above are about -/
theorem modelled_loop_is_nmLoop {M : Type} (env : Env α) (body : Body α M) (m0 : M) (patience : Nat) (eps : α)
    (maxEvals fuel : Nat) (b0 : BState α) :
    (nmLoopM env body patience eps maxEvals fuel m0 1 b0.st.fcalls b0.st.gcalls b0).1 =
      nmMinimize env body m0 patience eps maxEvals fuel b0 :=
  (nmLoopM_eq env body m0 1 patience eps maxEvals fuel 0 _ _ b0).1

end modelled

/-! ### non-vacuity -/
section examples

def envZ2 : Env Int := ⟨fun _ => true, fun x => x, -1000000, 1000000⟩

/-- a step oracle proposing worse, better, and equal candidates -/
def stepZ : Nat → Nat × Nat → BState Int → NmStep Int := fun k g _ =>
  ⟨[([Int.ofNat k], [0], 10 - Int.ofNat k), ([7], [0], 10)], true, none, g.1 + 1, g.2 + 1, g.1 + 1, g.2 + 1⟩

def b0Z : BState Int := ⟨⟨[100], 9, [1], Status.initial, 1, 1⟩, []⟩

/-- the loop really updates (value 9 → 7 until the budget of 10 evaluations is used up; the candidates with value 10 and 9 are
    refused: no update without a strict decrease) and keeps the candidate's point -/
example : (nmLoop envZ2 stepZ 10 1 10 20 0 1 1 b0Z).1.st.fx = 7 := by decide +kernel
example : (nmLoop envZ2 stepZ 10 1 10 20 0 1 1 b0Z).1.st.x = [3] := by decide +kernel
example : (nmLoop envZ2 stepZ 10 1 10 20 0 1 1 b0Z).1.st.status = Status.max_iters := by decide +kernel
/-- stagnation: with candidates that never improve, `value_test` becomes 0 after `patience` calls and the status is `converged` -/
example : (nmLoop envZ2 (fun _ g _ => ⟨[([7], [0], 10)], true, none, g.1 + 1, g.2 + 1, g.1 + 1, g.2 + 1⟩) 3 1 100 20 0 1 1 b0Z).1.st.status
    = Status.converged := by decide +kernel
/-- `value_test` before `patience` calls -/
example : valueTest envZ2 3 ⟨b0Z.st, [(-1, 0)]⟩ = 1000000 := by decide +kernel
example : valueTest envZ2 3 ⟨b0Z.st, [(-1, 0), (4, 2), (-3, 1)]⟩ = 4 := by decide +kernel
example : valueTest envZ2 2 ⟨b0Z.st, [(-1, 0), (-1, 0), (4, 2)]⟩ = 0 := by decide +kernel

/-! the modelled bodies over `Int` (`sqrt = id`, `pow a _ = a`, `tanh = exp = id`, machine epsilon 1) -/
def nmZ : EnvNM Int := ⟨fun a _ => a, fun x => x, fun x => x, 1, 1, Int.ofNat⟩
/-- `f(x) = x·x`, `∇f(x) = 2x` -/
def fZ : Objective Int := fun x => (vdot x x, x.map (fun v => 2 * v))

/-- sgm really moves and really hands evaluations over: from 5 the first step (λ = 1, g / ‖g‖ = 10 / 100 = 0 in `Int`) … -/
example : (sgmMinimize envZ2 nmZ (fun _ => fZ) 1 3 1 100 50 [5]).st.fx = 25 := by decide +kernel
/-- … the candidates never improve: `value_test(3)` becomes 0 after three calls and the status is `converged` (hypothesis of
    `sgm_converged_only_by_test`, first disjunct), after 1 + 3 calls of the function -/
example : (sgmMinimize envZ2 nmZ (fun _ => fZ) 1 3 1 100 50 [5]).st.status = Status.converged ∧
    evals (sgmMinimize envZ2 nmZ (fun _ => fZ) 1 3 1 100 50 [5]).st = 8 := by decide +kernel
/-- second disjunct: a start with a zero gradient stops in the first iteration without a call -/
example : (sgmMinimize envZ2 nmZ (fun _ => fZ) 1 3 1 100 50 [0]).st.status = Status.converged ∧
    evals (sgmMinimize envZ2 nmZ (fun _ => fZ) 1 3 1 100 50 [0]).st = 2 := by decide +kernel
/-- the budget bound of `sgm_honest` is attained: `max_evals = 3` allows one iteration, the run ends with 4 = 3 + 2 - 1 evaluations -/
example : evals (sgmMinimize envZ2 nmZ (fun _ => fZ) 1 10 1 3 50 [5]).st = 4 ∧
    (sgmMinimize envZ2 nmZ (fun _ => fZ) 1 10 1 3 50 [5]).st.status = Status.max_iters := by decide +kernel
/-- `f(x) = Σ x_i`, `∇f(x) = (1, …, 1)` -/
def fLin : Objective Int := fun x => (vdot x (x.map (fun _ => 1)), x.map (fun _ => 1))
/-- cocob on the linear function from 5 with `L0 = 1`: four iterations within `max_evals = 9`, every one improves, 10 = 9 + 2 - 1
    evaluations -/
example : (cocobMinimize envZ2 nmZ (fun _ => fLin) 1 3 1 9 50 [5]).st.fx = -3 ∧
    evals (cocobMinimize envZ2 nmZ (fun _ => fLin) 1 3 1 9 50 [5]).st = 10 ∧
    (cocobMinimize envZ2 nmZ (fun _ => fLin) 1 3 1 9 50 [5]).st.status = Status.max_iters := by decide +kernel
/-- … and stagnation on `x·x` from 0: `converged` through `value_test` (hypothesis of `cocob_converged_only_by_test`) -/
example : (cocobMinimize envZ2 nmZ (fun _ => fZ) 1 2 1 100 50 [0]).st.status = Status.converged := by decide +kernel
/-- sda / wda (with `sqrt = 1`): improving steps on the linear function; a zero gradient at the start stops at once -/
example : (pdsgmMinimize ⟨fun _ => true, fun _ => 1, -1000000, 1000000⟩ nmZ (fun _ => fLin) false 2 3 1 9 50 [5]).st.fx < 5 ∧
    (pdsgmMinimize ⟨fun _ => true, fun _ => 1, -1000000, 1000000⟩ nmZ (fun _ => fLin) true 2 3 1 9 50 [5]).st.fx < 5 := by decide +kernel
example : (pdsgmMinimize envZ2 nmZ (fun _ => fZ) false 2 3 1 100 50 [5]).st.status = Status.converged := by decide +kernel
example : (pdsgmMinimize envZ2 nmZ (fun _ => fZ) true 2 3 1 100 50 [0]).st.status = Status.converged ∧
    evals (pdsgmMinimize envZ2 nmZ (fun _ => fZ) true 2 3 1 100 50 [0]).st = 2 := by decide +kernel
/-- pgm / dgm / fgm on the linear function from 5 with `L0 = 1`: the first trial is accepted (value 4), then stagnation and
    `converged` through `value_test` (hypothesis of `…_converged_only_by_test`) -/
example : (pgmMinimize envZ2 (fun _ => fLin) 1 10 3 1 100 50 [5]).st.fx = 4 ∧
    (pgmMinimize envZ2 (fun _ => fLin) 1 10 3 1 100 50 [5]).st.status = Status.converged := by decide +kernel
example : (dgmMinimize envZ2 (fun _ => fLin) 1 10 3 1 100 50 [5]).st.fx = 4 ∧
    (dgmMinimize envZ2 (fun _ => fLin) 1 10 3 1 100 50 [5]).st.status = Status.converged := by decide +kernel
example : (fgmMinimize envZ2 (fun _ => fLin) 1 10 3 1 100 50 [5]).st.fx = 4 ∧
    (fgmMinimize envZ2 (fun _ => fLin) 1 10 3 1 100 50 [5]).st.status = Status.converged := by decide +kernel
/-- pgm on `x·x` from 5: four rejected trials (M = 1, 2, 4, 8), the fifth is accepted: 2 + 2·5 evaluations with `max_evals = 3`;
    with `lsearch_max_iters = 3` the line search fails after 3 trials: status `failed`, and the bound of `pgm_honest` is attained
    (8 = 3 + 2·3 - 1) -/
example : evals (pgmMinimize envZ2 (fun _ => fZ) 1 10 3 1 3 50 [5]).st = 12 ∧
    (pgmMinimize envZ2 (fun _ => fZ) 1 10 3 1 3 50 [5]).st.status = Status.max_iters := by decide +kernel
example : evals (pgmMinimize envZ2 (fun _ => fZ) 1 3 3 1 3 50 [5]).st = 8 ∧
    (pgmMinimize envZ2 (fun _ => fZ) 1 3 3 1 3 50 [5]).st.status = Status.failed := by decide +kernel
/-- dgm: a trial costs 3 evaluations (`vgrad(xk1, gxk1)` and the value-only `vgrad(yk)`), fgm: 4 -/
example : evals (dgmMinimize envZ2 (fun _ => fLin) 1 10 3 1 3 50 [5]).st = 5 ∧
    evals (fgmMinimize envZ2 (fun _ => fLin) 1 10 3 1 3 50 [5]).st = 6 ∧
    evals (fgmMinimize envZ2 (fun _ => fZ) 1 3 3 1 3 50 [5]).st = 10 := by decide +kernel
/-- asga2 / asga4 on the linear function from 5 (`L0 = 1`, `gamma1 = gamma2 = 1`, `miu = 0`, machine epsilon 0): the first iteration
    improves to 4, then stagnation and `converged` through `value_test`; one trial costs 4 evaluations; with machine epsilon 1
    the gradient test at the start returns the initial state at once with status `max_iters` -/
example : (asga2Minimize envZ2 {nmZ with epsMach := 0} (fun _ => fLin) 0 1 1 1 10 3 1 100 50 [5]).st.fx = 4 ∧
    (asga2Minimize envZ2 {nmZ with epsMach := 0} (fun _ => fLin) 0 1 1 1 10 3 1 100 50 [5]).st.status = Status.converged ∧
    evals (asga2Minimize envZ2 {nmZ with epsMach := 0} (fun _ => fLin) 0 1 1 1 10 3 1 3 50 [5]).st = 6 := by decide +kernel
example : (asga4Minimize envZ2 {nmZ with epsMach := 0} (fun _ => fLin) 0 1 1 1 10 3 1 100 50 [5]).st.fx = 4 ∧
    (asga4Minimize envZ2 {nmZ with epsMach := 0} (fun _ => fLin) 0 1 1 1 10 3 1 100 50 [5]).st.status = Status.converged ∧
    evals (asga4Minimize envZ2 {nmZ with epsMach := 0} (fun _ => fLin) 0 1 1 1 10 3 1 3 50 [5]).st = 6 := by decide +kernel
example : (asga2Minimize envZ2 nmZ (fun _ => fLin) 0 1 1 1 10 3 1 100 50 [5]).st.status = Status.max_iters ∧
    evals (asga2Minimize envZ2 nmZ (fun _ => fLin) 0 1 1 1 10 3 1 100 50 [5]).st = 2 := by decide +kernel
/-- osga over `Int` (where `0.5 = 0` degenerates its formulas; the control flow is what the examples exercise): `converged` through
    `eta_hat < epsilon` after one iteration of 3 evaluations; with a negative `epsilon` no test fires and the budget of 100 is
    used up to 101 = 100 + 3 - 2 evaluations; a zero gradient at the start stops at once (`epsilon0 = 1`) -/
example : (osgaMinimize envZ2 {nmZ with eps0 := 0} (fun _ => fZ) 0 1 1 1 1 3 1 100 50 [5]).st.status = Status.converged ∧
    evals (osgaMinimize envZ2 {nmZ with eps0 := 0} (fun _ => fZ) 0 1 1 1 1 3 1 100 50 [5]).st = 5 := by decide +kernel
example : (osgaMinimize envZ2 {nmZ with eps0 := 0} (fun _ => fZ) 0 1 1 1 1 3 (-100) 100 50 [5]).st.status = Status.max_iters ∧
    evals (osgaMinimize envZ2 {nmZ with eps0 := 0} (fun _ => fZ) 0 1 1 1 1 3 (-100) 100 50 [5]).st = 101 := by decide +kernel
example : (osgaMinimize envZ2 nmZ (fun _ => fZ) 0 1 1 1 1 3 1 100 50 [0]).st.status = Status.converged ∧
    evals (osgaMinimize envZ2 nmZ (fun _ => fZ) 0 1 1 1 1 3 1 100 50 [0]).st = 2 := by decide +kernel
/-- a non-finite value fails the run: `iter_ok = isfinite(f)` -/
example : (sgmMinimize ⟨fun v => decide (v < 20), fun x => x, -1000000, 1000000⟩ nmZ (fun _ => fZ) 1 3 1 100 50 [5]).st.status
    = Status.failed := by decide +kernel

end examples

end NanoVerif.Solver
