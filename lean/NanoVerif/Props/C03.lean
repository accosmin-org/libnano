import NanoVerif.Proofs.Bundle
import NanoVerif.Proofs.BundleCapacity
import NanoVerif.Proofs.Ellipsoid
import NanoVerif.Proofs.EllipsoidLoop
import Mathlib.Algebra.Order.Field.Rat
import Mathlib.Tactic.NormNum
import Mathlib.Analysis.Real.Sqrt
/-!
  C03 — the bundle of sub-gradients is a global lower model of the objective, and the stopping tests of the proximal
  bundle solvers (RQB / FPBA) and of the ellipsoid method certify a bound on the optimality gap.

  Property theorems about `Model/Bundle.lean` and `Model/Ellipsoid.lean` (the models of `src/solver/bundle.cpp`,
  `src/solver/csearch.cpp`, `src/solver/ellipsoid.cpp`), for every linear ordered field `α` (exact arithmetic), every
  objective `f : List α → α` and every dimension `n`. The theorems about the OUTER LOOPS of RQB / FPBA1 / FPBA2
  (`Model/BundleSolver.lean`) build on this file and are in `Proofs/BundleSolver.lean` (`solver_run_certificate`,
  `solver_run_statement_bound`, …). Conventions of the statements:
  * convexity enters only through `SubGrad n f y gy` (the oracle returns a sub-gradient at the trial point);
  * the multipliers of the quadratic sub-problem enter only through `Simplex` (its contract);
  * `std::sqrt` is the class `Sqrt α`, axiomatised by `hsqrt : ∀ v ≥ 0, 0 ≤ sqrt v ∧ sqrt v * sqrt v = v`;
  * the definitions `LB`, `SubGrad`, `Simplex`, `Valid`, `Kept`, `Step`, `Reach` are in `Proofs/Bundle.lean`, `InE` in
    `Proofs/Ellipsoid.lean`, `WellH` in `Proofs/EllipsoidStep.lean`, `InvN` / `CertN` in `Proofs/EllipsoidLoop.lean`.

  COVERAGE TABLE (every function of the anchored files; `modelled` = hand-written Lean definition replayed against the code,
  `oracle` = parameter of the model with a stated contract, `outside` = not in the model):

  src/solver/bundle.cpp
    bundle_t::bundle_t                modelled  `Bundle.init`
    moveto / append (public)          modelled  `appendFull … true / false` (+ centre update in `appendStep`)
    solve, 1 row / 2 rows             modelled  `solve1`, `solve2` (`solveB`); simplex PROVED (6a, 6b)
    solve, ≥ 3 rows (program::solver_t::solve, src/program/solver.cpp — owned by C04)
                                      oracle    `Env.qp`; contract = simplex point (hypothesis `Simplex` / `EnvOK.hsolve`), MONITORED
                                                at run time on every call of every run: |Σα − 1| ≤ 1e-9, α ≥ −1e-12, and KKT
                                                optimality (Frank–Wolfe gap ≤ 1e-6 of the gradient's terms) whenever the QP solver
                                                itself reported `converged` (harness sink + python oracle `fw_gap`)
    delete_inactive                   modelled  `active`
    delete_largest                    modelled  `reduce`, `deleteFrom`; the `std::nth_element` threshold is an oracle (`thres` /
                                                `Env.thr`) with contract `NthElement` (6d)
    store_aggregate/append_aggregate  modelled  `aggregate` (inside `reduce`)
    append (private, 4 arguments)     modelled  `appendStep`, `nullError`, `shiftError`
    econverged / sconverged           modelled  `econverged`, `sconverged`, `tol`
    config / make                     outside   parameter registration and lookup (C19)
  include/nano/solver/bundle.h
    smeared_e, smeared_s, delta, proximal   modelled  `smearedE`, `smearedS`, `delta`, `proximal`
    size, x, gx, fx, dims, capacity, alpha, S, e   modelled as the fields of `State` / `SolverSt` (`e()`'s assert is not modelled)
    remove_if                         modelled  as the order-preserving filters `active` / `deleteFrom` (nano::remove_if: C16)
  src/solver/csearch.cpp
    csearch_t::search                 modelled  one pass `csearchStep`, `newTrial`; the whole loop `BundleSolver.csearchLoop`, `csearch`
    csearch_t::csearch_t, config, make, enum_string   outside (buffers, parameters: C19)
  src/solver/proximity.cpp
    make_miu0, proximity_t::proximity_t   modelled  `makeMiu0`, `miuInit`, `clamp`
    make_miu                          modelled  `makeMiu`
    update (5 arguments, FPBA)        modelled  `proxUpdate1`
    update (7 arguments, RQB)         modelled  `proxUpdate2`, `nuComb`
    miu                               modelled  the field `SolverSt.miu`; its `assert(m_miu > 0)` is PROVED (`proxUpdate*_pos`)
    config / make                     outside   (C19)
  src/solver/nesterov.cpp, include/nano/solver/nesterov.h
    reset, lambda, update(), update(z), make_alpha_beta (1 and 2)   modelled  `Seq`, `Seq.reset`, `lambdaNext`, `Seq.update`, `extrap`
  src/solver/rqb.cpp
    solver_rqb_t::do_minimize         modelled  `BundleSolver.start`, `pass .rqb`, `seriousR`, `run`
    constructor, clone                outside
  src/solver/fpba.cpp
    base_solver_fpba_t::do_minimize (+ lambda apply_nesterov_sequence)   modelled  `pass .fpba1/.fpba2`, `seriousF`, `run`
    constructor, clone                outside
  src/solver/ellipsoid.cpp
    solver_ellipsoid_t::do_minimize   modelled  n = 1: `start1d`, `iter1d`, `run1d`; n ≥ 2: `startND`, `iterND`, `runND`,
                                                `stepND` (`alphaCut`, `stepX`, `stepH`), `initH`, `earlyStop`, `converged`, `fuelOf`
    constructor, clone                outside
  src/solver.cpp  solver_t::done      modelled  `Ellipsoid.doneE` (C01/C02 use the regenerated `Gen.DoneLogic`)
  src/solver/state.cpp  update_if_better / update   modelled  `better`, `betterF`, `BundleSolver.upBetter` (value and point of the
                                                best state; histories: C02)
  the objective `function_t::vgrad`   oracle    `f`, `g'` with contract `SubGrad` (monitored against the known `f` by the python oracle)
  `std::isfinite`, `state.valid()`    oracle    arbitrary predicates in the ellipsoid theorems; `fin ≡ true` in `EnvOK`

  TRANSLATED (`tools/props/c03_translate.py` regenerates the text from the source of the tree under check on every
  run; the theorems `model_…_is_generated` of `Proofs/EllipsoidGen.lean` / `Proofs/BundleGen.lean` state that the model's definition IS
  the generated one — `rfl`, except where noted):
  src/solver/ellipsoid.cpp  do_minimize: the loop body is walked statement by statement (an unexpected statement breaks the translation)
      start scale `R` / `R*R`, `gHg < epsilon()`, flags of the early exit, 1-D step, `alpha`, the centre step and the H update
      (element-wise), `iter_ok`, `sqrt(gHg) < epsilon`          → Gen/EllipsoidStep.lean `initScale earlyStop earlyIterOk earlyConverged
      step1dX step1dH alphaCut stepXElem stepHElem iterOk converged` ↔ `initH earlyStop step1d alphaCut stepX stepH converged iterND`
  src/solver/bundle.cpp  econverged, sconverged, append (4 arguments: count of delete_largest, the error re-basing of a serious step,
      the error of the new row), moveto (text check), solve for 1 and 2 rows; bundle.h delta, proximal   → Gen/BundleStep.lean
      `econverged sconverged delCount shiftError seriousError nullError solve1 solve2 delta proximalElem` ↔ `econverged sconverged
      delCount appendStep solve1 solve2 delta proximal` (`solve2` over a field: `0.5 * x` vs `x / 2`, Proofs/BundleGenField.lean)
  src/solver/csearch.cpp  search: start values, lambda new_trial, the decision chain of one pass by symbolic execution of the loop body;
      csearch.h enum csearch_status   → `startT startTL startTR startStatus newTrial csearchStep statusOrder` ↔ `CState.start newTrial
      csearchStep Status.toNat` (by cases on `tR`, then `rfl`)
  src/solver/proximity.cpp  make_miu0, make_miu (guard and results; `u` element-wise, equal to the model's `vaxpy` under commutativity
      of `+`), the nu combination, the alpha grid and the `!= max` guards of both `update`s (their plumbing and the constructor's
      initialisers pinned as text)   → `makeMiu0 makeMiu makeMiuU nuCombElem alphaGrid proxKeep1 proxKeep2` ↔ `makeMiu0 makeMiu
      nuComb proxUpdate1 proxUpdate2`
  src/solver/rqb.cpp, src/solver/fpba.cpp  do_minimize: `iter_ok`, `converged`, the dispatch on the curve-search status (branch bodies,
      the lambda apply_nesterov_sequence and the start statements pinned as text)   → `rqbIterOk rqbConverged rqbBranch fpba…` ↔
      `BundleSolver.pass` (`model_pass_is_generated`, by cases on solver and status)
  HAND-WRITTEN: reductions (`dot`, `smearedE/S` — their C++ text is pinned —, `mv`, `quad`), `active`/`reduce`/
  aggregation, `std::clamp`, `std::min`, Nesterov sequences, the bodies of the serious steps (`seriousR/F`), `update_if_better`.
-/
set_option linter.unusedSectionVars false

namespace NanoVerif.Bundle
variable {α : Type} [Field α] [LinearOrder α] [IsStrictOrderedRing α]

/-! ### A. the bundle is a lower model -/

/-- 1. `store_aggregate` (n-ary): the smeared pair `(Σ wᵢ sᵢ, Σ wᵢ eᵢ)` of valid pairs with simplex weights is a valid
    cutting plane for the same centre. -/
theorem aggregate_valid (n : Nat) (f : List α → α) (x : List α) (hx : x.length = n) (pairs : List (Pair α))
    (ws : List α) (hp : ∀ p ∈ pairs, p.s.length = n ∧ LB n f x p.s p.e) (hl : ws.length = pairs.length)
    (hw : Simplex ws) : LB n f x (smearedS n pairs ws) (smearedE pairs ws) := by
  intro z hz
  have := weighted_lb n f x z hx hz pairs ws hp hw.1 hl
  rw [hw.2, one_mul, one_mul] at this
  exact this

/-- 2. whatever survives `delete_inactive; delete_largest` (any sub-collection, plus possibly an aggregate) is valid -/
theorem kept_valid (n : Nat) (f : List α → α) (x : List α) (hx : x.length = n) (pairs kept : List (Pair α))
    (hv : ∀ p ∈ pairs, p.s.length = n ∧ LB n f x p.s p.e) (hk : Kept n pairs kept) :
    ∀ p ∈ kept, p.s.length = n ∧ LB n f x p.s p.e := by
  cases hk with
  | sub k hs => exact fun p hp => hv p (hs.subset hp)
  | agg k ps ws hs hps hl hw =>
    have hps' : ∀ q ∈ ps, q.s.length = n ∧ LB n f x q.s q.e := fun q hq => hv q (hps.subset hq)
    exact List.forall_mem_append.mpr ⟨fun p hp => hv p (hs.subset hp), List.forall_mem_singleton.mpr
      ⟨smearedS_length n ps ws fun q hq => (hps' q hq).1, aggregate_valid n f x hx ps ws hps' hl hw⟩⟩

/-- 3. the executable `reduce` (= `delete_inactive(eps0); delete_largest(2)` with the oracle threshold) only produces
    `Kept` collections; the multipliers of the active rows must be a simplex point only when the bundle is full (the
    branch that stores the aggregate). -/
theorem reduce_kept (capacity : Nat) (eps0 thres : α) (n : Nat) (pairs : List (Pair α)) (alphas : List α)
    (hw : (active eps0 pairs alphas).length + 1 = capacity → Simplex ((active eps0 pairs alphas).map (·.2))) :
    Kept n pairs (reduce capacity eps0 thres n pairs alphas) := by
  unfold reduce
  simp only
  split
  · rename_i hfull
    exact Kept.agg _ _ _ ((deleteFrom_sublist thres _).trans (active_fst_sublist eps0 pairs alphas))
      (active_fst_sublist eps0 pairs alphas) (by simp) (hw hfull)
  · exact Kept.sub _ (active_fst_sublist eps0 pairs alphas)

/-- 4. `bundle_t::append` / `moveto` after the deletions: with a sub-gradient at the trial point the new bundle is valid
    — null step (centre kept, new pair `(gy, fx − (fy + gy·(x − y)))`) and serious step (centre moved to `y`, every
    error shifted by `fy − fx − sᵢ·(y − x)`, new pair `(gy, 0)`). -/
theorem appendStep_valid (n : Nat) (f : List α → α) (b : State α) (serious : Bool) (kept : List (Pair α))
    (y gy : List α) (hb : Valid n f b) (hk : ∀ p ∈ kept, p.s.length = n ∧ LB n f b.x p.s p.e) (hy : y.length = n)
    (hsub : SubGrad n f y gy) : Valid n f (appendStep serious kept b.x b.fx y gy (f y)) := by
  obtain ⟨hx, hfx, -⟩ := hb
  cases serious with
  | true =>
    simp only [appendStep, if_true]
    refine ⟨hy, rfl, List.forall_mem_append.mpr
      ⟨List.forall_mem_map.mpr fun q hq => ?_, List.forall_mem_singleton.mpr ⟨hsub.1, hsub.lb⟩⟩⟩
    exact ⟨(hk q hq).1, hfx ▸ (hk q hq).2.shift hx hy⟩
  | false =>
    simp only [appendStep, Bool.false_eq_true, if_false]
    refine ⟨hx, hfx, List.forall_mem_append.mpr ⟨hk, List.forall_mem_singleton.mpr ⟨hsub.1, fun z hz => ?_⟩⟩⟩
    simp only [nullError, hfx]
    linarith only [hsub.lb.shift hy hx z hz]

/-- 5. INVARIANT: every bundle reachable from the constructor by null / serious steps with sub-gradients (whatever the
    deletions keep) has only valid rows, and so has every simplex combination of its rows: for all `z`
    `f(x̂) + ŝ·(z − x̂) − ê ≤ f(z)`. -/
theorem bundle_lower_bound_invariant (n : Nat) (f : List α → α) (x0 g0 : List α) (hx0 : x0.length = n)
    (hg0 : SubGrad n f x0 g0) (b : State α) (h : Reach n f x0 g0 b) :
    Valid n f b ∧ ∀ ws : List α, ws.length = b.pairs.length → Simplex ws →
      LB n f b.x (smearedS n b.pairs ws) (smearedE b.pairs ws) := by
  have hv : Valid n f b := by
    induction h with
    | init =>
      exact appendStep_valid n f ⟨x0, f x0, []⟩ true [] x0 g0 ⟨hx0, rfl, by simp⟩ (by simp) hx0 hg0
    | @step b1 b2 hr hs ih =>
      cases hs with
      | mk serious kept y gy hk hy hsub =>
        exact appendStep_valid n f b1 serious kept y gy ih (kept_valid n f b1.x ih.1 b1.pairs kept ih.2.2 hk) hy hsub
  exact ⟨hv, fun ws hl hw => aggregate_valid n f b.x hv.1 b.pairs ws hv.2.2 hl hw⟩

/-- 6. the model's whole `append` call (`delete_inactive; delete_largest; append`) preserves validity -/
theorem appendFull_valid (capacity : Nat) (eps0 thres : α) (n : Nat) (f : List α → α) (serious : Bool) (b : State α)
    (alphas : List α) (y gy : List α) (hb : Valid n f b)
    (hw : (active eps0 b.pairs alphas).length + 1 = capacity → Simplex ((active eps0 b.pairs alphas).map (·.2)))
    (hy : y.length = n) (hsub : SubGrad n f y gy) :
    Valid n f (appendFull capacity eps0 thres n serious b alphas y gy (f y)) := by
  unfold appendFull
  exact appendStep_valid n f b serious _ y gy hb
    (kept_valid n f b.x hb.1 b.pairs _ hb.2.2 (reduce_kept capacity eps0 thres n b.pairs alphas hw)) hy hsub

/-- an `appendFull` is a `Step` (so the invariant 5 covers the executable model) -/
theorem appendFull_step (capacity : Nat) (eps0 thres : α) (n : Nat) (f : List α → α) (serious : Bool) (b : State α)
    (alphas : List α) (y gy : List α)
    (hw : (active eps0 b.pairs alphas).length + 1 = capacity → Simplex ((active eps0 b.pairs alphas).map (·.2)))
    (hy : y.length = n) (hsub : SubGrad n f y gy) :
    Step n f b (appendFull capacity eps0 thres n serious b alphas y gy (f y)) :=
  Step.mk b serious _ y gy (reduce_kept capacity eps0 thres n b.pairs alphas hw) hy hsub

/-! ### the multipliers for one and two rows are computed, not assumed -/

/-- 6a. `bundle_t::solve`, `m_size == 1`: the multiplier list `[1]` is a simplex point -/
theorem solve1_simplex : Simplex (solve1 : List α) :=
  ⟨List.forall_mem_singleton.mpr zero_le_one, List.sum_singleton⟩

/-- 6b. `bundle_t::solve`, `m_size == 2` (the analytic path, bundle.cpp:41-55): whatever the rows, `miu` and the outcome
    of `std::isfinite`, the two multipliers form a simplex point — the QP contract is an assumption only for three or
    more rows. -/
theorem solve2_simplex (fin : α → Bool) (miu : α) (p0 p1 : Pair α) : Simplex (solve2 fin miu p0 p1) := by
  unfold solve2
  extract_lets _ _ _ _ _ _ q p b a
  have ha : 0 ≤ a ∧ a ≤ 1 := by
    unfold a
    split_ifs with h1 h2
    · simp only [Bool.and_eq_true, decide_eq_true_eq] at h1
      exact ⟨h1.1.2, h1.2⟩
    · exact ⟨le_refl _, zero_le_one⟩
    · exact ⟨zero_le_one, le_refl _⟩
  exact simplex_pair ha.1 (sub_nonneg.mpr ha.2) (add_sub_cancel _ _)

/-! ### the bundle never outgrows its buffers -/

/-- 6c. `assert(m_size < capacity())` (bundle.cpp:160) is an invariant of `append`: if the bundle was below its capacity
    and — when it is full after `delete_inactive` — at least `count = 2` of the active rows satisfy the removal test
    `e_i >= thres`, then it is below its capacity again after the aggregate and the new row were added. (Before commit
    1327552 the threshold could exceed every error, nothing was removed and row `capacity` was written: max_size 2, 3.) -/
theorem append_stays_below_capacity (capacity : Nat) (eps0 thres : α) (n : Nat) (serious : Bool) (b : State α)
    (alphas : List α) (y gy : List α) (fy : α) (hsize : b.pairs.length < capacity)
    (hdel : (active eps0 b.pairs alphas).length + 1 = capacity →
      delCount ≤ ((active eps0 b.pairs alphas).filter (fun pa => decide (thres ≤ pa.1.e))).length) :
    (appendFull capacity eps0 thres n serious b alphas y gy fy).pairs.length < capacity := by
  unfold appendFull
  rw [appendStep_length]
  unfold reduce
  dsimp only
  have hact := active_length_le eps0 b.pairs alphas
  split_ifs with hfull
  · have h1 := deleteFrom_length thres (active eps0 b.pairs alphas)
    have h2 : 2 ≤ _ := hdel hfull
    rw [List.length_append, List.length_singleton]
    omega
  · rw [List.length_map]
    omega

/-- 6d. the hypothesis of 6c follows from the contract of `std::nth_element` (bundle.cpp:106-108): the errors of the
    active rows are copied, `nth_element(first, first + (size − count), last)` reorders the copy `a`, and the threshold is
    read at position `min(count, size − count) ≤ size − count`; `count ≤ size` is the code's `assert(count <= size())`. -/
theorem append_stays_below_capacity_nth (capacity : Nat) (eps0 thres ak : α) (n : Nat) (serious : Bool) (b : State α)
    (alphas : List α) (y gy : List α) (fy : α) (a : List α) (hsize : b.pairs.length < capacity)
    (hcount : delCount ≤ (active eps0 b.pairs alphas).length)
    (hnth : NthElement ((active eps0 b.pairs alphas).length - delCount)
      ((active eps0 b.pairs alphas).map (fun pa => pa.1.e)) a ak)
    (hthres : a[min delCount ((active eps0 b.pairs alphas).length - delCount)]? = some thres) :
    (appendFull capacity eps0 thres n serious b alphas y gy fy).pairs.length < capacity := by
  refine append_stays_below_capacity capacity eps0 thres n serious b alphas y gy fy hsize fun _ => ?_
  have h := nth_element_removes (fun pa => pa.1.e) (active eps0 b.pairs alphas) a _ _ ak thres hnth (Nat.min_le_right _ _) hthres
  omega

/-! ### stopping certificate -/

theorem dot_self_nonneg (a : List α) : 0 ≤ dot a a := dot_self_nonneg' a

/-- 7b. Cauchy–Schwarz for list vectors (any lengths) -/
theorem cauchy_schwarz (a b : List α) : dot a b * dot a b ≤ dot a a * dot b b := dot_sq_le a b

set_option linter.unusedVariables false
/-- 8. `econverged ∧ sconverged` certify `f(x̂) − f(z) ≤ ε√n (1 + ‖z − x̂‖₂)` for EVERY `z` -/
theorem bundle_stop_certificate [Sqrt α]
    (hsqrt : ∀ v : α, 0 ≤ v → 0 ≤ Sqrt.sqrt v ∧ Sqrt.sqrt v * Sqrt.sqrt v = v)
    (n : Nat) (f : List α → α) (b : State α) (ws : List α) (eps : α) (hb : Valid n f b)
    (hl : ws.length = b.pairs.length) (hw : Simplex ws) (heps : 0 ≤ eps)
    (he : econverged n eps b.pairs ws = true) (hs : sconverged n eps b.pairs ws = true)
    (z : List α) (hz : z.length = n) :
    f b.x - f z ≤ tol n eps * (1 + norm2 (vsub z b.x)) := by
  have hlb := aggregate_valid n f b.x hb.1 b.pairs ws hb.2.2 hl hw z hz
  have he' : smearedE b.pairs ws ≤ tol n eps := of_decide_eq_true he
  have hs' : norm2 (smearedS n b.pairs ws) ≤ tol n eps := of_decide_eq_true hs
  have hcs := neg_norm_mul_le_dot hsqrt (smearedS n b.pairs ws) (vsub z b.x)
  have hD : 0 ≤ norm2 (vsub z b.x) := (hsqrt _ (dot_self_nonneg' _)).1
  have h2 := mul_le_mul_of_nonneg_right hs' hD
  linarith only [hlb, he', hcs, h2]
set_option linter.unusedVariables true

/-- 9a. the curve search reports `converged` exactly when the trial value is finite and both bundle tests hold -/
theorem csearch_converged_iff (P : CParams α) (c : CState α) (fin econv sconv : Bool) (fx fy e dl gyd sd : α) :
    csearchStep P c fin econv sconv fx fy e dl gyd sd = .stop .converged ↔
      (fin = true ∧ econv = true ∧ sconv = true) := by
  constructor
  · intro h
    unfold csearchStep at h
    by_cases h1 : (!fin) = true
    · rw [if_pos h1] at h
      cases h
    rw [if_neg h1] at h
    by_cases h2 : (econv && sconv) = true
    · simpa using And.intro h1 h2
    -- every later branch of the chain returns another outcome
    rw [if_neg h2] at h
    dsimp only at h
    split_ifs at h <;> cases h
  · rintro ⟨rfl, rfl, rfl⟩
    rfl

/-- 9b. when RQB / FPBA hand `converged = true` to `solver_t::done` (status `converged` of the curve search run on the
    bundle `b` with multipliers `ws`), the gap bound of 8 holds for every `z`. -/
theorem solver_converged_certificate [Sqrt α]
    (hsqrt : ∀ v : α, 0 ≤ v → 0 ≤ Sqrt.sqrt v ∧ Sqrt.sqrt v * Sqrt.sqrt v = v)
    (n : Nat) (f : List α → α) (b : State α) (ws : List α) (eps : α) (hb : Valid n f b)
    (hl : ws.length = b.pairs.length) (hw : Simplex ws) (heps : 0 ≤ eps)
    (P : CParams α) (c : CState α) (fin : Bool) (fx fy e dl gyd sd : α) (st : Status)
    (hstep : csearchStep P c fin (econverged n eps b.pairs ws) (sconverged n eps b.pairs ws) fx fy e dl gyd sd =
      .stop st)
    (hconv : solverConverged st = true) (z : List α) (hz : z.length = n) :
    f b.x - f z ≤ tol n eps * (1 + norm2 (vsub z b.x)) := by
  obtain rfl : st = .converged := eq_of_beq hconv
  obtain ⟨-, he, hs⟩ := (csearch_converged_iff P c fin _ _ fx fy e dl gyd sd).mp hstep
  exact bundle_stop_certificate hsqrt n f b ws eps hb hl hw heps he hs z hz

end NanoVerif.Bundle

namespace NanoVerif.Ellipsoid
open NanoVerif.Bundle
variable {α : Type} [Field α] [LinearOrder α] [IsStrictOrderedRing α]

/-! ### B. ellipsoid method -/

/-- 10. if `z` lies in the current ellipsoid `E(x, H)` then `f(x) − f(z) ≤ √(gᵀHg)` (`gᵀHg ≥ 0` follows from `InE`) -/
theorem ellipsoid_stop_certificate [Sqrt α]
    (hsqrt : ∀ v : α, 0 ≤ v → 0 ≤ Sqrt.sqrt v ∧ Sqrt.sqrt v * Sqrt.sqrt v = v)
    (n : Nat) (f : List α → α) (x g : List α) (H : List (List α)) (z : List α) (hz : z.length = n)
    (hsub : SubGrad n f x g) (hin : InE n x H z) :
    f x - f z ≤ Sqrt.sqrt (quad H g) := by
  linarith only [hsub.2 z hz, neg_sqrt_le_of_sq_le hsqrt (hin g hsub.1)]

/-- 11a. the stopping test `sqrt(gHg) < epsilon` (ellipsoid.cpp:75) certifies `best − f(z) < ε` on the ellipsoid -/
theorem ellipsoid_converged_certificate [Sqrt α]
    (hsqrt : ∀ v : α, 0 ≤ v → 0 ≤ Sqrt.sqrt v ∧ Sqrt.sqrt v * Sqrt.sqrt v = v)
    (n : Nat) (f : List α → α) (x g : List α) (H : List (List α)) (z : List α) (eps best : α) (hz : z.length = n)
    (hsub : SubGrad n f x g) (hin : InE n x H z) (hc : converged eps (quad H g) = true) (hbest : best ≤ f x) :
    best - f z < eps :=
  (sub_le_sub_right hbest _).trans_lt
    ((ellipsoid_stop_certificate hsqrt n f x g H z hz hsub hin).trans_lt (of_decide_eq_true hc))

/-- 11b. the early exit `gHg < numeric_limits::epsilon()` (ellipsoid.cpp:47): the gap is at most `√gHg` with
    `gHg < epsM`, i.e. its square is below `epsM` unless it is non-positive -/
theorem ellipsoid_early_certificate [Sqrt α]
    (hsqrt : ∀ v : α, 0 ≤ v → 0 ≤ Sqrt.sqrt v ∧ Sqrt.sqrt v * Sqrt.sqrt v = v)
    (n : Nat) (f : List α → α) (x g : List α) (H : List (List α)) (z : List α) (epsM best : α) (hz : z.length = n)
    (hsub : SubGrad n f x g) (hin : InE n x H z) (hc : earlyStop epsM (quad H g) = true) (hbest : best ≤ f x) :
    (best - f z) * (best - f z) < epsM ∨ best - f z ≤ 0 := by
  have h1 := (sub_le_sub_right hbest _).trans (ellipsoid_stop_certificate hsqrt n f x g H z hz hsub hin)
  obtain ⟨-, hr⟩ := hsqrt _ ((mul_self_nonneg _).trans (hin g hsub.1))
  rcases le_or_gt (best - f z) 0 with hpos | hpos
  · exact Or.inr hpos
  · exact Or.inl (((mul_self_le_mul_self hpos.le h1).trans_eq hr).trans_lt (of_decide_eq_true hc))

/-- 12. `update_if_better` never increases the best value, and the result is not above the new value -/
theorem best_le (best f : α) : better best f ≤ best ∧ better best f ≤ f := better_le best f

/-- 13. primal ⇒ support form: `z = x + L u`, `‖u‖₂ ≤ 1`, `H = L Lᵀ` (as quadratic forms) give `z ∈ E(x, H)` -/
theorem ellipsoid_mem_of_factor (n m : Nat) (x z : List α) (H L : List (List α)) (u : List α)
    (hL : ∀ r ∈ L, r.length = m) (hu : u.length = m) (hu1 : dot u u ≤ 1) (hz : vsub z x = mv L u)
    (hH : ∀ w : List α, w.length = n → quad H w = dot (vm m w L) (vm m w L)) : InE n x H z := by
  intro w hw
  rw [hz, vm_adjoint m u w L hL, hH w hw]
  exact (dot_sq_le (vm m w L) u).trans
    ((mul_le_mul_of_nonneg_left hu1 (dot_self_nonneg' (vm m w L))).trans_eq (mul_one _))

/-- 14. the deep cut of ellipsoid.cpp:64 contains every point not worse than the best value:
    `g·(z − x) ≤ −α √(gHg)` with `α = (f(x) − best)/√(gHg)` -/
theorem deep_cut_valid [Sqrt α] (n : Nat) (f : List α → α) (x g z : List α) (best gHg r : α) (hz : z.length = n)
    (hsub : SubGrad n f x g) (hbest : f z ≤ best) (hr : 0 < r) (hrs : r = Sqrt.sqrt gHg) :
    dot g (vsub z x) ≤ -(alphaCut (f x) best gHg) * r := by
  have h1 := hsub.2 z hz
  have h2 : alphaCut (f x) best gHg * r = f x - best := by
    unfold alphaCut
    rw [← hrs]
    exact div_mul_cancel₀ _ hr.ne'
  rw [neg_mul, h2]
  linarith only [h1, hbest]

/-! ### 15. the 1-D branch (what the code does: the centre moves by the full `H`, `H` is halved, so the interval
    maintained around the centre is `x ± 2H`) -/

/-- one 1-D step keeps every minimiser that was within `2h` of the centre within `2h'` of the new centre -/
theorem ellipsoid_1d_contains (f : α → α) (x h g z : α) (hh : 0 ≤ h) (hz : |z - x| ≤ 2 * h) (hg : g ≠ 0)
    (hsub : ∀ w, f x + g * (w - x) ≤ f w) (hmin : ∀ w, f z ≤ f w) :
    |z - (step1d x h g).1| ≤ 2 * (step1d x h g).2 ∧ 0 ≤ (step1d x h g).2 :=
  step1d_contains f x h g z hh hz hg hsub hmin

/-- gap bound of the 1-D branch: `2 |g| H`, and `2 g H g` when the sub-gradient is not smaller than 1 in modulus -/
theorem ellipsoid_1d_stop_certificate (f : α → α) (x h g z : α) (hh : 0 ≤ h) (hz : |z - x| ≤ 2 * h)
    (hsub : ∀ w, f x + g * (w - x) ≤ f w) :
    f x - f z ≤ 2 * |g| * h ∧ (1 ≤ |g| → f x - f z ≤ 2 * (g * (h * g))) :=
  ⟨gap1d f x h g z hz hsub, gap1d_sharp f x h g z hh hz hsub⟩

/-- the whole 1-D loop: if it stops with `converged` then the best value is within `2ε²` (test `sqrt(gHg) < ε`) or
    `2 epsM` (early exit `gHg < epsM`) of the minimum, for a sharp objective (`g = 0` or `|g| ≥ 1`, e.g. `|x − c|`),
    any minimiser `z` within `2R` of the starting point, and any evaluation budget. -/
theorem ellipsoid_1d_run_certificate [Sqrt α]
    (hsqrt : ∀ v : α, 0 ≤ v → 0 ≤ Sqrt.sqrt v ∧ Sqrt.sqrt v * Sqrt.sqrt v = v)
    (f g' : α → α) (z R x0 eps epsM : α) (hsub : ∀ x w, f x + g' x * (w - x) ≤ f w) (hmin : ∀ w, f z ≤ f w)
    (hsharp : ∀ x, g' x = 0 ∨ 1 ≤ |g' x|) (hR : 0 ≤ R) (hz : |z - x0| ≤ 2 * R) (hepsM : 0 < epsM)
    (fuel : Nat) (s : S1 α)
    (hrun : run1d eps epsM (fun x => (f x, g' x)) fuel (start1d R x0 (fun x => (f x, g' x))) = (true, s)) :
    s.best - f z < 2 * (eps * eps) ∨ s.best - f z < 2 * epsM :=
  run1d_spec hsqrt f g' z eps epsM hsub hmin hsharp hepsM fuel _ s ⟨hz, hR, rfl, rfl, le_refl _⟩ hrun

/-! ### 16. n-D: the Löwner–John step and the whole loop -/

/-- 16a. the starting ball (ellipsoid.cpp:36-37, `H = R² I` for `n ≥ 2`) contains every `z` with `‖z − x0‖₂ ≤ R`, and is
    a symmetric `n × n` matrix -/
theorem ellipsoid_init_contains (n : Nat) (hn : n ≠ 1) (R : α) (x0 z : List α) (hx : x0.length = n) (hz : z.length = n)
    (hR : dot (vsub z x0) (vsub z x0) ≤ R * R) : InE n x0 (initH n R) z ∧ WellH n (initH n R) :=
  ⟨initH_contains n hn R x0 z hx hz hR, initH_wellH n R⟩

/-- 16b. THE LÖWNER–JOHN STEP as coded (ellipsoid.cpp:64-68): for `n ≥ 2`, `H` symmetric with `gᵀHg > 0` and a cut
    parameter `−1/n ≤ α ≤ 1`, every point `z` of the half-ellipsoid `{z ∈ E(x, H) | g·(z − x) ≤ −α √(gᵀHg)}` lies in the
    updated ellipsoid `E(x⁺, H⁺)`, `x⁺ = x − (1 + nα)/(n + 1) · Hg/√(gᵀHg)`,
    `H⁺ = n²/(n² − 1) (1 − α²) (H − 2(1 + nα)/((n + 1)(1 + α)) · Hg gᵀH/(gᵀHg))`; `H⁺` is again symmetric `n × n`. Membership is
    in support-function form (`InE`: `(w·(z − x))² ≤ wᵀHw` for all `w`), which needs no inverse of `H`. -/
theorem ellipsoid_deep_cut_contains [Sqrt α]
    (hsqrt : ∀ v : α, 0 ≤ v → 0 ≤ Sqrt.sqrt v ∧ Sqrt.sqrt v * Sqrt.sqrt v = v)
    (n : Nat) (hn : 2 ≤ n) (x g z : List α) (H : List (List α)) (al : α) (hx : x.length = n) (hg : g.length = n)
    (hz : z.length = n) (hH : WellH n H) (hpos : 0 < quad H g) (hin : InE n x H z) (hlo : -1 ≤ (n : α) * al)
    (hhi : al ≤ 1) (hcut : dot g (vsub z x) ≤ -al * Sqrt.sqrt (quad H g)) :
    InE n (stepX (n : α) x (mv H g) al (quad H g)) (stepH (n : α) H (mv H g) (vm n g H) al (quad H g)) z ∧
      WellH n (stepH (n : α) H (mv H g) (vm n g H) al (quad H g)) :=
  ⟨stepND_contains hsqrt n hn x g z H al hx hg hz hH hpos hin hlo hhi hcut, stepH_wellH n (n : α) al H hH g hg⟩

/-- 16c. THE WHOLE n-D LOOP (ellipsoid.cpp:28-82, `n ≥ 2`): for a convex `f` whose oracle returns sub-gradients, a
    minimiser `z` with `‖z − x0‖₂ ≤ R` (the only containment that is assumed: the starting ball), every evaluation budget
    `fuel`, every `std::isfinite` / `state.valid()` behaviour: when the run stops with `solver_status::converged`, the
    returned point `bx` (value `best`) satisfies `f(bx) − f(z) < ε` (test `sqrt(gHg) < ε`) or `(f(bx) − f(z))² < epsM` (early
    exit `gHg < epsM`). No containment hypothesis on the iterates: it is the loop invariant, by 16a/16b and the deep cut
    `α = (f(x) − best)/√(gᵀHg) ∈ [0, 1]`. -/
theorem ellipsoid_nd_run_certificate [Sqrt α]
    (hsqrt : ∀ v : α, 0 ≤ v → 0 ≤ Sqrt.sqrt v ∧ Sqrt.sqrt v * Sqrt.sqrt v = v)
    (n : Nat) (hn : 2 ≤ n) (f : List α → α) (g' : List α → List α) (z x0 : List α) (R eps epsM : α)
    (fin : α → Bool) (valid : SN α → Bool)
    (hsub : ∀ x : List α, x.length = n → SubGrad n f x (g' x)) (hz : z.length = n) (hx0 : x0.length = n)
    (hmin : ∀ w : List α, w.length = n → f z ≤ f w) (hepsM : 0 < epsM)
    (hR : dot (vsub z x0) (vsub z x0) ≤ R * R) (fuel : Nat) (s : SN α)
    (hrun : runND n eps epsM fin valid (fun x => (f x, g' x)) fuel (startND n R x0 (fun x => (f x, g' x))) =
      (EStatus.converged, s)) :
    s.best = f s.bx ∧ (f s.bx - f z < eps ∨ (f s.bx - f z) * (f s.bx - f z) < epsM) := by
  have h := runND_spec hsqrt n hn f g' z eps epsM fin valid hsub hz hmin hepsM fuel _ s
    ⟨hx0, initH_wellH n R, initH_contains n (by omega) R x0 z hx0 hz hR, rfl, rfl, le_refl _, hmin x0 hx0, rfl, hx0⟩
    hrun
  obtain ⟨h1, h2⟩ := h
  rw [h1] at h2
  exact ⟨h1, h2⟩

/-- 16d. the bound of the statement: with `epsM ≤ (10 ε)²` (binary64: `epsM = 2.2e-16`, `ε ≥ 1e-8`) a run that reports
    `converged` returns a point with `f(bx) − f(z) < 10 ε` -/
theorem ellipsoid_nd_converged_10eps [Sqrt α]
    (hsqrt : ∀ v : α, 0 ≤ v → 0 ≤ Sqrt.sqrt v ∧ Sqrt.sqrt v * Sqrt.sqrt v = v)
    (n : Nat) (hn : 2 ≤ n) (f : List α → α) (g' : List α → List α) (z x0 : List α) (R eps epsM : α)
    (fin : α → Bool) (valid : SN α → Bool)
    (hsub : ∀ x : List α, x.length = n → SubGrad n f x (g' x)) (hz : z.length = n) (hx0 : x0.length = n)
    (hmin : ∀ w : List α, w.length = n → f z ≤ f w) (hepsM : 0 < epsM) (heps : 0 < eps)
    (hM : epsM ≤ (10 * eps) * (10 * eps))
    (hR : dot (vsub z x0) (vsub z x0) ≤ R * R) (fuel : Nat) (s : SN α)
    (hrun : runND n eps epsM fin valid (fun x => (f x, g' x)) fuel (startND n R x0 (fun x => (f x, g' x))) =
      (EStatus.converged, s)) :
    f s.bx - f z < 10 * eps := by
  obtain ⟨-, h | h⟩ := ellipsoid_nd_run_certificate hsqrt n hn f g' z x0 R eps epsM fin valid hsub hz hx0 hmin hepsM hR
    fuel s hrun
  · exact h.trans_le (le_mul_of_one_le_left heps.le (by norm_num))
  · exact lt_of_mul_self_lt_mul_self₀ (mul_nonneg (by norm_num) heps.le) (h.trans_le hM)

/-- 16e. the status logic of the loop: `converged` is reported exactly by the early exit (`gHg < epsM`) or by a pass whose
    `sqrt(gHg) < ε` held at the point that was left (`converged` wins over a non-finite value); `failed` only by a pass with
    a non-finite value or an invalid state; a pass that goes on had a finite value -/
theorem ellipsoid_done_logic (iterOk conv valid : Bool) :
    (doneE iterOk conv valid = some EStatus.converged ↔ conv = true) ∧
      (doneE iterOk conv valid = some EStatus.failed ↔ (conv = false ∧ (iterOk = false ∨ valid = false))) ∧
      (doneE iterOk conv valid = none ↔ (conv = false ∧ iterOk = true ∧ valid = true)) ∧
      doneE iterOk conv valid ≠ some EStatus.maxIters := by
  cases iterOk <;> cases conv <;> cases valid <;> simp [doneE]

/-- 16f. a run never reports anything but its own last decision: with no budget the status is `max_iters` and the state
    is the starting state -/
theorem ellipsoid_no_budget (n : Nat) (eps epsM : α) [Sqrt α] (fin : α → Bool) (valid : SN α → Bool)
    (oracle : List α → α × List α) (s : SN α) : runND n eps epsM fin valid oracle 0 s = (EStatus.maxIters, s) := rfl

end NanoVerif.Ellipsoid

/-! ### C. non-vacuity (ℚ; ℝ with `Real.sqrt` for the hypotheses about `sqrt`) -/

namespace NanoVerif.C03Examples
open NanoVerif.Bundle NanoVerif.Ellipsoid

section
variable {α : Type} [Field α] [LinearOrder α] [IsStrictOrderedRing α]

/-- the cutting planes of `|·|` relative to the centre `x`: slope `|s| ≤ 1`, error at least `|x| − s x` -/
theorem abs_LB (x s e : α) (hs : |s| ≤ 1) (he : |x| - s * x ≤ e) : LB 1 (fun z : List α => |z.headD 0|) [x] [s] e :=
  fun z hz => match z, hz with
  | [a], _ => by
    have h := (le_abs_self (s * a)).trans ((abs_mul s a).le.trans (mul_le_of_le_one_left (abs_nonneg a) hs))
    show |x| + (s * (a - x) + 0) - e ≤ |a|
    linarith only [h, he]

theorem abs_subGrad (x s : α) (hs : |s| ≤ 1) (he : |x| - s * x ≤ 0) : SubGrad 1 (fun z : List α => |z.headD 0|) [x] [s] :=
  ⟨rfl, fun z hz => (sub_zero _).ge.trans (abs_LB x s 0 hs he z hz)⟩

end

/-- `f(z) = |z₀|`, n = 1 -/
def exF : List ℚ → ℚ := fun z => |z.headD 0|

theorem sg1 : SubGrad 1 exF [1] [1] := abs_subGrad 1 1 (by norm_num) (by norm_num)

theorem sg2 : SubGrad 1 exF [-2] [-1] := abs_subGrad (-2) (-1) (by norm_num) (by norm_num)

theorem sg0 : SubGrad 1 exF [0] [0] := abs_subGrad 0 0 (by norm_num) (by norm_num)

theorem simplexHalf : Simplex [(1 / 2 : ℚ), 1 / 2] :=
  simplex_pair (by norm_num) (by norm_num) (by norm_num)

example : SubGrad 1 exF [1] [1] := sg1
example : Simplex [(1 / 2 : ℚ), 1 / 2] := simplexHalf

/-- a reachable state: constructor at `x0 = 1`, a null step at `y = −2` keeping both rows, a serious step to `y = 0`
    that keeps only the aggregate (weights ½, ½) of the two rows: centre 0, two rows -/
def exState : State ℚ :=
  appendStep true [aggregate 1 [⟨[1], 0⟩, ⟨[-1], nullError 1 2 [1] [-2] [-1]⟩] [1 / 2, 1 / 2]] [1] 1 [0] [0] 0

theorem exReach : Reach 1 exF [1] [1] exState := by
  have h0 : Reach 1 exF [1] [1] (Bundle.init [1] [1] (exF [1])) := Reach.init
  have h1 := Reach.step h0 (Step.mk _ false _ [-2] [-1] (Kept.sub _ (List.Sublist.refl _)) rfl sg2)
  have h2 := Reach.step h1 (Step.mk _ true _ [0] [0]
    (Kept.agg [] _ [1 / 2, 1 / 2] (List.nil_sublist _) (List.Sublist.refl _) rfl simplexHalf) rfl sg0)
  with_unfolding_all exact h2

example : exState.x = [0] ∧ exState.pairs.length = 2 := ⟨rfl, rfl⟩

/-- the invariant applies to it -/
example : Valid 1 exF exState := (bundle_lower_bound_invariant 1 exF [1] [1] rfl sg1 exState exReach).1

/-- the full bundle (capacity 3 reached with two active rows): `reduce` stores the aggregate; with fewer rows it does not -/
example : (reduce 3 (1 / 1000) 1 1 [⟨[1], 0⟩, ⟨[-1], (2 : ℚ)⟩] [1 / 2, 1 / 2]).length = 2 := by
  decide +kernel
/-- `nth_element`'s contract is satisfiable: errors `[5, 1, 3]`, `k = 3 − 2 = 1`, reordered copy `[1, 3, 5]` -/
example : NthElement 1 [(5 : ℚ), 1, 3] [1, 3, 5] 3 := by
  refine ⟨?_, rfl, ?_, ?_⟩
  · exact (List.Perm.cons 1 (List.Perm.swap 5 3 [])).trans (List.Perm.swap 5 1 [3])
  · intro x hx; simp at hx; subst hx; norm_num
  · intro y hy; simp at hy; rcases hy with rfl | rfl <;> norm_num
example : (reduce 4 (1 / 1000) 0 1 [⟨[1], 0⟩, ⟨[-1], (2 : ℚ)⟩] [1 / 2, 1 / 2]).length = 2 := by
  decide +kernel

/-- the curve search does report `converged` -/
example : csearchStep (⟨1 / 2, 1 / 20, 1 / 2, 1 / 2, 3 / 10, 5, 1 / 1000⟩ : CParams ℚ) CState.start true true true
    1 0 0 0 0 0 = .stop .converged :=
  rfl
example : solverConverged .converged = true := rfl

/-- 1-D ellipsoid: `f(x) = |x − 1|`, sharp sub-gradient `sign(x − 1)`, minimiser `1`, start `x0 = 0`, `R = 1` -/
def f1 : ℚ → ℚ := fun x => |x - 1|
def g1 : ℚ → ℚ := fun x => if x < 1 then -1 else if x = 1 then 0 else 1

example : ∀ x w, f1 x + g1 x * (w - x) ≤ f1 w := by
  intro x w
  have h1 := le_abs_self (w - 1)
  have h2 := neg_abs_le (w - 1)
  have h3 := abs_nonneg (w - 1)
  unfold f1 g1
  split_ifs with ha hb
  · rw [abs_of_neg (by linarith)]; linarith
  · subst hb; simp
  · have : 1 < x := lt_of_le_of_ne (not_lt.mp ha) (Ne.symm hb)
    rw [abs_of_pos (by linarith)]; linarith
example : ∀ w, f1 1 ≤ f1 w := by intro w; simp [f1]
example : ∀ x, g1 x = 0 ∨ 1 ≤ |g1 x| := by
  intro x
  unfold g1
  split_ifs <;> simp
example : |(1 : ℚ) - 0| ≤ 2 * 1 := by norm_num
example : step1d (0 : ℚ) 1 (-1) = (1, 1 / 2) := by decide +kernel
example : better (1 : ℚ) 0 = 0 ∧ better (0 : ℚ) 1 = 0 := by decide +kernel

section
local instance : Sqrt ℚ := ⟨fun v => if v = 1 then 1 else 0⟩
/-- the loop on this instance: one step to the minimiser, then the early exit reports `converged` with best value 0 -/
example : run1d (1 / 10) (1 / 100) (fun x => (f1 x, g1 x)) 2 (start1d 1 0 (fun x => (f1 x, g1 x))) =
    (true, ⟨1, 1 / 2, 0, 0, 0⟩) := by
  with_unfolding_all rfl
end

/-! the square-root axiomatisation is satisfiable (ℝ), together with all hypotheses of the stopping certificates -/
section real
noncomputable local instance : Sqrt ℝ := ⟨Real.sqrt⟩

theorem hsqrtReal : ∀ v : ℝ, 0 ≤ v → 0 ≤ Sqrt.sqrt v ∧ Sqrt.sqrt v * Sqrt.sqrt v = v :=
  fun v hv => ⟨Real.sqrt_nonneg v, Real.mul_self_sqrt hv⟩

def exFR : List ℝ → ℝ := fun z => |z.headD 0|

/-- centre 0 with the two cutting planes `±z` of `|z|` -/
def exStateR : State ℝ := ⟨[0], 0, [⟨[1], 0⟩, ⟨[-1], 0⟩]⟩

theorem exValidR : Valid 1 exFR exStateR :=
  ⟨rfl, abs_zero.symm, List.forall_mem_cons.mpr ⟨⟨rfl, abs_LB 0 1 0 (by norm_num) (by norm_num)⟩,
    List.forall_mem_singleton.mpr ⟨rfl, abs_LB 0 (-1) 0 (by norm_num) (by norm_num)⟩⟩⟩

theorem simplexHalfR : Simplex [(1 / 2 : ℝ), 1 / 2] :=
  simplex_pair (by norm_num) (by norm_num) (by norm_num)

theorem exEconvR : econverged 1 (1 / 100 : ℝ) exStateR.pairs [1 / 2, 1 / 2] = true := by
  simp [econverged, exStateR, smearedE, tol, Sqrt.sqrt]

theorem exSconvR : sconverged 1 (1 / 100 : ℝ) exStateR.pairs [1 / 2, 1 / 2] = true := by
  simp [sconverged, norm2, exStateR, smearedS, vaxpy, zeros, dot, tol, Sqrt.sqrt]

/-- all hypotheses of `bundle_stop_certificate` hold at once; its conclusion here: `0 − |a| ≤ ε (1 + ‖[a] − [0]‖₂)` -/
example (a : ℝ) : exFR exStateR.x - exFR [a] ≤ tol 1 (1 / 100 : ℝ) * (1 + norm2 (vsub [a] exStateR.x)) :=
  bundle_stop_certificate hsqrtReal 1 exFR exStateR [1 / 2, 1 / 2] (1 / 100) exValidR rfl simplexHalfR (by norm_num)
    exEconvR exSconvR [a] rfl

/-- the hypotheses of `ellipsoid_stop_certificate` hold at once: `x = 0`, `H = [[4]]` (the interval `[−2, 2]`),
    `z = 1`, sub-gradient `0` of `|·|` at `0` -/
example : InE 1 [0] [[(4 : ℝ)]] [1] := by
  intro w hw
  match w, hw with
  | [c], _ =>
    simp only [quad, mv, dot, vsub, List.map_cons, List.map_nil]
    linarith only [mul_self_nonneg c]
example : SubGrad 1 exFR [0] [0] := abs_subGrad 0 0 (by norm_num) (by norm_num)

/-! the hypotheses of the Löwner–John step and of the n-D run certificate are satisfiable (n = 2, over ℝ) -/
example : (quad (initH 2 (2 : ℝ)) [1, 0] : ℝ) = 4 := by
  norm_num [quad, mv, dot, initH, List.range_succ]

/-- `x = 0`, `H = 4 I`, `g = e₁`, central cut `α = 0`, `z = −e₁` (on the kept side) -/
example : InE 2 (stepX ((2 : ℕ) : ℝ) [0, 0] (mv (initH 2 2) [1, 0]) 0 (quad (initH 2 2) [1, 0]))
    (stepH ((2 : ℕ) : ℝ) (initH 2 2) (mv (initH 2 2) [1, 0]) (vm 2 [1, 0] (initH 2 2)) 0 (quad (initH 2 2) [1, 0]))
    [-1, 0] :=
  (ellipsoid_deep_cut_contains hsqrtReal 2 (le_refl _) [0, 0] [1, 0] [-1, 0] (initH 2 2) 0 rfl rfl rfl
    (initH_wellH 2 2) (by norm_num [quad, mv, dot, initH, List.range_succ])
    (initH_contains 2 (by decide) 2 [0, 0] [-1, 0] rfl rfl (by norm_num [dot, vsub])) (by norm_num) (by norm_num)
    (by norm_num [dot, vsub])).1

set_option linter.unusedVariables false

/-- the constant function: every hypothesis of `ellipsoid_nd_run_certificate` holds, the run stops at once by the early exit -/
example : runND 2 (1 / 100 : ℝ) (1 / 1000) (fun _ => true) (fun _ => true) (fun x => ((0 : ℝ), [0, 0])) 1
    (startND 2 1 [0, 0] (fun x => ((0 : ℝ), [0, 0]))) = (EStatus.converged, ⟨[0, 0], initH 2 1, 0, [0, 0], 0, [0, 0]⟩) := by
  norm_num [runND, iterND, startND, doneE, quad, mv, dot, initH, List.range_succ]
example : ∀ x : List ℝ, x.length = 2 → SubGrad 2 (fun _ => (0 : ℝ)) x ((fun _ => [0, 0]) x) :=
  fun x _ => subGrad_const 2 0 x
end real

end NanoVerif.C03Examples
