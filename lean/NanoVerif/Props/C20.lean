import NanoVerif.Proofs.Stats
import NanoVerif.Proofs.StatsGen
import NanoVerif.Proofs.StatsNth
import NanoVerif.Proofs.StatsExp
import NanoVerif.Proofs.StatsLin
import NanoVerif.Proofs.StatsStore
import Mathlib.Data.Rat.Floor
/-!
  C20 — order statistics and histograms are consistent with a sorted-array reference.

  Property theorems about the model `Model/Stats.lean` (+ `Model/StatsTyped.lean`, `Model/StatsExp.lean`), in exact
  arithmetic: `α` is any linear ordered field with a floor function (`ℚ`, `ℝ`, …); positions and bin indices are naturals.
  `std::sort` enters as a parameter `sort` with the contract `SortSpec` (sorted permutation), instantiated by
  `List.mergeSort` (`mergeSort_sortSpec`); `std::nth_element` as a parameter `nth` with the PARTIAL-ORDER contract `NthSpec`
  (instantiated by `nthBySort_spec`, monitored on the real function at run time). Helper lemmas are in `Proofs/Stats*.lean`.
  Nothing is `_partial`.

  GAP TABLE — every function of the anchored files
  ---------------------------------------------------------------------------------------------------------------------
  include/nano/core/stats.h
    detail::percentile (15-37)            translated  Gen.Stats.percentileGuard / percentileBody (position formula, floor / ceil
                                                      pair, lpos == rpos test, midpoint), tied to the model by
                                                      `model_percentile_is_generated` / `model_percentileC_is_generated` (rfl)
    percentile (42-54)                    modelled    `percentileNthC` (one or two nth_element calls on the caller's range, value
                                                      read as double); `percentile` (= sorted view); wrapper text pinned by translate()
    percentile_sorted (59-72)             modelled    `percentileSortedC`, `percentileSorted`; precondition `is_sorted` = hypothesis
                                                      `hs` of `percentile_value_between`, necessary: `sorted_precondition_necessary`
    median, median_sorted (77-90)         modelled    `medianNthC`, `medianSortedC`, `median`, `medianSorted`
    std::nth_element                      oracle      parameter `nth` with contract `NthSpec`; MONITORED on every `pct unsorted` op
                                                      (python `nth_monitor` on the range the harness reads back after the call)
    std::sort                             oracle      parameter `sort` with contract `SortSpec` (result compared through every op)
    AIC / AICc / BIC (100-147)            outside     not part of this statement; modelled by C10 (`Model/WLearner.lean`)
  include/nano/core/histogram.h
    histogram_t(begin, end, thresholds)   modelled    `mkHist` (sorts values AND thresholds: `ctor_sorts_thresholds`; the sort is
                                                      necessary: `unsorted_thresholds_break_the_rule`)
    make_from_thresholds                  modelled    `mkHist`
    make_from_ratios (list)               modelled    `thresholdsFromRatios`, `histFromRatios`
    make_from_ratios (bins)               modelled    `histFromEqRatios` (was: list read back)
    make_from_percentiles (list)          modelled    `thresholdsFromPercentiles`, `histFromPercentiles`
    make_from_percentiles (bins)          modelled    `histFromEqPercentiles` (was: list read back)
    make_from_exponents                   modelled    `getExponent`, `exponentOf`, `expScan`, `expThresholds`, `histFromExponents`
                                                      with `Libm` = log / pow / fabs (was: thresholds read back)
    update, update_bin, mean              modelled    `bins`, `splitLt`, `binStat`, `mean`
    bin(value)                            modelled    `binOf`, `upperBound` (NaN / ±inf queries compared at `Float`)
    means / counts / medians / thresholds / bins / mean(b) / median(b) / count(b)
                                          modelled    `Hist.stats`, `Hist.thresholds`; the harness checks accessor(b) = vector(b)
  src/core/histogram.cpp
    make_equidistant_ratios / percentiles modelled    `equidistantRatios`, `equidistantPercentiles` over `linSpaced`
                                                      (= Eigen 3.4 `linspaced_op_impl<double,false>`, modelled as coded)
  src/machine/stats.cpp, include/nano/machine/stats.h
    store_stats                           modelled    `storeStats` (slot layout + percentile list translated: Gen.Stats)
    load_stats, stats_t                   modelled    `loadStats`, `StatsT` (field names / order translated: `stats_fields_match`)
    tensor::mean / variance / stdev       modelled    `tmean`, `tvariance`, `tstdev` (`tvariance_two_pass`, `tstdev_is_standard_error`)
    std::sqrt                             oracle      class `HasSqrt` (bound to `Float.sqrt`; compared at rtol 1e-9)
  src/wlearner/criterion.cpp
    make_score                            outside     C10
  outside every model: binary64 rounding (the theorems are exact; the double computation of the position is compared with the
  exact one on the WHOLE grid p = 0..100, n = 1..500 — 50 500 pairs, both tiers — and on p = k/8 for every n in the thorough tier);
  `int` overflow of `get_exponent` for `base < 1 + 2^-20`; NaN values / thresholds (`std::sort` undefined); empty ranges (UB).
-/
namespace NanoVerif.Stats

variable {α : Type} [Field α] [LinearOrder α] [IsStrictOrderedRing α] [FloorRing α]

/-! ### percentiles -/

/-- **percentile_spec.** For a non-empty list of `n` values and `0 ≤ p ≤ 100` let `q = p (n-1) / 100`. There are
    positions `l = ⌊q⌋` and `r = ⌈q⌉` (pinned by the four inequalities), both inside the list, `l ≤ r ≤ l + 1`, and
    `percentile_sorted` returns the value at position `q` when `q` is integral (`l = r`) and the midpoint of the two
    neighbours `xs[l]`, `xs[r]` when it is fractional. -/
theorem percentile_spec (xs : List α) (p : α) (hne : xs ≠ []) (h0 : 0 ≤ p) (h100 : p ≤ 100) :
    ∃ (l r : ℕ) (hl : l < xs.length) (hr : r < xs.length),
      (l : α) ≤ p * ((xs.length - 1 : ℕ) : α) / 100 ∧ p * ((xs.length - 1 : ℕ) : α) / 100 < l + 1 ∧
      (r : α) - 1 < p * ((xs.length - 1 : ℕ) : α) / 100 ∧ p * ((xs.length - 1 : ℕ) : α) / 100 ≤ r ∧
      l ≤ r ∧ r ≤ l + 1 ∧
      percentileSorted xs p = some (if l = r then xs[l] else (xs[l] + xs[r]) / 2) := by
  have hn : 0 < xs.length := List.length_pos_of_ne_nil hne
  obtain ⟨l, r, hfl, hcl, hl, hr, hlr, hrl⟩ := position_indices xs.length p hn h0 h100
  refine ⟨l, r, hl, hr, ?_, ?_, ?_, ?_, hlr, hrl, percentileSorted_eq xs p hne h0 h100 l r hfl hcl hl hr⟩
  · exact_mod_cast (Int.floor_eq_iff.mp hfl).1
  · exact_mod_cast (Int.floor_eq_iff.mp hfl).2
  · exact_mod_cast (Int.ceil_eq_iff.mp hcl).1
  · exact_mod_cast (Int.ceil_eq_iff.mp hcl).2

/-- On a sorted list the returned value lies between the two neighbours of the position (so it is an order statistic
    or lies between two consecutive ones): at least `l + 1` values are `≤` it and at least `n - r` values are `≥` it. -/
theorem percentile_value_between (xs : List α) (p : α) (hne : xs ≠ []) (h0 : 0 ≤ p) (h100 : p ≤ 100)
    (hs : xs.Pairwise (· ≤ ·)) :
    ∃ (l r : ℕ) (hl : l < xs.length) (hr : r < xs.length) (v : α),
      ⌊p * ((xs.length - 1 : ℕ) : α) / 100⌋ = (l : ℤ) ∧ ⌈p * ((xs.length - 1 : ℕ) : α) / 100⌉ = (r : ℤ) ∧
      percentileSorted xs p = some v ∧ xs[l] ≤ v ∧ v ≤ xs[r] ∧
      (∀ j (hj : j < xs.length), j ≤ l → xs[j] ≤ v) ∧ (∀ j (hj : j < xs.length), r ≤ j → v ≤ xs[j]) := by
  have hn : 0 < xs.length := List.length_pos_of_ne_nil hne
  obtain ⟨l, r, hfl, hcl, hl, hr, hlr, hrl⟩ := position_indices xs.length p hn h0 h100
  have hlrv : xs[l] ≤ xs[r] := sorted_getElem_le hs hlr hr
  have hlo : xs[l] ≤ if l = r then xs[l] else (xs[l] + xs[r]) / 2 := by
    split
    · exact le_refl _
    · exact (le_midpoint_le hlrv).1
  have hhi : (if l = r then xs[l] else (xs[l] + xs[r]) / 2) ≤ xs[r] := by
    split
    · exact hlrv
    · exact (le_midpoint_le hlrv).2
  exact ⟨l, r, hl, hr, _, hfl, hcl, percentileSorted_eq xs p hne h0 h100 l r hfl hcl hl hr, hlo, hhi,
    fun j _ hjl => (sorted_getElem_le hs hjl hl).trans hlo, fun j hj hrj => hhi.trans (sorted_getElem_le hs hrj hj)⟩

set_option linter.unusedSectionVars false
/-- the error branches: an empty range and a percentage outside `[0, 100]` (the `assert` of stats.h:18) give no value -/
theorem percentileSorted_rejects (xs : List α) (p : α) :
    percentileSorted ([] : List α) p = none ∧ ((p < 0 ∨ 100 < p) → percentileSorted xs p = none) := by
  refine ⟨by simp [percentileSorted], ?_⟩
  intro h
  unfold percentileSorted
  have : ¬ (0 ≤ p ∧ p ≤ 100) := by
    rintro ⟨h0, h100⟩
    rcases h with h | h
    · exact absurd h0 (not_le.mpr h)
    · exact absurd h100 (not_le.mpr h)
  by_cases he : xs.isEmpty = true
  · rw [if_pos he]
  · rw [if_neg he, if_pos this]

/-- `List.mergeSort` (the sort the driver runs) satisfies the contract of `std::sort` -/
theorem mergeSort_sortSpec : SortSpec (msort : List α → List α) :=
  fun xs => ⟨msort_perm xs, msort_sorted xs⟩

/-- the contract determines the result: any two sorts agree on every input -/
theorem sortSpec_unique {s₁ s₂ : List α → List α} (h₁ : SortSpec s₁) (h₂ : SortSpec s₂) (xs : List α) :
    s₁ xs = s₂ xs :=
  sorted_perm_unique ((h₁ xs).1.trans (h₂ xs).1.symm) (h₁ xs).2 (h₂ xs).2

/-- **percentile_unsorted_eq_sorted.** Whatever sorted permutation `std::nth_element`/`std::sort` produce, the
    percentile of an unsorted list is `percentile_sorted` of its (unique) sorted rearrangement. -/
theorem percentile_unsorted_eq_sorted (sort : List α → List α) (hs : SortSpec sort) (xs : List α) (p : α) :
    percentile sort xs p = percentileSorted (msort xs) p := by
  unfold percentile
  rw [sortSpec_unique hs mergeSort_sortSpec xs]

/-- on an already sorted list the two variants coincide -/
theorem percentile_of_sorted (sort : List α → List α) (hs : SortSpec sort) (xs : List α)
    (hx : xs.Pairwise (· ≤ ·)) (p : α) : percentile sort xs p = percentileSorted xs p := by
  unfold percentile
  rw [sortSpec_sorted_id hs xs hx]

theorem median_eq_percentile_50 (sort : List α → List α) (xs : List α) :
    median sort xs = percentile sort xs 50 ∧ medianSorted xs = percentileSorted xs 50 := ⟨rfl, rfl⟩

/-- the textbook median: the middle element of an odd-length list, the mean of the two middle elements otherwise -/
theorem median_spec (xs : List α) (k : ℕ) :
    (xs.length = 2 * k + 1 → ∃ h : k < xs.length, medianSorted xs = some xs[k]) ∧
    (xs.length = 2 * k + 2 →
      ∃ (h₁ : k < xs.length) (h₂ : k + 1 < xs.length), medianSorted xs = some ((xs[k] + xs[k + 1]) / 2)) := by
  have h50 : (0 : α) ≤ 50 := by norm_num
  have h50' : (50 : α) ≤ 100 := by norm_num
  constructor
  · intro hlen
    have hk : k < xs.length := by omega
    have hpos : position xs.length (50 : α) = (k : α) := by
      rw [position_eq, hlen, Nat.add_sub_cancel]; push_cast; ring
    exact ⟨hk, percentileSorted_natPos xs 50 h50 h50' k hk hpos⟩
  · intro hlen
    have hk1 : k + 1 < xs.length := by omega
    have hpos : position xs.length (50 : α) = (k : α) + 1 / 2 := by
      rw [position_eq, hlen, show 2 * k + 2 - 1 = 2 * k + 1 from rfl]; push_cast; ring
    have hfl : ⌊position xs.length (50 : α)⌋ = (k : ℤ) := by
      rw [hpos, Int.floor_eq_iff, Int.cast_natCast]
      exact ⟨le_add_of_nonneg_right one_half_pos.le, add_lt_add_right one_half_lt_one _⟩
    have hcl : ⌈position xs.length (50 : α)⌉ = ((k + 1 : ℕ) : ℤ) := by
      rw [hpos, Int.ceil_eq_iff, Int.cast_natCast, Nat.cast_succ, add_sub_cancel_right]
      exact ⟨lt_add_of_pos_right _ one_half_pos, add_le_add_right one_half_lt_one.le _⟩
    refine ⟨k.lt_succ_self.trans hk1, hk1, ?_⟩
    have := percentileSorted_eq xs 50 (List.ne_nil_of_length_pos (Nat.zero_lt_of_lt hk1)) h50 h50' k (k + 1) hfl hcl
      (k.lt_succ_self.trans hk1) hk1
    rwa [if_neg k.succ_ne_self.symm] at this

/-! ### histogram -/

/-- **bins_concat.** The ranges produced by the `upper_bound` loop, concatenated, are the (sorted) values: the bins
    partition the values — nothing is lost, nothing is counted twice. No assumption on the inputs. -/
theorem bins_concat (ts vs : List α) : (bins ts vs).flatten = vs := by
  induction ts generalizing vs with
  | nil => simp [bins]
  | cons t ts ih =>
    simp only [bins, List.flatten_cons]
    rw [ih, splitLt_append]

/-- `k` thresholds give `k + 1` bins -/
theorem bins_length (ts vs : List α) : (bins ts vs).length = ts.length + 1 := by
  induction ts generalizing vs with
  | nil => simp [bins]
  | cons t ts ih => simp [bins, ih]

/-- the counts add up to the number of values -/
theorem bins_counts_sum (ts vs : List α) : ((bins ts vs).map List.length).sum = vs.length := by
  rw [← List.length_flatten, bins_concat]

/-- **binOf_spec.** For **every** query `v` (integral or not), `bin(v)` is a valid bin index and it is a bin the
    counting rule assigns to `v`: `ts[bin-1] ≤ v < ts[bin]` (sentinels `∓∞`); for sorted thresholds (which the
    constructor establishes) it is the only one (`binOf_unique`). -/
theorem binOf_spec (ts : List α) (v : α) :
    binOf ts v ≤ ts.length ∧ inBin ts (binOf ts v) v = true ∧
      (∀ t, 0 < binOf ts v → ts[binOf ts v - 1]? = some t → t ≤ v) ∧ (∀ t, ts[binOf ts v]? = some t → v < t) := by
  have hrule : (∀ t, 0 < binOf ts v → ts[binOf ts v - 1]? = some t → t ≤ v) ∧
      (∀ t, ts[binOf ts v]? = some t → v < t) := by
    rw [binOf_eq_upperBound]
    exact ⟨fun t hpos ht => upperBound_before ts v _ (by omega) t ht, fun t ht => upperBound_at ts v t ht⟩
  refine ⟨by rw [binOf_eq_upperBound]; exact upperBound_le ts v, (inBin_iff ts _ v).mpr hrule, hrule⟩

/-- … and it is the only such bin: the counting rule assigns exactly one bin to every `v`. -/
theorem binOf_unique (ts : List α) (hts : ts.Pairwise (· ≤ ·)) (v : α) (i : ℕ) (hi : i ≤ ts.length)
    (h : inBin ts i v = true) : i = binOf ts v := by
  obtain ⟨hb, -, hlo, hhi⟩ := binOf_spec ts v
  obtain ⟨ilo, ihi⟩ := (inBin_iff ts i v).mp h
  rcases Nat.lt_trichotomy i (binOf ts v) with hlt | heq | hgt
  · exact (bins_disjoint hts hlt hb ihi hlo).elim
  · exact heq
  · exact (bins_disjoint hts hgt hi hhi ilo).elim

/-- For sorted thresholds (duplicates allowed) and sorted values, bin `i` is exactly the sub-list of the values with
    `ts[i-1] ≤ v < ts[i]` (sentinels `∓∞`; multiplicities included): the values `bin(·)` sends to `i`
    (`bins_getElem?_eq_filter_binOf`), and for sorted thresholds those are the values of the interval. -/
theorem bin_eq_filter (ts vs : List α) (hts : ts.Pairwise (· ≤ ·)) (hvs : vs.Pairwise (· ≤ ·))
    (i : ℕ) (hi : i ≤ ts.length) : (bins ts vs)[i]? = some (vs.filter (inBin ts i)) := by
  rw [bins_getElem?_eq_filter_binOf ts vs hvs i hi]
  refine congrArg some (List.filter_congr fun v _ => Bool.eq_iff_iff.mpr ?_)
  rw [decide_eq_true_eq]
  exact ⟨fun h => h ▸ (binOf_spec ts v).2.1, fun h => (binOf_unique ts hts v i hi h).symm⟩

/-- **bin_membership.** `v` is in bin `i` iff it is one of the values and `ts[i-1] ≤ v < ts[i]` (sentinels `∓∞`). -/
theorem bin_membership (ts vs : List α) (hts : ts.Pairwise (· ≤ ·)) (hvs : vs.Pairwise (· ≤ ·))
    (i : ℕ) (hi : i ≤ ts.length) :
    ∃ b, (bins ts vs)[i]? = some b ∧
      ∀ v, v ∈ b ↔ v ∈ vs ∧ (∀ t, 0 < i → ts[i - 1]? = some t → t ≤ v) ∧ (∀ t, ts[i]? = some t → v < t) := by
  refine ⟨_, bin_eq_filter ts vs hts hvs i hi, ?_⟩
  intro v
  rw [List.mem_filter, inBin_iff]

/-- **bin_stats_spec.** Count, mean and median stored for bin `i` are the number, the arithmetic mean and the median
    (`percentile_sorted(·, 50)`, see `median_spec`) of the values the counting rule assigns to the bin; an empty bin
    carries the NaN marker (`none`) for mean and median. -/
theorem bin_stats_spec (ts vs : List α) (hts : ts.Pairwise (· ≤ ·)) (hvs : vs.Pairwise (· ≤ ·))
    (i : ℕ) (hi : i ≤ ts.length) :
    ∃ st, ((bins ts vs).map binStat)[i]? = some st ∧
      st.count = (vs.filter (inBin ts i)).length ∧
      (vs.filter (inBin ts i) = [] → st.mean = none ∧ st.median = none) ∧
      (vs.filter (inBin ts i) ≠ [] →
        st.mean = some ((vs.filter (inBin ts i)).sum / ((vs.filter (inBin ts i)).length : α)) ∧
        st.median = medianSorted (vs.filter (inBin ts i)) ∧ ∃ m, st.median = some m) := by
  refine ⟨binStat (vs.filter (inBin ts i)), ?_, ?_, ?_, ?_⟩
  · rw [List.getElem?_map, bin_eq_filter ts vs hts hvs i hi]; rfl
  · exact binStat_count _
  · intro h
    simp [binStat, h]
  · intro h
    have he : (vs.filter (inBin ts i)).isEmpty = false := by
      cases hb : vs.filter (inBin ts i) with
      | nil => exact absurd hb h
      | cons _ _ => rfl
    have hm : (binStat (vs.filter (inBin ts i))).median = medianSorted (vs.filter (inBin ts i)) := by
      simp [binStat, he]
    refine ⟨by simp [binStat, he, mean_eq], hm, ?_⟩
    rw [hm]
    obtain ⟨l, r, hl, hr, -, -, -, -, -, -, hv⟩ :=
      percentile_spec (vs.filter (inBin ts i)) 50 h (by norm_num) (by norm_num)
    exact ⟨_, hv⟩

/-- a value of the data set is found in the bin that `bin(v)` names -/
theorem binOf_mem (ts vs : List α) (hts : ts.Pairwise (· ≤ ·)) (hvs : vs.Pairwise (· ≤ ·)) (v : α) (hv : v ∈ vs) :
    ∃ b, (bins ts vs)[binOf ts v]? = some b ∧ v ∈ b := by
  obtain ⟨hb, hin, -, -⟩ := binOf_spec ts v
  exact ⟨_, bin_eq_filter ts vs hts hvs _ hb, List.mem_filter.mpr ⟨hv, hin⟩⟩

/-! ### the `histogram_t` object (constructor sorts both inputs) -/

/-- **hist_spec.** Whatever sorted permutations `std::sort` returns: the stored thresholds are the sorted thresholds,
    there are `k + 1` bins, the bins concatenate to the sorted values (a permutation of the input), and bin `i` holds
    exactly the values with `thresholds[i-1] ≤ v < thresholds[i]`. `none` only for an empty threshold list (the assert). -/
theorem hist_spec (sort : List α → List α) (hs : SortSpec sort) (vs ts : List α) :
    (ts = [] → mkHist sort vs ts = none) ∧
    (ts ≠ [] → ∃ h, mkHist sort vs ts = some h ∧
      h.thresholds = msort ts ∧ h.cells.length = ts.length + 1 ∧ h.cells.flatten = msort vs ∧
      h.cells.flatten.Perm vs ∧
      ∀ i, i ≤ ts.length → h.cells[i]? = some ((msort vs).filter (inBin (msort ts) i))) := by
  constructor
  · intro h; simp [mkHist, h]
  · intro hne
    have he : ts.isEmpty = false := by cases ts <;> simp_all
    have e1 : sort ts = msort ts := sortSpec_unique hs mergeSort_sortSpec ts
    have e2 : sort vs = msort vs := sortSpec_unique hs mergeSort_sortSpec vs
    refine ⟨⟨msort ts, bins (msort ts) (msort vs)⟩, by simp [mkHist, he, e1, e2], rfl, ?_, ?_, ?_, ?_⟩
    · rw [bins_length, (msort_perm ts).length_eq]
    · exact bins_concat _ _
    · show (bins (msort ts) (msort vs)).flatten.Perm vs
      rw [bins_concat]; exact msort_perm vs
    · intro i hi
      exact bin_eq_filter _ _ (msort_sorted ts) (msort_sorted vs) i (by rw [(msort_perm ts).length_eq]; exact hi)

/-- the count of bin `i` is the number of input values (in their original order, unsorted) that the counting rule
    assigns to it -/
theorem hist_count_spec (sort : List α → List α) (hs : SortSpec sort) (vs ts : List α) (h : Hist α)
    (hh : mkHist sort vs ts = some h) (i : ℕ) (hi : i ≤ ts.length) :
    ∃ st, h.stats[i]? = some st ∧ st.count = vs.countP (inBin h.thresholds i) := by
  have hne : ts ≠ [] := by intro e; simp [mkHist, e] at hh
  obtain ⟨h', hh', hthr, -, -, -, hcells⟩ := (hist_spec sort hs vs ts).2 hne
  rw [hh] at hh'
  cases hh'
  refine ⟨binStat ((msort vs).filter (inBin (msort ts) i)), ?_, ?_⟩
  · unfold Hist.stats
    rw [List.getElem?_map, hcells i hi]; rfl
  · rw [hthr, ← (msort_perm vs).countP_eq, List.countP_eq_length_filter]
    exact binStat_count _

/-- `histogram_t::bin(v)` names, for every real `v`, the one bin whose interval contains `v` — the same rule by which
    the values were counted -/
theorem hist_bin_spec (sort : List α → List α) (hs : SortSpec sort) (vs ts : List α) (h : Hist α)
    (hh : mkHist sort vs ts = some h) (v : α) :
    h.bin v ≤ ts.length ∧ inBin h.thresholds (h.bin v) v = true ∧
      (∀ i, i ≤ ts.length → inBin h.thresholds i v = true → i = h.bin v) ∧
      (v ∈ vs → ∃ b, h.cells[h.bin v]? = some b ∧ v ∈ b) := by
  have hne : ts ≠ [] := by intro e; simp [mkHist, e] at hh
  obtain ⟨h', hh', hthr, -, -, -, hcells⟩ := (hist_spec sort hs vs ts).2 hne
  rw [hh] at hh'
  cases hh'
  have hlen : (msort ts).length = ts.length := (msort_perm ts).length_eq
  obtain ⟨hb, hin, -, -⟩ := binOf_spec (msort ts) v
  unfold Hist.bin
  rw [hthr]
  refine ⟨by omega, hin, ?_, ?_⟩
  · intro i hi hi'
    exact binOf_unique (msort ts) (msort_sorted ts) v i (by omega) hi'
  · intro hv
    refine ⟨_, hcells _ (by omega), List.mem_filter.mpr ⟨(msort_perm vs).mem_iff.mpr hv, hin⟩⟩

/-! ### thresholds derived from ratios and from percentiles; `store_stats` -/

/-- `make_from_ratios`: the thresholds are `min + r (max - min)` for the sorted ratios, with `min`/`max` the least and
    greatest value; every threshold lies in `[min, max]` and they come out ascending. -/
theorem ratio_thresholds_spec (sort : List α → List α) (hs : SortSpec sort) (vs rs T : List α)
    (h : thresholdsFromRatios sort vs rs = some T) :
    ∃ mn mx, mn ∈ vs ∧ mx ∈ vs ∧ (∀ v ∈ vs, mn ≤ v ∧ v ≤ mx) ∧
      T = (msort rs).map (fun r => mn + r * (mx - mn)) ∧ (∀ r ∈ rs, 0 < r ∧ r < 1) ∧
      (∀ t ∈ T, mn ≤ t ∧ t ≤ mx) ∧ T.Pairwise (· ≤ ·) := by
  unfold thresholdsFromRatios at h
  rw [sortSpec_unique hs mergeSort_sortSpec vs, sortSpec_unique hs mergeSort_sortSpec rs] at h
  simp only at h
  split at h
  · rename_i mn mx r0 r1 hmn hmx hr0 hr1
    split at h
    · rename_i hr
      cases h
      have hsr := msort_sorted rs
      have hmn_le := sorted_head?_le (msort_sorted vs) hmn
      have hmx_ge := sorted_le_getLast? (msort_sorted vs) hmx
      have hmn_mem : mn ∈ msort vs := List.mem_of_mem_head? hmn
      have hmx_mem : mx ∈ msort vs := List.mem_of_getLast? hmx
      have hd : 0 ≤ mx - mn := sub_nonneg.mpr (hmn_le mx hmx_mem)
      have hrange : ∀ r ∈ msort rs, 0 < r ∧ r < 1 := fun r hr' =>
        ⟨lt_of_lt_of_le hr.1 (sorted_head?_le hsr hr0 r hr'), lt_of_le_of_lt (sorted_le_getLast? hsr hr1 r hr') hr.2⟩
      refine ⟨mn, mx, (msort_perm vs).mem_iff.mp hmn_mem, (msort_perm vs).mem_iff.mp hmx_mem,
        fun v hv => ⟨hmn_le v ((msort_perm vs).mem_iff.mpr hv), hmx_ge v ((msort_perm vs).mem_iff.mpr hv)⟩,
        rfl, fun r hr' => hrange r ((msort_perm rs).mem_iff.mpr hr'), ?_, ?_⟩
      · intro t ht
        obtain ⟨r, hr', rfl⟩ := List.mem_map.mp ht
        obtain ⟨h0, h1⟩ := hrange r hr'
        refine ⟨le_add_of_nonneg_right (mul_nonneg h0.le hd), ?_⟩
        calc mn + r * (mx - mn) ≤ mn + (mx - mn) := add_le_add_right (mul_le_of_le_one_left hd h1.le) mn
          _ = mx := add_sub_cancel mn mx
      · rw [List.pairwise_map]
        exact hsr.imp (fun {a b} hab => add_le_add_right (mul_le_mul_of_nonneg_right hab hd) mn)
    · cases h
  · cases h

/-- `make_from_percentiles`: threshold `i` is `percentile_sorted` of the sorted values at the `i`-th sorted percentage
    (each described by `percentile_spec`); it exists whenever the asserted domain holds. -/
theorem percentile_thresholds_spec (sort : List α → List α) (hs : SortSpec sort) (vs ps : List α) :
    (∀ T, thresholdsFromPercentiles sort vs ps = some T →
      List.Forall₂ (fun p t => percentileSorted (msort vs) p = some t) (msort ps) T) ∧
    (vs ≠ [] → ps ≠ [] → (∀ p ∈ ps, 0 < p ∧ p < 100) → ∃ T, thresholdsFromPercentiles sort vs ps = some T) := by
  constructor
  · intro T h
    unfold thresholdsFromPercentiles at h
    rw [sortSpec_unique hs mergeSort_sortSpec vs, sortSpec_unique hs mergeSort_sortSpec ps] at h
    simp only at h
    split at h
    · split at h
      · exact mapOpt_forall₂ _ _ _ h
      · cases h
    · cases h
  · intro hvs hps hrange
    unfold thresholdsFromPercentiles
    rw [sortSpec_unique hs mergeSort_sortSpec vs, sortSpec_unique hs mergeSort_sortSpec ps]
    have hvs' := msort_ne_nil hvs
    have hps' := msort_ne_nil hps
    have hr' : ∀ p ∈ msort ps, 0 < p ∧ p < 100 := fun p hp => hrange p ((msort_perm ps).mem_iff.mp hp)
    obtain ⟨a, la, hva⟩ := List.exists_cons_of_ne_nil hvs'
    obtain ⟨p0, lp, hpa⟩ := List.exists_cons_of_ne_nil hps'
    have ha : (msort vs).head? = some a := by rw [hva]; rfl
    have hp0 : (msort ps).head? = some p0 := by rw [hpa]; rfl
    have hp1 : (msort ps).getLast? = some ((msort ps).getLast hps') := List.getLast?_eq_some_getLast hps'
    simp only [ha, hp0, hp1]
    have c0 : 0 < p0 := (hr' p0 (List.mem_of_mem_head? hp0)).1
    have c1 : (msort ps).getLast hps' < 100 := (hr' _ (List.getLast_mem hps')).2
    simp only [c0, c1, and_self, if_true]
    apply mapOpt_isSome
    intro p hp
    obtain ⟨l, r, hl, hr, -, -, -, -, -, -, hv⟩ :=
      percentile_spec (msort vs) p hvs' (le_of_lt (hr' p hp).1) (le_of_lt (hr' p hp).2)
    exact ⟨_, hv⟩

/-- `ml::store_stats`: slot 0 is the arithmetic mean, slot 2 the number of values, and the remaining slots are the
    percentiles of the values at the percentages listed in the source (regenerated list `Gen.Stats.storeStatsPercentiles`),
    each the `percentile_sorted` of the sorted values (so `percentile_spec` applies) -/
theorem storeStats_spec [HasSqrt α] (sort : List α → List α) (hs : SortSpec sort) (vs st : List α)
    (h : storeStats sort vs = some st) :
    ∃ ps, st = [vs.sum / (vs.length : α), tstdev vs, (vs.length : α)] ++ ps ∧
      List.Forall₂ (fun (k : ℕ) t => percentileSorted (msort vs) (k : α) = some t) Gen.Stats.storeStatsPercentiles ps := by
  unfold storeStats at h
  split at h
  · rename_i ps hps
    cases h
    refine ⟨ps, ?_, ?_⟩
    · rw [tmean_eq]; rfl
    · have := mapOpt_forall₂ _ _ _ hps
      refine this.imp ?_
      intro k t hk
      rw [← percentile_unsorted_eq_sorted sort hs vs]
      exact hk
  · cases h

/-! ### nth_element contract, typed containers, constructor, exponents, equidistant lists, store/load -/

/-- **percentile_nth_spec.** `nano::percentile` AS CODED — `std::nth_element` called once (integral position) or twice
    (the second time on the range as the first call left it), each value converted to the scalar type at the read —
    returns, for EVERY `nth_element` that meets the partial-order contract `NthSpec` and every container value type:
    the order statistic at position `p (n-1) / 100` of the sorted data when that is integral, the midpoint (computed in
    the scalar type, not in the container's) of the two neighbouring order statistics otherwise. -/
theorem percentile_nth_spec {β : Type} [LinearOrder β] (cast : β → α) (nth : List β → ℕ → List β) (hn : NthSpec nth)
    (xs : List β) (p : α) (hne : xs ≠ []) (h0 : 0 ≤ p) (h100 : p ≤ 100) :
    ∃ (l r : ℕ) (hl : l < (msort xs).length) (hr : r < (msort xs).length),
      ⌊p * ((xs.length - 1 : ℕ) : α) / 100⌋ = (l : ℤ) ∧ ⌈p * ((xs.length - 1 : ℕ) : α) / 100⌉ = (r : ℤ) ∧
      (percentileNthC cast nth xs p).map Prod.fst =
        some (if l = r then cast (msort xs)[l] else (cast (msort xs)[l] + cast (msort xs)[r]) / 2) ∧
      ∀ v zs, percentileNthC cast nth xs p = some (v, zs) → zs.Perm xs := by
  obtain ⟨hval, hperm⟩ := percentileNthC_spec cast nth hn xs p
  have hlen : (msort xs).length = xs.length := (msort_perm xs).length_eq
  have hn' : 0 < xs.length := List.length_pos_of_ne_nil hne
  obtain ⟨l, r, hfl, hcl, hl, hr, -, -⟩ := position_indices xs.length p hn' h0 h100
  have hne' : (msort xs).map cast ≠ [] := by
    intro e
    have := congrArg List.length e
    simp only [List.length_map, List.length_nil] at this
    omega
  have hl' : l < ((msort xs).map cast).length := by rw [List.length_map]; omega
  have hr' : r < ((msort xs).map cast).length := by rw [List.length_map]; omega
  have hfl' : ⌊position ((msort xs).map cast).length p⌋ = (l : ℤ) := by rw [List.length_map, hlen]; exact hfl
  have hcl' : ⌈position ((msort xs).map cast).length p⌉ = (r : ℤ) := by rw [List.length_map, hlen]; exact hcl
  refine ⟨l, r, by omega, by omega, ?_, ?_, ?_, hperm⟩
  · rw [← position_eq]; exact hfl
  · rw [← position_eq]; exact hcl
  · rw [hval, percentileSortedC_eq_map, percentileSorted_eq _ p hne' h0 h100 l r hfl' hcl' hl' hr']
    simp only [List.getElem_map]

/-- the unsorted variant on a double container and the specification-level `percentile` of `Model/Stats.lean` agree -/
theorem percentile_nth_eq_percentile (nth : List α → ℕ → List α) (hn : NthSpec nth) (sort : List α → List α)
    (hs : SortSpec sort) (xs : List α) (p : α) :
    (percentileNthC id nth xs p).map Prod.fst = percentile sort xs p := by
  rw [(percentileNthC_spec id nth hn xs p).1, percentileSortedC_eq_map, List.map_id,
    percentile_unsorted_eq_sorted sort hs]

/-- **integer containers**: `percentile_sorted` of `std::vector<int>` is computed in double — the midpoint of two
    integers is their rational midpoint (witness: 1, 2 ↦ 3/2, which no integer equals) -/
theorem percentile_int_container (xs : List ℤ) (p : α) :
    percentileSortedC (Int.cast : ℤ → α) xs p = percentileSorted (xs.map (Int.cast : ℤ → α)) p ∧
    (xs.Pairwise (· ≤ ·) → (xs.map (Int.cast : ℤ → α)).Pairwise (· ≤ ·)) :=
  ⟨percentileSortedC_eq_map _ xs p, map_cast_sorted _ (fun _ _ h => Int.cast_le.mpr h) xs⟩

/-- **the precondition of `percentile_sorted` is necessary**: on the unsorted range 3, 1, 2 the sorted variant answers
    1 (the value at position 1 as given), the unsorted variant — and the statement — say 2. Replayed on the code by the
    corpus op `pct positional`. -/
theorem sorted_precondition_necessary :
    percentileSorted ([3, 1, 2] : List ℚ) 50 = some 1 ∧ percentile msort ([3, 1, 2] : List ℚ) 50 = some 2 := by
  constructor
  · decide +kernel
  · have h : msort ([3, 1, 2] : List ℚ) = [1, 2, 3] :=
      sorted_perm_unique ((msort_perm _).trans (by decide +kernel)) (msort_sorted _) (by decide +kernel)
    unfold percentile
    rw [h]
    decide +kernel

/-- **ctor_sorts_thresholds.** The public constructor stores a SORTED permutation of the thresholds it is given
    (any order, duplicates allowed). -/
theorem ctor_sorts_thresholds (sort : List α → List α) (hs : SortSpec sort) (vs ts : List α) (h : Hist α)
    (hh : mkHist sort vs ts = some h) :
    h.thresholds.Pairwise (· ≤ ·) ∧ h.thresholds.Perm ts ∧ h.cells = bins h.thresholds (sort vs) := by
  unfold mkHist at hh
  split at hh
  · cases hh
  · cases hh
    exact ⟨(hs ts).2, (hs ts).1, rfl⟩

/-- … and that sort is necessary: with the thresholds 2, 1 left as given, the `upper_bound` loop puts 3/2 into bin 0
    although the counting rule `ts[i-1] ≤ v < ts[i]` also claims it for bin 2 — the bins would no longer be the rule's -/
theorem unsorted_thresholds_break_the_rule :
    bins ([2, 1] : List ℚ) [0, 3 / 2, 3] = [[0, 3 / 2], [], [3]] ∧
    inBin ([2, 1] : List ℚ) 2 (3 / 2) = true ∧ inBin ([2, 1] : List ℚ) 0 (3 / 2) = true ∧
    bins ([1, 2] : List ℚ) [0, 3 / 2, 3] = [[0], [3 / 2], [3]] := by decide +kernel

/-- the constructor's sort of the VALUES is necessary as well: `update` on the unsorted range 2, 0 with the threshold 1
    counts 0 / 2 where the rule says 1 / 1 -/
theorem unsorted_values_break_the_rule :
    bins ([1] : List ℚ) [2, 0] = [[], [2, 0]] ∧ bins ([1] : List ℚ) [0, 2] = [[0], [2]] := by decide +kernel

/-- **load_store_roundtrip.** `load_stats(store_stats(values))`: the 12 slots fill the 12 fields of `stats_t` in
    declaration order; `m_mean` is the arithmetic mean, `m_count` the number of values, `m_stdev` the quantity of
    `tstdev_is_standard_error`, and every field `m_perNN` holds the percentile its NAME announces. -/
theorem load_store_roundtrip [HasSqrt α] (sort : List α → List α) (hs : SortSpec sort) (vs st : List α)
    (h : storeStats sort vs = some st) :
    ∃ s : StatsT α, loadStats st = some s ∧ s.toList = st ∧
      s.mean = vs.sum / (vs.length : α) ∧ s.stdev = tstdev vs ∧ s.count = (vs.length : α) ∧
      ∀ kp ∈ s.named, percentileSorted (msort vs) ((kp.1 : ℕ) : α) = some kp.2 := by
  obtain ⟨ps, rfl, hps⟩ := storeStats_spec sort hs vs st h
  have hl : Gen.Stats.storeStatsPercentiles = [1, 5, 10, 20, 50, 80, 90, 95, 99] := rfl
  rw [hl] at hps
  rcases hps with _ | ⟨h1, _ | ⟨h2, _ | ⟨h3, _ | ⟨h4, _ | ⟨h5, _ | ⟨h6, _ | ⟨h7, _ | ⟨h8, _ | ⟨h9, _ | _⟩⟩⟩⟩⟩⟩⟩⟩⟩
  refine ⟨⟨_, _, _, _, _, _, _, _, _, _, _, _⟩, rfl, rfl, rfl, rfl, rfl, ?_⟩
  simp only [StatsT.named, List.forall_mem_cons, List.not_mem_nil, false_imp_iff, implies_true, and_true]
  exact ⟨h1, h2, h3, h4, h5, h6, h7, h8, h9⟩

/-- `store_stats` on ONE value `x`: mean `x`, stdev 0 (the `size() > 1` guard), count 1, every percentile `x`;
    on an empty range the model has no value (the code reads `*(begin - 1)`: undefined, never generated) -/
theorem storeStats_one_and_none [HasSqrt α] (sort : List α → List α) (hs : SortSpec sort) (x : α) :
    storeStats sort [x] = some [x, 0, 1, x, x, x, x, x, x, x, x, x] ∧ storeStats sort ([] : List α) = none := by
  have hsort : sort [x] = [x] := sortSpec_sorted_id hs [x] (List.pairwise_singleton _ _)
  have hnil : sort ([] : List α) = [] := List.length_eq_zero_iff.mp (hs []).1.length_eq
  constructor
  · have h100 : ∀ k ∈ Gen.Stats.storeStatsPercentiles, k ≤ 100 := by decide
    have hp : ∀ k ∈ Gen.Stats.storeStatsPercentiles, percentile sort [x] (FloorI.ofNat k) = some x := by
      intro k hk
      have hpos : position [x].length ((k : ℕ) : α) = ((0 : ℕ) : α) := by
        rw [position_eq, List.length_singleton, Nat.sub_self, Nat.cast_zero, mul_zero, zero_div]
      unfold percentile
      rw [hsort]
      exact percentileSorted_natPos [x] (k : α) (Nat.cast_nonneg k) (by exact_mod_cast h100 k hk) 0 Nat.one_pos hpos
    have hm : tmean [x] = x := by
      unfold tmean
      simp [FloorI.ofNat]
    unfold storeStats
    rw [mapOpt_eq_some_map _ (fun _ => x) _ hp, hm, (tstdev_small [x] le_rfl).2]
    exact congrArg (fun c => some [x, 0, c, x, x, x, x, x, x, x, x, x]) Nat.cast_one
  · have : percentile sort ([] : List α) (FloorI.ofNat 1) = none := by
      unfold percentile
      rw [hnil]
      rfl
    unfold storeStats
    rw [show Gen.Stats.storeStatsPercentiles = 1 :: [5, 10, 20, 50, 80, 90, 95, 99] from rfl, mapOpt, this]

/-! ### non-vacuity: the hypotheses are satisfiable and the definitions compute what the unit tests expect -/

section examples
open Gen.Stats

/-- `ℚ` is an instance of the scalar the theorems quantify over; `msort` meets `SortSpec` there -/
example : SortSpec (msort : List ℚ → List ℚ) := mergeSort_sortSpec

/-- the hypotheses of `percentile_spec` are satisfiable, and the model computes the expected values -/
example : ∃ v, percentileSorted ([1, 2, 3, 4] : List ℚ) 50 = some v := by
  obtain ⟨l, r, hl, hr, -, -, -, -, -, -, h⟩ :=
    percentile_spec ([1, 2, 3, 4] : List ℚ) 50 (by simp) (by norm_num) (by norm_num)
  exact ⟨_, h⟩
example : percentileSorted ([1, 2, 3, 4] : List ℚ) 50 = some (5 / 2) := by decide +kernel
example : percentileSorted ([1, 2, 3, 4, 7] : List ℚ) (25 / 2) = some (3 / 2) := by decide +kernel
example : percentileSorted ([1, 2, 3, 4, 7] : List ℚ) 100 = some 7 := by decide +kernel
example : medianSorted ([1, 2, 7] : List ℚ) = some 2 := by decide +kernel

/-- unsorted input: the sorted permutation is forced by `SortSpec`, whichever sort is used -/
example : percentile msort ([4, 1, 3, 2, 7] : List ℚ) (25 / 2) = some (3 / 2) := by
  have h : msort ([4, 1, 3, 2, 7] : List ℚ) = [1, 2, 3, 4, 7] :=
    sorted_perm_unique ((msort_perm _).trans (by decide +kernel)) (msort_sorted _) (by decide +kernel)
  unfold percentile
  rw [h]
  decide +kernel

/-- the defect example of DESIGN.md §6: thresholds {0, 5/2}, data {-1/2, 1, 2, 27/10, 3}: counts 1 2 2, and after the
    fix `bin(27/10) = 2`, `bin(-1/2) = 0` (the truncating code answered 1 and 1) -/
example : (bins ([0, 5 / 2] : List ℚ) [-1 / 2, 1, 2, 27 / 10, 3]).map List.length = [1, 2, 2] := by decide +kernel
example : binOf ([0, 5 / 2] : List ℚ) (27 / 10) = 2 ∧ binOf ([0, 5 / 2] : List ℚ) (-1 / 2) = 0 := by decide +kernel
example : inBin ([0, 5 / 2] : List ℚ) 2 (27 / 10) = true ∧ inBin ([0, 5 / 2] : List ℚ) 1 (27 / 10) = false := by
  decide +kernel

/-- duplicated thresholds give an empty bin between them, and the error branches are reachable -/
example : (bins ([1, 1] : List ℚ) [0, 1, 2]).map List.length = [1, 0, 2] := by decide +kernel
example : ((bins ([1, 1] : List ℚ) [0, 1, 2]).map binStat).map (·.mean) = [some 0, none, some (3 / 2)] := by
  decide +kernel
example : (mkHist msort ([1, 2] : List ℚ) []).isNone = true := by simp [mkHist]
example : percentileSorted ([1, 2] : List ℚ) 101 = none :=
  (percentileSorted_rejects ([1, 2] : List ℚ) 101).2 (Or.inr (by norm_num))
example : storeStatsPercentiles.length + 3 = storeStatsSlots := by decide

/-- the contracts are satisfiable and the definitions compute what the code computes -/
example : NthSpec (nthBySort : List ℚ → ℕ → List ℚ) := nthBySort_spec
example : NthSpec (nthBySort : List ℤ → ℕ → List ℤ) := nthBySort_spec
example : percentileSortedC (Int.cast : ℤ → ℚ) [1, 2] 50 = some (3 / 2) := by decide +kernel
example : ∀ z : ℤ, (z : ℚ) ≠ 3 / 2 := by
  intro z h
  have h2 : ((2 * z : ℤ) : ℚ) = ((3 : ℤ) : ℚ) := by push_cast; linarith
  have := Int.cast_injective h2
  omega
example : (mkHist msort ([1, 2] : List ℚ) [3]).isSome = true := by simp [mkHist]
/-- `PowSpec` / `FabsSpec` hold for the real instance; over `ℝ` the preconditions of the exponent theorems are satisfiable -/
example : PowSpec (α := ℝ) := powSpec_real
example : FabsSpec (α := ℝ) := fun _ => rfl
example : (thresholdsFromExponents ([1, 2] : List ℝ) 2 1).isSome = true := by
  obtain ⟨T, hT, -⟩ := (thresholdsFromExponents_spec ([1, 2] : List ℝ) 2 1).2 (by simp) (by norm_num) (by norm_num)
  rw [hT]; rfl
example : (1 : ℝ) < 2 ∧ (3 : ℝ) ≠ 0 := ⟨by norm_num, by norm_num⟩
example : intRange (-1) 2 = [-1, 0, 1, 2] := by decide
example : (loadStats ([1, 2, 3, 4, 5, 6, 7, 8, 9, 10, 11, 12] : List ℚ)).map (·.per50) = some 8 := by decide +kernel
example : (loadStats ([1, 2, 3] : List ℚ)).isNone = true := by decide +kernel
example : 1 < ([0, 2] : List ℚ).length := by decide

end examples

end NanoVerif.Stats
