import NanoVerif.Proofs.Codec
import NanoVerif.Proofs.Wire
import NanoVerif.Proofs.TensorHash
import NanoVerif.Proofs.CodecHashFold
import NanoVerif.Proofs.CodecStream
import NanoVerif.Proofs.CodecLayoutGen
/-!
  C15 — serialization round-trips models; truncated / corrupted streams are rejected.

  Model: `Model/Codec.lean` (combinators = the overloads of `include/nano/core/stream.h`) and `Model/Wire.lean`
  (the wire formats of tensors, parameters, configurables, features, learners, linear models, the weak learners and the
  gradient boosting model); `Model/WireStream.lean` (the readers of stream.h / tensor/stream.h / configurable.cpp as
  coded: sticky failure state, loops, early returns); `hashCombine` is regenerated from `include/nano/core/hash.h` on
  every run. `c.dec bs = none` is the model's "exception or failed stream state".

  For every format `X` with well-formedness predicate `X.WF` (explicit, decidable: lengths fit their length fields,
  integers fit their wire width, tensor payload length = size · sizeof, the object carries the library version, a weak
  learner's id names the class of its body):
    `X_roundtrip`       : X.WF x → dec (enc x ++ rest) = some (x, rest)
    `X_prefix_rejected` : X.WF x → p <+: enc x → p ≠ enc x → dec p = none      (every strict prefix of every valid stream)
  The payload-corruption clause of the property is FALSE for the code as it is (kernel-checked witness
  `tensor_single_bit_flip_accepted`, replayed on the implementation by corpus/C15); what holds is
  `tensor_element_corruption_detected` and `tensor_payload_corruption_partial`.

  COVERAGE — every `read` / `write` of the anchored files (grep `read(std::istream` / `write(std::ostream` in include/ src/):

  | C++ (file:lines)                                              | status     | Lean                                                    |
  |---------------------------------------------------------------|------------|---------------------------------------------------------|
  | core/stream.h:13-20   write(scalar)                           | modelled   | `(uintLE k).enc`, `(intLE k).enc`, `raw k`              |
  | core/stream.h:22-30   write(data, count)                      | modelled   | `(raw n).enc`                                           |
  | core/stream.h:32-41   write_cast<T>(data, count)              | modelled   | `(rep i32 rank).enc` (tensor dims), `i64.enc`, `u32.enc`|
  | core/stream.h:43-47   write(string_view)                      | modelled   | `str.enc`                                               |
  | core/stream.h:52-56   write(object with .write)               | modelled   | the object's codec                                      |
  | core/stream.h:61-69   write(unique_ptr<T>)                    | modelled   | `(factory ids body).enc`, `wlearner.enc`                |
  | core/stream.h:74-88   write(vector<T>)                        | modelled   | `(vec c).enc`                                           |
  | core/stream.h:90-97   read(scalar)                            | modelled   | `(uintLE k).dec` / `Stream.rdUInt`, `Stream.rdInt`      |
  | core/stream.h:99-107  read(data, count)                       | modelled   | `(raw n).dec` / `Stream.rdRaw` (negative count: fails)  |
  | core/stream.h:109-128 read_cast<T>(scalar | data, count)      | modelled   | `intLE`, `rep i32 rank` / `Stream.rdDims` (loop, no exit)|
  | core/stream.h:130-144 read(string): resize + char loop        | modelled   | `str.dec` / `Stream.rdString`, `Stream.rdChars`         |
  | core/stream.h:149-153 read(object with .read)                 | modelled   | the object's codec                                      |
  | core/stream.h:158-175 read(unique_ptr<T>): look-up after fail | modelled   | `(factory ids body).dec` / `Stream.rdFactory`           |
  | core/stream.h:180-198 read(vector<T>): loop with early return | modelled   | `(vec c).dec` / `Stream.rdVec`, `Stream.rdElems`        |
  | tensor/stream.h:12-25 write(tensor)                           | modelled   | `(tensor k rank).enc` (10 scalar types, any rank)       |
  | tensor/stream.h:30-58 read(tensor)                            | modelled   | `(tensor k rank).dec` / `Stream.rdTensor`               |
  | core/hash.h:8-11      hash_version                            | translated | `Gen.CodecConsts.hashVersion`                           |
  | core/hash.h:13-16     hash_combine                            | translated | `Gen.CodecConsts.hashCombine`                           |
  | core/hash.h:18-50     hash<tscalar>(data, size)               | modelled   | `hashPayload`, `elemHash` (sign extension per type)     |
  | parameter.cpp:93-101  make_comp / make_flag                   | modelled   | `flag`                                                  |
  | parameter.cpp:103-146 read(range_t), read(pair_range_t)       | modelled   | `rangeOf`, `prangeOf`                                   |
  | parameter.cpp:148-175 write(range_t), write(pair_range_t)     | modelled   | `rangeOf`, `prangeOf`                                   |
  | parameter.cpp:339-410 parameter_t::read / write               | modelled   | `parameter`, `storage` (7 alternatives, unknown tag)    |
  | parameter.cpp (rest: constructors, setters, domain checks)    | outside    | not serialization (the reader does not re-check domains)|
  | configurable.cpp:58-84 configurable_t::read / write           | modelled   | `configurable`, `version`, `versionOk` / `Stream.rdConfigurable` |
  | cmake/version.h.in    major/minor/patch_version               | translated | `Gen.CodecConsts.{major,minor,patch}Version`            |
  | feature.cpp:114-133   feature_t::read / write                 | modelled   | `feature`, `featureTypeOf` (= `from_string<feature_type>`)|
  | learner.cpp:30-48     learner_t::read / write                 | modelled   | `learner` / `Stream.rdLearner`                          |
  | linear.cpp:58-76      linear_t::read / write (+ size check)   | modelled   | `linear`, `linearOk` / `Stream.rdLinear`; tagged: `factory ids linear` |
  | wlearner/single.cpp:19-37                                     | modelled   | `single`                                                |
  | wlearner/stump.cpp:102-118, hinge.cpp:158-176                 | modelled   | `wbodyOf 1`, `wbodyOf 2`                                |
  | wlearner/table.cpp:238-256 (dense/kbest/ksplit/dstep)         | modelled   | `wbodyOf 3` (hashes `tensor .u64 1`, indices `tensor .i64 1`)|
  | wlearner/dtree.cpp:68-87 read/write(dtree_node_t)             | modelled   | `dnode`                                                 |
  | wlearner/dtree.cpp:112-130                                    | modelled   | `wbodyOf 4`                                             |
  | wlearner/affine.cpp   (no own read/write)                     | modelled   | `wbodyOf 0` = `single`                                  |
  | gboost/model.cpp:265-285 gboost_model_t::read / write         | modelled   | `gboost` / `Stream.rdGBoost`                            |
  | solver_t (35 ids), lsearch0_t, lsearchk_t, loss_t, splitter_t,| modelled   | `factory ids configurable` (no override of              |
  |   tuner_t, datasource_t, program::solver_t                    |            |   configurable_t::read/write); ids from the run         |
  | factory look-up `T::all().get(id)` (factory.h)                | oracle     | the id list on the op line (what `all().ids()` returns);|
  |                                                               |            |   contract: `get(id) != null ⇔ id ∈ ids` — monitored    |
  |                                                               |            |   per run by the `factory … expect=` ops (C14 owns it)  |
  | generator_t, function_t, dataset_t, cluster_t, ml::params_t / | outside    | have no read/write (nothing to serialise)               |
  |   result_t, early-stopping state, mhash                       |            |                                                         |
  | fit / predict of the models                                   | outside    | observed: predictions of the re-read model bit-identical|

  FIELD LAYOUTS — beside `modelled`, the layout of every read / write MEMBER FUNCTION of the table above (configurable,
  feature, learner, linear, gboost, single, stump, hinge, table, dtree, dtree_node_t) is `translated`: `tools/props/c15_translate.py`
  re-reads, on every run, the base-class call and the ordered `::nano::read / read_cast<T> / write(…, static_cast<T>(…))` items of
  both functions, the declared type of every member from the class header and the 16 `using` aliases those types go through, into
  `Gen/CodecLayout.lean`; `Proofs/CodecLayoutGen.lean` (namespace `Codec.Layout`): `model_read_layout_is_generated`,
  `model_write_layout_is_generated`, `model_typedefs_are_generated`, `read_layout_eq_write_layout` (each class reads exactly what it
  writes: the premise of stating ONE codec per class), `model_wire_is_generated` (field by field, the on-the-wire kinds are the `seq`
  structure of the codecs of `Model/Wire.lean`), `layout_bases_closed`. `parameter_t::read / write` (a switch over the variant) is
  not a flat layout and stays `modelled`.
-/
namespace NanoVerif.Codec
open NanoVerif.Gen.CodecConsts

/-! ### generic combinator theorems -/

theorem seq_roundtrip {α β : Type} {a : Codec α} {b : Codec β} {wa : α → Prop} {wb : β → Prop}
    (ha : a.RoundTrip wa) (hb : b.RoundTrip wb) : (seq a b).RoundTrip (fun p => wa p.1 ∧ wb p.2) := by
  intro ⟨x, y⟩ rest ⟨hx, hy⟩
  simp only [seq, dseq, List.append_assoc]
  rw [ha x _ hx]; simp only []
  rw [hb y _ hy]

/-- prefix safety of a sequence needs: the first part round-trips and is prefix safe, the second is prefix safe -/
theorem seq_prefix_safe {α β : Type} {a : Codec α} {b : Codec β} {wa : α → Prop} {wb : β → Prop}
    (ha : Good a wa) (hb : Good b wb) : (seq a b).PrefixSafe (fun p => wa p.1 ∧ wb p.2) :=
  (seq_good ha hb).ps

/-- the second reader may depend on the value the first one produced (length-prefixed data, tagged unions) -/
theorem dseq_roundtrip {α β : Type} {a : Codec α} {b : α → Codec β} {wa : α → Prop} {wb : α → β → Prop}
    (ha : Good a wa) (hb : ∀ x, Good (b x) (wb x)) : (dseq a b).RoundTrip (fun p => wa p.1 ∧ wb p.1 p.2) :=
  (dseq_good ha hb).rt

theorem dseq_prefix_safe {α β : Type} {a : Codec α} {b : α → Codec β} {wa : α → Prop} {wb : α → β → Prop}
    (ha : Good a wa) (hb : ∀ x, Good (b x) (wb x)) : (dseq a b).PrefixSafe (fun p => wa p.1 ∧ wb p.1 p.2) :=
  (dseq_good ha hb).ps

theorem pmap_roundtrip {α β : Type} {c : Codec α} {w : α → Prop} (h : Good c w) (f : α → Option β) (g : β → α) :
    (pmap c f g).RoundTrip (fun y => w (g y) ∧ f (g y) = some y) := (pmap_good h f g).rt

theorem pmap_prefix_safe {α β : Type} {c : Codec α} {w : α → Prop} (h : Good c w) (f : α → Option β) (g : β → α) :
    (pmap c f g).PrefixSafe (fun y => w (g y) ∧ f (g y) = some y) := (pmap_good h f g).ps

theorem raw_roundtrip (n : Nat) : (raw n).RoundTrip (fun x => x.length = n) := (raw_good n).rt
theorem raw_prefix_safe (n : Nat) : (raw n).PrefixSafe (fun x => x.length = n) := (raw_good n).ps

theorem u32_roundtrip : u32.RoundTrip U32 := u32_good.rt
theorem u32_prefix_safe : u32.PrefixSafe U32 := u32_good.ps
theorem u64_roundtrip : u64.RoundTrip U64 := u64_good.rt
theorem u64_prefix_safe : u64.PrefixSafe U64 := u64_good.ps
theorem i32_roundtrip : i32.RoundTrip I32 := i32_good.rt
theorem i32_prefix_safe : i32.PrefixSafe I32 := i32_good.ps
theorem i64_roundtrip : i64.RoundTrip I64 := i64_good.rt
theorem i64_prefix_safe : i64.PrefixSafe I64 := i64_good.ps

theorem str_roundtrip : str.RoundTrip StrOk := str_good.rt
theorem str_prefix_safe : str.PrefixSafe StrOk := str_good.ps

theorem rep_roundtrip {α : Type} {c : Codec α} {w : α → Prop} (h : Good c w) (n : Nat) :
    (rep c n).RoundTrip (fun xs => xs.length = n ∧ ∀ x ∈ xs, w x) := (rep_good h n).rt

theorem rep_prefix_safe {α : Type} {c : Codec α} {w : α → Prop} (h : Good c w) (n : Nat) :
    (rep c n).PrefixSafe (fun xs => xs.length = n ∧ ∀ x ∈ xs, w x) := (rep_good h n).ps

theorem vec_roundtrip {α : Type} {c : Codec α} {w : α → Prop} (h : Good c w) :
    (vec c).RoundTrip (fun xs => xs.length < 18446744073709551616 ∧ ∀ x ∈ xs, w x) := (vec_good h).rt

theorem vec_prefix_safe {α : Type} {c : Codec α} {w : α → Prop} (h : Good c w) :
    (vec c).PrefixSafe (fun xs => xs.length < 18446744073709551616 ∧ ∀ x ∈ xs, w x) := (vec_good h).ps

/-- factory objects: known id + a body that is fine -/
theorem factory_roundtrip {β : Type} {body : Codec β} {w : β → Prop} (ids : List Bytes) (h : Good body w) :
    (factory ids body).RoundTrip (fun p => StrOk p.1 ∧ p.1 ∈ ids ∧ w p.2) := (factory_good ids h).rt

theorem factory_prefix_safe {β : Type} {body : Codec β} {w : β → Prop} (ids : List Bytes) (h : Good body w) :
    (factory ids body).PrefixSafe (fun p => StrOk p.1 ∧ p.1 ∈ ids ∧ w p.2) := (factory_good ids h).ps

/-- an id the factory does not know fails the stream, whatever follows -/
theorem factory_unknown_id_rejected {β : Type} (ids : List Bytes) (body : Codec β) (id rest : Bytes)
    (hid : StrOk id) (hne : id ∉ ids) : (factory ids body).dec (str.enc id ++ rest) = none := by
  unfold factory
  rw [Stream.dseq_dec, str_good.dbind_enc hid, if_neg hne]
  rfl

/-! ### tensors -/

theorem tensor_roundtrip (k : Scalar) (rank : Nat) (hr : rank < 4294967296) (t : Tensor) (rest : Bytes)
    (h : Tensor.WF k rank t) : (tensor k rank).dec ((tensor k rank).enc t ++ rest) = some (t, rest) :=
  (tensor_good k rank hr).rt t rest h

theorem tensor_prefix_rejected (k : Scalar) (rank : Nat) (hr : rank < 4294967296) (t : Tensor) (p : Bytes)
    (h : Tensor.WF k rank t) (hp : p <+: (tensor k rank).enc t) (hne : p ≠ (tensor k rank).enc t) :
    (tensor k rank).dec p = none :=
  (tensor_good k rank hr).ps t p h hp hne

/-- version / rank / sizeof(scalar) mismatch (stream.h:44-46) -/
theorem tensor_header_rejected (k : Scalar) (rank : Nat) (v r s : Nat) (ds : List Int) (tail : Bytes)
    (hv : U32 v) (hr : U32 r) (hs : U32 s) (hl : ds.length = rank) (hd : ∀ d ∈ ds, I32 d)
    (hne : v ≠ hashVersion ∨ r ≠ rank ∨ s ≠ k.size) :
    (tensor k rank).dec (u32.enc v ++ (u32.enc r ++ ((rep i32 rank).enc ds ++ (u32.enc s ++ tail)))) = none := by
  -- the reader's view: all five header fields first, then the three comparisons
  rw [Stream.tensor_dec_via_header]
  unfold Stream.hdr5 seq
  simp only [Stream.dseq_dec, Stream.dbind_assoc]
  rw [u32_good.dbind_enc hv, u32_good.dbind_enc hr, (rep_good i32_good rank).dbind_enc ⟨hl, hd⟩, u32_good.dbind_enc hs]
  unfold Stream.dbind
  cases u64.dec tail with
  | none => rfl
  | some q =>
    simp only [Stream.tensorTail]
    rcases hne with h | h | h <;> simp [h]

/-- `hash_combine(seed, ·)` is injective (over the definition regenerated from hash.h) -/
theorem hashCombine_injective_right (s h1 h2 : UInt64) (h : hashCombine s h1 = hashCombine s h2) : h1 = h2 := by
  unfold hashCombine at h
  have h' := (UInt64.xor_right_inj _).mp h
  exact (UInt64.add_left_inj _).mp ((UInt64.add_left_inj _).mp ((UInt64.add_left_inj _).mp h'))

/-- elements that differ in any byte are hashed as different 64-bit values (all ten scalar types) -/
theorem elemHash_injective (k : Scalar) (c1 c2 : Bytes) (h1 : c1.length = k.size) (h2 : c2.length = k.size)
    (h : elemHash k c1 = elemHash k c2) : c1 = c2 := by
  apply leNat_inj c1 c2 (h1.trans h2.symm)
  have l1 := leNat_lt c1
  have l2 := leNat_lt c2
  rw [h1] at l1; rw [h2] at l2
  exact ext_inj (256 ^ k.size) (scalar_pow_le k) k.signed _ _ l1 l2 h

/-- `tensorStreamWith k rank ds pl pl` is exactly what `nano::write` emits -/
theorem tensor_stream_is_written (k : Scalar) (rank : Nat) (ds : List Int) (pl : Bytes) (h0 : 0 ≤ dimsSize ds) :
    (tensor k rank).enc ⟨ds, pl⟩ = tensorStreamWith k rank ds pl pl := by
  -- header, then (the element count not being negative) the stored hash and the payload
  show (tensorHeader k rank).enc ds ++ (if dimsSize ds < 0 then fail else tensorBody k (dimsSize ds).toNat).enc pl = _
  rw [if_neg (Int.not_lt.mpr h0)]
  rfl

/-- a replaced payload is refused exactly when the 64-bit fold over its elements differs from the stored one -/
theorem tensor_payload_corruption_detected_iff_hash (k : Scalar) (rank : Nat) (hr : rank < 4294967296)
    (ds : List Int) (pl pl' rest : Bytes) (hl : ds.length = rank) (hd : ∀ d ∈ ds, I32 d) (h0 : 0 ≤ dimsSize ds)
    (hp : pl'.length = (dimsSize ds).toNat * k.size) :
    (tensor k rank).dec (tensorStreamWith k rank ds pl pl' ++ rest) = none ↔
      hashPayload k (dimsSize ds).toNat pl' ≠ hashPayload k (dimsSize ds).toNat pl := by
  rw [tensor_dec_with k rank hr ds pl pl' rest hl hd h0 hp]
  by_cases he : hashPayload k (dimsSize ds).toNat pl = hashPayload k (dimsSize ds).toNat pl'
  · simp [he]
  · simp only [he, if_false, true_iff]
    exact fun h => he h.symm

/-- PARTIAL. Full claim of the property: `pl' ≠ pl → (tensor k rank).dec (tensorStreamWith k rank ds pl pl' ++ rest) = none`
    (every altered payload is refused). Proved: it is refused *unless the 64-bit fold collides*
    (`hashPayload … pl' = hashPayload … pl`). Missing case: collision freedom of the fold for changes that are not confined
    to the last element — not provable (for payloads longer than 8 bytes collisions exist by counting), `hash_combine` is
    not injective in its first argument. The last-element case is `tensor_last_element_corruption_detected`. -/
theorem tensor_payload_corruption_partial (k : Scalar) (rank : Nat) (hr : rank < 4294967296)
    (ds : List Int) (pl pl' rest : Bytes) (hl : ds.length = rank) (hd : ∀ d ∈ ds, I32 d) (h0 : 0 ≤ dimsSize ds)
    (hp : pl'.length = (dimsSize ds).toNat * k.size) (_hne : pl' ≠ pl) :
    (tensor k rank).dec (tensorStreamWith k rank ds pl pl' ++ rest) = none ∨
      hashPayload k (dimsSize ds).toNat pl' = hashPayload k (dimsSize ds).toNat pl := by
  by_cases he : hashPayload k (dimsSize ds).toNat pl' = hashPayload k (dimsSize ds).toNat pl
  · exact Or.inr he
  · exact Or.inl ((tensor_payload_corruption_detected_iff_hash k rank hr ds pl pl' rest hl hd h0 hp).mpr he)

/-! ### parameters, configurables, features -/

theorem parameter_roundtrip (p : Parameter) (rest : Bytes) (h : p.WF) :
    parameter.dec (parameter.enc p ++ rest) = some (p, rest) := parameter_good.rt p rest h

theorem parameter_prefix_rejected (x : Parameter) (p : Bytes) (h : x.WF) (hp : p <+: parameter.enc x)
    (hne : p ≠ parameter.enc x) : parameter.dec p = none := parameter_good.ps x p h hp hne

/-- a type tag outside -1..5 is refused (`default: critical0(...)`, parameter.cpp:376) -/
theorem parameter_unknown_tag_rejected (tag : Int) (name rest : Bytes) (ht : I32 tag) (hn : StrOk name)
    (hbad : tag < -1 ∨ 5 < tag) : parameter.dec (i32.enc tag ++ (str.enc name ++ rest)) = none := by
  have e : storage tag = fail := by
    unfold storage
    repeat (rw [if_neg (by omega)])
  unfold parameter seq
  rw [Stream.pmap_dec, Stream.dseq_dec, Stream.dbind_assoc, i32_good.dbind_enc ht, Stream.dseq_dec, Stream.dbind_assoc,
    Stream.dbind_assoc, str_good.dbind_enc hn, e]
  rfl

theorem configurable_roundtrip (c : Configurable) (rest : Bytes) (h : c.WF) :
    configurable.dec (configurable.enc c ++ rest) = some (c, rest) := configurable_good.rt c rest h

theorem configurable_prefix_rejected (x : Configurable) (p : Bytes) (h : x.WF) (hp : p <+: configurable.enc x)
    (hne : p ≠ configurable.enc x) : configurable.dec p = none := configurable_good.ps x p h hp hne

/-- a stream written by a newer library is refused (configurable.cpp:64-68), whatever follows the version -/
theorem configurable_newer_version_rejected (v : Version) (rest : Bytes)
    (h1 : I32 v.1) (h2 : I32 v.2.1) (h3 : I32 v.2.2) (hnew : versionOk v = false) :
    configurable.dec ((seq i32 (seq i32 i32)).enc v ++ rest) = none := by
  unfold configurable version
  rw [Stream.pmap_dec, seq, Stream.dseq_dec, Stream.pmap_dec, Stream.dbind_assoc, Stream.dbind_assoc,
    (seq_good i32_good (seq_good i32_good i32_good)).dbind_enc ⟨h1, h2, h3⟩, hnew]
  rfl

/-- an older (or equal) version is read, and the object remembers the version it was written with -/
theorem configurable_older_version_accepted (v : Version) (ps : List Parameter) (rest : Bytes)
    (h1 : I32 v.1) (h2 : I32 v.2.1) (h3 : I32 v.2.2) (hold : versionOk v = true)
    (hps : ps.length < 18446744073709551616 ∧ ∀ p ∈ ps, p.WF) :
    configurable.dec ((seq i32 (seq i32 i32)).enc v ++ ((vec parameter).enc ps ++ rest)) = some (⟨v, ps⟩, rest) := by
  unfold configurable version
  rw [Stream.pmap_dec, seq, Stream.dseq_dec, Stream.pmap_dec, Stream.dbind_assoc, Stream.dbind_assoc,
    (seq_good i32_good (seq_good i32_good i32_good)).dbind_enc ⟨h1, h2, h3⟩, hold]
  simp only [if_true, Stream.dbind_ret, Stream.dbind_assoc]
  rw [(vec_good parameter_good).dbind_enc hps]

theorem feature_roundtrip (f : Feature) (rest : Bytes) (h : f.WF) :
    feature.dec (feature.enc f ++ rest) = some (f, rest) := feature_good.rt f rest h

theorem feature_prefix_rejected (x : Feature) (p : Bytes) (h : x.WF) (hp : p <+: feature.enc x)
    (hne : p ≠ feature.enc x) : feature.dec p = none := feature_good.ps x p h hp hne

/-- configured solvers, losses, splitters, tuners, line-search strategies: type id + configurable -/
theorem factory_configurable_roundtrip (ids : List Bytes) (id : Bytes) (c : Configurable) (rest : Bytes)
    (hid : StrOk id) (hmem : id ∈ ids) (h : c.WF) :
    (factory ids configurable).dec ((factory ids configurable).enc (id, c) ++ rest) = some ((id, c), rest) :=
  (factory_good ids configurable_good).rt (id, c) rest ⟨hid, hmem, h⟩

theorem factory_configurable_prefix_rejected (ids : List Bytes) (id : Bytes) (c : Configurable) (p : Bytes)
    (hid : StrOk id) (hmem : id ∈ ids) (h : c.WF) (hp : p <+: (factory ids configurable).enc (id, c))
    (hne : p ≠ (factory ids configurable).enc (id, c)) : (factory ids configurable).dec p = none :=
  (factory_good ids configurable_good).ps (id, c) p ⟨hid, hmem, h⟩ hp hne

/-! ### models -/

theorem learner_roundtrip (l : Learner) (rest : Bytes) (h : l.WF) :
    learner.dec (learner.enc l ++ rest) = some (l, rest) := learner_good.rt l rest h

theorem learner_prefix_rejected (x : Learner) (p : Bytes) (h : x.WF) (hp : p <+: learner.enc x)
    (hne : p ≠ learner.enc x) : learner.dec p = none := learner_good.ps x p h hp hne

theorem linear_roundtrip (l : Linear) (rest : Bytes) (h : l.WF) :
    linear.dec (linear.enc l ++ rest) = some (l, rest) := linear_good.rt l rest h

theorem linear_prefix_rejected (x : Linear) (p : Bytes) (h : x.WF) (hp : p <+: linear.enc x)
    (hne : p ≠ linear.enc x) : linear.dec p = none := linear_good.ps x p h hp hne

theorem factory_linear_roundtrip (ids : List Bytes) (id : Bytes) (l : Linear) (rest : Bytes)
    (hid : StrOk id) (hmem : id ∈ ids) (h : l.WF) :
    (factory ids linear).dec ((factory ids linear).enc (id, l) ++ rest) = some ((id, l), rest) :=
  (factory_good ids linear_good).rt (id, l) rest ⟨hid, hmem, h⟩

theorem factory_linear_prefix_rejected (ids : List Bytes) (id : Bytes) (l : Linear) (p : Bytes)
    (hid : StrOk id) (hmem : id ∈ ids) (h : l.WF) (hp : p <+: (factory ids linear).enc (id, l))
    (hne : p ≠ (factory ids linear).enc (id, l)) : (factory ids linear).dec p = none :=
  (factory_good ids linear_good).ps (id, l) p ⟨hid, hmem, h⟩ hp hne

/-- all eight weak learners (affine, stump, hinge, the four look-up tables, decision tree), through the factory -/
theorem wlearner_roundtrip (w : WLearner) (rest : Bytes) (h : w.WF) :
    wlearner.dec (wlearner.enc w ++ rest) = some (w, rest) := wlearner_good.rt w rest h

theorem wlearner_prefix_rejected (x : WLearner) (p : Bytes) (h : x.WF) (hp : p <+: wlearner.enc x)
    (hne : p ≠ wlearner.enc x) : wlearner.dec p = none := wlearner_good.ps x p h hp hne

theorem gboost_roundtrip (g : GBoost) (rest : Bytes) (h : g.WF) :
    gboost.dec (gboost.enc g ++ rest) = some (g, rest) := gboost_good.rt g rest h

theorem gboost_prefix_rejected (x : GBoost) (p : Bytes) (h : x.WF) (hp : p <+: gboost.enc x)
    (hne : p ≠ gboost.enc x) : gboost.dec p = none := gboost_good.ps x p h hp hne


/-! ### the readers as coded (`Model/WireStream.lean`) implement the codecs -/

open Stream in
/-- the character loop of `read(stream, std::string&)` on a good stream: all `n` bytes, or a failed stream -/
theorem string_loop_reads_n_or_fails (n : Nat) (bs : Bytes) :
    match takeN n bs with
    | some (x, r) => rdChars n ⟨bs, true⟩ = .val x ⟨r, true⟩
    | none => ∃ x, rdChars n ⟨bs, true⟩ = .val x ⟨[], false⟩ := by
  induction n generalizing bs with
  | zero => simp [takeN, rdChars, ret]
  | succ n ih =>
    cases bs with
    | nil =>
      simp [takeN, rdChars, Stream.bind, rdRaw, rdChars_on_failed, ret]
    | cons b bs =>
      have ih := ih bs
      simp only [takeN]
      cases h : takeN n bs with
      | none =>
        rw [h] at ih
        obtain ⟨x, hx⟩ := ih
        exact ⟨b :: x, by simp [rdChars, Stream.bind, rdRaw, takeN, hx, ret]⟩
      | some p =>
        obtain ⟨x, r⟩ := p
        rw [h] at ih
        simp [rdChars, Stream.bind, rdRaw, takeN, ih, ret]

theorem runs_rdChars (n : Nat) : Stream.Runs (Stream.rdChars n) (takeN n) := by
  refine ⟨fun bs => ?_, fun s hs => ?_⟩
  · have h := string_loop_reads_n_or_fails n bs
    dsimp only
    cases ht : takeN n bs with
    | none => rw [ht] at h; obtain ⟨x, hx⟩ := h; rw [hx]; rfl
    | some p => rw [ht] at h; exact h
  · obtain ⟨buf, ok⟩ := s
    cases hs
    rw [Stream.rdChars_on_failed]; rfl

/-- statement sequences and `||` chains of readers implement `dseq` (every model reader is such a sequence) -/
theorem sequence_reader_as_coded {α β : Type} {A : Stream.Reader α} {a : Codec α} {B : α → Stream.Reader β}
    {b : α → Codec β} (ha : Stream.Impl A a) (hb : ∀ x, Stream.Impl (B x) (b x)) :
    Stream.Impl (Stream.bind A (fun x => Stream.bind (B x) (fun y => Stream.ret (x, y)))) (dseq a b) :=
  (ha.runs.bind fun x => (hb x).runs.bind fun y => Stream.Runs.ret (x, y)).impl

theorem string_reader_as_coded : Stream.Impl Stream.rdString str := by
  open NanoVerif.Codec.Stream in
  have e : rdString = bindOk (rdUInt 4) rdChars := by
    funext s; unfold rdString bindOk; cases rdUInt 4 s <;> rfl
  rw [e]
  exact (((impl_uint 4).runs.bindOk runs_rdChars).congr (prefixed_dec u32 raw _)).impl

theorem vector_reader_as_coded {α : Type} {R : Stream.Reader α} {c : Codec α} (h : Stream.Impl R c) :
    Stream.Impl (Stream.rdVec R) (vec c) := by
  open NanoVerif.Codec.Stream in
  have e : rdVec R = bindOk (rdUInt 8) (rdElems R) := by
    funext s; unfold rdVec bindOk; cases rdUInt 8 s <;> rfl
  rw [e]
  exact (((impl_uint 8).runs.bindOk (runs_rdElems h)).congr (prefixed_dec u64 (rep c) _)).impl

/-- the look-up of a garbage id after a failed id read cannot turn a failure into a success -/
theorem factory_reader_as_coded {β : Type} [Inhabited β] {B : Stream.Reader β} {body : Codec β} (ids : List Bytes)
    (h : Stream.Impl B body) : Stream.Impl (Stream.rdFactory ids B) (factory ids body) := by
  open NanoVerif.Codec.Stream in
  have hF : ∀ id : Bytes, Runs
      (fun s => if id ∈ ids then bind B (fun y => ret (id, y)) s else .val (id, default) (setFail s))
      (dbind (if id ∈ ids then body else fail).dec (fun y r => some ((id, y), r))) := by
    intro id
    by_cases hm : id ∈ ids
    · simp only [hm, if_true]; exact h.runs.bind fun y => Runs.ret (id, y)
    · simp only [hm, if_false]; exact ⟨fun _ => rfl, fun _ _ => rfl⟩
  refine (string_reader_as_coded.runs.step hF fun s => ?_).impl
  unfold rdFactory
  cases rdString s with
  | throw => rfl
  | val id s1 =>
    dsimp only
    split
    · rfl
    · exact (hF id).2 _ rfl

theorem tensor_reader_as_coded (k : Scalar) (rank : Nat) : Stream.Impl (Stream.rdTensor k rank) (tensor k rank) := by
  open NanoVerif.Codec.Stream in
  refine (((impl_tensorHeader rank).runs.of_run (G := rdTensor k rank) (k := tensorTail k rank) (fun s hf => ?_)
    (fun bs x r5 hx => ?_)).congr (congrFun (tensor_dec_via_header k rank))).impl
  · unfold rdTensor
    cases hr : rdTensorHeader rank s with
    | throw => rfl
    | val x s1 =>
      rw [hr] at hf
      have hs : s1.ok = false := by simpa [Res.failed] using hf
      simp [hs, Res.failed, setFail]
  · obtain ⟨v, r, ds, sc, h⟩ := x
    simp only [rdTensor, hx, tensorTail]
    by_cases hv : v = hashVersion
    · by_cases hr : r = rank
      · by_cases hsz : sc = k.size
        · subst hv hr hsz
          simp only [if_true, bne_self_eq_false, Bool.or_false, Bool.not_true, Bool.false_eq_true, if_false]
          by_cases hneg : dimsSize ds < 0
          · simp [hneg, setFail, Res.failed]
          · simp only [hneg, if_false, rdRaw, if_true, dbind, raw]
            cases h6 : takeN ((dimsSize ds).toNat * k.size) r5 with
            | none => simp [Res.failed, setFail]
            | some p6 =>
              obtain ⟨pl, r6⟩ := p6
              by_cases hh : h = (hashPayload k (dimsSize ds).toNat pl).toNat
              · simp [hh]
              · simp [hh, Res.failed, setFail]
        · simp [hsz, Res.failed, setFail]
      · simp [hr, Res.failed, setFail]
    · simp [hv, Res.failed, setFail]

theorem configurable_reader_as_coded {P : Stream.Reader Parameter} (hP : Stream.Impl P parameter) :
    Stream.Impl (Stream.rdConfigurable P) configurable :=
  Stream.impl_map (sequence_reader_as_coded (Stream.impl_pmap_throw Stream.impl_version3 _ _) (fun _ => Stream.impl_critical (vector_reader_as_coded hP))) _ _

/-- a procedure that implements a codec ends with a good stream exactly on the byte strings the codec decodes -/
theorem reader_accepts_iff_codec {α : Type} {R : Stream.Reader α} {c : Codec α} (h : Stream.Impl R c) (bs : Bytes) :
    (R ⟨bs, true⟩).failed = false ↔ (c.dec bs).isSome = true := by
  cases hd : c.dec bs with
  | none => simp [h.none hd]
  | some p => obtain ⟨v, r⟩ := p; simp [h.some hd, Stream.Res.failed]

/-- the property for the tensor reader as coded: what was written is read back … -/
theorem tensor_reader_roundtrip (k : Scalar) (rank : Nat) (hr : rank < 4294967296) (t : Tensor) (rest : Bytes)
    (h : Tensor.WF k rank t) :
    Stream.rdTensor k rank ⟨(tensor k rank).enc t ++ rest, true⟩ = .val t ⟨rest, true⟩ :=
  (tensor_reader_as_coded k rank).some (tensor_roundtrip k rank hr t rest h)

/-- … and every strict prefix ends with a failed stream -/
theorem tensor_reader_prefix_rejected (k : Scalar) (rank : Nat) (hr : rank < 4294967296) (t : Tensor) (p : Bytes)
    (h : Tensor.WF k rank t) (hp : p <+: (tensor k rank).enc t) (hne : p ≠ (tensor k rank).enc t) :
    (Stream.rdTensor k rank ⟨p, true⟩).failed = true :=
  (tensor_reader_as_coded k rank).none (tensor_prefix_rejected k rank hr t p h hp hne)

/-- the same for a configured factory object (solver, loss, …) read by the procedures as coded -/
theorem factory_configurable_reader_prefix_rejected {P : Stream.Reader Parameter} (hP : Stream.Impl P parameter)
    (ids : List Bytes) (id : Bytes) (c : Configurable) (p : Bytes) (hid : StrOk id) (hmem : id ∈ ids) (h : c.WF)
    (hp : p <+: (factory ids configurable).enc (id, c)) (hne : p ≠ (factory ids configurable).enc (id, c)) :
    (Stream.rdFactory ids (Stream.rdConfigurable P) ⟨p, true⟩).failed = true :=
  (factory_reader_as_coded ids (configurable_reader_as_coded hP)).none
    (factory_configurable_prefix_rejected ids id c p hid hmem h hp hne)

/-- the model readers are sequences of `critical(!read(a) || !read(b) …)` over the procedures above: learner, linear
    model (with its size check), gradient boosting model; `P`, `F`, `W` read one parameter / feature / weak learner -/
theorem learner_reader_as_coded {P : Stream.Reader Parameter} {F : Stream.Reader Feature}
    (hP : Stream.Impl P parameter) (hF : Stream.Impl F feature) : Stream.Impl (Stream.rdLearner P F) learner :=
  Stream.impl_map (sequence_reader_as_coded (configurable_reader_as_coded hP) (fun _ => Stream.impl_critical (Stream.impl_dseq_or (vector_reader_as_coded hF) (fun _ => hF)))) _ _

theorem linear_reader_as_coded {P : Stream.Reader Parameter} {F : Stream.Reader Feature}
    (hP : Stream.Impl P parameter) (hF : Stream.Impl F feature) : Stream.Impl (Stream.rdLinear P F) linear :=
  Stream.impl_pmap_throw (sequence_reader_as_coded (learner_reader_as_coded hP hF)
    (fun _ => Stream.impl_critical (Stream.impl_dseq_or (tensor_reader_as_coded .f64 1) (fun _ => tensor_reader_as_coded .f64 2)))) _ _

theorem gboost_reader_as_coded {P : Stream.Reader Parameter} {F : Stream.Reader Feature} {W : Stream.Reader WLearner}
    (hP : Stream.Impl P parameter) (hF : Stream.Impl F feature) (hW : Stream.Impl W wlearner) :
    Stream.Impl (Stream.rdGBoost P F W) gboost :=
  Stream.impl_map (sequence_reader_as_coded (learner_reader_as_coded hP hF)
    (fun _ => Stream.impl_critical (Stream.impl_dseq_or (tensor_reader_as_coded .f64 1)
      (fun _ => Stream.impl_dseq_or (vector_reader_as_coded hW) (fun _ => vector_reader_as_coded hW))))) _ _

/-- every strict prefix of the stream of a gradient boosting model makes the reader as coded throw or fail -/
theorem gboost_reader_prefix_rejected {P : Stream.Reader Parameter} {F : Stream.Reader Feature}
    {W : Stream.Reader WLearner} (hP : Stream.Impl P parameter) (hF : Stream.Impl F feature)
    (hW : Stream.Impl W wlearner) (x : GBoost) (p : Bytes) (h : x.WF) (hp : p <+: gboost.enc x)
    (hne : p ≠ gboost.enc x) : (Stream.rdGBoost P F W ⟨p, true⟩).failed = true :=
  (gboost_reader_as_coded hP hF hW).none (gboost_prefix_rejected x p h hp hne)

/-! ### version compatibility (configurable.cpp:64-68): all three components -/

def verLE (v w : Version) : Prop :=
  v.1 < w.1 ∨ (v.1 = w.1 ∧ (v.2.1 < w.2.1 ∨ (v.2.1 = w.2.1 ∧ v.2.2 ≤ w.2.2)))

instance (v w : Version) : Decidable (verLE v w) := by unfold verLE; infer_instance

/-- the three-clause condition of the code is exactly "not newer than the library" in the lexicographic order -/
theorem versionOk_iff_lex (v : Version) : versionOk v = true ↔ verLE v libVersion := by
  unfold versionOk verLE libVersion
  simp only [Bool.not_eq_true', Bool.or_eq_false_iff, Bool.and_eq_false_imp, Bool.and_eq_true, decide_eq_true_eq,
    decide_eq_false_iff_not]
  omega

theorem versionOk_eq_false {v : Version} (h : ¬ verLE v libVersion) : versionOk v = false :=
  Bool.eq_false_iff.mpr (mt (versionOk_iff_lex v).mp h)

theorem version_newer_major_rejected (v : Version) (h : v.1 > majorVersion) : versionOk v = false := by
  refine versionOk_eq_false fun hle => ?_
  unfold verLE libVersion at hle
  simp only at hle
  omega

theorem version_newer_minor_rejected (v : Version) (h1 : v.1 = majorVersion) (h2 : v.2.1 > minorVersion) :
    versionOk v = false := by
  refine versionOk_eq_false fun hle => ?_
  unfold verLE libVersion at hle
  simp only at hle
  omega

theorem version_newer_patch_rejected (v : Version) (h1 : v.1 = majorVersion) (h2 : v.2.1 = minorVersion)
    (h3 : v.2.2 > patchVersion) : versionOk v = false := by
  refine versionOk_eq_false fun hle => ?_
  unfold verLE libVersion at hle
  simp only at hle
  omega

/-- an older major version is readable whatever its minor and patch numbers are -/
theorem version_older_major_accepted (v : Version) (h : v.1 < majorVersion) : versionOk v = true :=
  (versionOk_iff_lex v).mpr (Or.inl h)

theorem version_older_minor_accepted (v : Version) (h1 : v.1 = majorVersion) (h2 : v.2.1 < minorVersion) :
    versionOk v = true := (versionOk_iff_lex v).mpr (Or.inr ⟨h1, Or.inl h2⟩)

theorem version_not_newer_patch_accepted (v : Version) (h1 : v.1 = majorVersion) (h2 : v.2.1 = minorVersion)
    (h3 : v.2.2 ≤ patchVersion) : versionOk v = true := (versionOk_iff_lex v).mpr (Or.inr ⟨h1, Or.inr ⟨h2, h3⟩⟩)

/-- the reader's decision on ANY version triple followed by a valid parameter list -/
theorem configurable_version_exact (v : Version) (ps : List Parameter) (rest : Bytes)
    (h1 : I32 v.1) (h2 : I32 v.2.1) (h3 : I32 v.2.2) (hps : ps.length < 18446744073709551616 ∧ ∀ p ∈ ps, p.WF) :
    configurable.dec ((seq i32 (seq i32 i32)).enc v ++ ((vec parameter).enc ps ++ rest)) =
      if verLE v libVersion then some (⟨v, ps⟩, rest) else none := by
  by_cases hv : verLE v libVersion
  · rw [if_pos hv]
    exact configurable_older_version_accepted v ps rest h1 h2 h3 ((versionOk_iff_lex v).mpr hv) hps
  · rw [if_neg hv]
    exact configurable_newer_version_rejected v _ h1 h2 h3 (versionOk_eq_false hv)

/-! ### what the content hash detects beyond the last element -/

/-- `hash_combine(·, h)` is NOT injective: the running hash can forget a difference -/
theorem hashCombine_not_injective_left : ∃ s1 s2 h : UInt64, s1 ≠ s2 ∧ hashCombine s1 h = hashCombine s2 h :=
  ⟨0x9e3779b9, 0xc246d47cd128ea84, 0, by decide⟩

/-- one fold moves the lowest differing bit of two running hashes down by exactly two positions -/
theorem hashCombine_keeps_low_difference (p : Nat) (s1 s2 h : UInt64) (hd : LowDiff (p + 2) s1 s2) :
    LowDiff p (hashCombine s1 h) (hashCombine s2 h) := by
  have hp := lowDiff_le (p + 2) s1 s2 hd
  obtain ⟨hag, hne⟩ := hd
  refine ⟨(lowAgree_hashCombine_left (by omega) (mod_pow_le (by omega) hag) h).mpr (congrArg (· / 4) hag),
    fun hc => hne ?_⟩
  have hc' := (lowAgree_hashCombine_left (by omega) (mod_pow_le (q := p + 1) (by omega) hag) h).mp hc
  -- the quotients by 4 agree, and so do the low two bits
  unfold LowAgree at hag ⊢
  have e : p + 2 + 1 = p + 1 + 2 := by omega
  have d : (4 : Nat) ∣ 2 ^ (p + 1 + 2) := ⟨2 ^ (p + 1), by rw [Nat.pow_add]; omega⟩
  rw [e, ← Nat.div_add_mod (s1.toNat % 2 ^ (p + 1 + 2)) 4, ← Nat.div_add_mod (s2.toNat % 2 ^ (p + 1 + 2)) 4, hc',
    Nat.mod_mod_of_dvd _ d, Nat.mod_mod_of_dvd _ d]
  exact congrArg _ (mod_pow_le (q := 2) (by omega) hag)

/-- `m` further folds keep a difference whose lowest bit is at least `2 m` -/
theorem foldl_lowDiff (post : List UInt64) : ∀ (p : Nat) (s1 s2 : UInt64), LowDiff (p + 2 * post.length) s1 s2 →
    LowDiff p (post.foldl hashCombine s1) (post.foldl hashCombine s2) := by
  induction post with
  | nil => intro p s1 s2 h; simpa using h
  | cons x xs ih =>
    intro p s1 s2 h
    simp only [List.foldl_cons]
    apply ih
    apply hashCombine_keeps_low_difference
    have e : p + 2 * (x :: xs).length = p + 2 * xs.length + 2 := by simp [List.length_cons]; omega
    rw [e] at h; exact h

/-- the fold detects the replacement of an element when the lowest changed bit is at least `2 ·` (elements after it) -/
theorem hash_fold_detects (pre post : List UInt64) (a b : UInt64) (p : Nat) (h : LowDiff p a b)
    (hp : 2 * post.length ≤ p) : hashList (pre ++ a :: post) ≠ hashList (pre ++ b :: post) := by
  unfold hashList
  simp only [List.foldl_append, List.foldl_cons]
  have h1 := hashCombine_lowDiff_right p (pre.foldl hashCombine 0) a b h
  have e : p = (p - 2 * post.length) + 2 * post.length := by omega
  rw [e] at h1
  exact lowDiff_ne _ _ _ (foldl_lowDiff post _ _ _ h1)

/-- ANY element of the payload (`i` elements before it, `m` after it): a replacement whose lowest changed bit `p`
    (of the 64-bit value the hash sees) satisfies `2 m ≤ p` is refused. `m = 0` is
    `tensor_last_element_corruption_detected`. -/
theorem tensor_element_corruption_detected (k : Scalar) (rank : Nat) (hr : rank < 4294967296) (ds : List Int)
    (i m p : Nat) (pre a b post rest : Bytes) (hl : ds.length = rank) (hd : ∀ d ∈ ds, I32 d)
    (hn : dimsSize ds = ((i + (1 + m) : Nat) : Int)) (hpre : pre.length = i * k.size) (ha : a.length = k.size)
    (hb : b.length = k.size) (hpost : post.length = m * k.size)
    (hdiff : LowDiff p (elemHash k a) (elemHash k b)) (hp : 2 * m ≤ p) :
    (tensor k rank).dec (tensorStreamWith k rank ds (pre ++ (a ++ post)) (pre ++ (b ++ post)) ++ rest) = none := by
  have h0 : 0 ≤ dimsSize ds := by omega
  have hN : (dimsSize ds).toNat = i + (1 + m) := by omega
  have hlen : (pre ++ (b ++ post)).length = (dimsSize ds).toNat * k.size := by
    rw [hN, List.length_append, List.length_append, hpre, hb, hpost, Nat.add_mul, Nat.add_mul]; omega
  rw [tensor_dec_with k rank hr ds _ _ rest hl hd h0 hlen, hN, if_neg]
  unfold hashPayload
  rw [chunkN_append k.size i (1 + m) pre (a ++ post) hpre, chunkN_append k.size i (1 + m) pre (b ++ post) hpre,
    chunkN_append k.size 1 m a post (by omega), chunkN_append k.size 1 m b post (by omega),
    chunkN_one k.size a ha, chunkN_one k.size b hb]
  simp only [List.map_append, List.map_cons, List.singleton_append]
  refine hash_fold_detects _ _ _ _ p hdiff ?_
  rw [List.length_map, chunkN_length]; exact hp

/-- altering (only) bytes of the last element of the payload is always detected -/
theorem tensor_last_element_corruption_detected (k : Scalar) (rank : Nat) (hr : rank < 4294967296) (ds : List Int)
    (n : Nat) (pre a b rest : Bytes) (hl : ds.length = rank) (hd : ∀ d ∈ ds, I32 d)
    (hn : dimsSize ds = ((n + 1 : Nat) : Int)) (hpre : pre.length = n * k.size) (ha : a.length = k.size)
    (hb : b.length = k.size) (hab : a ≠ b) :
    (tensor k rank).dec (tensorStreamWith k rank ds (pre ++ a) (pre ++ b) ++ rest) = none := by
  -- the hashed values differ, so they have a lowest differing bit; no element follows
  obtain ⟨p, hp⟩ := exists_lowDiff fun e => hab (elemHash_injective k a b ha hb e)
  have h := tensor_element_corruption_detected k rank hr ds n 0 p pre a b [] rest hl hd hn hpre ha hb
    (Nat.zero_mul _).symm hp (Nat.zero_le p)
  simpa only [List.append_nil] using h

/-- single-bit flips: flipping bit `q` of the hashed value of an element that is followed by at most `q / 2` elements
    is refused -/
theorem tensor_bit_flip_detected (k : Scalar) (rank : Nat) (hr : rank < 4294967296) (ds : List Int)
    (i m q : Nat) (pre a b post rest : Bytes) (hl : ds.length = rank) (hd : ∀ d ∈ ds, I32 d)
    (hn : dimsSize ds = ((i + (1 + m) : Nat) : Int)) (hpre : pre.length = i * k.size) (ha : a.length = k.size)
    (hb : b.length = k.size) (hpost : post.length = m * k.size) (hq : q < 64)
    (hflip : elemHash k b = elemHash k a ^^^ UInt64.ofNat (2 ^ q)) (hp : 2 * m ≤ q) :
    (tensor k rank).dec (tensorStreamWith k rank ds (pre ++ (a ++ post)) (pre ++ (b ++ post)) ++ rest) = none :=
  tensor_element_corruption_detected k rank hr ds i m q pre a b post rest hl hd hn hpre ha hb hpost
    (hflip ▸ lowDiff_flip (elemHash k a) q hq) hp

/-- two doubles (2^-187 · 1.67…, 0.0359…) -/
def exFlip : Tensor :=
  ⟨[2], [0x87, 0xca, 0x5f, 0xa4, 0x7b, 0xbc, 0x3a, 0x34, 0x97, 0x46, 0x74, 0xa2, 0x53, 0x64, 0xa2, 0x3f]⟩

/-- WITNESS (replayed on the implementation, corpus/C15): flipping ONE BIT (bit 0 of the first payload byte, 0x87 → 0x86)
    of a valid stream of a two-element `double` tensor gives a stream that is read successfully, with the altered
    content. The payload clause of the property does not hold for the code as it is; the bit is below the `2 m ≤ p`
    bound of `tensor_element_corruption_detected` (`p = 0`, `m = 1`). -/
theorem tensor_single_bit_flip_accepted :
    Tensor.WF .f64 1 exFlip ∧ ((tensor .f64 1).enc exFlip).getD 24 0 = 0x87 ∧
      (tensor .f64 1).dec (((tensor .f64 1).enc exFlip).set 24 0x86) = some (⟨[2], exFlip.payload.set 0 0x86⟩, []) := by
  decide +kernel

/-- the hypothesis "the 64-bit folds differ" of `tensor_payload_corruption_partial` cannot be dropped -/
theorem tensor_payload_corruption_hash_hypothesis_necessary :
    ∃ (k : Scalar) (rank : Nat) (ds : List Int) (pl pl' : Bytes), pl' ≠ pl ∧ ds.length = rank ∧ (∀ d ∈ ds, I32 d) ∧
      0 ≤ dimsSize ds ∧ pl'.length = (dimsSize ds).toNat * k.size ∧
      ((tensor k rank).dec (tensorStreamWith k rank ds pl pl')).isSome = true :=
  ⟨.f64, 1, [2], exFlip.payload, exFlip.payload.set 0 0x86, by decide, by decide, by decide, by decide, by decide,
    by decide +kernel⟩

/-! ### non-vacuity: the hypotheses are satisfiable, the statements bite on concrete streams -/

/-- a 2x1 `int16` tensor -/
def exTensor : Tensor := ⟨[2, 1], [0x01, 0x00, 0xff, 0xff]⟩
example : Tensor.WF .i16 2 exTensor := by decide +kernel
example : ((tensor .i16 2).enc exTensor).length = 32 := by decide +kernel
example : (tensor .i16 2).dec ((tensor .i16 2).enc exTensor ++ [7]) = some (exTensor, [7]) := by decide +kernel
example : (tensor .i16 2).dec (((tensor .i16 2).enc exTensor).take 31) = none := by decide +kernel
-- the same bytes are not a `uint16` rank-1 tensor, and flipping a payload bit is refused
example : (tensor .u16 1).dec ((tensor .i16 2).enc exTensor) = none := by decide +kernel
example : (tensor .i16 2).dec (((tensor .i16 2).enc exTensor).set 28 0x03) = none := by decide +kernel
-- a header corruption that keeps the element count 0 is accepted (outside the property's statement)
example : ((tensor .i16 2).dec (((tensor .i16 2).enc ⟨[0, 3], []⟩).set 12 0x07)).isSome = true := by decide +kernel
-- sign extension matters: the element 0xffff hashes as 2^64-1 for int16 and as 65535 for uint16
example : elemHash .i16 [0xff, 0xff] ≠ elemHash .u16 [0xff, 0xff] := by decide +kernel

def exParam : Parameter := ⟨[0x65, 0x70, 0x73], .frange 0x3eb0c6f7a0b5ed8d 0 0x3ff0000000000000 false true⟩
example : exParam.WF := by decide +kernel
example : parameter.dec (parameter.enc exParam) = some (exParam, []) := by decide +kernel
example : parameter.dec ((parameter.enc exParam).take 30) = none := by decide +kernel

def exConfig : Configurable := ⟨libVersion, [exParam, ⟨[], .none⟩, ⟨[0x6b], .enum [0x61] [[0x61], [0x62]]⟩]⟩
example : exConfig.WF := by decide +kernel
example : versionOk (0, 0, 2) = false ∧ versionOk (0, 0, 0) = true ∧ versionOk libVersion = true := by decide +kernel

def exFeature : Feature := ⟨10, (1, 1, 1), [0x66], [[0x61], [0x62, 0x63]]⟩
example : exFeature.WF := by decide +kernel
def exLearner : Learner := ⟨exConfig, [exFeature], ⟨9, (1, 1, 1), [0x74], []⟩⟩
example : exLearner.WF := by decide +kernel
def exStump : WLearner := ⟨idStump, .stump ⟨exLearner, 0, ⟨[2, 1, 1, 1], List.replicate 16 0⟩⟩ 0x3ff8000000000000⟩
example : exStump.WF := by decide +kernel
def exGBoost : GBoost := ⟨exLearner, ⟨[1], List.replicate 8 0⟩, [exStump], [exStump]⟩
example : exGBoost.WF := by decide +kernel
example : (wlearner.dec (str.enc [0x78] ++ [])) = none := by decide +kernel

-- the readers as coded: a hypothesis `Impl P parameter` is satisfiable (the codec itself, run on a good stream)
def exParamReader : Stream.Reader Parameter := fun s =>
  if s.ok then
    match parameter.dec s.buf with
    | some (v, r) => .val v ⟨r, true⟩
    | none => .throw
  else .throw
example : Stream.Impl exParamReader parameter := by
  refine ⟨fun bs => ?_, fun s hs => ?_⟩
  · cases h : parameter.dec bs with
    | none => simp [exParamReader, h, Stream.Res.failed]
    | some p => obtain ⟨v, r⟩ := p; simp [exParamReader, h]
  · simp [exParamReader, hs, Stream.Res.failed]
-- the string loop on a 3-byte stream asked for 2 / 5 characters; the NUL padding of the short read
example : Stream.rdChars 2 ⟨[1, 2, 3], true⟩ = .val [1, 2] ⟨[3], true⟩ := by decide +kernel
example : Stream.rdChars 5 ⟨[1, 2, 3], true⟩ = .val [1, 2, 3, 0, 0] ⟨[], false⟩ := by decide +kernel
example : (Stream.rdString ⟨[2, 0, 0, 0, 0x61], true⟩).failed = true := by decide +kernel
example : Stream.rdTensor .i16 2 ⟨(tensor .i16 2).enc exTensor ++ [7], true⟩ = .val exTensor ⟨[7], true⟩ := by decide +kernel
example : (Stream.rdTensor .i16 2 ⟨((tensor .i16 2).enc exTensor).take 31, true⟩).failed = true := by decide +kernel
-- versions around the library's 0.0.1 (all three components matter, in lexicographic order)
example : verLE (0, 0, 1) libVersion ∧ verLE (0, -1, 99) libVersion ∧ verLE (-1, 99, 99) libVersion ∧
    ¬ verLE (0, 0, 2) libVersion ∧ ¬ verLE (0, 1, -99) libVersion ∧ ¬ verLE (1, -99, -99) libVersion := by decide +kernel
example : I32 (0 : Int) ∧ ((([] : List Parameter).length < 18446744073709551616) ∧ ∀ p ∈ ([] : List Parameter), p.WF) := by
  decide +kernel
-- the low-bit rule: bit 2 of the first of two elements is guarded (2·1 ≤ 2), bit 0 is not (the witness above)
example : LowDiff 2 (5 : UInt64) (1 : UInt64) ∧ LowDiff 0 (0x343abc7ba45fca87 : UInt64) 0x343abc7ba45fca86 := by decide +kernel
example : LowDiff 63 (0 : UInt64) (UInt64.ofNat (2 ^ 63)) := by decide +kernel
-- bytes to hashed value: flipping bit 2 of byte 0 / bit 7 of byte 7 of a double flips bit 2 / bit 63 of what the hash sees
example : elemHash .f64 [0x83, 0xca, 0x5f, 0xa4, 0x7b, 0xbc, 0x3a, 0x34] =
    elemHash .f64 [0x87, 0xca, 0x5f, 0xa4, 0x7b, 0xbc, 0x3a, 0x34] ^^^ UInt64.ofNat (2 ^ 2) := by decide +kernel
example : elemHash .f64 [0x87, 0xca, 0x5f, 0xa4, 0x7b, 0xbc, 0x3a, 0xb4] =
    elemHash .f64 [0x87, 0xca, 0x5f, 0xa4, 0x7b, 0xbc, 0x3a, 0x34] ^^^ UInt64.ofNat (2 ^ 63) := by decide +kernel

end NanoVerif.Codec
