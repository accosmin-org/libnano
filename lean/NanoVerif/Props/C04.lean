import NanoVerif.Proofs.ProgramGap
import NanoVerif.Proofs.ProgramNewton
import NanoVerif.Proofs.ProgramSolve
import NanoVerif.Proofs.ProgramStart
import Mathlib.Algebra.Order.Field.Rat
import Mathlib.Tactic.NormNum
import Mathlib.Analysis.Real.Sqrt
/-!
  C04 — LP/QP interior point: `converged` means feasible and optimal as stated.

  Property theorems about `Model/Program.lean`, `Model/ProgramNewton.lean`, `Model/ProgramSolve.lean` (the model of
  `src/program/solver.cpp` and the files it uses), for every linear ordered field `α` (exact arithmetic), every program,
  every point, every answer of the oracles (Newton step, row reduction, least-squares start).
  Conventions of the statements:
  * vectors are lists, `LeV` is componentwise `≤` between vectors of equal length, `Feasible P x` is `A x = b ∧ G x ≤ h`,
    `IsArgmin P x` says `x` minimises the objective over the feasible set;
  * `WF P`: every row of `Q, A, G` has `n = |c|` entries and `Q` is empty (LP) or has `n` rows; the length hypotheses on
    `x, u, v, dx, …` are the shapes the C++ code allocates (`NewtonShapes`: the oracle answers with `dx ∈ ℝⁿ, du ∈ ℝᵐ, dv ∈ ℝᵖ`);
  * `Convex P`: the form `a, b ↦ a·(Q b)` is symmetric and positive semidefinite on vectors of length `n`
    (the solver does not check it; `quadratic_program_t::convex()` is the caller's business);
  * `min_norm > 0` and `ParOk par` (`0 < s0 < 1`, `0 ≤ beta ≤ 1`, `0 < numeric_limits::max()`) are the constants / parameter
    domains of the code; `sqrt` is an arbitrary function unless a hypothesis says what is used of it.

  GAP TABLE — every function of the anchored files (modelled = hand-written Lean definition run against the code by
  `driver_c04`; translated = regenerated into `Gen/ProgramDone.lean` on every check; oracle = parameter of the model with
  the stated contract; outside = not in the model, with the reason):

  src/program/solver.cpp
    make_x0                              modelled    `makeX0`
    make_smax                            modelled    `makeSmax`, `smaxLoop`
    ::normalize                          modelled    `normDenom`, `normalizePair`
    reducer_t, program_t::program_t      modelled    `prepare` (= reduce, then `normalize`), constant blocks of `m_lmat` in `kktMat`
    program_t::n / p / m / Q             modelled    `Prog.n / p / m`, `Prog.Q`
    program_t::feasible                  translated  `feasible`
    program_t::solve                     modelled    `topLeftOf`, `kktMat`, `kktVecOf`;  `m_ldlt.compute/solve` = ORACLE, contract
                                                     `kktMat · lsol = kktVec` (`newton_solution_is_newton_direction`,
                                                     `noineq_exact_solution_optimal`); monitored at run time on every logged step
    program_t::update                    modelled    `objective`, `gradObj`, `update`
    solver_t::solver_t                   outside     parameter registration is C19; the domains enter as `ParOk`, the values as `Params`
    solver_t::solve (4 overloads)        modelled    `solveTop`
    solver_t::solve_with_inequality      modelled    `start`, `hessvar`, `newtonRhs`, `duOf`, `stage1`, `stage2`, `stage2Fail`,
                                                     `iterate`, `exitKind`, `loop`, `solveIneq`; `m_ldlt_rcond / m_ldlt_positive`
                                                     outside (read from Eigen, only printed)
    solver_t::solve_without_inequality   modelled    `kktTopLeft0`, `kktVec0`, `kktApprox`, `noineq`, `solveNoineq`
    solver_t::done                       translated  `doneStatus` (+ `done`)
  src/program/state.cpp
    solver_state_t ctors                 modelled    the `nan` fill of `start` / `solveIneq`
    solver_state_t::residual             modelled    `residual`
    solver_state_t::update (m_kkt)       modelled    `cabs`, `normInf`, `lagGrad`, `kktTest` (`kkt_test_le_iff`)
    operator<<                           outside     printing
  src/program/util.cpp
    ::reduce(A), program::reduce(A, b)   oracle      Eigen FullPivLU; contract `RowEquiv` (same row space of `[A|b]`) ⇒ same solutions
                                                     (`reduce_contract_same_solutions`, `prepared_same_feasible_set`); the contract is
                                                     checked at run time on every call (python monitor: exact rank, residuals)
    is_psd                               outside     not called by the solver (convexity is a hypothesis, `Convex`)
  src/program/constrained.cpp
    linear_constrained_t::feasible       outside     not called by the solver; the python oracle evaluates feasibility itself
    make_strictly_feasible               modelled    `msfEval`, `msfLoop`, `makeStrictlyFeasible`; the LDLT solve of the normal equations
                                                     is an ORACLE without contract (`default_start_strictly_feasible` holds for every answer)
  src/program/linear.cpp, quadratic.cpp
    constructors                         modelled    `Prog` (an LP has `Q = []`);  make_Q (upper-triangular input) outside: not used here
  include/nano/program/stack.h
    update_size, update_data, make_size, stack   outside  template plumbing that copies the caller's blocks; covered by the correspondence
                                                     (the harness states every program through `constrain(...)`, the model normalises
                                                     the stated data itself and must reproduce the logged normalised `A, b, G, h`)
  include/nano/program/equality.h, inequality.h
    make_equality / make_inequality      outside     constructors used by the harness (same remark)
    feasible / deviation, make_less / make_greater   outside   not called by the solver
-/
set_option linter.unusedSectionVars false

namespace NanoVerif.Program
variable {α : Type} [Field α] [LinearOrder α] [IsStrictOrderedRing α]

/-! ### normalisation -/

/-- The normalised program (rows of `[A|b]` and of `[G|h]` divided by `max(min_norm, ‖·‖, ‖·‖)`) has exactly the
    feasible set of the caller's program, whatever `sqrt` returns. -/
theorem normalise_same_feasible_set [Sqrt α] (minNorm : α) (hmin : 0 < minNorm) (P : Prog α) (x : List α) :
    Feasible (normalize minNorm P).2 x ↔ Feasible P x := by
  simp only [Feasible, normalize, normalizePair]
  rw [mv_rows_vdivs, mv_rows_vdivs, vdivs_inj _ (ne_of_gt (normDenom_pos minNorm hmin P.A P.b)),
    LeV_vdivs _ (normDenom_pos minNorm hmin P.G P.h)]

/-- … and exactly the same minimisers (the objective is divided by `mufx > 0`). -/
theorem normalise_same_argmin [Sqrt α] (minNorm : α) (hmin : 0 < minNorm) (P : Prog α) (x : List α) :
    IsArgmin (normalize minNorm P).2 x ↔ IsArgmin P x :=
  isArgmin_of_scaled P _ (normalize minNorm P).1⁻¹ (inv_pos.2 (mufx_pos minNorm hmin P))
    (normalise_same_feasible_set minNorm hmin P) (fun y => (objective_normalize minNorm P y).trans (div_eq_inv_mul _ _)) x

/-- `state.m_fx *= m_mufx`: the objective value the solver reports is the caller's objective at `x`
    (not the normalised one), at every `update`. -/
theorem reported_fx_is_objective [Sqrt α] (minNorm : α) (hmin : 0 < minNorm) (P : Prog α) (miu : α)
    (x u v : List α) (st : St α) :
    (update (normalize minNorm P).2 (normalize minNorm P).1 miu x u v st).fx = objective P x := by
  have hm := mufx_pos minNorm hmin P
  rw [update_fx, objective_normalize, div_mul_cancel₀ _ (ne_of_gt hm)]

/-! ### the loop body: its six exits, and what every outcome keeps -/

/-- Complete case split of one pass through the loop body of `solve_with_inequality` (six exits, `ExitKind`): unstable
    linear system / stage 1 failed (→ `done` on the unchanged state), stage 2 failed (→ state reverted to `(x, u, v)`, `done`),
    non-finite residuals after the step (→ `failed`), no further progress (→ `done` at the new point), continue. -/
theorem iterate_exit_cases [Sqrt α] [FinTest α] (P : Prog α) (mufx : α) (par : Params α) (x u v : List α) (st : St α)
    (ok : Bool) (dx du dv : List α) :
    (ok = false ∧ exitKind P mufx par x u v st ok dx du dv = .unstable ∧
      iterate P mufx par x u v st ok dx du dv = .stop (done P par x st) x u v st) ∨
    (ok = true ∧ stage1 P par.beta x dx par.maxLs (par.s0 * makeSmax par.big u du) = none ∧
      exitKind P mufx par x u v st ok dx du dv = .stage1Failed ∧
      iterate P mufx par x u v st ok dx du dv = .stop (done P par x st) x u v st) ∨
    (∃ s1 stT, ok = true ∧ stage1 P par.beta x dx par.maxLs (par.s0 * makeSmax par.big u du) = some s1 ∧
      stage2 P mufx par.miu par.alpha par.beta x u v dx du dv (residual st) par.maxLs s1 st = (none, stT) ∧
      exitKind P mufx par x u v st ok dx du dv = .stage2Failed ∧
      iterate P mufx par x u v st ok dx du dv =
        .stop (done P par x (update P mufx par.miu x u v stT)) x u v (update P mufx par.miu x u v stT)) ∨
    (∃ s1 s2 st2, ok = true ∧ stage1 P par.beta x dx par.maxLs (par.s0 * makeSmax par.big u du) = some s1 ∧
      stage2 P mufx par.miu par.alpha par.beta x u v dx du dv (residual st) par.maxLs s1 st = (some s2, st2) ∧
      ((finAfter st2 = false ∧ exitKind P mufx par x u v st ok dx du dv = .nonFinite ∧
          iterate P mufx par x u v st ok dx du dv = .stop .failed (move x s2 dx) (move u s2 du) (move v s2 dv) st2) ∨
       (finAfter st2 = true ∧ noProgressTest par st st2 ∧ exitKind P mufx par x u v st ok dx du dv = .noProgress ∧
          iterate P mufx par x u v st ok dx du dv =
            .stop (done P par (move x s2 dx) st2) (move x s2 dx) (move u s2 du) (move v s2 dv) st2) ∨
       (finAfter st2 = true ∧ ¬ noProgressTest par st st2 ∧ exitKind P mufx par x u v st ok dx du dv = .continues ∧
          iterate P mufx par x u v st ok dx du dv = .next (move x s2 dx) (move u s2 du) (move v s2 dv) st2))) := by
  cases ok
  · left; simp [exitKind, iterate]
  · right
    cases h1 : stage1 P par.beta x dx par.maxLs (par.s0 * makeSmax par.big u du) with
    | none => left; simp [exitKind, iterate, h1]
    | some s1 =>
      right
      cases h2 : stage2 P mufx par.miu par.alpha par.beta x u v dx du dv (residual st) par.maxLs s1 st with
      | mk o stT =>
        cases o with
        | none => left; exact ⟨s1, stT, rfl, rfl, h2, by simp [exitKind, h1, h2], by simp [iterate, h1, h2, stage2Fail]⟩
        | some s2 =>
          right
          refine ⟨s1, s2, stT, rfl, rfl, h2, ?_⟩
          -- the two tests as `exitKind` and `iterate` write them
          unfold finAfter noProgressTest
          cases hf : (FinTest.isFin stT.eta && FinTest.isFin (norm2 stT.rdual) && FinTest.isFin (norm2 stT.rprim))
          · left
            exact ⟨rfl, by simp [exitKind, h1, h2, hf], by simp [iterate, h1, h2, hf]⟩
          · right
            by_cases hp : cmax3 (st.eta - stT.eta) (norm2 st.rdual - norm2 stT.rdual) (norm2 st.rprim - norm2 stT.rprim) <
                par.epsilon0
            · left
              exact ⟨rfl, hp, by simp [exitKind, h1, h2, hf, hp], by simp [iterate, h1, h2, hf, hp]⟩
            · right
              exact ⟨rfl, hp, by simp [exitKind, h1, h2, hf, hp], by simp [iterate, h1, h2, hf, hp]⟩

/-- The status of every exit: `failed` exactly at the non-finite exit; at the four exits through `solver_t::done`
    (unstable system, stage 1 failed, stage 2 failed, no further progress) the status is the `done` decision on the
    RETURNED point and state; the loop never reports `max_iters` from inside. -/
theorem iterate_stop_status [Sqrt α] [FinTest α] (P : Prog α) (mufx : α) (par : Params α) (x u v : List α) (st : St α)
    (ok : Bool) (dx du dv : List α) (status : Status) (x' u' v' : List α) (st' : St α)
    (h : iterate P mufx par x u v st ok dx du dv = .stop status x' u' v' st') :
    exitKind P mufx par x u v st ok dx du dv ≠ .continues ∧
    (exitKind P mufx par x u v st ok dx du dv = .nonFinite → status = .failed) ∧
    (exitKind P mufx par x u v st ok dx du dv ≠ .nonFinite → status = done P par x' st') := by
  rcases iterate_exit_cases P mufx par x u v st ok dx du dv with ⟨_, hk, hi⟩ | ⟨_, _, hk, hi⟩ | ⟨s1, stT, _, _, _, hk, hi⟩ |
    ⟨s1, s2, st2, _, _, _, ⟨_, hk, hi⟩ | ⟨_, _, hk, hi⟩ | ⟨_, _, hk, hi⟩⟩
  -- the continuing exit leaves no `.stop`; at the others `h` identifies the returned status, point and state
  all_goals (rw [hi] at h; cases h)
  all_goals rw [hk]
  · exact ⟨nofun, nofun, fun _ => rfl⟩
  · exact ⟨nofun, nofun, fun _ => rfl⟩
  · exact ⟨nofun, nofun, fun _ => rfl⟩
  · exact ⟨nofun, fun _ => rfl, fun hne => absurd rfl hne⟩
  · exact ⟨nofun, nofun, fun _ => rfl⟩

/-- What holds of `(x, u, v, state)` holds of whatever the loop body leaves behind, provided it survives the revert of a
    failed stage 2 (`update` at the same point) and an accepted step. -/
theorem iterate_holds [Sqrt α] [FinTest α] (P : Prog α) (mufx : α) (par : Params α) (x u v : List α) (st : St α)
    (ok : Bool) (dx du dv : List α) (p : List α → List α → List α → St α → Prop) (h0 : p x u v st)
    (hrev : ∀ stT, p x u v (update P mufx par.miu x u v stT))
    (hmove : ∀ s1 s2 st2, stage1 P par.beta x dx par.maxLs (par.s0 * makeSmax par.big u du) = some s1 →
      stage2 P mufx par.miu par.alpha par.beta x u v dx du dv (residual st) par.maxLs s1 st = (some s2, st2) →
      p (move x s2 dx) (move u s2 du) (move v s2 dv) st2) :
    (iterate P mufx par x u v st ok dx du dv).Holds p := by
  rcases iterate_exit_cases P mufx par x u v st ok dx du dv with ⟨_, _, hi⟩ | ⟨_, _, _, hi⟩ | ⟨s1, stT, _, _, _, _, hi⟩ |
    ⟨s1, s2, st2, _, h1, h2, ⟨_, _, hi⟩ | ⟨_, _, _, hi⟩ | ⟨_, _, _, hi⟩⟩
  all_goals rw [hi]
  · exact h0
  · exact h0
  · exact hrev stT
  · exact hmove s1 s2 st2 h1 h2
  · exact hmove s1 s2 st2 h1 h2
  · exact hmove s1 s2 st2 h1 h2

/-! ### the iterates stay in the interior -/

/-- A step `0 ≤ s ≤ s0 · make_smax(u, du)` with `0 < s0 < 1` keeps every multiplier strictly positive. -/
theorem u_stays_nonneg (big s0 s : α) (u du : List α) (hu : ∀ a ∈ u, 0 < a)
    (hs0 : 0 < s0) (hs01 : s0 < 1) (hs : 0 ≤ s) (hle : s ≤ s0 * makeSmax big u du) :
    ∀ a ∈ move u s du, 0 < a := by
  unfold move vadd smul
  rw [List.zipWith_map_right, forall_mem_zipWith]
  exact fun p hp => ratio_step_pos (hu p.1 (List.of_mem_zip hp).1) hs hs0 hs01 hle (makeSmax_le big u du p hp)

/-- Stage 1 of the backtracking returns only a step `s ∈ [0, s_init]` with `G (x + s dx) < h` componentwise. -/
theorem Gx_lt_h_invariant (P : Prog α) (beta : α) (hb0 : 0 ≤ beta) (hb1 : beta ≤ 1) (x dx : List α)
    (k : Nat) (sInit s : α) (hs : 0 ≤ sInit) (h : stage1 P beta x dx k sInit = some s) :
    (∀ a ∈ slack P (move x s dx), a < 0) ∧ 0 ≤ s ∧ s ≤ sInit := by
  induction k generalizing sInit with
  | zero => simp [stage1] at h
  | succ k ih =>
    rw [stage1] at h
    split at h
    · rename_i hc
      cases h
      exact ⟨(maxLt_iff _ _).1 hc, hs, le_refl _⟩
    · obtain ⟨h1, h2, h3⟩ := ih (sInit * beta) (mul_nonneg hs hb0) h
      exact ⟨h1, h2, le_trans h3 (mul_le_of_le_one_right hs hb1)⟩

/-- an accepted step stays strictly inside the inequalities and keeps the multipliers positive: stage 2 only shortens the
    step of stage 1, `G x < h` is convex, and the step is below `s0 · make_smax` -/
theorem moved_interior [Sqrt α] (P : Prog α) (mufx : α) (par : Params α) (pok : ParOk par) (x u v dx du dv : List α)
    (st st2 : St α) (s1 s2 : α) (hxl : x.length = dx.length) (hint : ∀ a ∈ slack P x, a < 0) (hupos : ∀ a ∈ u, 0 < a)
    (h1 : stage1 P par.beta x dx par.maxLs (par.s0 * makeSmax par.big u du) = some s1)
    (h2 : stage2 P mufx par.miu par.alpha par.beta x u v dx du dv (residual st) par.maxLs s1 st = (some s2, st2)) :
    (∀ a ∈ slack P (move x s2 dx), a < 0) ∧ ∀ a ∈ move u s2 du, 0 < a := by
  have hinit : 0 ≤ par.s0 * makeSmax par.big u du :=
    le_of_lt (mul_pos pok.s0pos (makeSmax_pos par.big pok.big u du hupos))
  obtain ⟨g1, g2, g3⟩ := Gx_lt_h_invariant P par.beta pok.beta0 pok.beta1 x dx par.maxLs _ s1 hinit h1
  obtain ⟨k1, k2⟩ := (stage2_spec P mufx par.miu par.alpha par.beta x u v dx du dv _ par.maxLs s1 s2 st st2 h2).2.2
    pok.beta0 pok.beta1 g2
  exact ⟨slack_interp P x dx s1 s2 hxl hint g1 k1 k2,
    u_stays_nonneg par.big par.s0 s2 u du hupos pok.s0pos pok.s0lt k1 (le_trans k2 g3)⟩

/-- Whenever the loop body hands `(x', u', v')` to the next iteration, `G x' < h` and `u' > 0` again
    (stage 2 only shortens the step of stage 1; `G x < h` is convex). -/
theorem iterate_keeps_interior [Sqrt α] [FinTest α] (P : Prog α) (mufx : α) (par : Params α)
    (x u v dx du dv x' u' v' : List α) (st st' : St α) (ok : Bool)
    (hbig : 0 < par.big) (hs0 : 0 < par.s0) (hs01 : par.s0 < 1) (hb0 : 0 ≤ par.beta) (hb1 : par.beta ≤ 1)
    (hxl : x.length = dx.length) (hint : ∀ a ∈ slack P x, a < 0) (hu : ∀ a ∈ u, 0 < a)
    (h : iterate P mufx par x u v st ok dx du dv = .next x' u' v' st') :
    (∀ a ∈ slack P x', a < 0) ∧ (∀ a ∈ u', 0 < a) := by
  exact ((iterate_holds P mufx par x u v st ok dx du dv (fun x' u' _ _ => (∀ a ∈ slack P x', a < 0) ∧ ∀ a ∈ u', 0 < a)
    ⟨hint, hu⟩ (fun _ => ⟨hint, hu⟩) fun s1 s2 st2 h1 h2 =>
      moved_interior P mufx par ⟨hbig, hs0, hs01, hb0, hb1⟩ x u v dx du dv st st2 s1 s2 hxl hint hu h1 h2).of_next h)

theorem iterate_inv [Sqrt α] [FinTest α] (P : Prog α) (mufx : α) (par : Params α) (pok : ParOk par) (x u v : List α)
    (st : St α) (ok : Bool) (dx du dv : List α) (hinv : Inv P mufx par.miu x u v st)
    (hdx : dx.length = P.n) (hdu : du.length = P.G.length) (hdv : dv.length = P.A.length) :
    (iterate P mufx par x u v st ok dx du dv).Holds (Inv P mufx par.miu) := by
  obtain ⟨hx, hu, hv, hint, hupos, hst⟩ := hinv
  refine iterate_holds P mufx par x u v st ok dx du dv _ ⟨hx, hu, hv, hint, hupos, hst⟩
    (fun stT => ⟨hx, hu, hv, hint, hupos, stT, rfl⟩) fun s1 s2 st2 h1 h2 => ?_
  obtain ⟨i1, i2⟩ := moved_interior P mufx par pok x u v dx du dv st st2 s1 s2 (hx.trans hdx.symm) hint hupos h1 h2
  exact ⟨(move_length x dx s2 (hx.trans hdx.symm)).trans hx, (move_length u du s2 (hu.trans hdu.symm)).trans hu,
    (move_length v dv s2 (hv.trans hdv.symm)).trans hv, i1, i2,
    (stage2_spec P mufx par.miu par.alpha par.beta x u v dx du dv _ par.maxLs s1 s2 st st2 h2).1⟩

/-! ### the status decision -/

/-- `solver_t::done` reports `converged` exactly when the feasibility test passes and all three of
    `eta`, `‖rdual‖₂`, `‖rprim‖₂` are below `epsilon`. -/
theorem converged_iff_done_test (feas : Bool) (eta rd rp eps : α) :
    doneStatus feas eta rd rp eps = .converged ↔ feas = true ∧ eta < eps ∧ rd < eps ∧ rp < eps :=
  (doneStatus_cases feas eta rd rp eps).1.trans (and_congr_right fun _ => cmax3_lt_iff eta rd rp eps)

/-- What `converged` out of the loop body means: the returned point passes `program_t::feasible`
    (`‖A x − b‖₂ < ε₂`, `max(G x − h) < ε₂` on the normalised program), the returned `eta`, `‖rdual‖₂`, `‖rprim‖₂` are
    below `epsilon`, and they — like the reported `fx` — are those of the returned `(x', u', v')` on every path
    (since the fix 51e9911 also when stage 2 runs out of trials: the state is reverted before `done`). -/
theorem iterate_converged_sound [Sqrt α] [FinTest α] (P : Prog α) (mufx : α) (par : Params α)
    (x u v dx du dv x' u' v' : List α) (st stp st' : St α) (ok : Bool)
    (hst : st = update P mufx par.miu x u v stp)
    (h : iterate P mufx par x u v st ok dx du dv = .stop .converged x' u' v' st') :
    (feasible P par.eps2 x' = true ∧ st'.eta < par.epsilon ∧ norm2 st'.rdual < par.epsilon ∧
      norm2 st'.rprim < par.epsilon) ∧
    ∃ stq, st' = update P mufx par.miu x' u' v' stq := by
  obtain ⟨_, hf, hd⟩ := iterate_stop_status P mufx par x u v st ok dx du dv .converged x' u' v' st' h
  exact ⟨(converged_iff_done_test _ _ _ _ _).1 (hd fun hk => Status.noConfusion (hf hk)).symm,
    (iterate_holds P mufx par x u v st ok dx du dv (fun x' u' v' st' => ∃ stq, st' = update P mufx par.miu x' u' v' stq)
      ⟨stp, hst⟩ (fun stT => ⟨stT, rfl⟩) fun s1 s2 st2 _ h2 =>
        (stage2_spec P mufx par.miu par.alpha par.beta x u v dx du dv _ par.maxLs s1 s2 st st2 h2).1).of_stop h⟩

/-- The equality-only path reports `converged` exactly when the residual is finite and the logged solution of the KKT
    system passes the `isApprox` test `‖K z − r‖² ≤ ε₂² min(‖K z‖², ‖r‖²)`. -/
theorem noineq_converged_sound [Sqrt α] [FinTest α] (P : Prog α) (mufx : α) (par : Params α) (x v : List α) :
    (noineq P mufx par x v).1 = .converged ↔
      FinTest.isFin (residual (noineq P mufx par x v).2) = true ∧ kktApprox P par.eps2 x v = true := by
  simp only [noineq]
  cases h1 : FinTest.isFin (residual (update P mufx par.miu x [] v ⟨0, 0, [], [], []⟩)) <;>
    cases h2 : kktApprox P par.eps2 x v <;> simp

/-! ### `converged` ⇒ ε-KKT ⇒ the objective is within the stated bound of the optimum -/

set_option linter.unusedVariables false
/-- Duality-gap inequality at any point of the iteration: for a convex program, `u ≥ 0` and ANY feasible `x*`,
    `f(x) − f(x*) ≤ eta + |rdual·(x − x*)| + |v·rprim|` with the `eta`, `rdual`, `rprim` that `update` computes.
    (`hG`: on the equality-only path `m_eta` is set to 0 by the caller of `update`.) -/
theorem kkt_gap_bound (P : Prog α) (wf : WF P) (cvx : Convex P) (mufx miu : α) (x u v xs : List α) (st : St α)
    (hx : x.length = P.n) (hxs : xs.length = P.n) (hu : u.length = P.G.length) (hv : v.length = P.A.length)
    (hG : P.G = [] → st.eta = 0) (hupos : ∀ a ∈ u, 0 ≤ a) (hfeas : Feasible P xs) :
    objective P x - objective P xs ≤
      (update P mufx miu x u v st).eta + |dot (update P mufx miu x u v st).rdual (vsub x xs)| +
        |dot v (update P mufx miu x u v st).rprim| := by
  have hl : x.length = xs.length := hx.trans hxs.symm
  have h1 := convex_grad_ineq P wf cvx x xs hx hxs
  have h2 := dot_rdual P wf mufx miu x u v (vsub x xs) st
  have hA := neg_dot_eq_le_rprim P mufx miu x u v xs st hl hfeas.1
  have hGd := neg_dot_ineq_le_eta P mufx miu x u v xs st hl hG hupos hfeas.2
  have h3 := le_abs_self (dot (update P mufx miu x u v st).rdual (vsub x xs))
  linarith only [h1, h2, hA, hGd, h3]
set_option linter.unusedVariables true

/-- The same with norms (Cauchy–Schwarz for `rdual·(x − x*)`, Hölder 1/∞ and `‖·‖∞ ≤ ‖·‖₂` for `v·rprim`):
    `f(x) − f(x*) ≤ eta + ‖rdual‖₂ ‖x − x*‖₂ + ‖v‖₁ ‖rprim‖₂`. Used of `sqrt`: `sqrt y ≥ 0`, `sqrt y · sqrt y = y` for `y ≥ 0`. -/
theorem kkt_gap_bound_norm [Sqrt α] (hsqrt : ∀ y : α, 0 ≤ y → 0 ≤ Sqrt.sqrt y ∧ Sqrt.sqrt y * Sqrt.sqrt y = y)
    (P : Prog α) (wf : WF P) (cvx : Convex P) (mufx miu : α) (x u v xs : List α) (st : St α)
    (hx : x.length = P.n) (hxs : xs.length = P.n) (hu : u.length = P.G.length) (hv : v.length = P.A.length)
    (hG : P.G = [] → st.eta = 0) (hupos : ∀ a ∈ u, 0 ≤ a) (hfeas : Feasible P xs) :
    objective P x - objective P xs ≤
      (update P mufx miu x u v st).eta + norm2 (update P mufx miu x u v st).rdual * norm2 (vsub x xs) +
        norm1 v * norm2 (update P mufx miu x u v st).rprim := by
  have h := kkt_gap_bound P wf cvx mufx miu x u v xs st hx hxs hu hv hG hupos hfeas
  have h1 := abs_dot_le_norm2 hsqrt (update P mufx miu x u v st).rdual (vsub x xs)
  have h2 := abs_dot_le_norm1 (norm2 (update P mufx miu x u v st).rprim) (norm2_nonneg hsqrt _) v
    (update P mufx miu x u v st).rprim (fun a ha => abs_le_norm2 hsqrt _ a ha)
  linarith only [h, h1, h2]

/-- The bound of the property statement: if the `done` test passes at `(x, u, v)` on the NORMALISED program then, in the
    CALLER's units and against ANY point `x*` feasible for the caller's program,
    `f(x) − f(x*) ≤ mufx · ε · (1 + ‖x − x*‖₂ + ‖v‖₁)` where `mufx = max(min_norm, ‖Q‖_F, ‖c‖₂)` (the `M` of the
    statement; its `1e-8` is `ε = 1e-10` with the 100× allowance, its `‖u‖₁` term is slack). -/
theorem converged_gap_bound [Sqrt α] (hsqrt : ∀ y : α, 0 ≤ y → 0 ≤ Sqrt.sqrt y ∧ Sqrt.sqrt y * Sqrt.sqrt y = y)
    (minNorm : α) (hmin : 0 < minNorm) (P : Prog α) (wf : WF P) (cvx : Convex P) (miu eps : α)
    (x u v xs : List α) (st : St α)
    (hx : x.length = P.n) (hxs : xs.length = P.n) (hu : u.length = P.G.length) (hv : v.length = P.A.length)
    (hG : P.G = [] → st.eta = 0) (hupos : ∀ a ∈ u, 0 ≤ a) (hfeas : Feasible P xs)
    (heta : (update (normalize minNorm P).2 (normalize minNorm P).1 miu x u v st).eta < eps)
    (hrd : norm2 (update (normalize minNorm P).2 (normalize minNorm P).1 miu x u v st).rdual < eps)
    (hrp : norm2 (update (normalize minNorm P).2 (normalize minNorm P).1 miu x u v st).rprim < eps) :
    objective P x - objective P xs ≤
      (normalize minNorm P).1 * (eps * (1 + norm2 (vsub x xs) + norm1 v)) := by
  have hm := mufx_pos minNorm hmin P
  have key := kkt_gap_bound_norm hsqrt (normalize minNorm P).2 (normalize_wf minNorm P wf)
    (normalize_convex minNorm hmin P cvx) (normalize minNorm P).1 miu x u v xs st
    (by rw [normalize_n, hx]) (by rw [normalize_n, hxs]) (by rw [normalize_G_length, hu]) (by rw [normalize_A_length, hv])
    (fun h => hG (List.map_eq_nil_iff.1 h)) hupos
    ((normalise_same_feasible_set minNorm hmin P xs).2 hfeas)
  rw [objective_normalize, objective_normalize, ← sub_div, div_le_iff₀ hm] at key
  have b1 := mul_le_mul_of_nonneg_right (le_of_lt hrd) (norm2_nonneg hsqrt (vsub x xs))
  have b2 := mul_le_mul_of_nonneg_left (le_of_lt hrp) (norm1_nonneg v)
  refine le_trans key ?_
  rw [mul_comm]
  exact mul_le_mul_of_nonneg_left (by linarith only [heta, b1, b2]) (le_of_lt hm)

/-! ### equivalent restatements describe the same mathematical program -/

/-- inequality rows rescaled by positive factors -/
theorem restatement_equiv_scale_ineq (P : Prog α) (w x : List α) (hw : ∀ a ∈ w, 0 < a)
    (hwl : w.length = P.G.length) (hhl : P.h.length = P.G.length) :
    Feasible { P with G := scaleRows w P.G, h := vmul w P.h } x ↔ Feasible P x := by
  simp only [Feasible]
  rw [mv_scaleRows, LeV_vmul w (mv P.G x) P.h hw (by rw [mv_length, hwl]) (by rw [mv_length, hhl])]

/-- equality rows rescaled by non-zero factors (either sign) -/
theorem restatement_equiv_scale_eq (P : Prog α) (w x : List α) (hw : ∀ a ∈ w, a ≠ 0)
    (hwl : w.length = P.A.length) (hbl : P.b.length = P.A.length) :
    Feasible { P with A := scaleRows w P.A, b := vmul w P.b } x ↔ Feasible P x := by
  simp only [Feasible]
  rw [mv_scaleRows, vmul_inj w (mv P.A x) P.b hw (by rw [mv_length, hwl]) (by rw [mv_length, hbl])]

set_option linter.unusedVariables false
/-- an equality row that is a linear combination `Σ tᵢ (Aᵢ | bᵢ)` of the others is appended -/
theorem restatement_equiv_combined_eq (P : Prog α) (wf : WF P) (t x : List α) (hx : x.length = P.n)
    (ht : t.length = P.A.length) (hbl : P.b.length = P.A.length) :
    Feasible { P with A := P.A ++ [tmv P.n P.A t], b := P.b ++ [dot t P.b] } x ↔ Feasible P x :=
  feasible_append_row P _ _ x hbl fun h => by rw [tmv_adjoint' P.n P.A t x wf.Arows, h]
set_option linter.unusedVariables true

/-- an equality row is duplicated -/
theorem restatement_equiv_dup_eq (P : Prog α) (r : List α) (bi : α) (x : List α) (hmem : (r, bi) ∈ P.A.zip P.b)
    (hbl : P.b.length = P.A.length) :
    Feasible { P with A := P.A ++ [r], b := P.b ++ [bi] } x ↔ Feasible P x :=
  feasible_append_row P r bi x hbl fun h => (mv_eq_iff_zip x P.A P.b hbl).1 h (r, bi) hmem

/-- the objective multiplied by `κ > 0`: same feasible set, same minimisers, `f' = κ f` -/
theorem restatement_equiv_scale_obj (P : Prog α) (k : α) (hk : 0 < k) (x : List α) :
    (IsArgmin { P with Q := P.Q.map (smul k), c := smul k P.c } x ↔ IsArgmin P x) ∧
      objective { P with Q := P.Q.map (smul k), c := smul k P.c } x = k * objective P x := by
  have hobj : ∀ y : List α, objective { P with Q := P.Q.map (smul k), c := smul k P.c } y = k * objective P y := by
    intro y
    rw [objective_eq, objective_eq]
    simp only
    rw [mv_rows_smul, dot_smul_right, dot_smul_right]
    ring
  exact ⟨isArgmin_of_scaled P { P with Q := P.Q.map (smul k), c := smul k P.c } k hk (fun y => Iff.rfl) hobj x, hobj x⟩

/-- the rows of `[A|b]` and of `[G|h]` permuted -/
theorem restatement_equiv_perm_rows (P P' : Prog α) (x : List α)
    (hA : (P.A.zip P.b).Perm (P'.A.zip P'.b)) (hG : (P.G.zip P.h).Perm (P'.G.zip P'.h))
    (hb : P.b.length = P.A.length) (hb' : P'.b.length = P'.A.length)
    (hh : P.h.length = P.G.length) (hh' : P'.h.length = P'.G.length) :
    Feasible P' x ↔ Feasible P x := by
  unfold Feasible
  rw [mv_eq_iff_zip x P.A P.b hb, mv_eq_iff_zip x P'.A P'.b hb', LeV_mv_iff_zip x P.G P.h hh,
    LeV_mv_iff_zip x P'.G P'.h hh']
  exact and_congr (forall_congr' fun p => imp_congr_left hA.mem_iff.symm)
    (forall_congr' fun p => imp_congr_left hG.mem_iff.symm)

/-- the variables permuted (`idx` a permutation of `0 … n−1`; columns of `A`, `G`, rows and columns of `Q`, entries of
    `c` and of the point): same feasibility, same objective value, hence the same minimisers up to the permutation -/
theorem restatement_equiv_perm_vars (P : Prog α) (wf : WF P) (idx : List Nat) (hidx : idx.Perm (List.range P.n))
    (x : List α) (hx : x.length = P.n) :
    (Feasible (permVars idx P) (pick 0 idx x) ↔ Feasible P x) ∧
      objective (permVars idx P) (pick 0 idx x) = objective P x := by
  constructor
  · simp only [Feasible, permVars]
    rw [mv_pick_cols P.n idx hidx P.A x wf.Arows hx, mv_pick_cols P.n idx hidx P.G x wf.Grows hx]
  · rw [objective_eq, objective_eq]
    simp only [permVars]
    rw [dot_pick P.n idx hidx x P.c hx rfl]
    congr 2
    split
    · rename_i he
      simp [List.isEmpty_iff.1 he, mv]
    · rename_i he
      rw [mv_pick_rows, mv_pick_cols P.n idx hidx P.Q x wf.Qrows hx]
      exact dot_pick P.n idx hidx x (mv P.Q x) hx
        ((mv_length _ _).trans (wf.Qlen.resolve_left fun h0 => he (List.isEmpty_iff.2 h0)))

/-! ### the Newton step: the linear system handed to LDLT -/

/-- Contract of the LDLT oracle ⇒ Newton direction. If `(dx, dv)` solves the system `m_lmat · z = m_lvec` the code
    assembles (`kktMat`, `kktVec`) EXACTLY, and `du` is what the code computes from `dx`, then `(dx, du, dv)` is the
    Newton direction of the residual map at `(x, u, v)`:
    * the dual residual (affine) satisfies `rdual(x + s dx, u + s du, v + s dv) = (1 − s) rdual(x, u, v)` for every `s`,
    * so does the primal residual `A x − b`,
    * and `u ∘ (G dx) + (G x − h) ∘ du = rcent` (the centrality residual linearised at fixed `η / (μ m)`),
    i.e. `r + J·Δ = 0` block by block. -/
theorem newton_solution_is_newton_direction (P : Prog α) (wf : WF P) (mufx miu : α) (x u v dx dv : List α)
    (st0 st1 : St α) (hG : P.G ≠ []) (hx : x.length = P.n) (hdx : dx.length = P.n) (hu : u.length = P.G.length)
    (hv : v.length = P.A.length) (hdv : dv.length = P.A.length) (hh : P.h.length = P.G.length)
    (hint : ∀ a ∈ slack P x, a < 0)
    (hsol : mv (kktMat P (kktTopLeft P x u)) (dx ++ dv) = kktVec P x (update P mufx miu x u v st0)) :
    (∀ s, (update P mufx miu (move x s dx) (move u s (duOf P x u dx (update P mufx miu x u v st0))) (move v s dv) st1).rdual =
        smul (1 - s) (update P mufx miu x u v st0).rdual) ∧
    (P.A ≠ [] → ∀ s, vsub (mv P.A (move x s dx)) P.b = smul (1 - s) (vsub (mv P.A x) P.b)) ∧
    vadd (hmul u (mv P.G dx)) (hmul (slack P x) (duOf P x u dx (update P mufx miu x u v st0))) =
      (update P mufx miu x u v st0).rcent := by
  obtain ⟨e1, e2⟩ := kkt_system_blocks P wf (hessvar P x u) (hessvar_rows P wf x u) (hessvar_length P wf x u)
    (newtonRhs P x (update P mufx miu x u v st0))
    (by rw [newtonRhs, vadd_length, update_rdual_length P wf, tmv_length _ _ _ wf.Grows, min_self]) dx dv hdx hsol
  refine ⟨fun s => newton_rdual P wf mufx miu x u v dx dv st0 st1 s hG hx hdx hu hv hdv hh e1, ?_,
    newton_rcent P mufx miu x u v dx st0 hG hu hh (fun a ha => ne_of_lt (hint a ha))⟩
  intro hA s
  apply newton_rprim x dx s (hx.trans hdx.symm)
  rw [e2, newtonRhs, update_rprim, if_neg fun h => hA (List.isEmpty_iff.1 h)]

/-- The equality-only path: an EXACT solution `(x, v)` of the system `[[Q, Aᵀ], [A, 0]] (x, v) = (−c, b)` the code assembles
    is a minimiser of the (convex) program. -/
theorem noineq_exact_solution_optimal (P : Prog α) (wf : WF P) (cvx : Convex P) (x v : List α) (hG : P.G = [])
    (hh : P.h = [])
    (hx : x.length = P.n) (hv : v.length = P.A.length)
    (hsol : mv (kktMat P (kktTopLeft0 P)) (x ++ v) = kktVec0 P) :
    Feasible P x ∧ ∀ y : List α, y.length = P.n → Feasible P y → objective P x ≤ objective P y := by
  obtain ⟨e1, e2⟩ := noineq_exact P wf 1 1 x v ⟨0, 0, [], [], []⟩ hx hsol
  refine ⟨⟨e2, by simp [hG, hh, mv]⟩, fun y hyl hy => ?_⟩
  -- the gap bound at the exact solution: `eta = 0`, `rdual = 0`, `rprim = b − b`
  have key := kkt_gap_bound P wf cvx 1 1 x [] v y ⟨0, 0, [], [], []⟩ hx hyl (by rw [hG]; rfl) hv (fun _ => rfl) (by simp) hy
  have hr : dot v (update P 1 1 x [] v ⟨0, 0, [], [], []⟩).rprim = 0 := by
    rw [update_rprim]
    split
    · exact dot_nil_right v
    · rw [e2, dot_vsub_right _ _ _ rfl, sub_self]
  rw [hr, e1, dot_zeros, update_eta, if_pos (by rw [hG]; rfl), abs_zero] at key
  linarith only [key]

/-! ### every exit of the solver, with the status it reports -/

/-- The status of a stopping exit, as equivalences: `converged` ⇔ the exit is not the non-finite one and the returned
    point passes `program_t::feasible` with `eta, ‖rdual‖₂, ‖rprim‖₂ < epsilon` of the RETURNED state (in particular the
    'no further progress' exit does not accept `converged` from `eta` alone); `unbounded` ⇔ feasible but not ε-KKT;
    `unfeasible` ⇔ the feasibility test fails (the two heuristics of `solver_t::done`); `failed` ⇔ non-finite exit. -/
theorem iterate_status_iff [Sqrt α] [FinTest α] (P : Prog α) (mufx : α) (par : Params α) (x u v : List α) (st : St α)
    (ok : Bool) (dx du dv : List α) (status : Status) (x' u' v' : List α) (st' : St α)
    (h : iterate P mufx par x u v st ok dx du dv = .stop status x' u' v' st') :
    (status = .converged ↔ exitKind P mufx par x u v st ok dx du dv ≠ .nonFinite ∧ feasible P par.eps2 x' = true ∧
        st'.eta < par.epsilon ∧ norm2 st'.rdual < par.epsilon ∧ norm2 st'.rprim < par.epsilon) ∧
    (status = .unbounded ↔ exitKind P mufx par x u v st ok dx du dv ≠ .nonFinite ∧ feasible P par.eps2 x' = true ∧
        ¬ (st'.eta < par.epsilon ∧ norm2 st'.rdual < par.epsilon ∧ norm2 st'.rprim < par.epsilon)) ∧
    (status = .unfeasible ↔ exitKind P mufx par x u v st ok dx du dv ≠ .nonFinite ∧ feasible P par.eps2 x' = false) ∧
    (status = .failed ↔ exitKind P mufx par x u v st ok dx du dv = .nonFinite) ∧ status ≠ .maxIters := by
  obtain ⟨_, hf, hd⟩ := iterate_stop_status P mufx par x u v st ok dx du dv status x' u' v' st' h
  by_cases hk : exitKind P mufx par x u v st ok dx du dv = .nonFinite
  · rw [hf hk]
    exact ⟨iff_of_false nofun fun c => c.1 hk, iff_of_false nofun fun c => c.1 hk, iff_of_false nofun fun c => c.1 hk,
      iff_of_true rfl hk, nofun⟩
  · obtain ⟨c1, c2, c3, c4, c5⟩ := doneStatus_cases (feasible P par.eps2 x') st'.eta (norm2 st'.rdual) (norm2 st'.rprim)
      par.epsilon
    rw [cmax3_lt_iff] at c1 c2
    rw [hd hk, done]
    exact ⟨c1.trans (and_iff_right hk).symm, c2.trans (and_iff_right hk).symm, c3.trans (and_iff_right hk).symm,
      iff_of_false c4 hk, c5⟩

/-- A starting point is refused — `unfeasible` at once, `m_iters = 0`, `m_x = x0` — exactly when it is not strictly inside
    the inequalities (`∃ i, (G x0 − h)ᵢ ≥ 0`), whether or not the program is feasible. -/
theorem solve_refused_start_iff [Sqrt α] [FinTest α] (P : Prog α) (mufx : α) (par : Params α) (nan : α) (newton : Newton α)
    (x0 : List α) (hne : slack P x0 ≠ []) :
    (start P mufx par.miu nan x0 = none ↔ ∃ a ∈ slack P x0, 0 ≤ a) ∧
    (start P mufx par.miu nan x0 = none → (solveIneq P mufx par nan newton x0).status = .unfeasible ∧
      (solveIneq P mufx par nan newton x0).iters = 0 ∧ (solveIneq P mufx par nan newton x0).x = x0) := by
  refine ⟨?_, solveIneq_refused P mufx par nan newton x0⟩
  rw [start_none_iff]
  exact ⟨fun h => h.resolve_left hne, Or.inr⟩

theorem reaches_inv [Sqrt α] [FinTest α] (P : Prog α) (mufx : α) (par : Params α) (pok : ParOk par) (newton : Newton α)
    (hsh : NewtonShapes P newton) (k : Nat) (x u v : List α) (st : St α) (j : Nat) (x' u' v' : List α) (st' : St α)
    (hr : Reaches P mufx par newton k x u v st j x' u' v' st') (hinv : Inv P mufx par.miu x u v st) :
    Inv P mufx par.miu x' u' v' st' ∧ k ≤ j := by
  induction hr with
  | refl => exact ⟨hinv, le_refl _⟩
  | head k x u v st x1 u1 v1 st1 j x2 u2 v2 st2 hstep _ ih =>
    obtain ⟨s1, s2, s3⟩ := hsh k x u v st
    have := (iterate_inv P mufx par pok x u v st _ _ _ _ hinv s1 s2 s3).of_next hstep
    obtain ⟨i1, i2⟩ := ih this
    exact ⟨i1, by omega⟩

/-- every run of the loop: either all `fuel` iterations continue (`max_iters`, `m_iters = max`), or some iteration `j`
    takes a stopping exit, whose status, point and state are returned with `m_iters = j` -/
theorem loop_spec [Sqrt α] [FinTest α] (P : Prog α) (mufx : α) (par : Params α) (newton : Newton α) :
    ∀ (fuel k : Nat) (x u v : List α) (st : St α) (kkt : α) (r : RunSt α), loop P mufx par newton fuel k x u v st kkt = r →
      (r.status = .maxIters ∧ r.iters = k + fuel ∧ Reaches P mufx par newton k x u v st (k + fuel) r.x r.u r.v r.st) ∨
      (∃ j xj uj vj stj, j < k + fuel ∧ Reaches P mufx par newton k x u v st j xj uj vj stj ∧ r.iters = j ∧
        iterate P mufx par xj uj vj stj (newton j xj uj vj stj).1 (newton j xj uj vj stj).2.1 (newton j xj uj vj stj).2.2.1
          (newton j xj uj vj stj).2.2.2 = .stop r.status r.x r.u r.v r.st)
  | 0, k, x, u, v, st, kkt, r, hr => by
    subst hr
    exact Or.inl ⟨rfl, rfl, Reaches.refl k x u v st⟩
  | fuel + 1, k, x, u, v, st, kkt, r, hr => by
    cases hit : iterate P mufx par x u v st (newton k x u v st).1 (newton k x u v st).2.1 (newton k x u v st).2.2.1
        (newton k x u v st).2.2.2 with
    | next x1 u1 v1 st1 =>
      have e : loop P mufx par newton (fuel + 1) k x u v st kkt =
          loop P mufx par newton fuel (k + 1) x1 u1 v1 st1 (kktTest P false x1 u1 v1) := by
        simp only [loop, hit]
      have hk : k + (fuel + 1) = k + 1 + fuel := by omega
      rw [hk]
      rcases loop_spec P mufx par newton fuel (k + 1) x1 u1 v1 st1 _ r (e.symm.trans hr) with ⟨a1, a2, a3⟩ |
        ⟨j, xj, uj, vj, stj, b1, b2, b3, b4⟩
      · exact Or.inl ⟨a1, a2, Reaches.head k x u v st x1 u1 v1 st1 _ _ _ _ _ hit a3⟩
      · exact Or.inr ⟨j, xj, uj, vj, stj, b1, Reaches.head k x u v st x1 u1 v1 st1 _ _ _ _ _ hit b2, b3, b4⟩
    | stop status x1 u1 v1 st1 =>
      simp only [loop, hit] at hr
      subst hr
      exact Or.inr ⟨k, x, u, v, st, by omega, Reaches.refl k x u v st, rfl, hit⟩

/-- Every exit of `solve_with_inequality` after an accepted start, for every Newton oracle and every `max_iters`:
    the returned `(x, u, v)` has `G x < h`, `u > 0`, and the returned `fx, eta, rdual, rprim, rcent` are those of the returned
    point (`Inv`); the status is `max_iters` with `m_iters = max_iters` after `max_iters` continuing iterations, or iteration
    `m_iters < max_iters` took a stopping exit whose status (`iterate_status_iff`) and state are returned. -/
theorem solve_exits [Sqrt α] [FinTest α] (P : Prog α) (mufx : α) (par : Params α) (pok : ParOk par) (nan : α)
    (newton : Newton α) (hsh : NewtonShapes P newton) (x0 u0 v0 : List α) (st0 : St α) (hx0 : x0.length = P.n)
    (hh : P.h.length = P.G.length) (hs : start P mufx par.miu nan x0 = some (u0, v0, st0)) :
    Inv P mufx par.miu (solveIneq P mufx par nan newton x0).x (solveIneq P mufx par nan newton x0).u
        (solveIneq P mufx par nan newton x0).v (solveIneq P mufx par nan newton x0).st ∧
    (((solveIneq P mufx par nan newton x0).status = .maxIters ∧ (solveIneq P mufx par nan newton x0).iters = par.maxIters ∧
        Reaches P mufx par newton 0 x0 u0 v0 st0 par.maxIters (solveIneq P mufx par nan newton x0).x
          (solveIneq P mufx par nan newton x0).u (solveIneq P mufx par nan newton x0).v (solveIneq P mufx par nan newton x0).st) ∨
     (∃ j xj uj vj stj, j < par.maxIters ∧ Reaches P mufx par newton 0 x0 u0 v0 st0 j xj uj vj stj ∧
        Inv P mufx par.miu xj uj vj stj ∧ (solveIneq P mufx par nan newton x0).iters = j ∧
        iterate P mufx par xj uj vj stj (newton j xj uj vj stj).1 (newton j xj uj vj stj).2.1 (newton j xj uj vj stj).2.2.1
          (newton j xj uj vj stj).2.2.2 =
          .stop (solveIneq P mufx par nan newton x0).status (solveIneq P mufx par nan newton x0).x
            (solveIneq P mufx par nan newton x0).u (solveIneq P mufx par nan newton x0).v
            (solveIneq P mufx par nan newton x0).st)) := by
  have e : solveIneq P mufx par nan newton x0 = loop P mufx par newton par.maxIters 0 x0 u0 v0 st0 0 := by
    simp [solveIneq, hs]
  rw [e]
  have hinv0 := (start_inv P mufx par.miu nan x0 u0 v0 st0 hx0 hh hs).1
  rcases loop_spec P mufx par newton par.maxIters 0 x0 u0 v0 st0 0 _ rfl with ⟨a1, a2, a3⟩ | ⟨j, xj, uj, vj, stj, b1, b2, b3, b4⟩
  · refine ⟨?_, Or.inl ⟨a1, by simpa using a2, by simpa using a3⟩⟩
    exact (reaches_inv P mufx par pok newton hsh 0 x0 u0 v0 st0 _ _ _ _ _ a3 hinv0).1
  · have hj := (reaches_inv P mufx par pok newton hsh 0 x0 u0 v0 st0 _ _ _ _ _ b2 hinv0).1
    obtain ⟨s1, s2, s3⟩ := hsh j xj uj vj stj
    refine ⟨?_, Or.inr ⟨j, xj, uj, vj, stj, by simpa using b1, b2, hj, b3, b4⟩⟩
    exact (iterate_inv P mufx par pok xj uj vj stj _ _ _ _ hj s1 s2 s3).of_stop b4

/-- `converged` from the whole `solve_with_inequality` is truthful about the returned state. -/
theorem solve_converged_sound [Sqrt α] [FinTest α] (P : Prog α) (mufx : α) (par : Params α) (pok : ParOk par) (nan : α)
    (newton : Newton α) (hsh : NewtonShapes P newton) (x0 : List α) (hx0 : x0.length = P.n)
    (hh : P.h.length = P.G.length) (hc : (solveIneq P mufx par nan newton x0).status = .converged) :
    Inv P mufx par.miu (solveIneq P mufx par nan newton x0).x (solveIneq P mufx par nan newton x0).u
        (solveIneq P mufx par nan newton x0).v (solveIneq P mufx par nan newton x0).st ∧ P.G ≠ [] ∧
    feasible P par.eps2 (solveIneq P mufx par nan newton x0).x = true ∧
    (solveIneq P mufx par nan newton x0).st.eta < par.epsilon ∧
    norm2 (solveIneq P mufx par nan newton x0).st.rdual < par.epsilon ∧
    norm2 (solveIneq P mufx par nan newton x0).st.rprim < par.epsilon := by
  cases hs : start P mufx par.miu nan x0 with
  | none =>
    have := (solveIneq_refused P mufx par nan newton x0 hs).1
    rw [this] at hc; cases hc
  | some t =>
    obtain ⟨u0, v0, st0⟩ := t
    obtain ⟨hinv, hcase⟩ := solve_exits P mufx par pok nan newton hsh x0 u0 v0 st0 hx0 hh hs
    have hG := (start_inv P mufx par.miu nan x0 u0 v0 st0 hx0 hh hs).2
    rcases hcase with ⟨a1, _, _⟩ | ⟨j, xj, uj, vj, stj, _, _, _, _, b4⟩
    · rw [a1] at hc; cases hc
    · obtain ⟨c1, _⟩ := iterate_status_iff P mufx par xj uj vj stj _ _ _ _ _ _ _ _ _ b4
      obtain ⟨_, f1, f2, f3, f4⟩ := c1.1 hc
      exact ⟨hinv, hG, f1, f2, f3, f4⟩

/-- END TO END, no hypothesis about the run other than its answer: whenever `solve_with_inequality` — on the normalised
    program, with ANY Newton oracle, any starting point, any `max_iters`, through any exit — reports `converged`, the
    returned point satisfies, in the caller's units and against every point `x*` feasible for the CALLER's convex program,
    `f(x) − f(x*) ≤ mufx · ε · (1 + ‖x − x*‖₂ + ‖v‖₁)`, `mufx = max(min_norm, ‖Q‖_F, ‖c‖₂)`.
    (The hypotheses `u ≥ 0`, "the residuals are those of the returned point", `eta, ‖rdual‖, ‖rprim‖ < ε` of
    `converged_gap_bound` are discharged by the loop invariant and the exit analysis.) -/
theorem solve_converged_gap_bound [Sqrt α] [FinTest α]
    (hsqrt : ∀ y : α, 0 ≤ y → 0 ≤ Sqrt.sqrt y ∧ Sqrt.sqrt y * Sqrt.sqrt y = y)
    (P0 : Prog α) (wf : WF P0) (cvx : Convex P0) (par : Params α) (pok : ParOk par) (hmin : 0 < par.minNorm) (nan : α)
    (newton : Newton α) (hsh : NewtonShapes (normalize par.minNorm P0).2 newton) (x0 xs : List α)
    (hx0 : x0.length = P0.n) (hxs : xs.length = P0.n) (hh : P0.h.length = P0.G.length) (hfeas : Feasible P0 xs)
    (hc : (solveIneq (normalize par.minNorm P0).2 (normalize par.minNorm P0).1 par nan newton x0).status = .converged) :
    objective P0 (solveIneq (normalize par.minNorm P0).2 (normalize par.minNorm P0).1 par nan newton x0).x - objective P0 xs ≤
      (normalize par.minNorm P0).1 * (par.epsilon * (1 +
        norm2 (vsub (solveIneq (normalize par.minNorm P0).2 (normalize par.minNorm P0).1 par nan newton x0).x xs) +
        norm1 (solveIneq (normalize par.minNorm P0).2 (normalize par.minNorm P0).1 par nan newton x0).v)) := by
  obtain ⟨⟨i1, i2, i3, _, i5, ⟨stq, i6⟩⟩, hG, _, f2, f3, f4⟩ :=
    solve_converged_sound (normalize par.minNorm P0).2 (normalize par.minNorm P0).1 par pok nan newton hsh x0
      (by rw [normalize_n, hx0]) (by rw [normalize_h_length, normalize_G_length, hh]) hc
  rw [i6] at f2 f3 f4
  exact converged_gap_bound hsqrt par.minNorm hmin P0 wf cvx par.miu par.epsilon _ _ _ xs stq
    (i1.trans (normalize_n _ _)) hxs (i2.trans (normalize_G_length _ _)) (i3.trans (normalize_A_length _ _))
    (fun h => absurd (List.map_eq_nil_iff.2 h) hG) (fun a ha => le_of_lt (i5 a ha)) hfeas f2 f3 f4

/-! ### `reduce`, the starting point, the KKT test -/

set_option linter.unusedVariables false
/-- Contract of `program::reduce` ⇒ nothing is lost: rows `[A'|b']` with the row space of `[A|b]` have the same solution
    set, consistent or not. -/
theorem reduce_contract_same_solutions (n : Nat) (A : List (List α)) (b : List α) (A' : List (List α)) (b' x : List α)
    (hA : ∀ r ∈ A, r.length = n) (hA' : ∀ r ∈ A', r.length = n) (hx : x.length = n) (h : RowEquiv n A b A' b') :
    mv A' x = b' ↔ mv A x = b :=
  ⟨rowsFrom_solutions n A' b' A b x hA' h.2, rowsFrom_solutions n A b A' b' x hA h.1⟩
set_option linter.unusedVariables true

/-- … so the program the solver works on (`program_t::program_t`: reduce, then three normalisations) has exactly the
    caller's feasible set, and its objective is the caller's divided by `mufx > 0`. -/
theorem prepared_same_feasible_set [Sqrt α] (minNorm : α) (hmin : 0 < minNorm) (P0 : Prog α) (wf : WF P0)
    (reduce : List (List α) → List α → List (List α) × List α)
    (hrows : ∀ r ∈ (reduce P0.A P0.b).1, r.length = P0.n)
    (hc : RowEquiv P0.n P0.A P0.b (reduce P0.A P0.b).1 (reduce P0.A P0.b).2) (x : List α) (hx : x.length = P0.n) :
    (Feasible (prepare minNorm reduce P0).2 x ↔ Feasible P0 x) ∧
    objective (prepare minNorm reduce P0).2 x = objective P0 x / (prepare minNorm reduce P0).1 ∧
    0 < (prepare minNorm reduce P0).1 := by
  unfold prepare
  refine ⟨?_, ?_, mufx_pos minNorm hmin _⟩
  · rw [normalise_same_feasible_set minNorm hmin]
    exact and_congr_left' (reduce_contract_same_solutions P0.n P0.A P0.b _ _ x wf.Arows hrows hx hc)
  · rw [objective_normalize]
    rfl

/-- A user `x0` is accepted exactly when it is strictly inside the CALLER's inequalities (normalisation does not move the
    boundary); otherwise the answer is `unfeasible` (`solve_refused_start_iff`). -/
theorem user_start_accepted_iff [Sqrt α] (minNorm : α) (hmin : 0 < minNorm) (P : Prog α) (mufx miu nan : α) (x0 : List α)
    (hne : slack P x0 ≠ []) :
    start (normalize minNorm P).2 mufx miu nan x0 ≠ none ↔ ∀ a ∈ slack P x0, a < 0 := by
  rw [Ne, start_none_iff, ← interior_normalize minNorm hmin P x0]
  have hne' : slack (normalize minNorm P).2 x0 ≠ [] := by
    rw [slack_normalize]
    exact fun h0 => hne (List.map_eq_nil_iff.1 h0)
  constructor
  · intro h a ha
    by_contra hc
    exact h (Or.inr ⟨a, ha, not_lt.mp hc⟩)
  · rintro h (h0 | ⟨a, ha, h0⟩)
    · exact hne' h0
    · have := h a ha
      linarith

/-- The default start: whatever the least-squares oracle answers, a point returned by `make_strictly_feasible` is strictly
    inside the caller's inequalities, and the solver (which tests the NORMALISED inequalities) does not refuse it;
    when no point is found `make_x0` hands over the origin. -/
theorem default_start_strictly_feasible [Sqrt α] (minNorm : α) (hmin : 0 < minNorm) (P : Prog α) (gamma : α) (rounds : Nat)
    (lsq : α → List α) (mufx miu nan : α) :
    (∀ x, makeStrictlyFeasible P gamma rounds lsq = some x → makeX0 P gamma rounds lsq = x ∧ (∀ a ∈ slack P x, a < 0) ∧
      (slack P x ≠ [] → start (normalize minNorm P).2 mufx miu nan x ≠ none)) ∧
    (makeStrictlyFeasible P gamma rounds lsq = none → makeX0 P gamma rounds lsq = zeros P.n) := by
  constructor
  · intro x hx
    have hi := (makeStrictlyFeasible_some P gamma rounds lsq x hx).1
    refine ⟨by simp [makeX0, hx], hi, fun hne => (user_start_accepted_iff minNorm hmin P mufx miu nan x hne).2 hi⟩
  · intro h
    simp [makeX0, h]

/-- `m_kkt ≤ ε` ⇔ each of the KKT conditions `solver_state_t::update` evaluates holds within `ε`. As coded, the
    stationarity test `|∇f(x) + Aᵀv + Gᵀu|∞` is part of it only when the caller stated at least one constraint (`kktTest`). -/
theorem kkt_test_le_iff (P : Prog α) (unc : Bool) (x u v : List α) (eps : α) :
    kktTest P unc x u v ≤ eps ↔ 0 ≤ eps ∧
      (P.G ≠ [] → (∀ a ∈ slack P x, a ≤ eps) ∧ (∀ a ∈ u, -a ≤ eps) ∧ ∀ a ∈ hmul u (slack P x), |a| ≤ eps) ∧
      (P.A ≠ [] → ∀ a ∈ vsub (mv P.A x) P.b, |a| ≤ eps) ∧
      (unc = false → ∀ a ∈ lagGrad P x u v, |a| ≤ eps) := by
  -- the five links of the running maximum, the first starting from `0`
  have e : u.map (fun a => cmax (-a) 0) = (u.map Neg.neg).map (fun a => cmax a 0) :=
    (List.map_map (f := Neg.neg) (g := fun a => cmax a 0)).symm
  unfold kktTest
  simp only [guard_cmax_le_iff, List.isEmpty_iff, Bool.not_eq_true, e]
  -- under `0 ≤ ε` each norm test is the componentwise one
  constructor
  · rintro ⟨⟨⟨⟨⟨h0, h1⟩, h2⟩, h3⟩, h4⟩, h5⟩
    exact ⟨h0, fun hG => ⟨(normInf_pospart_le _ _ h0).1 (h1 hG),
        List.forall_mem_map.1 ((normInf_pospart_le _ _ h0).1 (h3 hG)), ((normInf_le_iff _ _).1 (h4 hG)).2⟩,
      fun hA => ((normInf_le_iff _ _).1 (h2 hA)).2, fun hu => ((normInf_le_iff _ _).1 (h5 hu)).2⟩
  · rintro ⟨h0, hG, hA, hU⟩
    exact ⟨⟨⟨⟨⟨h0, fun h => (normInf_pospart_le _ _ h0).2 (hG h).1⟩, fun h => (normInf_le_iff _ _).2 ⟨h0, hA h⟩⟩,
      fun h => (normInf_pospart_le _ _ h0).2 (List.forall_mem_map.2 (hG h).2.1)⟩,
      fun h => (normInf_le_iff _ _).2 ⟨h0, (hG h).2.2⟩⟩, fun h => (normInf_le_iff _ _).2 ⟨h0, hU h⟩⟩

/-! ### non-vacuity: `min ½x₀² + 3x₁  s.t.  x₀ + x₁ = 1,  −x₁ ≤ 0`, optimum `x* = (1, 0)`, `u* = 2`, `v* = −1` -/

def exP (α : Type) [Field α] : Prog α := ⟨[[1, 0], [0, 0]], [0, 3], [[1, 1]], [1], [[0, -1]], [0]⟩

theorem exP_wf : WF (exP α) := by
  constructor <;> simp [exP, Prog.n]

theorem exP_feasible : Feasible (exP α) [1, 0] := by
  constructor
  · show [(1 : α) * 1 + (1 * 0 + 0)] = [1]
    simp only [mul_one, mul_zero, add_zero]
  · show (0 : α) * 1 + (-1 * 0 + 0) ≤ 0 ∧ True
    simp only [mul_one, mul_zero, add_zero, le_refl, and_self]

theorem exP_convex : Convex (exP α) := by
  -- `a·(Q b) = a₀ b₀`
  constructor
  · intro a b ha hb
    obtain ⟨a0, a1, rfl⟩ := List.length_eq_two.1 ha
    obtain ⟨b0, b1, rfl⟩ := List.length_eq_two.1 hb
    show a0 * (1 * b0 + (0 * b1 + 0)) + (a1 * (0 * b0 + (0 * b1 + 0)) + 0) =
      b0 * (1 * a0 + (0 * a1 + 0)) + (b1 * (0 * a0 + (0 * a1 + 0)) + 0)
    simp only [one_mul, zero_mul, mul_zero, add_zero]
    exact mul_comm a0 b0
  · intro d hd
    obtain ⟨d0, d1, rfl⟩ := List.length_eq_two.1 hd
    show 0 ≤ d0 * (1 * d0 + (0 * d1 + 0)) + (d1 * (0 * d0 + (0 * d1 + 0)) + 0)
    simp only [one_mul, zero_mul, mul_zero, add_zero]
    exact mul_self_nonneg d0

/-- the KKT point has zero residuals and zero `eta` (ℚ): the ε-KKT hypotheses are satisfiable and the bound is then tight -/
example : (update (exP ℚ) 1 10 [1, 0] [2] [-1] ⟨0, 0, [], [], []⟩).rdual = [0, 0] ∧
    (update (exP ℚ) 1 10 [1, 0] [2] [-1] ⟨0, 0, [], [], []⟩).rprim = [0] ∧
    (update (exP ℚ) 1 10 [1, 0] [2] [-1] ⟨0, 0, [], [], []⟩).eta = 0 := by
  decide +kernel

/-- `make_smax` is the textbook ratio test -/
example : makeSmax (1000 : ℚ) [1, 2] [-2, 1] = 1 / 2 := by
  decide +kernel

/-- stage 1 backtracks once (`x ≤ 1`, from `x = 0` along `dx = 3`: `s = 1/2` leaves the interior, `s = 1/4` does not):
    the hypothesis of `Gx_lt_h_invariant` is satisfiable with a step that is not the initial one -/
example : stage1 (⟨[], [0], [], [], [[1]], [1]⟩ : Prog ℚ) (1 / 2) [0] [3] 5 (1 / 2) = some (1 / 4) := by
  decide +kernel

example : doneStatus true (1 / 10 : ℚ) (1 / 10) (1 / 10) (1 / 5) = .converged ∧
    doneStatus true (1 / 10 : ℚ) (1 / 2) (1 / 10) (1 / 5) = .unbounded ∧
    doneStatus false (1 / 10 : ℚ) (1 / 10) (1 / 10) (1 / 5) = .unfeasible := by
  decide +kernel

/-! ### non-vacuity of the Newton-step, loop and start-point theorems -/

/-- `min x  s.t.  −x ≤ 0` at `x = 1, u = 1`: the system the code assembles is `[1]·dx = −9/10`; its solution is the Newton
    direction (hypotheses of `newton_solution_is_newton_direction`) -/
def exL (α : Type) [Field α] : Prog α := ⟨[], [1], [], [], [[-1]], [0]⟩

theorem exL_wf : WF (exL α) :=
  ⟨fun _ hr => (List.not_mem_nil hr).elim, Or.inl rfl, fun _ hr => (List.not_mem_nil hr).elim,
    fun r hr => by rw [(List.mem_singleton.1 hr : r = [-1])]; rfl⟩

theorem exL_convex : Convex (exL α) :=
  ⟨fun a b _ _ => (dot_nil_right a).trans (dot_nil_right b).symm, fun d _ => le_of_eq (dot_nil_right d).symm⟩

example : mv (kktMat (exL ℚ) (kktTopLeft (exL ℚ) [1] [1])) ([-9 / 10] ++ []) =
    kktVec (exL ℚ) [1] (update (exL ℚ) 1 10 [1] [1] [] ⟨0, 0, [], [], []⟩) := by
  decide +kernel

example : WF (exL ℚ) ∧ (∀ a ∈ slack (exL ℚ) [1], a < 0) := by
  refine ⟨exL_wf, ?_⟩
  decide +kernel

/-- `min ½x² − x` without constraints: the system is `[1]·x = 1` (hypotheses of `noineq_exact_solution_optimal`) -/
example : mv (kktMat (⟨[[1]], [-1], [], [], [], []⟩ : Prog ℚ) (kktTopLeft0 ⟨[[1]], [-1], [], [], [], []⟩)) ([1] ++ []) =
    kktVec0 (⟨[[1]], [-1], [], [], [], []⟩ : Prog ℚ) := by
  decide +kernel

section runQ
/-- for the runs below `sqrt` and `isfinite` may be anything: the theorems about exits and statuses do not use them -/
local instance : Sqrt ℚ := ⟨fun x => x⟩
local instance : FinTest ℚ := ⟨fun _ => true⟩

def exPar : Params ℚ := ⟨1 / 1000, 1 / 100000000, 1000000, 99 / 100, 10, 1 / 100, 9 / 10, 2, 0, 3, 5⟩
/-- an oracle that declares every system unstable: the first iteration leaves through `done` -/
def exNewton : Newton ℚ := fun _ _ _ _ _ => (false, [0], [0], [])

theorem exPar_ok : ParOk exPar := by constructor <;> decide +kernel
theorem exNewton_shapes : NewtonShapes (exL ℚ) exNewton := by intro k x u v st; simp [exNewton, exL, Prog.n]

/-- `solve_with_inequality` on `min x s.t. −x ≤ 0` from `x0 = 1` with `epsilon = 2` reports `converged`
    (the hypothesis of `solve_converged_sound`, an exit of `solve_exits`, a `.stop` for `iterate_status_iff`) -/
example : (solveIneq (exL ℚ) 1 exPar 0 exNewton [1]).status = .converged := by
  decide +kernel

/-- a refused start: `x0 = −1` violates `−x ≤ 0` -/
example : start (exL ℚ) 1 10 0 [-1] = none := by
  decide +kernel
end runQ

/-- `reduce` contract: `{x = 1, 2x = 2}` and `{x = 1}` have the same row space -/
example : RowEquiv 1 ([[1], [2]] : List (List ℚ)) [1, 2] [[1]] [1] := by
  refine ⟨⟨rfl, ?_⟩, ⟨rfl, ?_⟩⟩
  · intro p hp
    simp only [List.zip_cons_cons, List.zip_nil_right, List.mem_singleton] at hp
    subst hp
    exact ⟨[1, 0], by norm_num [tmv, axpy, zeros, List.replicate], by norm_num [dot]⟩
  · intro p hp
    simp only [List.zip_cons_cons, List.zip_nil_right, List.mem_cons, List.mem_nil_iff, or_false] at hp
    rcases hp with rfl | rfl
    · exact ⟨[1], by norm_num [tmv, axpy, zeros, List.replicate], by norm_num [dot]⟩
    · exact ⟨[2], by norm_num [tmv, axpy, zeros, List.replicate], by norm_num [dot]⟩

/-- `make_strictly_feasible` on `x ≤ 0` with the exact least-squares answer `x = −y`: the first trial `y = 1` succeeds -/
example : makeStrictlyFeasible (⟨[], [1], [], [], [[1]], [0]⟩ : Prog ℚ) (3 / 10) 50 (fun y => [-y]) = some [-1] := by
  decide +kernel

/-- a program without any constraint: `m_kkt = 0` at a point that is NOT stationary (`min ½(x+y)² + x + 3y`, Q singular, at `(−1, 0)`:
    `Q x + c = (0, 2)`), replayed on the code by the corpus line "m_kkt without stationarity" -/
example : kktTest (⟨[[1, 1], [1, 1]], [1, 3], [], [], [], []⟩ : Prog ℚ) true [-1, 0] [] [] = 0 ∧
    lagGrad (⟨[[1, 1], [1, 1]], [1, 3], [], [], [], []⟩ : Prog ℚ) [-1, 0] [] [] = [0, 2] := by
  decide +kernel

/-- the KKT point of `exP` has `m_kkt = 0` -/
example : kktTest (exP ℚ) false [1, 0] [2] [-1] ≤ 0 := by
  decide +kernel

/-! the square-root hypothesis is satisfiable (ℝ), together with all the other hypotheses of the gap bounds -/
section real
noncomputable local instance : Sqrt ℝ := ⟨Real.sqrt⟩

theorem hsqrtReal : ∀ y : ℝ, 0 ≤ y → 0 ≤ Sqrt.sqrt y ∧ Sqrt.sqrt y * Sqrt.sqrt y = y :=
  fun y hy => ⟨Real.sqrt_nonneg y, Real.mul_self_sqrt hy⟩

example : objective (exP ℝ) [2, 1] - objective (exP ℝ) [1, 0] ≤
    (update (exP ℝ) 1 10 [2, 1] [2] [-1] ⟨0, 0, [], [], []⟩).eta +
      norm2 (update (exP ℝ) 1 10 [2, 1] [2] [-1] ⟨0, 0, [], [], []⟩).rdual * norm2 (vsub [2, 1] [1, 0]) +
      norm1 [-1] * norm2 (update (exP ℝ) 1 10 [2, 1] [2] [-1] ⟨0, 0, [], [], []⟩).rprim :=
  kkt_gap_bound_norm hsqrtReal (exP ℝ) exP_wf exP_convex 1 10 [2, 1] [2] [-1] [1, 0] ⟨0, 0, [], [], []⟩
    rfl rfl rfl rfl (by simp [exP]) (by simp) exP_feasible

/-- every hypothesis of `converged_gap_bound` holds for some `ε` (the three residual tests are plain inequalities) -/
example : ∃ eps : ℝ, objective (exP ℝ) [2, 1] - objective (exP ℝ) [1, 0] ≤
    (normalize (1 / 1000) (exP ℝ)).1 * (eps * (1 + norm2 (vsub [2, 1] [1, 0]) + norm1 [-1])) := by
  refine ⟨max (max
    (update (normalize (1 / 1000) (exP ℝ)).2 (normalize (1 / 1000) (exP ℝ)).1 10 [2, 1] [2] [-1] ⟨0, 0, [], [], []⟩).eta
    (norm2 (update (normalize (1 / 1000) (exP ℝ)).2 (normalize (1 / 1000) (exP ℝ)).1 10 [2, 1] [2] [-1] ⟨0, 0, [], [], []⟩).rdual))
    (norm2 (update (normalize (1 / 1000) (exP ℝ)).2 (normalize (1 / 1000) (exP ℝ)).1 10 [2, 1] [2] [-1] ⟨0, 0, [], [], []⟩).rprim)
    + 1, ?_⟩
  apply converged_gap_bound hsqrtReal (1 / 1000) (by norm_num) (exP ℝ) exP_wf exP_convex 10 _ [2, 1] [2] [-1] [1, 0]
    ⟨0, 0, [], [], []⟩ rfl rfl rfl rfl (by simp [exP]) (by simp) exP_feasible
  · exact lt_of_le_of_lt (le_trans (le_max_left _ _) (le_max_left _ _)) (lt_add_one _)
  · exact lt_of_le_of_lt (le_trans (le_max_right _ _) (le_max_left _ _)) (lt_add_one _)
  · exact lt_of_le_of_lt (le_max_right _ _) (lt_add_one _)

/-! every hypothesis of the end-to-end theorem `solve_converged_gap_bound` holds for a run over ℝ (`min x s.t. −x ≤ 0`
    from `x0 = 1`, `epsilon = 2`, an oracle that declares the first system unstable) -/
noncomputable local instance : FinTest ℝ := ⟨fun _ => true⟩

noncomputable def exParR : Params ℝ := ⟨1 / 1000, 1 / 100000000, 1000000, 99 / 100, 10, 1 / 100, 9 / 10, 2, 0, 3, 5⟩
noncomputable def exNewtonR : Newton ℝ := fun _ _ _ _ _ => (false, [0], [0], [])

theorem exL_norm : normalize exParR.minNorm (exL ℝ) = (1, exL ℝ) := by
  norm_num [normalize, normalizePair, normDenom, exParR, exL, normF, norm2, sumsqM, sumsq, dot, Sqrt.sqrt, cmax3, cmax,
    vdivs, Real.sqrt_zero, Real.sqrt_one]

theorem exRun_converged :
    (solveIneq (normalize exParR.minNorm (exL ℝ)).2 (normalize exParR.minNorm (exL ℝ)).1 exParR 0 exNewtonR [1]).status =
      .converged := by
  rw [exL_norm]
  have hsl : slack (exL ℝ) [1] = [-1] := by
    show [(-1 : ℝ) * 1 + 0 - 0] = [-1]
    norm_num
  have hs := start_eq (exL ℝ) 1 exParR.miu 0 [1]
  rw [hsl, if_pos ⟨List.cons_ne_nil _ _, by norm_num⟩] at hs
  -- the first system is declared unstable: the status is the `done` decision at the start
  have hrun : (solveIneq (exL ℝ) 1 exParR 0 exNewtonR [1]).status = done (exL ℝ) exParR [1]
      (update (exL ℝ) 1 exParR.miu [1] ([-1].map fun g => -1 / g) (zeros (exL ℝ).p) ⟨0, 0, [], [], []⟩) := by
    rw [solveIneq, hs]; rfl
  -- `u = −1 / (G x − h) = 1`: `fx = 1`, `eta = 1`, `rdual = c + Gᵀu = 0`, `rcent = eta / (μ m) − u (G x − h)`
  have hst : update (exL ℝ) 1 exParR.miu [1] ([-1].map fun g => -1 / g) (zeros (exL ℝ).p) ⟨0, 0, [], [], []⟩ =
      ⟨1, 1, [0], [], [9 / 10]⟩ := by
    show (⟨(1 * 1 + 0) * 1, -((-1 / -1) * ((-1) * 1 + 0 - 0) + 0), [1 + (-1 / -1 * -1 + 0)], [],
      [-(-((-1 / -1) * ((-1) * 1 + 0 - 0) + 0)) / (10 * ((1 : ℕ) : ℝ)) - (-1 / -1) * ((-1) * 1 + 0 - 0)]⟩ : St ℝ) = _
    norm_num
  rw [hrun, hst, done, converged_iff_done_test]
  refine ⟨?_, ?_, ?_, ?_⟩
  · show maxLt (slack (exL ℝ) [1]) (1 / 100000000) = true
    rw [maxLt_iff, hsl]
    norm_num
  · show (1 : ℝ) < 2
    norm_num
  · show Real.sqrt (0 * 0 + 0) < 2
    norm_num
  · show Real.sqrt 0 < 2
    norm_num

example : objective (exL ℝ)
      (solveIneq (normalize exParR.minNorm (exL ℝ)).2 (normalize exParR.minNorm (exL ℝ)).1 exParR 0 exNewtonR [1]).x -
      objective (exL ℝ) [0] ≤
    (normalize exParR.minNorm (exL ℝ)).1 * (exParR.epsilon * (1 +
      norm2 (vsub (solveIneq (normalize exParR.minNorm (exL ℝ)).2 (normalize exParR.minNorm (exL ℝ)).1 exParR 0 exNewtonR [1]).x [0]) +
      norm1 (solveIneq (normalize exParR.minNorm (exL ℝ)).2 (normalize exParR.minNorm (exL ℝ)).1 exParR 0 exNewtonR [1]).v)) :=
  solve_converged_gap_bound hsqrtReal (exL ℝ) exL_wf exL_convex exParR
    ⟨by show (0 : ℝ) < 1000000; norm_num, by show (0 : ℝ) < 99 / 100; norm_num, by show (99 / 100 : ℝ) < 1; norm_num,
      by show (0 : ℝ) ≤ 9 / 10; norm_num, by show (9 / 10 : ℝ) ≤ 1; norm_num⟩
    (by show (0 : ℝ) < 1 / 1000; norm_num) 0 exNewtonR
    (fun _ _ _ _ _ => ⟨(normalize_n exParR.minNorm (exL ℝ)).symm, (normalize_G_length exParR.minNorm (exL ℝ)).symm,
      rfl⟩)
    [1] [0] rfl rfl rfl ⟨rfl, by show (-1 : ℝ) * 0 + 0 ≤ 0 ∧ True; norm_num⟩ exRun_converged
end real

end NanoVerif.Program
