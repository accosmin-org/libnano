import NanoVerif.Proofs.PoolSection
import NanoVerif.Proofs.PoolLostWakeup
import NanoVerif.Proofs.PoolProgress
import NanoVerif.Proofs.PoolFine
import NanoVerif.Proofs.PoolScopesGen
/-!
  C17 — property theorems about the thread-pool protocol model (`Model/Pool.lean`): every statement quantifies over
  every reachable state, i.e. over every interleaving of any number of workers, tasks and client calls (several
  submitters, a concurrent destructor), every spurious wake-up and every choice of `notify_one`.
  Core Lean only.

  ## Coverage: every function of the anchored files and where it lives

  include/nano/core/parallel.h
  | code                                              | status    | Lean definition / check                                                        |
  |---------------------------------------------------|-----------|--------------------------------------------------------------------------------|
  | `nano::verif::pool_hook / pool_emit / NANO_VERIF_POOL` | outside | instrumentation H1 itself; `static_checks` counts the call sites and compares the `#ifdef` twin of the wait predicate with the original |
  | `queue_t::queue_t`, members `m_tasks / m_stop`    | modelled  | `init` (`queue = []`, `stop = false`); `St.queue` is a FIFO (push at the back `cPush`, pop at the front `wTake`) |
  | `queue_t::m_mutex`                                | modelled + monitored | every critical section = ONE event of `step`; justified per trace by `Ck.acquire/holds/release` and, independently, `Mon.needHolder` |
  | `queue_t::m_condition`                            | oracle (contract: wait releases atomically, may wake spuriously, notify_one wakes ≤ 1 waiter, notify_all all) | `wSleep`, `wWake`, `cNotify`, `wake`; fine-grained `stepF` (`predFalse`, `block`) proved to refine the atomic events (`locked_fine_grained_no_lost_wakeup`) |
  | `queue_t::enqueue`                                | modelled  | `cPush c [t] false` + `cNotify c w?`; trace states `eq0 … eq4`                           |
  | `queue_t::enqueue_no_lock`                        | modelled  | one element of the `ts` of `cPush c ts true` (inside `map`'s critical section); trace state `mpP3` |
  | `worker_t::worker_t`                              | modelled  | worker index `w < nw` of `init nw`; `Mon.bindWorker` (thread ↔ index bijection on every trace) |
  | `section_t` constructors / move (`= default`)      | outside   | compiler-generated, no behaviour of their own (`map` only default-constructs, `reserve`s and `emplace_back`s) |
  | `section_t::block(raise)` (parallel.cpp:82-91)     | modelled  | `step2`: `bBegin`, `bWait` (get vs wait, rethrow), `bDone`; `blockResult`              |
  | `section_t::~section_t` (parallel.cpp:93-96)       | modelled  | `step2`: `dWait`, `exit` (unguarded), `dtorSees`; theorem `map_exit_implies_all_ready`   |
  | `pool_t::pool_t()`, `pool_t(size_t)`               | modelled  | `defaultSize`, `clampSize`, `init nw`; `pool_size_bounds`; driver `szok=`               |
  | `pool_t::~pool_t`                                  | modelled  | `dStop`, `cNotify` (from `stopSet`), `dJoined`; seeded variant `stopNoLock` of `stepF`  |
  | `pool_t::enqueue`                                  | modelled  | forwards to `queue_t::enqueue`                                                         |
  | `pool_t::size()`                                   | modelled  | `St.nw` = `clampSize threads hc`                                                       |
  | `pool_t::max_size()`                               | modelled; `hardware_concurrency()` = oracle without contract (any number, 0 included) | `maxSize hc` |
  | `pool_t::map(elements, op, raise)`                 | modelled  | `seqPathElems`, `sStart/sOpBegin/sOpEnd/sReturn` (tnum 0, `firstErr`, `seqResult`), `elemRanges`, `cPush … true`, section |
  | `pool_t::map(elements, chunksize, op, raise)`      | modelled  | `seqPathChunk`, `chunks`, same events; `assert(chunksize >= 1)` = hypothesis `0 < c`    |
  | deleted copy / move of `pool_t`, `section_t`       | outside   | compile-time only                                                                      |
  | `loopi`, `loopr`                                   | —         | do not exist in this version of the library (only `map` and `enqueue`)                  |

  src/core/parallel.cpp
  | `worker_t::operator()` (33-80)                     | modelled  | `wTake`, `wSleep`, `wWake`, `wExit` (clear + notify_all under the lock), `wRunEnd`; program order `wPre … wClr3` |
  | `pool_hook()`, `trace_sink()`                      | outside   | instrumentation                                                                        |
  | std::mutex / packaged_task / shared_future / thread::join | oracle | contracts in DESIGN §3; monitored on every run where observable: mutual exclusion (`acquire`), a future is ready only after its task ran or was dropped (`cReturn` enabled, harness `late` / `fin`), `broken_promise` after `clear` (`dropped-future`) |

  Hypotheses: `0 < s.nw` of `quiescent_complete` / `deadlock_free` holds for every pool (`pool_size_bounds`: size ≥ 1);
  `s.stop = false` in "ready ⇒ done" is necessary (kernel-checked run with a dropped task below, replayed on the real code by the
  corpus lines with waitmode 2); the usage contract "no submission after `~pool_t` started" stays an assumption. No `_partial` theorem.
-/
/-!
  LOCK SCOPES: `tools/props/c17_translate.py` re-reads `src/core/parallel.cpp` / `include/nano/core/parallel.h` on every run
  (hook statements and `NANO_VERIF` branches removed) into `Gen/PoolScopes.lean`: per function the accesses to `m_tasks` / `m_stop` /
  `m_condition` in program order with the flag "lexically under a lock on the queue's mutex". `Proofs/PoolScopesGen.lean` (namespace
  `Pool.Scopes`): `model_pool_scopes_is_generated` (= the program order this model follows), `shared_state_only_under_lock`,
  `enqueue_no_lock_called_under_lock`, `never_blocks_or_runs_under_lock`, `wake_up_after_publication`, `every_access_classified`.
  The trace monitors (`Model/PoolMon.lean`) check the same membership at run time, but only through the hook statements; this ties
  the statements themselves.
-/
namespace NanoVerif.Pool

/-- The bookkeeping of tasks is consistent in every reachable state: the queue holds exactly the queued tasks, once each;
    a task is `running w` exactly when worker `w < size` is running it; a task has been started once if it is running or
    done and never otherwise. -/
theorem task_bookkeeping (s : St) (hr : Reachable s) : Inv s := (reachable_invs s hr).1

/-- No task is ever started twice. -/
theorem executed_at_most_once (s : St) (hr : Reachable s) (t : Nat) : s.exec t ≤ 1 := by
  have := (task_bookkeeping s hr).exec_le t
  rw [this]; split <;> simp

/-- A finished task ran exactly once; a task that ran is running or finished; a dropped or queued task never ran. -/
theorem done_implies_executed_once (s : St) (hr : Reachable s) (t : Nat) :
    (s.ts t = .done → s.exec t = 1) ∧
    (s.exec t = 1 → s.ts t = .done ∨ ∃ w, s.ts t = .running w) ∧
    (s.ts t = .dropped ∨ s.ts t = .queued ∨ s.ts t = .fresh → s.exec t = 0) := by
  have h := (task_bookkeeping s hr).exec_le t
  refine ⟨?_, ?_, ?_⟩
  · intro hd; rw [h, hd]
  · intro h1
    cases hts : s.ts t with
    | done => exact Or.inl rfl
    | running w => exact Or.inr ⟨w, rfl⟩
    | fresh => rw [h, hts] at h1; cases h1
    | queued => rw [h, hts] at h1; cases h1
    | dropped => rw [h, hts] at h1; cases h1
  · rintro (hd | hd | hd) <;> rw [h, hd]

/-- The worker id passed to a running task is below the pool size (and is the id of the worker running it). -/
theorem tnum_lt_size (s : St) (hr : Reachable s) (t w : Nat) (h : s.ts t = .running w) :
    w < s.nw ∧ s.wpc w = .running t :=
  ((task_bookkeeping s hr).run_iff t w).mp h

/-- Two different tasks running at the same time (of the same call or not) have different worker ids: a worker runs
    one task at a time. -/
theorem tnum_exclusive (s : St) (hr : Reachable s) (t1 t2 w1 w2 : Nat)
    (h1 : s.ts t1 = .running w1) (h2 : s.ts t2 = .running w2) (hne : t1 ≠ t2) : w1 ≠ w2 := by
  intro heq
  subst heq
  have a := (tnum_lt_size s hr t1 w1 h1).2
  have b := (tnum_lt_size s hr t2 w1 h2).2
  rw [a] at b
  cases b
  exact hne rfl

/-- The sequential path (`size()==1 || …`, operator called by the caller with `tnum = 0`): while `i` calls are over,
    exactly the calls `0..i-1` ran once each, at most call `i` is in progress, none after it has started, and `err` is
    the first position that threw; the loop ends (normally or by re-throwing) only after all `n` calls ran exactly
    once, and what leaves `map` is the first stored exception iff `raise`. -/
theorem seq_runs_each_once_in_order (s : St) (hr : Reachable s) (c : Nat) :
    (∀ n i b err, s.cpc c = .seq n i b err →
      i ≤ n ∧ (∀ k, s.sexec c k = seqCount i b k) ∧ err = (List.range i).find? (fun k => s.sthrew c k)) ∧
    (∀ s', step s (.sReturn c) = some s' → ∃ n err, s.cpc c = .seq n n false err ∧
      (∀ k, s.sexec c k = if k < n then 1 else 0) ∧
      (∀ raise, seqResult err raise = if raise then (List.range n).find? (fun k => s.sthrew c k) else none)) := by
  have hs := (reachable_invs s hr).2.2.2
  refine ⟨?_, ?_⟩
  · intro n i b err hpc
    obtain ⟨h1, _, h3, _, h5⟩ := hs.seq_ok c n i b err hpc
    exact ⟨h1, h3, h5⟩
  · intro s' h
    obtain ⟨n, err, hpc, _⟩ := step_sReturn h
    obtain ⟨_, _, h3, _, h5⟩ := hs.seq_ok c n n false err hpc
    refine ⟨n, err, hpc, ?_, ?_⟩
    · intro k; rw [h3 k]; simp [seqCount]
    · intro raise; rw [h5]; rfl

/-- `map` (and the wait on an `enqueue` future) returns only when every future of the call is ready; as long as no
    destructor has run, ready means that the task finished and ran exactly once. -/
theorem map_returns_after_all_done (s s' : St) (hr : Reachable s) (c : Nat) (h : step s (.cReturn c) = some s') :
    ∃ ts, s.cpc c = .waiting ts ∧ (∀ t ∈ ts, ready? (s.ts t) = true) ∧
      (s.stop = false → ∀ t ∈ ts, s.ts t = .done ∧ s.exec t = 1) := by
  obtain ⟨ts, hpc, hready, _⟩ := step_cReturn h
  refine ⟨ts, hpc, hready, ?_⟩
  intro hstop t ht
  have hd : s.ts t = .done := by
    have h1 := hready t ht
    have h2 := (reachable_invs s hr).2.2.1.D hstop t
    cases hts : s.ts t <;> simp [hts, ready?] at h1 h2 ⊢
  exact ⟨hd, (done_implies_executed_once s hr t).1 hd⟩

/-- `block(raise)`: with `raise = false` nothing leaves the call; with `raise = true` the exception that leaves is the one
    stored by the first task (in index order) whose future holds one; without a destructor that task finished, ran
    exactly once and its operator threw, and there is such a task iff some operator of the call threw. -/
theorem raise_rethrows (s s' : St) (hr : Reachable s) (c : Nat) (h : step s (.cReturn c) = some s') :
    ∃ ts, s.cpc c = .waiting ts ∧ blockResult s ts false = none ∧
      (∀ t, blockResult s ts true = some t →
        t ∈ ts ∧ ((s.ts t = .done ∧ s.exec t = 1 ∧ s.threw t = true) ∨ s.ts t = .dropped)) ∧
      (s.stop = false → blockResult s ts true = ts.find? (fun t => s.threw t)) := by
  obtain ⟨ts, hpc, _, hdone⟩ := map_returns_after_all_done s s' hr c h
  refine ⟨ts, hpc, rfl, ?_, ?_⟩
  · intro t ht
    simp only [blockResult, if_true] at ht
    refine ⟨List.mem_of_find?_eq_some ht, ?_⟩
    have hp := List.find?_some ht
    simp only [holdsExc] at hp
    cases hts : s.ts t with
    | done =>
      rw [hts] at hp
      exact Or.inl ⟨rfl, (done_implies_executed_once s hr t).1 hts, hp⟩
    | dropped => exact Or.inr rfl
    | fresh => rw [hts] at hp; cases hp
    | queued => rw [hts] at hp; cases hp
    | running w => rw [hts] at hp; cases hp
  · intro hstop
    simp only [blockResult, if_true]
    apply find?_ext
    intro t ht
    simp [holdsExc, (hdone hstop t ht).1]

/-- The ranges built by `map(elements, chunksize, op)` tile `[0, elements)` in order without gap or overlap; each is
    non-empty, not longer than `chunksize`, inside `[0, elements)`; there are `ceil(elements / chunksize)` of them. -/
theorem chunks_tile (n c : Nat) (hc : 0 < c) :
    ((chunks n c).map fun p => rangeList p.1 p.2).flatten = List.range n ∧
    (∀ p ∈ chunks n c, p.1 < p.2 ∧ p.2 - p.1 ≤ c ∧ p.2 ≤ n) ∧
    (chunks n c).length = (n + c - 1) / c := by
  refine ⟨chunks_flatten n c hc, ?_, chunks_length n c hc⟩
  · intro p hp
    obtain ⟨k, hk⟩ := List.mem_iff_getElem?.mp hp
    rw [chunks_get' n c k hc] at hk
    by_cases hlt : k * c < n
    · rw [if_pos hlt] at hk
      cases hk
      simp only
      refine ⟨?_, ?_, ?_⟩ <;> omega
    · rw [if_neg hlt] at hk; cases hk

/-- The `k`-th range is `[k·chunksize, min(k·chunksize + chunksize, elements))` (the position ↔ range correspondence
    used by the trace checker), and the per-element overload is the case of unit ranges. -/
theorem chunks_get (n c k : Nat) (hc : 0 < c) :
    (chunks n c)[k]? = (if k * c < n then some (k * c, min (k * c + c) n) else none) ∧
    (elemRanges n)[k]? = (if k < n then some (k, k + 1) else none) :=
  ⟨chunks_get' n c k hc, elemRanges_get n k⟩

/-- No lost wake-up: whenever work is queued or stop is requested, a worker is on its way to the wait predicate, or a
    client still owes its notification, or every worker has already exited. -/
theorem no_lost_wakeup (s : St) (hr : Reachable s) : J s := (reachable_invs s hr).2.1

/-- In a reachable state of a pool with at least one worker in which no event other than a wake-up (and other than the
    start of a new client call, which is an input) is enabled: every client call has returned, no task is left in the
    queue, and if a destructor ran every worker has exited. (So a run can only stop in a complete state: no deadlock
    of `map`, of a future wait or of `~pool_t`.) -/
theorem quiescent_complete (s : St) (hr : Reachable s) (hnw : 0 < s.nw) (hq : Quiescent s) :
    (∀ c, s.cpc c = .idle ∨ s.cpc c = .finished) ∧ s.queue = [] ∧
    (s.stop = true → ∀ w, w < s.nw → s.wpc w = .exited) := by
  obtain ⟨hi, hj, h2, hs⟩ := reachable_invs s hr
  have hqe := quiescent_queue_empty s hj h2 hnw hq
  refine ⟨?_, hqe, fun hstop => quiescent_all_exited s hj hq (Or.inr hstop)⟩
  intro c
  cases hpc : s.cpc c with
  | idle => exact Or.inl rfl
  | finished => exact Or.inr rfl
  | pushed ts all => have := quiescent_no_debt s hq c; rw [hpc] at this; cases this
  | stopSet => have := quiescent_no_debt s hq c; rw [hpc] at this; cases this
  | waiting ts =>
    exfalso
    have hall : ∀ t ∈ ts, ready? (s.ts t) = true := by
      intro t ht
      cases hts : s.ts t with
      | done => rfl
      | dropped => rfl
      | fresh => exact absurd hts (h2.C c ts (Or.inl hpc) t ht)
      | queued =>
        have := (hi.q_iff t).mpr hts
        rw [hqe] at this; cases this
      | running w =>
        obtain ⟨hw, hrun⟩ := (hi.run_iff t w).mp hts
        rcases quiescent_workers s hq w hw with h1 | h1 <;> rw [h1] at hrun <;> cases hrun
    have := hq (.cReturn c) rfl rfl
    simp only [step, hpc] at this
    rw [if_pos hall] at this
    cases this
  | joining =>
    exfalso
    have hstop := h2.S c (Or.inr hpc)
    have hall := quiescent_all_exited s hj hq (Or.inr hstop)
    have := hq (.dJoined c) rfl rfl
    simp only [step] at this
    rw [if_pos ⟨hpc, hall⟩] at this
    cases this
  | seq n i b err =>
    exfalso
    obtain ⟨hle, _, _, _, _⟩ := hs.seq_ok c n i b err hpc
    cases b with
    | true =>
      have := hq (.sOpEnd c false) rfl rfl
      simp [step, hpc] at this
    | false =>
      by_cases hlt : i < n
      · have := hq (.sOpBegin c) rfl rfl
        simp [step, hpc, hlt] at this
      · have hin : i = n := by omega
        have := hq (.sReturn c) rfl rfl
        simp [step, hpc, hin] at this

/-! ### non-vacuity: concrete runs of the model -/

/-- two workers, one `map` of two tasks (the second throws), then the destructor: everything completes -/
def demoRun : List Ev :=
  [.wSleep 0, .cPush 0 [0, 1] true, .wTake 1, .cNotify 0 none, .wTake 0, .wRunEnd 1 false, .wRunEnd 0 true,
   .wSleep 1, .cReturn 0, .dStop 1, .wExit 0, .cNotify 1 none, .wExit 1, .dJoined 1]

example : (run (init 2) demoRun).isSome = true := by decide +kernel

example : ((run (init 2) demoRun).map fun s => (s.ts 0, s.ts 1, s.exec 0, s.exec 1, s.threw 1))
    = some (.done, .done, 1, 1, true) := by decide +kernel

example : ((run (init 2) demoRun).map fun s => (s.cpc 0, s.cpc 1, s.wpc 0, s.wpc 1))
    = some (.finished, .finished, .exited, .exited) := by decide +kernel

example : ((run (init 2) demoRun).map fun s => (s.queue, s.stop)) = some ([], true) := by decide +kernel

/-- the exception of task 1 is what `block(true)` observes just before `cReturn` -/
example : ((run (init 2) (demoRun.take 8)).map fun s => (blockResult s [0, 1] true, blockResult s [0, 1] false))
    = some (some 1, none) := by decide +kernel

/-- a destructor with a queued task: the task is dropped, its future is ready, the waiting call returns -/
example : ((run (init 1) [.cPush 0 [0] false, .cNotify 0 none, .cPush 1 [1] false, .cNotify 1 none, .wTake 0,
      .dStop 2, .cNotify 2 none, .wRunEnd 0 false, .wExit 0, .dJoined 2, .cReturn 0, .cReturn 1]).map fun s =>
    (s.ts 0, s.ts 1, s.exec 1, s.cpc 0, s.cpc 1, s.cpc 2)) = some (.done, .dropped, 0, .finished, .finished, .finished) := by
  decide +kernel

/-- the sequential path: two operator calls, the first throws, both run, the call ends -/
example : ((run (init 1) [.sStart 0 2, .sOpBegin 0, .sOpEnd 0 true, .sOpBegin 0, .sOpEnd 0 false]).map fun s =>
    (s.cpc 0, s.sexec 0 0, s.sexec 0 1)) = some (.seq 2 2 false (some 0), 1, 1) := by decide +kernel

/-- a task cannot be taken twice, a waiting call cannot return early -/
example : run (init 2) [.cPush 0 [0] false, .wTake 0, .wTake 1] = none := by decide +kernel
example : run (init 2) [.cPush 0 [0] false, .cNotify 0 none, .wTake 0, .cReturn 0] = none := by decide +kernel

example : chunks 10 3 = [(0, 3), (3, 6), (6, 9), (9, 10)] := by decide +kernel
example : chunks 0 3 = [] ∧ chunks 3 3 = [(0, 3)] ∧ chunks 3 4 = [(0, 3)] := by decide +kernel

/-! ## the refined models: `section_t`, task shape, pool size, `m_stop` without the mutex, deadlock freedom, the variant function -/

/-- **`section_t` modelled explicitly** (`Model/PoolSection.lean`: `block(raise)` future by future, the rethrow, `~section_t` =
    `block(false)` over all futures, an UNGUARDED exit). In every reachable state of the refined model: when the client leaves
    `map` — returning normally (`exc = none`) or with the exception of task `exc` propagating — the destructor has waited
    every future of the section and every future is ready; what leaves is exactly `blockResult` (the first future in index
    order holding an exception iff `raise`); and unless a destructor of the pool ran, every task of the call is done and ran
    exactly once. -/
theorem map_exit_implies_all_ready (s s' : St2) (hr : Reachable2 s) (c : Nat) (h : step2 false s (.exit c) = some s') :
    ∃ ts raise exc, s.spc c = .dtor ts raise ts.length exc ∧ s.base.cpc c = .waiting ts ∧ s'.spc c = .out exc ∧
      (∀ t ∈ ts, ready? (s.base.ts t) = true) ∧
      exc = blockResult s.base ts raise ∧
      (s.base.stop = false → ∀ t ∈ ts, s.base.ts t = .done ∧ s.base.exec t = 1) := by
  obtain ⟨hrb, hs⟩ := reachable2_invs s hr
  obtain ⟨ts, raise, exc, hpc, rfl⟩ := step2_exit h
  obtain ⟨h1, _, h3, h4⟩ := hs.at hpc
  have hall := waited_all h3
  refine ⟨ts, raise, exc, hpc, h1, by simp [upd_same], hall, ?_, ?_⟩
  · cases exc with
    | none =>
      cases raise with
      | false => rfl
      | true =>
        obtain ⟨_, hn⟩ := h4 rfl
        simp only [blockResult, if_true]
        exact (find?_none_of_all ts hn).symm
    | some t =>
      obtain ⟨hraise, k, hk, _, hex, _, hn⟩ := h4
      subst hraise
      simp only [blockResult, if_true]
      exact (find?_of_first ts k t hk hex hn).symm
  · obtain ⟨ts', hw', _, hdone⟩ := map_returns_after_all_done s.base _ hrb c (exit_is_cReturn hs h)
    rw [h1] at hw'; cases hw'; exact hdone

/-- The guarded `cReturn` of the protocol model is what the code does: the (unguarded) exit of the section is a `cReturn`
    step of the base model. -/
theorem exit_refines_cReturn (s s' : St2) (hr : Reachable2 s) (c : Nat) (h : step2 false s (.exit c) = some s') :
    step s.base (.cReturn c) = some s'.base :=
  exit_is_cReturn (reachable2_invs s hr).2 h

/-- The seeded change "block() swaps the futures into a local before waiting" (`swapped = true`: the destructor sees an
    empty vector): task 0 throws, `get()` rethrows, the destructor waits nothing and `map` is left with the exception
    while task 1 of the call has not even started. The same schedule is not a run of the code as it is. -/
theorem swapped_section_exits_with_unfinished_task :
    ((run2 true (init2 2) [.base (.cPush 0 [0, 1] true), .base (.cNotify 0 none), .base (.wTake 0), .bBegin 0 true,
        .base (.wRunEnd 0 true), .bWait 0, .exit 0]).map fun s => (s.spc 0, s.base.ts 1, s.base.exec 1))
      = some (.out (some 0), .queued, 0) ∧
    run2 false (init2 2) [.base (.cPush 0 [0, 1] true), .base (.cNotify 0 none), .base (.wTake 0), .bBegin 0 true,
        .base (.wRunEnd 0 true), .bWait 0, .exit 0] = none := by
  refine ⟨by decide, by decide⟩

/-- **Task shape**: `map(elements, op)` pushes one task per index, `map(elements, chunksize, op)` one task per chunk
    (`Call.ranges`; the trace checker verifies on every recorded run that each task makes exactly one operator call with the
    range of its position). Hence, whatever `raise` is and whichever tasks throw (`threw` is arbitrary): when the client
    leaves `map` without a pool destructor having run, every task of the call is done and ran exactly once, and every index
    `i < elements` lies in the range of exactly one task position (`i` itself / chunk `i / chunksize`) — so the operator was
    invoked exactly once for every index, also when some invocations threw. -/
theorem every_index_invoked_once_even_if_some_throw (s s' : St2) (hr : Reachable2 s) (c : Nat)
    (h : step2 false s (.exit c) = some s') (hstop : s.base.stop = false) :
    (∃ ts raise exc, s.spc c = .dtor ts raise ts.length exc ∧ ∀ t ∈ ts, s.base.ts t = .done ∧ s.base.exec t = 1) ∧
    (∀ n i k, i < n → ((∃ p, (elemRanges n)[k]? = some p ∧ p.1 ≤ i ∧ i < p.2) ↔ k = i)) ∧
    (∀ n cs i k, 0 < cs → i < n → ((∃ p, (chunks n cs)[k]? = some p ∧ p.1 ≤ i ∧ i < p.2) ↔ k = i / cs)) := by
  obtain ⟨ts, raise, exc, hpc, _, _, _, _, hdone⟩ := map_exit_implies_all_ready s s' hr c h
  exact ⟨⟨ts, raise, exc, hpc, hdone hstop⟩, fun n i k hi => elem_of_index n i k hi,
    fun n cs i k hc hi => chunk_of_index n cs i k hc hi⟩

/-- `pool_t::pool_t(threads)`, `pool_t()`, `max_size()`, `size()`: the pool has between 1 and `max_size()` workers, exactly
    the requested number when that is in range, `max_size()` by default; and `max_size() ≥ 1` whatever
    `hardware_concurrency()` answers (0 included). -/
theorem pool_size_bounds (threads hc : Nat) :
    1 ≤ clampSize threads hc ∧ clampSize threads hc ≤ maxSize hc ∧
    (1 ≤ threads → threads ≤ maxSize hc → clampSize threads hc = threads) ∧
    (threads = 0 → clampSize threads hc = 1) ∧ (maxSize hc ≤ threads → clampSize threads hc = maxSize hc) ∧
    defaultSize hc = maxSize hc ∧ 1 ≤ maxSize hc ∧ (1 ≤ hc → maxSize hc = hc) := by
  have hm := maxSize_pos hc
  refine ⟨?_, ?_, ?_, ?_, ?_, ?_, hm, ?_⟩
  · unfold clampSize; split <;> (try split) <;> omega
  · unfold clampSize; split <;> (try split) <;> omega
  · intro h1 h2; unfold clampSize; split <;> (try split) <;> omega
  · intro h0; unfold clampSize; subst h0; simp
  · intro h1; unfold clampSize; split <;> (try split) <;> omega
  · unfold defaultSize clampSize; split <;> (try split) <;> omega
  · intro h1; unfold maxSize; split <;> omega

/-- **Why `m_stop` is written under the mutex** (next to `no_lost_wakeup`). In the fine-grained model (`stepF`: predicate
    evaluation and blocking are two events, the mutex is held in between) with the seeded destructor that sets an atomic
    flag WITHOUT the mutex, a pool of ONE worker reaches, by the schedule `lostWakeupTrace` = worker evaluates the
    predicate (false) · destructor sets stop · destructor notifies (nobody waits yet) · worker blocks, a state in which
    invariant `J` fails and nothing but a spurious wake-up can ever happen: the destructor is in `join`, the worker sleeps.
    With the destructor as coded (`dStop` needs the mutex) the schedule is impossible. -/
theorem stop_without_lock_loses_wakeup :
    ∃ sf, runF 1 (initF 1) lostWakeupTrace = some sf ∧ ¬ J sf.s ∧ Quiescent sf.s ∧
      sf.s.cpc 1 = .joining ∧ sf.s.wpc 0 = .sleeping ∧ sf.s.stop = true ∧
      runF 1 (initF 1) [.predFalse 0, .atom (.dStop 1)] = none :=
  ⟨⟨lostState, _⟩, rfl, lost_not_J, lost_quiescent, by simp [lostState, upd], by simp [lostState, upd], rfl, by decide⟩

/-- **The atomic `wSleep` is justified by the mutex**: in the fine-grained model (predicate evaluation and blocking are two
    events, the mutex is held in between, events that need the mutex are disabled meanwhile) every run in which `m_stop` is
    only written under the mutex stays inside the reachable states of the atomic model; in particular `no_lost_wakeup`
    (invariant `J`) holds at every point of it. `stop_without_lock_loses_wakeup` is the converse: one `stopNoLock` breaks it. -/
theorem locked_fine_grained_no_lost_wakeup (nw : Nat) (es : List EvF) (f : StF)
    (hne : ∀ e ∈ es, usesStopNoLock e = false) (h : runF nw (initF nw) es = some f) : Reachable f.s ∧ J f.s := by
  obtain ⟨hr, _⟩ := fine_refines_atomic nw es (initF nw) f ⟨nw, [], rfl⟩ rfl (fun w hw => by cases hw) hne h
  exact ⟨hr, no_lost_wakeup f.s hr⟩

/-- every client call has returned, no task is queued, and if a destructor ran every worker has exited -/
def Complete (s : St) : Prop :=
  (∀ c, s.cpc c = .idle ∨ s.cpc c = .finished) ∧ s.queue = [] ∧ (s.stop = true → ∀ w, w < s.nw → s.wpc w = .exited)

/-- **Deadlock freedom**: in every reachable state of a pool with at least one worker that is not complete (a call has not
    returned, a task is queued, or a destructor waits for a worker) some event of the pool itself — not a wake-up, not
    the start of a new call — is enabled. -/
theorem deadlock_free (s : St) (hr : Reachable s) (hnw : 0 < s.nw) (hnc : ¬ Complete s) :
    ∃ e s', isWake e = false ∧ startsCall e = false ∧ step s e = some s' := by
  apply Classical.byContradiction
  intro hne
  apply hnc
  apply quiescent_complete s hr hnw
  intro e h1 h2
  cases hst : step s e with
  | none => rfl
  | some s' => exact absurd ⟨e, s', h1, h2, hst⟩ hne

/-- **Variant function** (liveness beyond `quiescent_complete`). `mu C T s` = Σ workers (`exited` 0, `sleeping` nw, `ready` /
    `running` nw+1) + Σ tasks below `T` (`queued` 2, `running` 1) + Σ client calls below `C` (`pushed` / `stopSet` nw+2,
    `waiting` / `joining` 1, sequential loop 2·(calls left) + 1 between calls). In every reachable state whose client calls
    and tasks have ids below `C`, `T`: every event that is not the start of a new client call keeps these bounds, strictly
    DECREASES `mu` unless it is a wake-up, and a wake-up (spurious or the one `notify_one` chose) raises it by exactly 1. -/
theorem progress_measure_decreases (C T : Nat) (s s' : St) (e : Ev) (hr : Reachable s) (hb : Bnd C T s)
    (hstart : startsCall e = false) (h : step s e = some s') :
    Bnd C T s' ∧ (isWake e = false → mu C T s' < mu C T s) ∧ (isWake e = true → mu C T s' = mu C T s + 1) := by
  obtain ⟨hi, _, _, hseq⟩ := reachable_invs s hr
  have hwake := sumTo_le_add s.nw 1 (fun v => wW s.nw (wake (s.wpc v))) (fun v => wW s.nw (s.wpc v)) fun i _ => wW_wake s.nw (s.wpc i)
  rw [Nat.mul_one] at hwake
  cases e with
  | cPush c ts all => cases hstart
  | dStop c => cases hstart
  | sStart c n => cases hstart
  | wTake w =>
    obtain ⟨hw, hpc, _, t, q, hq, rfl⟩ := step_wTake h
    have hts : s.ts t = .queued := (hi.q_iff t).mp (by rw [hq]; simp)
    have ht : t < T := bnd_ts_lt hb (by rw [hts]; nofun)
    refine of_not_wake rfl ⟨⟨hb.1, bnd_upd_ts hb ht _⟩, ?_⟩
    have a := sumTo_upd (wW s.nw) s.wpc w (.running t) s.nw hw
    have b := sumTo_upd tW s.ts t (.running w) T ht
    rw [hpc] at a; rw [hts] at b
    simp only [wW_ready, wW_running, tW_queued, tW_running] at a b
    simp only [mu, muOf]
    omega
  | wRunEnd w bb =>
    obtain ⟨hw, t, hpc, rfl⟩ := step_wRunEnd h
    have hts : s.ts t = .running w := (hi.run_iff t w).mpr ⟨hw, hpc⟩
    have ht : t < T := bnd_ts_lt hb (by rw [hts]; nofun)
    refine of_not_wake rfl ⟨⟨hb.1, bnd_upd_ts hb ht _⟩, ?_⟩
    have a := sumTo_upd (wW s.nw) s.wpc w .ready s.nw hw
    have b := sumTo_upd tW s.ts t .done T ht
    rw [hpc] at a; rw [hts] at b
    simp only [wW_ready, wW_running, tW_running, tW_done] at a b
    simp only [mu, muOf]
    omega
  | wSleep w =>
    obtain ⟨hw, hpc, _, _, rfl⟩ := step_wSleep h
    refine of_not_wake rfl ⟨hb, ?_⟩
    have a := sumTo_upd (wW s.nw) s.wpc w .sleeping s.nw hw
    rw [hpc] at a
    simp only [wW_ready, wW_sleeping] at a
    simp only [mu, muOf]
    omega
  | wWake w =>
    obtain ⟨hw, hpc, rfl⟩ := step_wWake h
    refine ⟨hb, nofun, fun _ => ?_⟩
    have a := sumTo_upd (wW s.nw) s.wpc w .ready s.nw hw
    rw [hpc] at a
    simp only [wW_ready, wW_sleeping] at a
    simp only [mu, muOf]
    omega
  | wExit w =>
    -- the exiting worker gives up `nw + 1`, the up to `nw - 1` others it wakes gain one each
    obtain ⟨hw, hpc, _, rfl⟩ := step_wExit h
    refine of_not_wake rfl ⟨⟨hb.1, fun t ht => by show drop (s.ts t) = .fresh; rw [hb.2 t ht]; rfl⟩, ?_⟩
    have a := sumTo_point s.nw w (fun v => wW s.nw (if v = w then .exited else wake (s.wpc v)))
      (fun v => wW s.nw (wake (s.wpc v))) hw (fun i hi => by simp [hi])
    have b := sumTo_le_add T 0 (fun t => tW (drop (s.ts t))) (fun t => tW (s.ts t)) (fun i _ => tW_drop (s.ts i))
    simp only [hpc, wake_ready, wW_ready, wW_exited, if_true] at a
    simp only [mu, muOf]
    omega
  | cNotify c w =>
    rcases step_cNotify h with ⟨ts, hpc, rfl⟩ | ⟨ts, v, hpc, _, hv, hvs, rfl⟩ | ⟨ts, hpc, _, _, rfl⟩ | ⟨hpc, rfl⟩
    · exact of_not_wake rfl (progress_client C T s c _ _ _ _ s.nw hb (by rw [hpc]; nofun) hwake (by rw [hpc]; simp [cW]; omega))
    · refine of_not_wake rfl (progress_client C T s c _ _ _ _ 1 hb (by rw [hpc]; nofun) ?_ (by rw [hpc]; simp [cW]; omega))
      have a := sumTo_upd (wW s.nw) s.wpc v .ready s.nw hv
      rw [hvs] at a
      simp only [wW_ready, wW_sleeping] at a
      omega
    · exact of_not_wake rfl (progress_client C T s c _ _ _ _ 0 hb (by rw [hpc]; nofun) (Nat.le_refl _) (by rw [hpc]; simp [cW]))
    · exact of_not_wake rfl (progress_client C T s c _ _ _ _ s.nw hb (by rw [hpc]; nofun) hwake (by rw [hpc]; simp [cW]; omega))
  | cReturn c =>
    obtain ⟨ts, hpc, _, rfl⟩ := step_cReturn h
    exact of_not_wake rfl (progress_client C T s c _ _ _ _ 0 hb (by rw [hpc]; nofun) (Nat.le_refl _) (by rw [hpc]; simp [cW]))
  | dJoined c =>
    obtain ⟨hpc, _, rfl⟩ := step_dJoined h
    exact of_not_wake rfl (progress_client C T s c _ _ _ _ 0 hb (by rw [hpc]; nofun) (Nat.le_refl _) (by rw [hpc]; simp [cW]))
  | sOpBegin c =>
    obtain ⟨n, i, err, hpc, hlt, rfl⟩ := step_sOpBegin h
    exact of_not_wake rfl (progress_client C T s c _ _ _ _ 0 hb (by rw [hpc]; nofun) (Nat.le_refl _) (by rw [hpc]; simp [cW]))
  | sOpEnd c bb =>
    obtain ⟨n, i, err, hpc, rfl⟩ := step_sOpEnd h
    have hlt : i < n := (hseq.seq_ok c n i true err hpc).2.1 rfl
    exact of_not_wake rfl (progress_client C T s c _ _ _ _ 0 hb (by rw [hpc]; nofun) (Nat.le_refl _)
      (by rw [hpc]; simp [cW]; omega))
  | sReturn c =>
    obtain ⟨n, err, hpc, rfl⟩ := step_sReturn h
    exact of_not_wake rfl (progress_client C T s c _ _ _ _ 0 hb (by rw [hpc]; nofun) (Nat.le_refl _) (by rw [hpc]; simp [cW]))

/-- a run without new client calls makes at most `mu + #wake-ups` events of the pool itself -/
theorem run_bounded (C T : Nat) : ∀ (es : List Ev) (s s' : St), Reachable s → Bnd C T s →
    (∀ e ∈ es, startsCall e = false) → run s es = some s' → others es + mu C T s' ≤ mu C T s + wakes es ∧ Bnd C T s'
  | [], s, s', _, hb, _, h => by
    simp [run] at h; subst h
    simp [others, wakes]; exact hb
  | e :: es, s, s', hr, hb, hns, h => by
    simp only [run] at h
    split at h
    · simp at h
    · rename_i s1 hs1
      obtain ⟨hb1, hdec, hinc⟩ := progress_measure_decreases C T s s1 e hr hb (hns e (by simp)) hs1
      obtain ⟨ih, hb'⟩ := run_bounded C T es s1 s' (reachable_step hr hs1) hb1 (fun e' he' => hns e' (by simp [he'])) h
      refine ⟨?_, hb'⟩
      simp only [others, wakes]
      cases hw : isWake e with
      | true => have := hinc hw; simp; omega
      | false => have := hdec hw; simp; omega

/-- Hence a run without new client calls makes at most `mu + (number of wake-ups)` steps of the pool itself: with finitely
    many spurious wake-ups every run stops, and by `deadlock_free` / `quiescent_complete` it can only stop in a complete
    state (every call returned, queue empty, after a destructor every worker exited). -/
theorem run_without_new_calls_bounded (C T : Nat) (es : List Ev) (s s' : St) (hr : Reachable s) (hb : Bnd C T s)
    (hns : ∀ e ∈ es, startsCall e = false) (h : run s es = some s') :
    others es + mu C T s' ≤ mu C T s + wakes es :=
  (run_bounded C T es s s' hr hb hns h).1

/-- The hypothesis `0 < nw` of `quiescent_complete` / `deadlock_free` is discharged for every pool the constructors can
    build: whatever number of threads is requested and whatever `hardware_concurrency()` answers, a run of the pool
    `pool_t(threads)` can only stop (nothing but wake-ups and new calls enabled) in a complete state. -/
theorem constructed_pool_quiescent_complete (threads hc : Nat) (es : List Ev) (s : St)
    (h : run (init (clampSize threads hc)) es = some s) (hq : Quiescent s) : Complete s := by
  have hnw : s.nw = clampSize threads hc := run_nw _ es s h
  exact quiescent_complete s ⟨_, es, h⟩ (by rw [hnw]; exact (pool_size_bounds threads hc).1) hq

/-! ### non-vacuity of the theorems on the refined models -/

/-- two workers, `map` of two tasks with `raise`, task 0 throws: `get()` rethrows, the destructor waits both futures, the
    exception of task 0 leaves `map` after task 1 finished -/
def sectionRun : List Ev2 :=
  [.base (.cPush 0 [0, 1] true), .base (.cNotify 0 none), .base (.wTake 0), .base (.wTake 1), .bBegin 0 true,
   .base (.wRunEnd 0 true), .bWait 0, .base (.wRunEnd 1 false), .dWait 0, .dWait 0, .exit 0]

example : ((run2 false (init2 2) sectionRun).map fun s => (s.spc 0, s.base.cpc 0, s.base.ts 0, s.base.ts 1, s.base.exec 1))
    = some (.out (some 0), .finished, .done, .done, 1) := by decide +kernel

/-- the state before the exit: its hypotheses (`Reachable2`, an enabled `exit`) are satisfiable -/
example : ∃ s s', Reachable2 s ∧ step2 false s (.exit 0) = some s' ∧ s.base.stop = false := by
  have h : (run2 false (init2 2) (sectionRun.take 10)).isSome = true := by decide +kernel
  obtain ⟨s, hs⟩ := Option.isSome_iff_exists.mp h
  have h2 : ((run2 false (init2 2) (sectionRun.take 10)).bind fun s => step2 false s (.exit 0)).isSome = true := by decide +kernel
  rw [hs] at h2
  obtain ⟨s', hs'⟩ := Option.isSome_iff_exists.mp h2
  have h3 : ((run2 false (init2 2) (sectionRun.take 10)).map fun s => s.base.stop) = some false := by decide +kernel
  rw [hs] at h3
  exact ⟨s, s', ⟨2, _, hs⟩, hs', by simpa using h3⟩

/-- the normal path: no exception, `block` waits both, the destructor waits both again, `map` returns -/
example : ((run2 false (init2 1) [.base (.cPush 0 [0, 1] true), .base (.cNotify 0 none), .base (.wTake 0), .bBegin 0 false,
      .base (.wRunEnd 0 true), .bWait 0, .base (.wTake 0), .base (.wRunEnd 0 false), .bWait 0, .bDone 0, .dWait 0, .dWait 0,
      .exit 0]).map fun s => (s.spc 0, s.base.cpc 0)) = some (.out none, .finished) := by decide +kernel

/-- the exit is not enabled while the destructor still has a future to wait; a future that is not ready cannot be waited -/
example : run2 false (init2 2) (sectionRun.take 8 ++ [.exit 0]) = none := by decide +kernel
example : run2 false (init2 2) (sectionRun.take 7 ++ [.dWait 0, .dWait 0]) = none := by decide +kernel

example : clampSize 0 8 = 1 ∧ clampSize 3 8 = 3 ∧ clampSize 40 8 = 8 ∧ defaultSize 8 = 8 ∧ maxSize 0 = 1 ∧ sizeFor 1000 0 = 1 := by
  decide +kernel

/-- an incomplete reachable state (a queued task, the worker still ready) -/
example : ∃ s, Reachable s ∧ 0 < s.nw ∧ ¬ Complete s := by
  have h : (run (init 1) [.cPush 0 [0] false]).isSome = true := by decide +kernel
  obtain ⟨s, hs⟩ := Option.isSome_iff_exists.mp h
  have h2 : ((run (init 1) [.cPush 0 [0] false]).map fun s => (s.nw, s.queue)) = some (1, [0]) := by decide +kernel
  rw [hs] at h2
  simp only [Option.map_some, Option.some.injEq, Prod.mk.injEq] at h2
  refine ⟨s, ⟨1, _, hs⟩, by omega, ?_⟩
  rintro ⟨_, hq, _⟩
  rw [hq] at h2; cases h2.2

/-- the measure along the tail of `demoRun` (after the `map` call was pushed): 2 workers, tasks 0 and 1, client 0 -/
example : ((run (init 2) (demoRun.take 2)).map fun s => mu 1 2 s) = some 13 ∧
    ((run (init 2) (demoRun.take 3)).map fun s => mu 1 2 s) = some 12 ∧
    ((run (init 2) (demoRun.take 4)).map fun s => mu 1 2 s) = some 10 ∧
    ((run (init 2) (demoRun.take 9)).map fun s => mu 1 2 s) = some 5 := by decide +kernel

/-- `Bnd` and the hypotheses of `progress_measure_decreases` are satisfiable -/
example : Bnd 0 0 (init 3) := ⟨fun _ _ => rfl, fun _ _ => rfl⟩

/-- a fine-grained run with the lock discipline: the worker evaluates its predicate, blocks, THEN the destructor gets the mutex -/
example : ((runF 1 (initF 1) [.predFalse 0, .block 0, .atom (.dStop 1), .atom (.cNotify 1 none), .atom (.wExit 0),
    .atom (.dJoined 1)]).map fun f => (f.s.wpc 0, f.s.cpc 1)) = some (.exited, .finished) := by decide +kernel

end NanoVerif.Pool
