import NanoVerif.Proofs.Split
import NanoVerif.Proofs.SplitSampler
import NanoVerif.Proofs.SplitBall
import NanoVerif.Proofs.SplitGen
/-!
  C12 — splitters and samplers return index sets with the promised set structure.

  Theorems about `Model/Split.lean` and `Model/SplitSampler.lean`. `std::shuffle`, `uniform_int_distribution` and the sort are
  oracles: every theorem holds for every permutation `perm` of the samples, every list of draws and every `sort` satisfying
  `SortSpec` (instantiated by `sortI_spec` for the merge sort that runs in the driver). `samples.Nodup` is the hypothesis
  "a list of distinct sample indices" of the property. Nothing is `_partial`.

  ## Gap table (every function of the anchored files)

  | C++ | status | Lean |
  |---|---|---|
  | splitter.cpp:7-12 `splitter_t::splitter_t` (registers folds, seed) | translated + modelled | `Gen.Splitter.*`, `Splitter.fresh`, `Splitter.set`, `paramsOk` |
  | splitter.cpp:14-27 `splitter_t::all` (factory, call_once) | outside (C19 owns the factories; the harness obtains every object through it) | — |
  | kfold.cpp:6-9 constructor | modelled | `Splitter.fresh .kfold` |
  | kfold.cpp:11-45 `kfold_splitter_t::split` | modelled + TRANSLATED (`Gen/SplitKFold.lean`: `trainPieces`, `validPieces`, `foldPair`, `split`; `model_kfold_*_is_generated`, `model_foldSplit_is_generated`, `gen_kfold_pieces_tile`) | `kfold`, `foldSplit`, `validBegin/End`, object level `Splitter.split`, `hStep` |
  | kfold.cpp:47-50 `clone` | modelled | `HCmd.clone` (`hist_clone_copies`) |
  | random.cpp:7-11 constructor (registers train_per) | translated + modelled | `Gen.Splitter.trainPer*`, `Splitter.set .trainPer` (random only) |
  | random.cpp:13-45 `random_splitter_t::split` | modelled + TRANSLATED (`Gen/SplitRandom.lean`: `outer0/1`, pieces, `loop`, `split`; `model_random_*_is_generated`, `model_splitter_split_is_generated`) | `trainSize` (through translated `Gen.idiv`), `randomPerms`, `randomSplit`, `Splitter.split` |
  | random.cpp:47-50 `clone` | modelled | `HCmd.clone` |
  | sampling.cpp:5-13 `sample_with_replacement(samples, count, rng)` | modelled + TRANSLATED (`Gen/SplitSampling.lean` `withBody/withDist/withGuards`; `model_withG_is_generated`) | `sampleWith`, `pick`, `withG` (generator threaded) |
  | sampling.cpp:21-33 `sample_with_replacement(samples, weights, count, rng)` | modelled, incl. the distribution; skeleton TRANSLATED (`weightedBody`, `model_wwithG_is_generated`) | `wwithG`, `ddCp`, `ddDraw`, `lowerBound` |
  | sampling.cpp:41-51 `sample_without_replacement(samples, count, rng)` | modelled + TRANSLATED (`withoutGuards/withoutBody`; `model_withoutG_is_generated`) | `sampleWithout`, `withoutG` |
  | sampling.cpp:15-19, 35-39, 53-57, 59-63, 75-79 overloads without a generator | outside: `make_rng()` reads `std::random_device`; their answers go to the property oracle (family `unseeded`) | — |
  | sampling.cpp:65-73, 81-100 `sample_from_ball(x0, radius[, x], rng)` | modelled; normal / uniform draws, `pow`, `lpNorm<2>` are oracles (`u`, `z`, `s`) | `ballPoint`, `distSq`, `ball_inside` |
  | random.cpp (core):6-17 `make_rng(seed)` | seeded branch modelled, branch condition + seed value TRANSLATED (`makeRngSeeded`, `model_make_rng_is_generated`); unseeded branch outside | `lcgSeed`, `lcgNext` |
  | gboost/sampler.cpp:7-15 constructor | modelled + TRANSLATED (`Gen/SplitGboost.lean` `weightsEmpty`; `model_sampler_make_is_generated`) | `Sampler.make` |
  | gboost/sampler.cpp:17-62 `sampler_t::sample` | TRANSLATED dispatch (`route`, `count`; `model_sampler_sample_is_generated`) + modelled: count, weights, the routine called per mode, the member generator | `Sampler.count`, `Sampler.newWeights`, `Sampler.sample`, `Sampler.run` |
  | numeric.h `idiv`, `iround` | translated | `Gen.idiv`, `Gen.iround` |
  | numeric.h `square`, `cube`, `quartic`, `close`, `roundpow10`, `epsilon*`, … | outside: not used by the anchored code | — |
  | libstdc++ `minstd_rand`, `generate_canonical<double,53>`, `discrete_distribution` | modelled as coded (gcc 12 `bits/random.tcc`) | `lcgNext`, `canonNum` / `canonical`, `accum`, `normalize`, `partialSums`, `setLast`, `ddCp`, `lbGo` |
  | libstdc++ `std::shuffle`, `uniform_int_distribution`, `std::sort`, `normal_distribution`, `std::pow` | oracle: contracts `StdLib.Ok`, `SortSpec`, hypotheses of `ball_inside`; monitored on every call by the driver (`isShuffleOf`, range of each draw) | — |
-/
namespace NanoVerif.Split

/-- the sort that runs in the driver satisfies the contract assumed of `std::sort` -/
theorem sortI_spec : SortSpec sortI := by
  refine ⟨fun l => ?_, fun l => List.mergeSort_perm l _⟩
  simpa [sortI] using List.pairwise_mergeSort (le := fun a b : Int => decide (a ≤ b))
    (by intro a b c; simp; exact Int.le_trans) (by intro a b; simp; exact Int.le_total a b) l

/-! ### k-fold -/

/-- `split` returns one pair per fold -/
theorem kfold_length (sort : List Int → List Int) (perm : List Int) (folds : Nat) :
    (kfold sort perm folds).length = folds := by
  simp [kfold]

/-- Every `(train, valid)` pair of k-fold is strictly sorted, disjoint, and together exactly the input. -/
theorem kfold_pair (sort : List Int → List Int) (hs : SortSpec sort) (samples perm : List Int)
    (hnd : samples.Nodup) (hp : perm.Perm samples) (folds : Nat) :
    ∀ p ∈ kfold sort perm folds, GoodPair samples p := by
  intro p hmem
  obtain ⟨f, hf, rfl⟩ := List.mem_map.mp hmem
  exact goodPair_of_pieces hs hnd hp
    (outside_inside_perm perm _ _ (validBegin_le_validEnd perm.length folds f (List.mem_range.mp hf)))

/-- The `folds` validation parts partition the input: in order they are a permutation of the samples, two different
    folds share no index, all but the last have `n / folds` elements, the last has the remaining
    `n - (folds-1)·(n/folds) = n/folds + n mod folds`, so the sizes differ by `n mod folds < folds`. -/
theorem kfold_partition (sort : List Int → List Int) (hs : SortSpec sort) (samples perm : List Int)
    (hnd : samples.Nodup) (hp : perm.Perm samples) (folds : Nat) (hpos : 0 < folds) :
    let V := fun f => (foldSplit sort perm folds f).2
    let n := samples.length
    ((List.range folds).flatMap V).Perm samples ∧
    (∀ f g, f < folds → g < folds → f ≠ g → ∀ x ∈ V f, x ∉ V g) ∧
    (∀ f, f + 1 < folds → (V f).length = n / folds) ∧
    (V (folds - 1)).length = n - (folds - 1) * (n / folds) ∧
    (V (folds - 1)).length = n / folds + n % folds ∧ n % folds < folds := by
  intro V n
  have hn : perm.length = n := hp.length_eq
  have hV : ∀ f, (V f).length = (validSlice perm folds f).length := fun f => hs.length _
  -- sorting each slice changes neither the concatenation as a multiset nor the sizes; the slices tile `perm`
  have hflat : ((List.range folds).flatMap V).Perm perm := by
    rw [← flatMap_validSlice perm folds hpos]
    exact List.Perm.flatMap_left _ fun f _ => hs.perm _
  have hpw := (List.nodup_flatMap.mp ((hflat.trans hp).nodup_iff.mpr hnd)).2
  refine ⟨hflat.trans hp, fun f g hf hg hne x hxf hxg => ?_, fun f hf => ?_, ?_, ?_, Nat.mod_lt _ hpos⟩
  · -- `range folds` lists the folds in increasing order, so pairwise along the list is pairwise for any two folds
    have hdisj : ∀ a b, a < b → b < folds → List.Disjoint (V a) (V b) := fun a b hab hb => by
      have := List.pairwise_iff_getElem.mp hpw a b (by rw [List.length_range]; omega) (by rw [List.length_range]; exact hb) hab
      simpa only [List.getElem_range] using this
    rcases Nat.lt_or_gt_of_ne hne with h | h
    · exact hdisj f g h hg hxf hxg
    · exact hdisj g f h hf hxg hxf
  · rw [hV, validSlice_length_of_lt perm hf, hn]
  · rw [hV, validSlice_length_last perm folds hpos, hn]
  · rw [hV, validSlice_length_last perm folds hpos, hn, sub_pred_mul_div n hpos]

/-! ### repeated random sub-sampling -/

/-- Every `(train, valid)` pair of the random splitter is strictly sorted, disjoint, and together exactly the input
    (for every sequence of shuffles). -/
theorem random_pair (sort : List Int → List Int) (hs : SortSpec sort) (samples : List Int) (perms : List (List Int))
    (hnd : samples.Nodup) (hp : ∀ q ∈ perms, q.Perm samples) (trainPer : Nat) :
    ∀ p ∈ randomSplit sort perms trainPer, GoodPair samples p := by
  intro p hmem
  obtain ⟨q, hq, rfl⟩ := List.mem_map.mp hmem
  refine goodPair_of_pieces hs hnd (hp q hq) ?_
  rw [List.take_of_length_le (Nat.le_of_eq List.length_drop), List.take_append_drop]

/-- The training part has `idiv(train_per·n, 100) = ⌊(train_per·n + 50)/100⌋` elements — `train_per·n/100` rounded to the
    nearest integer, halves up — for every admissible `train_per` (domain translated from random.cpp), and the validation
    part has the other `n - train_size`. -/
theorem random_train_size (sort : List Int → List Int) (hs : SortSpec sort) (perms : List (List Int)) (trainPer n : Nat)
    (htp : trainPerOk trainPer = true) (hlen : ∀ q ∈ perms, q.length = n) :
    trainSize trainPer n = (trainPer * n + 50) / 100 ∧
    (100 * trainSize trainPer n ≤ trainPer * n + 50 ∧ trainPer * n + 50 < 100 * trainSize trainPer n + 100) ∧
    trainSize trainPer n ≤ n ∧
    ∀ p ∈ randomSplit sort perms trainPer,
      p.1.length = trainSize trainPer n ∧ p.2.length = n - trainSize trainPer n := by
  have heq := trainSize_eq trainPer n
  have hle100 : trainPer ≤ 100 := by
    simp only [trainPerOk, Bool.and_eq_true, decide_eq_true_eq] at htp
    exact htp.2.trans (by decide)
  have hts : trainSize trainPer n ≤ n := by
    have := Nat.mul_le_mul_right n hle100
    omega
  refine ⟨heq, by omega, hts, ?_⟩
  intro p hmem
  obtain ⟨q, hq, rfl⟩ := List.mem_map.mp hmem
  simp only [randomFold, hs.length, List.length_take, List.length_drop, hlen q hq]
  omega

/-- The shuffles of the random splitter (one generator, the samples shuffled in place once per fold) are `folds`
    permutations of the input, whatever the generator does, as long as every shuffle returns a permutation. -/
theorem randomPerms_perm {G : Type} (shuffle : G → List Int → List Int × G)
    (hsh : ∀ g l, (shuffle g l).1.Perm l) :
    ∀ (k : Nat) (g : G) (l : List Int),
      (randomPerms shuffle g l k).length = k ∧ ∀ q ∈ randomPerms shuffle g l k, q.Perm l :=
  fun k g l => ⟨randomPerms_length shuffle k g l, randomPerms_forall shuffle (·.Perm ·) .trans hsh k g l⟩

/-- The splits are a function of (samples, folds, train_per, the generator seeded by `seed`): equal seeds give equal
    splits, for every seeding function and every shuffle that is a function of the generator state. -/
theorem split_deterministic {G : Type} (sort : List Int → List Int) (seedRng : Nat → G)
    (shuffle : G → List Int → List Int × G) (samples : List Int) (folds trainPer seed1 seed2 : Nat)
    (h : seed1 = seed2) :
    kfold sort (shuffle (seedRng seed1) samples).1 folds = kfold sort (shuffle (seedRng seed2) samples).1 folds ∧
    randomSplit sort (randomPerms shuffle (seedRng seed1) samples folds) trainPer =
      randomSplit sort (randomPerms shuffle (seedRng seed2) samples folds) trainPer := by
  subst h; exact ⟨rfl, rfl⟩

/-! ### samplers -/

/-- Sampling without replacement returns `count` distinct (strictly sorted) members of the input. -/
theorem without_replacement_spec (sort : List Int → List Int) (hs : SortSpec sort) (samples perm : List Int)
    (hnd : samples.Nodup) (hp : perm.Perm samples) (count : Nat) (r : List Int)
    (h : sampleWithout sort perm count = some r) :
    r.length = count ∧ r.Pairwise (· < ·) ∧ ∀ x ∈ r, x ∈ samples := by
  obtain ⟨hc, rfl⟩ := sampleWithout_eq_some.mp h
  have hsub := List.take_sublist count perm
  exact ⟨by rw [hs.length, List.length_take]; omega, hs.strict ((hp.nodup_iff.mpr hnd).sublist hsub),
    fun x hx => hp.mem_iff.mp (hsub.subset (hs.mem.mp hx))⟩

/-- … and answers exactly when `assert(count <= samples.size())` holds. -/
theorem without_replacement_guard (sort : List Int → List Int) (perm : List Int) (count : Nat) :
    sampleWithout sort perm count = none ↔ perm.length < count := by
  unfold sampleWithout
  split <;> simp <;> omega

/-- Sampling with replacement returns `count` sorted members of the input. -/
theorem with_replacement_spec (sort : List Int → List Int) (hs : SortSpec sort) (samples : List Int)
    (count : Nat) (draws : List Nat) (r : List Int) (h : sampleWith sort samples count draws = some r) :
    r.length = count ∧ r.Pairwise (· ≤ ·) ∧ ∀ x ∈ r, x ∈ samples := by
  obtain ⟨hc, xs, hpk, rfl⟩ := sampleWith_eq_some h
  obtain ⟨hl, hm⟩ := pick_spec samples draws xs hpk
  refine ⟨by rw [hs.length, hl, hc], hs.sorted xs, fun x hx => ?_⟩
  obtain ⟨d, _, hd⟩ := hm x (hs.mem.mp hx)
  exact List.mem_of_getElem? hd

/-- … and answers exactly when it is given `count` draws that are positions of the input. -/
theorem with_replacement_guard (sort : List Int → List Int) (samples : List Int) (count : Nat) (draws : List Nat) :
    (sampleWith sort samples count draws).isSome ↔ draws.length = count ∧ ∀ d ∈ draws, d < samples.length := by
  unfold sampleWith
  split <;> simp [pick_isSome, *]

/-- Weighted sampling never returns an index of zero weight — *given* the contract of `std::discrete_distribution`
    (`DrawsPositive`: every drawn position has a positive weight; an explicit hypothesis, checked by the driver on every
    generated case, not a result). With distinct samples, every position holding a returned index has positive weight. -/
theorem weighted_never_zero {α : Type} [LT α] [OfNat α 0] (sort : List Int → List Int) (hs : SortSpec sort)
    (samples : List Int) (weights : List α) (count : Nat) (draws : List Nat) (r : List Int)
    (hnd : samples.Nodup) (hc : DrawsPositive weights draws)
    (h : sampleWith sort samples count draws = some r) :
    ∀ x ∈ r, ∀ (i : Nat) (w : α), samples[i]? = some x → weights[i]? = some w → 0 < w := by
  intro x hx i w hi hw
  obtain ⟨-, xs, hpk, rfl⟩ := sampleWith_eq_some h
  obtain ⟨d, hd, hdx⟩ := (pick_spec samples draws xs hpk).2 x (hs.mem.mp hx)
  obtain ⟨w', hw', hpos⟩ := hc d hd
  -- distinct samples: the position holding `x` is the drawn one
  obtain rfl : i = d := (List.getElem?_inj (List.getElem?_eq_some_iff.mp hi).1 hnd).mp (hi.trans hdx.symm)
  exact Option.some.inj (hw.symm.trans hw') ▸ hpos

/-- The gboost sampler: `off` returns the samples unchanged, `subsample` `count` distinct sorted members, the three
    bootstrap modes `count` sorted members; in every mode only members of the input are returned. -/
theorem gboost_spec (sort : List Int → List Int) (hs : SortSpec sort) (mode : Mode) (samples perm : List Int)
    (hnd : samples.Nodup) (hp : perm.Perm samples) (count : Nat) (draws : List Nat) (r : List Int)
    (h : gboostSample sort mode samples count perm draws = some r) :
    (∀ x ∈ r, x ∈ samples) ∧ (mode = .off → r = samples) ∧ (mode ≠ .off → r.length = count ∧ r.Pairwise (· ≤ ·)) ∧
    (mode = .subsample → r.Pairwise (· < ·)) := by
  cases mode <;> simp only [gboostSample] at h
  · cases h; simp
  · obtain ⟨h1, h2, h3⟩ := without_replacement_spec sort hs samples perm hnd hp count r h
    exact ⟨h3, by simp, fun _ => ⟨h1, h2.imp (fun h => Int.le_of_lt h)⟩, fun _ => h2⟩
  all_goals
    obtain ⟨h1, h2, h3⟩ := with_replacement_spec sort hs samples count draws r h
    exact ⟨h3, by simp, fun _ => ⟨h1, h2⟩, by simp⟩

/-! ### ball -/

/-- Exact arithmetic: with `s = ‖u‖₂ > 0` (`s·s = Σu²`), `0 ≤ z ≤ 1` and `r ≥ 0` the point `x0 + r·z·u/s` is at
    squared distance exactly `(r·z)² ≤ r²` from `x0`: it lies inside the ball. -/
theorem ball_inside {α : Type} [Field α] [LinearOrder α] [IsStrictOrderedRing α] (x0 u : List α) (r z s : α)
    (hlen : u.length = x0.length) (hs : s * s = sumSq u) (hspos : 0 < s) (hr : 0 ≤ r) (hz0 : 0 ≤ z) (hz1 : z ≤ 1) :
    distSq (ballPoint x0 u r z s) x0 = (r * z) * (r * z) ∧ distSq (ballPoint x0 u r z s) x0 ≤ r * r := by
  have heq : distSq (ballPoint x0 u r z s) x0 = (r * z) * (r * z) := by
    rw [distSq_ballPoint r z s x0 u hlen, ← hs, mul_mul_mul_comm, div_mul_cancel₀ _ hspos.ne']
  exact ⟨heq, heq ▸ mul_self_le_mul_self (mul_nonneg hr hz0) (mul_le_of_le_one_right hr hz1)⟩

/-- The same with rounding made explicit: if the binary64 answer differs from the exact point by `eₖ` in coordinate `k` and
    `‖e‖₂ ≤ E`, it is within `r + E` of the centre. The python oracle uses `E = √Σ(ulp(xₖ)/2 + 2⁻¹⁰⁷³)²` (the rounding of
    `x0ₖ + dₖ`: of the size `ulp(‖x0‖)`, independent of the radius) on top of the radius widened by `(n+8)·2⁻⁵³` (the rounding
    of `dₖ` itself). -/
theorem ball_inside_rounded {α : Type} [Field α] [LinearOrder α] [IsStrictOrderedRing α] (x0 u e : List α) (r z s E : α)
    (hlen : u.length = x0.length) (hel : e.length = x0.length) (hs : s * s = sumSq u) (hspos : 0 < s) (hr : 0 ≤ r)
    (hz0 : 0 ≤ z) (hz1 : z ≤ 1) (hE : 0 ≤ E) (he : sumSq e ≤ E * E) :
    distSq (List.zipWith (fun a b => a + b) (ballPoint x0 u r z s) e) x0 ≤ (r + E) * (r + E) := by
  have hbl : (ballPoint x0 u r z s).length = x0.length := by simp [ballPoint, hlen]
  rw [distSq_add _ e x0 hbl hel]
  refine sumSq_add_le _ e (by simp [hbl, hel]) r E hr hE ?_ he
  exact (ball_inside x0 u r z s hlen hs hspos hr hz0 hz1).2

/-! ## the objects (generator threaded through), the discrete distribution, the edge cases -/

/-! ### `sampling.cpp` edge cases -/

/-- All samples asked (`count = n`): the answer is the sorted input, whatever the shuffle did — for unsorted inputs and inputs
    with repeated values too (a seeded change returned the unsorted copy on this path). -/
theorem without_full_is_sorted_input (sort : List Int → List Int) (hs : SortSpec sort) (samples perm : List Int)
    (hp : perm.Perm samples) : sampleWithout sort perm samples.length = some (sortI samples) := by
  unfold sampleWithout
  rw [if_pos (by rw [hp.length_eq]), ← hp.length_eq, List.take_length, hs.eq_of_perm sortI_spec hp]

/-- Without the hypothesis "distinct": `count` sorted values, none more often than the input holds it (a sub-multiset). -/
theorem without_replacement_submultiset (sort : List Int → List Int) (hs : SortSpec sort) (samples perm : List Int)
    (hp : perm.Perm samples) (count : Nat) (r : List Int) (h : sampleWithout sort perm count = some r) :
    r.length = count ∧ r.Pairwise (· ≤ ·) ∧ r.Subperm samples := by
  obtain ⟨hc, rfl⟩ := sampleWithout_eq_some.mp h
  exact ⟨by rw [hs.length, List.length_take]; omega, hs.sorted _,
    (hs.perm _).subperm_right.mpr ((List.take_sublist count perm).subperm.trans hp.subperm)⟩

/-- `count = 0`: both samplers answer the empty selection (nothing is read from the samples, which may be empty). -/
theorem sampling_zero (sort : List Int → List Int) (hs : SortSpec sort) (samples perm : List Int) :
    sampleWithout sort perm 0 = some [] ∧ sampleWith sort samples 0 [] = some [] := by
  have h0 : sort [] = [] := List.Perm.eq_nil (hs.perm [])
  constructor
  · simp [sampleWithout, h0]
  · simp [sampleWith, pick, h0]

/-! ### the weighted draw -/

/-- **Weighted sampling never returns an index of zero weight — for the model of the code that draws** (`minstd_rand` →
    `generate_canonical` → libstdc++ `discrete_distribution` → `samples(position)` → sort), in exact arithmetic, with NO
    contract assumed of the distribution: weights non-negative, one per sample, positive sum; canonical draws in `(0, 1]`
    (`CanonOk`; for `minstd_rand` see `canonNum_pos`, `canonNum_lt`). The answer exists, has `count` sorted members, and every
    position holding a returned index has positive weight. -/
theorem weighted_never_zero_model {G α : Type} [Field α] [LinearOrder α] [IsStrictOrderedRing α]
    (L : StdLib G α) (hc : L.CanonOk) (sort : List Int → List Int) (hs : SortSpec sort)
    (samples : List Int) (weights : List α) (count : Nat) (g : G)
    (hnd : samples.Nodup) (hlen : weights.length = samples.length) (hw : ∀ x ∈ weights, 0 ≤ x) (hS : 0 < weights.sum) :
    ∃ r, (wwithG L sort samples weights count g).1 = some r ∧ r.length = count ∧ r.Pairwise (· ≤ ·) ∧
      (∀ x ∈ r, x ∈ samples) ∧
      ∀ x ∈ r, ∀ (i : Nat) (w : α), samples[i]? = some x → weights[i]? = some w → 0 < w := by
  have hall : DrawsPositive weights (drawsG (ddDrawG L (ddCp weights).toArray) count g).1 :=
    drawsG_forall _ (fun d => ∃ w, weights[d]? = some w ∧ 0 < w) (ddDrawG_positive L hc weights hw hS) count g
  have hrange : ∀ d ∈ (drawsG (ddDrawG L (ddCp weights).toArray) count g).1, d < samples.length := by
    intro d hd
    obtain ⟨w, hw', _⟩ := hall d hd
    exact hlen ▸ (List.getElem?_eq_some_iff.mp hw').1
  obtain ⟨r, hr⟩ := Option.isSome_iff_exists.mp
    ((with_replacement_guard sort samples count _).mpr ⟨drawsG_length _ count g, hrange⟩)
  obtain ⟨h1, h2, h3⟩ := with_replacement_spec sort hs samples count _ r hr
  exact ⟨r, hr, h1, h2, h3, weighted_never_zero sort hs samples weights count _ r hnd hall hr⟩

/-- What the code does where the property has no valid answer (all-zero weights, a NaN weight: the cumulative table is NaN
    closed by 1 and no comparison `cp[i] < u` succeeds): every draw is position 0, the answer is `count` copies of the FIRST
    sample. This is why `0 < Σ weights` cannot be dropped from `weighted_never_zero_model` (replayed on the real code: corpus
    line `split wwith … all-zero`). -/
theorem weighted_no_comparison_first_sample {G α : Type} [Add α] [Div α] [LT α] [DecidableLT α] [OfNat α 0] [OfNat α 1]
    (L : StdLib G α) (sort : List Int → List Int) (hs : SortSpec sort) (samples : List Int) (weights : List α)
    (count : Nat) (g : G) (x0 : Int) (h0 : samples[0]? = some x0)
    (hnan : ∀ g' i, decide ((ddCp weights).toArray.getD i 0 < (L.canon g').1) = false) :
    (wwithG L sort samples weights count g).1 = some (List.replicate count x0) := by
  have hd : ∀ g', (ddDrawG L (ddCp weights).toArray g').1 = 0 := by
    intro g'
    unfold ddDrawG
    split
    · rfl
    · exact lowerBound_all_false _ _ (fun i _ => hnan g' i)
  unfold wwithG
  simp only [drawsG_const _ 0 hd count g, sampleWith, List.length_replicate, if_true,
    pick_replicate_zero samples x0 h0 count, Option.map_some, hs.replicate]

/-! ### `gboost::sampler_t` -/

section sampler
variable {G α : Type} [Field α] [LinearOrder α] [IsStrictOrderedRing α]

/-- The guard of `sample_without_replacement` (`assert(count <= samples.size())`, compiled out in release builds) is
    established by the caller for every admissible ratio (`gboost::subsample_ratio ∈ (0, 1]`). -/
theorem sampler_count_le (N : Num α) (hN : N.Ok) (s : Sampler G α) (h1 : s.ratio ≤ 1) :
    s.count N ≤ s.samples.length := by
  exact hN.trunc_le _ _ (mul_le_of_le_one_left (hN.ofNat_nonneg _) h1)

set_option linter.unusedSectionVars false
/-- the weights of the two weighted modes are exactly the per-sample loss / the 2-norm of the per-sample gradient, in the
    order of the samples; the other modes do not touch the buffer -/
theorem sampler_weights_formula (N : Num α) (s : Sampler G α) (loss : Int → α) (grad : Int → List α) :
    (s.mode = .weiLoss → s.newWeights N loss grad = s.samples.map loss) ∧
    (s.mode = .weiGrad → s.newWeights N loss grad = s.samples.map (fun i => N.norm2 (grad i))) ∧
    (s.mode ≠ .weiLoss → s.mode ≠ .weiGrad → s.newWeights N loss grad = s.weights) := by
  unfold Sampler.newWeights
  cases s.mode <;> simp

/-- `off`: the samples, unchanged and in the caller's order; the object does not change. -/
theorem sampler_off_spec (N : Num α) (L : StdLib G α) (sort : List Int → List Int) (s : Sampler G α)
    (loss : Int → α) (grad : Int → List α) (hm : s.mode = .off) :
    s.sample N L sort loss grad = (some s.samples, s) := by
  unfold Sampler.sample; rw [hm]

/-- `subsample`: `count = trunc(ratio·n)` distinct sorted members (the answer exists for every admissible ratio), one
    `std::shuffle` is consumed. -/
theorem sampler_subsample_spec (N : Num α) (hN : N.Ok) (L : StdLib G α) (hL : L.Ok) (sort : List Int → List Int)
    (hs : SortSpec sort) (s : Sampler G α) (loss : Int → α) (grad : Int → List α) (hm : s.mode = .subsample)
    (hnd : s.samples.Nodup) (h1 : s.ratio ≤ 1) :
    ∃ r, (s.sample N L sort loss grad).1 = some r ∧ r.length = s.count N ∧ r.Pairwise (· < ·) ∧ (∀ x ∈ r, x ∈ s.samples) ∧
      (s.sample N L sort loss grad).2 = { s with rng := (L.shuffle s.rng s.samples).2 } := by
  have hperm := hL.shuffle_perm s.rng s.samples
  have hr : sampleWithout sort (L.shuffle s.rng s.samples).1 (s.count N) = some _ :=
    sampleWithout_eq_some.mpr ⟨hperm.length_eq ▸ sampler_count_le N hN s h1, rfl⟩
  obtain ⟨a, b, c⟩ := without_replacement_spec sort hs s.samples _ hnd hperm (s.count N) _ hr
  unfold Sampler.sample
  rw [hm]
  exact ⟨_, hr, a, b, c, rfl⟩

/-- `bootstrap`: `count` sorted members (repetitions allowed), `count` uniform draws are consumed. -/
theorem sampler_bootstrap_spec (N : Num α) (L : StdLib G α) (hL : L.Ok) (sort : List Int → List Int)
    (hs : SortSpec sort) (s : Sampler G α) (loss : Int → α) (grad : Int → List α) (hm : s.mode = .bootstrap)
    (hne : s.samples ≠ []) :
    ∃ r, (s.sample N L sort loss grad).1 = some r ∧ r.length = s.count N ∧ r.Pairwise (· ≤ ·) ∧ (∀ x ∈ r, x ∈ s.samples) := by
  have hpos : 0 < s.samples.length := List.length_pos_iff.mpr hne
  have hrange : ∀ d ∈ (drawsG (fun g => L.uniform g (s.samples.length - 1)) (s.count N) s.rng).1, d < s.samples.length :=
    drawsG_forall _ (fun d => d < s.samples.length) (fun g => by have := hL.uniform_le g (s.samples.length - 1); omega) _ _
  obtain ⟨r, hr⟩ := Option.isSome_iff_exists.mp
    ((with_replacement_guard sort s.samples (s.count N) _).mpr ⟨drawsG_length _ _ _, hrange⟩)
  obtain ⟨a, b, c⟩ := with_replacement_spec sort hs s.samples _ _ r hr
  unfold Sampler.sample
  rw [hm]
  exact ⟨r, hr, a, b, c⟩

/-- `wei_loss_bootstrap` / `wei_grad_bootstrap`: the weights are the losses / gradient norms; when they are non-negative
    with a positive sum the answer exists, has `count` sorted members and never holds a sample of zero weight; the object
    keeps the weights it computed. -/
theorem sampler_weighted_spec (N : Num α) (L : StdLib G α) (hc : L.CanonOk) (sort : List Int → List Int)
    (hs : SortSpec sort) (s : Sampler G α) (loss : Int → α) (grad : Int → List α)
    (hm : s.mode = .weiLoss ∨ s.mode = .weiGrad) (hnd : s.samples.Nodup)
    (hw : ∀ x ∈ s.newWeights N loss grad, 0 ≤ x) (hS : 0 < (s.newWeights N loss grad).sum) :
    ∃ r, (s.sample N L sort loss grad).1 = some r ∧ r.length = s.count N ∧ r.Pairwise (· ≤ ·) ∧ (∀ x ∈ r, x ∈ s.samples) ∧
      (∀ x ∈ r, ∀ (i : Nat) (w : α), s.samples[i]? = some x → (s.newWeights N loss grad)[i]? = some w → 0 < w) ∧
      (s.sample N L sort loss grad).2.weights = s.newWeights N loss grad := by
  have hlen : (s.newWeights N loss grad).length = s.samples.length := by
    rcases hm with h | h <;> simp only [Sampler.newWeights, h, List.length_map]
  obtain ⟨r, h1, h2, h3, h4, h5⟩ :=
    weighted_never_zero_model L hc sort hs s.samples (s.newWeights N loss grad) (s.count N) s.rng hnd hlen hw hS
  unfold Sampler.sample
  rcases hm with h | h
  · rw [h]
    exact ⟨r, h1, h2, h3, h4, h5, rfl⟩
  · rw [h]
    exact ⟨r, h1, h2, h3, h4, h5, rfl⟩

/-- All five modes at once (what `gboost_spec` says of the core routine, for the object with the count, the weights and the
    generator inside): any answer holds members of the input only; `off` is the input itself; the other modes give `count`
    sorted indices, strictly increasing for `subsample`. -/
theorem sampler_mode_spec (N : Num α) (L : StdLib G α) (hL : L.Ok) (sort : List Int → List Int) (hs : SortSpec sort)
    (s : Sampler G α) (loss : Int → α) (grad : Int → List α) (hnd : s.samples.Nodup) (r : List Int)
    (h : (s.sample N L sort loss grad).1 = some r) :
    (∀ x ∈ r, x ∈ s.samples) ∧ (s.mode = .off → r = s.samples) ∧
    (s.mode ≠ .off → r.length = s.count N ∧ r.Pairwise (· ≤ ·)) ∧ (s.mode = .subsample → r.Pairwise (· < ·)) := by
  obtain ⟨draws, hd⟩ := Sampler.sample_fst N L sort s loss grad
  exact gboost_spec sort hs s.mode s.samples _ hnd (hL.shuffle_perm s.rng s.samples) (s.count N) draws r (hd ▸ h)

/-- the configuration of the object never changes, and neither the answer nor the generator depend on what the weight buffer
    held before the call (it is overwritten before it is read) -/
theorem sampler_sample_frame (N : Num α) (L : StdLib G α) (sort : List Int → List Int) (s : Sampler G α)
    (loss : Int → α) (grad : Int → List α) (buf : List α) :
    (s.sample N L sort loss grad).2.samples = s.samples ∧ (s.sample N L sort loss grad).2.mode = s.mode ∧
    (s.sample N L sort loss grad).2.ratio = s.ratio ∧
    ({ s with weights := buf }.sample N L sort loss grad).1 = (s.sample N L sort loss grad).1 ∧
    ({ s with weights := buf }.sample N L sort loss grad).2.rng = (s.sample N L sort loss grad).2.rng := by
  unfold Sampler.sample Sampler.count Sampler.newWeights
  cases hm : s.mode <;> simp [hm]

/-- consecutive calls: one answer per call, the configuration is that of the constructor; two objects built from equal
    arguments give equal answers (the object is a function of its constructor arguments and its call history) -/
theorem sampler_run_spec (N : Num α) (L : StdLib G α) (sort : List Int → List Int) :
    ∀ (calls : List ((Int → α) × (Int → List α))) (s : Sampler G α),
      (Sampler.run N L sort s calls).1.length = calls.length ∧
      (Sampler.run N L sort s calls).2.samples = s.samples ∧ (Sampler.run N L sort s calls).2.mode = s.mode ∧
      (Sampler.run N L sort s calls).2.ratio = s.ratio
  | [], s => by simp [Sampler.run]
  | c :: cs, s => by
    obtain ⟨a, b, c', d⟩ := sampler_run_spec N L sort cs (s.sample N L sort c.1 c.2).2
    obtain ⟨f1, f2, f3, _⟩ := sampler_sample_frame N L sort s c.1 c.2 []
    simp only [Sampler.run, List.length_cons, a, b, c', d, f1, f2, f3, and_self]

end sampler

/-! ### splitter objects: the parameters are the only state -/

/-- `parameter(name) = value` succeeds exactly inside the registered domain (and, for `train_per`, on the random splitter
    only), changes that one value and keeps the domains; a refused value changes nothing (`none`: the object is kept). -/
theorem splitter_set_spec (s : Splitter) (p : PName) (v : Int) (hok : s.Ok) :
    (∀ s', s.set p v = some s' → s'.Ok ∧ s'.kind = s.kind ∧
      (p = .folds → s' = { s with folds := v.toNat }) ∧ (p = .seed → s' = { s with seed := v.toNat }) ∧
      (p = .trainPer → s' = { s with trainPer := v.toNat })) ∧
    (p = .seed → ((s.set p v).isSome ↔ (Int.ofNat Gen.Splitter.seedMin ≤ v ∧ v ≤ Int.ofNat Gen.Splitter.seedMax))) ∧
    (p = .folds → ((s.set p v).isSome ↔ (Int.ofNat Gen.Splitter.foldsMin ≤ v ∧ v ≤ Int.ofNat Gen.Splitter.foldsMax))) ∧
    (p = .trainPer → ((s.set p v).isSome ↔
      (s.kind = .random ∧ Int.ofNat Gen.Splitter.trainPerMin ≤ v ∧ v ≤ Int.ofNat Gen.Splitter.trainPerMax))) := by
  obtain ⟨hf1, hf2, hs1, hs2, ht1, ht2⟩ := (Splitter.ok_iff s).mp hok
  -- per name `set` is `if v ∈ domain then some (s with that field := v) else none`; the new value is inside its domain,
  -- the other two are those of `s`
  cases p <;> simp only [Splitter.set, Option.ite_some_none_eq_some]
  · refine ⟨?_, nofun, fun _ => Option.isSome_ite, nofun⟩
    rintro _ ⟨hv, rfl⟩
    obtain ⟨v1, v2⟩ := toNat_mem_domain hv
    exact ⟨(Splitter.ok_iff _).mpr ⟨v1, v2, hs1, hs2, ht1, ht2⟩, rfl, fun _ => rfl, nofun, nofun⟩
  · refine ⟨?_, fun _ => Option.isSome_ite, nofun, nofun⟩
    rintro _ ⟨hv, rfl⟩
    obtain ⟨v1, v2⟩ := toNat_mem_domain hv
    exact ⟨(Splitter.ok_iff _).mpr ⟨hf1, hf2, v1, v2, ht1, ht2⟩, rfl, nofun, fun _ => rfl, nofun⟩
  · refine ⟨?_, nofun, nofun, fun _ => Option.isSome_ite⟩
    rintro _ ⟨hv, rfl⟩
    obtain ⟨v1, v2⟩ := toNat_mem_domain hv.2
    exact ⟨(Splitter.ok_iff _).mpr ⟨hf1, hf2, hs1, hs2, v1, v2⟩, rfl, nofun, nofun, fun _ => rfl⟩

/-- changing the seed and restoring it restores the object -/
theorem splitter_seed_restore (s s1 : Splitter) (v : Int) (hok : s.Ok) (h : s.set .seed v = some s1) :
    s1.set .seed (Int.ofNat s.seed) = some s := by
  obtain ⟨-, -, hs1, hs2, -, -⟩ := (Splitter.ok_iff s).mp hok
  simp only [Splitter.set, Option.ite_some_none_eq_some] at h
  obtain ⟨-, rfl⟩ := h
  simp only [Splitter.set, Int.ofNat_eq_natCast, Int.toNat_natCast]
  exact if_pos ⟨by omega, by omega⟩

variable {G : Type} (seedRng : Nat → G) (shuffle : G → List Int → List Int × G) (sort : List Int → List Int)

/-- `split` is const: the objects after the call are the objects before it; its answer is `Splitter.split` of the parameter
    values in force — a function of (kind, folds, seed, train_per, samples) and nothing else. -/
theorem hist_split_function (objs : List Splitter) (slot : Nat) (samples : List Int) (s : Splitter) (h : objs[slot]? = some s) :
    hStep seedRng shuffle sort objs (.split slot samples) = (.splits (s.split seedRng shuffle sort samples), objs) := by
  simp [hStep, h]

/-- a clone is a new object with the parameter values of the source, the source is kept -/
theorem hist_clone_copies (objs : List Splitter) (slot : Nat) (s : Splitter) (h : objs[slot]? = some s) :
    (hStep seedRng shuffle sort objs (.clone slot)).2 = objs ++ [s] ∧
    (hStep seedRng shuffle sort objs (.clone slot)).2[objs.length]? = some s := by
  simp [hStep, h]

/-- the objects after ANY history do not depend on the generator, the shuffle or the sort: no object holds generator state -/
theorem hist_objects_oracle_free {G' : Type} (seedRng' : Nat → G') (shuffle' : G' → List Int → List Int × G')
    (sort' : List Int → List Int) : ∀ (cmds : List HCmd) (objs : List Splitter),
    (hRun seedRng shuffle sort objs cmds).2 = (hRun seedRng' shuffle' sort' objs cmds).2
  | [], _ => rfl
  | c :: cs, objs => by
    have h : (hStep seedRng shuffle sort objs c).2 = (hStep seedRng' shuffle' sort' objs c).2 := by
      cases c with
      | set slot p v => simp only [hStep]
      | split slot samples => rw [hStep_split_snd, hStep_split_snd]
      | clone slot => simp only [hStep]
    simp only [hRun, h]
    exact hist_objects_oracle_free seedRng' shuffle' sort' cs _

/-- **Equal seeds give equal splits, at object level, for every pair of histories**: two objects (of one history or of two)
    whose parameter values are equal answer `split(samples)` equally — after any number of earlier splits, clones and
    parameter changes (a seeded change kept the generator as a mutable member: a second `split()` continued the stream). -/
theorem hist_equal_params_equal_splits (objs1 objs2 : List Splitter) (cmds1 cmds2 : List HCmd) (a b : Nat)
    (samples : List Int) (s : Splitter)
    (ha : (hRun seedRng shuffle sort objs1 cmds1).2[a]? = some s)
    (hb : (hRun seedRng shuffle sort objs2 cmds2).2[b]? = some s) :
    (hStep seedRng shuffle sort (hRun seedRng shuffle sort objs1 cmds1).2 (.split a samples)).1 =
    (hStep seedRng shuffle sort (hRun seedRng shuffle sort objs2 cmds2).2 (.split b samples)).1 := by
  rw [hist_split_function seedRng shuffle sort _ a samples s ha, hist_split_function seedRng shuffle sort _ b samples s hb]

/-- a history of splits only leaves every object as it was: the second `split()` of an object sees the same parameters -/
theorem hist_splits_keep_objects : ∀ (cmds : List HCmd) (objs : List Splitter),
    (∀ c ∈ cmds, ∃ slot samples, c = .split slot samples) → (hRun seedRng shuffle sort objs cmds).2 = objs
  | [], _, _ => rfl
  | c :: cs, objs, h => by
    obtain ⟨slot, samples, rfl⟩ := h c (List.mem_cons_self)
    simp only [hRun, hStep_split_snd]
    exact hist_splits_keep_objects cs objs (fun c hc => h c (List.mem_cons_of_mem _ hc))

/-! ### non-vacuity: the hypotheses are satisfiable and the conclusions say something on concrete inputs -/

-- 7 samples, 3 folds (7 mod 3 = 1): the hypotheses of `kfold_pair` / `kfold_partition` hold for a concrete shuffle
example : ∀ p ∈ kfold sortI [8, 20, 3, 10, 5, 1, 4] 3, GoodPair [10, 3, 5, 8, 20, 1, 4] p :=
  kfold_pair sortI sortI_spec [10, 3, 5, 8, 20, 1, 4] [8, 20, 3, 10, 5, 1, 4] (by decide) (by decide) 3
example := kfold_partition sortI sortI_spec [10, 3, 5, 8, 20, 1, 4] [8, 20, 3, 10, 5, 1, 4] (by decide) (by decide) 3
  (by decide)
-- the boundaries of that case: chunks [0,2) [2,4) [4,7): sizes 2, 2, 3
example : (List.range 3).map (fun f => (validBegin 7 3 f, validEnd 7 3 f)) = [(0, 2), (2, 4), (4, 7)] := by decide
example : validSlice [8, 20, 3, 10, 5, 1, 4] 3 2 = [5, 1, 4] ∧ trainSlice [8, 20, 3, 10, 5, 1, 4] 3 2 = [8, 20, 3, 10] := by
  decide
-- 25 samples at 90 %: 22.5 is rounded up to 23 (truncation would give 22); 90 is admissible, 95 is not
example : trainSize 90 25 = 23 ∧ trainSize 80 21 = 17 ∧ trainSize 10 2 = 0 := by decide
example : trainPerOk 90 = true ∧ trainPerOk 95 = false ∧ paramsOk 2 1024 = true ∧ paramsOk 1 0 = false := by decide
example := random_train_size sortI sortI_spec [[3, 1, 2, 0], [0, 2, 1, 3]] 80 4 (by decide) (by decide)
example : ∀ p ∈ randomSplit sortI [[3, 1, 2, 0], [0, 2, 1, 3]] 80, GoodPair [0, 1, 2, 3] p :=
  random_pair sortI sortI_spec [0, 1, 2, 3] [[3, 1, 2, 0], [0, 2, 1, 3]] (by decide) (by decide) 80
-- samplers
example : sampleWithout sortI [5, 9, 7] 4 = none ∧ (sampleWithout sortI [5, 9, 7] 2).isSome = true := by
  constructor
  · decide
  · simp [sampleWithout]
example : pick [10, 3, 5, 8] [3, 3, 1] = some [8, 8, 3] ∧ pick [10, 3, 5, 8] [4] = none := by decide
example : (sampleWith sortI [10, 3, 5, 8] 3 [3, 3, 1]).isSome = true :=
  (with_replacement_guard sortI [10, 3, 5, 8] 3 [3, 3, 1]).mpr (by decide)
-- the contract of the weighted draw is satisfiable with zero weights present, and excludes a zero-weight position
example : DrawsPositive ([0, 1, 0, 2] : List Int) [3, 1, 3] := by
  intro d hd
  simp only [List.mem_cons, List.not_mem_nil, or_false] at hd
  rcases hd with rfl | rfl | rfl <;> simp
example : ¬ DrawsPositive ([0, 1, 0, 2] : List Int) [0] := by
  intro h
  obtain ⟨w, hw, hpos⟩ := h 0 (by simp)
  simp at hw; omega
-- ball: u = (3, 4), s = 5, r = 2, z = 1/2 over ℚ: squared distance 1 ≤ 4
example : distSq (ballPoint [1, 1] [3, 4] (2 : Rat) (1 / 2) 5) [1, 1] = 1 := by
  have := (ball_inside [1, 1] [3, 4] (2 : Rat) (1 / 2) 5 rfl (by norm_num [sumSq]) (by norm_num) (by norm_num)
    (by norm_num) (by norm_num)).1
  rw [this]; norm_num

-- the rounded ball: u = (3, 4), s = 5, r = 2, z = 1/2, coordinate errors (1/10, 0): within 2 + 1/10
example := ball_inside_rounded [1, 1] [3, 4] [1 / 10, 0] (2 : Rat) (1 / 2) 5 (1 / 10) rfl rfl (by norm_num [sumSq]) (by norm_num)
  (by norm_num) (by norm_num) (by norm_num) (by norm_num) (by norm_num [sumSq])
-- count = n on an unsorted input with a repeated value: the sorted input whatever the shuffle was
example : sampleWithout sortI [5, 3, 5] 3 = some (sortI [3, 5, 5]) :=
  without_full_is_sorted_input sortI sortI_spec [3, 5, 5] [5, 3, 5] (by decide)
example := without_replacement_submultiset sortI sortI_spec [3, 5, 5] [5, 3, 5] (by decide) 2
-- the generator: seed 0 becomes state 1, the first output is the multiplier; the canonical numerator is positive
example : lcgSeed 0 = 1 ∧ lcgSeed 42 = 42 ∧ lcgSeed 2147483647 = 1 ∧ lcgNext 1 = 48271 ∧ 0 < canonNum 1 := by decide
example := canonNum_pos 42 (by decide) (by decide)
-- the table of libstdc++ for the weights 0, 1, 2 over ℚ is 0, 1/3, 1; the draw u = 1/2 is position 2, u = 1/3 position 1,
-- and no u in (0, 1] gives position 0 (the zero weight)
example : ddCp ([0, 1, 2] : List ℚ) = [0, 1 / 3, 1] := by norm_num [ddCp, accum, normalize, partialSums, psGo, setLast]
example : lowerBound (fun i => decide (([0, 1 / 3, 1] : List ℚ).getD i 0 < 1 / 2)) 3 = 2 := by
  decide +kernel
example := lcgNext_range 42 (by decide) (by decide)
example := canonNum_lt 42 (by decide) (by decide)
example := lowerBound_spec (fun i => decide (i < 2)) 5 (by intro i j hij _ h; simp only [decide_eq_true_eq] at h ⊢; omega)
example : lowerBound (fun i => decide (i < 2)) 5 = 2 ∧ lowerBound (fun _ => false) 5 = 0 ∧ lowerBound (fun _ => true) 5 = 5 := by
  decide
example := lowerBound_all_false (fun _ => false) 5 (fun _ _ => rfl)
example := ddDraw_positive ([0, 1, 2] : List ℚ) (1 / 2) (by simp)
  (by intro x hx; simp only [List.mem_cons, List.not_mem_nil, or_false] at hx; rcases hx with rfl | rfl | rfl <;> norm_num)
  (by norm_num) (by norm_num) (by norm_num)
example := ddCp_get ([0, 1, 2] : List ℚ) (by simp) 1 (by simp)
/-- a library whose generator is trivial: the shuffle reverses, the uniform draw is 0, the canonical draw is 1/2 -/
def toyLib : StdLib Unit ℚ := ⟨fun g l => (l.reverse, g), fun g _ => (0, g), fun g => (1 / 2, g)⟩
theorem toyLib_ok : toyLib.Ok := ⟨fun _ l => List.reverse_perm l, fun _ _ => Nat.zero_le _⟩
theorem toyLib_canon : toyLib.CanonOk := fun _ => by norm_num [toyLib]
/-- conversions over ℚ: the cast, a truncation that is at most its argument's integer bound (here: constantly 0 … the
    contract only bounds it from above), a non-negative "norm" -/
def toyNum : Num ℚ := ⟨fun n => (n : ℚ), fun _ => 0, fun l => sumSq l⟩
theorem toyNum_ok : toyNum.Ok := ⟨fun n => Nat.cast_nonneg n, fun _ _ _ => Nat.zero_le _, sumSq_nonneg'⟩
example := weighted_never_zero_model toyLib toyLib_canon sortI sortI_spec [10, 3, 5] [0, 1, 2] 4 () (by decide) rfl
  (by intro x hx; simp only [List.mem_cons, List.not_mem_nil, or_false] at hx; rcases hx with rfl | rfl | rfl <;> norm_num)
  (by norm_num)
-- the degenerate branch: an empty table or a draw that no entry is less than
example := weighted_no_comparison_first_sample (α := ℚ) ⟨fun g l => (l, g), fun g _ => (0, g), fun g => (0, g)⟩ sortI
  sortI_spec [10, 3, 5] [] 4 () 10 rfl (by intro g i; simp [ddCp])
-- the sampler object in its five modes
example := sampler_count_le toyNum toyNum_ok (Sampler.make [10, 3, 5] .subsample () (1 / 2 : ℚ)) (by norm_num [Sampler.make])
example := sampler_off_spec toyNum toyLib sortI (Sampler.make [10, 3, 5] .off () (1 : ℚ)) (fun _ => 1) (fun _ => []) rfl
example := sampler_subsample_spec toyNum toyNum_ok toyLib toyLib_ok sortI sortI_spec
  (Sampler.make [10, 3, 5] .subsample () (1 / 2 : ℚ)) (fun _ => 1) (fun _ => []) rfl (by decide) (by norm_num [Sampler.make])
example := sampler_bootstrap_spec toyNum toyLib toyLib_ok sortI sortI_spec
  (Sampler.make [10, 3, 5] .bootstrap () (1 / 2 : ℚ)) (fun _ => 1) (fun _ => []) rfl (by simp [Sampler.make])
example := sampler_weighted_spec toyNum toyLib toyLib_canon sortI sortI_spec
  (Sampler.make [10, 3, 5] .weiLoss () (1 / 2 : ℚ)) (fun i => if i = 3 then 0 else 1) (fun _ => []) (Or.inl rfl) (by decide)
  (by intro x hx; simp [Sampler.newWeights, Sampler.make] at hx; rcases hx with rfl | rfl | rfl <;> norm_num)
  (by norm_num [Sampler.newWeights, Sampler.make])
example : (Sampler.make [10, 3, 5] .weiGrad () (1 : ℚ)).weights = [0, 0, 0] ∧
    (Sampler.make [10, 3, 5] .bootstrap () (1 : ℚ)).weights = [] := ⟨rfl, rfl⟩
-- splitter objects: domains, refusal, restoring the seed; a clone taken after two splits holds the same parameters
example : ((Splitter.fresh .random).set .seed 7).isSome = true ∧ (Splitter.fresh .random).set .seed 1025 = none ∧
    (Splitter.fresh .kfold).set .trainPer 50 = none ∧ ((Splitter.fresh .random).set .trainPer 50).isSome = true ∧
    (Splitter.fresh .kfold).set .folds 1 = none := by decide
example := splitter_set_spec (Splitter.fresh .random) .seed 7 (Splitter.fresh_ok _)
example := splitter_seed_restore (Splitter.fresh .random) _ 7 (Splitter.fresh_ok _) rfl
example := hist_equal_params_equal_splits (fun _ => ()) (fun g l => (l.reverse, g)) id [Splitter.fresh .random] [Splitter.fresh .random]
  [.split 0 [1, 2, 3], .split 0 [1, 2, 3], .clone 0] [] 1 0 [1, 2, 3] (Splitter.fresh .random) rfl rfl
example := hist_splits_keep_objects (fun _ => ()) (fun g l => (l.reverse, g)) id [.split 0 [1, 2, 3], .split 0 [4]]
  [Splitter.fresh .kfold] (by intro c hc; simp only [List.mem_cons, List.not_mem_nil, or_false] at hc; rcases hc with rfl | rfl <;> exact ⟨_, _, rfl⟩)

/-! ### the property for the text regenerated from the source

The statements below are about `Gen/SplitKFold.lean`, `Gen/SplitRandom.lean`, `Gen/SplitSampling.lean` — the files that
`tools/props/c12_translate.py` rewrites from `kfold.cpp`, `random.cpp`, `sampling.cpp` on every run — through the
`model_*_is_generated` equalities of `Proofs/SplitGen.lean`. -/

/-- `kfold_splitter_t::split` as it stands in the source: one pair per fold, each pair strictly sorted, disjoint and together
    exactly the input — for every generator and every shuffle that returns a permutation -/
theorem kfold_split_generated {G : Type} (seedRng : Nat → G) (shuffle : G → List Int → List Int × G)
    (hsh : ∀ g l, (shuffle g l).1.Perm l) (sort : List Int → List Int) (hs : SortSpec sort) (samples : List Int)
    (hnd : samples.Nodup) (seed folds : Nat) :
    (Gen.SplitKFold.split seedRng shuffle sort seed (folds : Int) samples).length = folds ∧
    ∀ p ∈ Gen.SplitKFold.split seedRng shuffle sort seed (folds : Int) samples, GoodPair samples p := by
  rw [← model_kfold_is_generated]
  exact ⟨kfold_length _ _ _, kfold_pair sort hs samples _ hnd (hsh _ _) folds⟩

/-- `random_splitter_t::split` as it stands in the source: the same promise for each of its `folds` pairs -/
theorem random_split_generated {G : Type} (seedRng : Nat → G) (shuffle : G → List Int → List Int × G)
    (hsh : ∀ g l, (shuffle g l).1.Perm l) (sort : List Int → List Int) (hs : SortSpec sort) (samples : List Int)
    (hnd : samples.Nodup) (seed folds trainPer : Nat) :
    (Gen.SplitRandom.split seedRng shuffle sort seed (folds : Int) (trainPer : Int) samples).length = folds ∧
    ∀ p ∈ Gen.SplitRandom.split seedRng shuffle sort seed (folds : Int) (trainPer : Int) samples, GoodPair samples p := by
  have hlen : ∀ g l, (shuffle g l).1.length = l.length := fun g l => (hsh g l).length_eq
  rw [← model_random_split_is_generated seedRng shuffle sort hlen]
  obtain ⟨h1, h2⟩ := randomPerms_perm shuffle hsh folds (seedRng seed) samples
  exact ⟨by simp [randomSplit, h1], random_pair sort hs samples _ hnd h2 trainPer⟩

/-- `sample_without_replacement(samples, count, rng)` as it stands in the source: under its own assert the answer has `count`
    distinct (strictly sorted) members of the input -/
theorem without_replacement_generated {G : Type} (shuffle : G → List Int → List Int × G)
    (hsh : ∀ g l, (shuffle g l).1.Perm l) (sort : List Int → List Int) (hs : SortSpec sort) (samples : List Int)
    (hnd : samples.Nodup) (count : Nat) (g : G)
    (hguard : (Gen.SplitSampling.withoutGuards samples.length count).all id = true) :
    let r := (Gen.SplitSampling.withoutBody shuffle sort samples count g).1
    r.length = count ∧ r.Pairwise (· < ·) ∧ ∀ x ∈ r, x ∈ samples := by
  intro r
  have hlen : (shuffle g samples).1.length = samples.length := (hsh g samples).length_eq
  have h := model_sampleWithout_is_generated sort (shuffle g samples).1 count
  rw [hlen, if_pos hguard] at h
  exact without_replacement_spec sort hs samples _ hnd (hsh g samples) count _ h

example := kfold_split_generated (fun _ => ()) (fun g l => (l.reverse, g)) (fun _ l => List.reverse_perm l) sortI sortI_spec
  [10, 3, 5, 8] (by decide) 42 2
example := random_split_generated (fun _ => ()) (fun g l => (l.reverse, g)) (fun _ l => List.reverse_perm l) sortI sortI_spec
  [10, 3, 5, 8] (by decide) 42 2 80
example := without_replacement_generated (fun (g : Unit) l => (l.reverse, g)) (fun _ l => List.reverse_perm l) sortI sortI_spec
  [10, 3, 5, 8] (by decide) 2 () (by decide)

end NanoVerif.Split
