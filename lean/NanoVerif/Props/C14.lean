import NanoVerif.Proofs.ScalingLemmas
import NanoVerif.Proofs.ScalingGen
import NanoVerif.Proofs.ScalingTop
import NanoVerif.Proofs.ScalingClass
import Mathlib.Tactic.Positivity
import Mathlib.Algebra.Order.Field.Rat
import Mathlib.Tactic.NormNum
/-!
  C14 — feature scaling is invertible; the un-scaled linear model is the same predictor.

  Property theorems about `Model/Scaling.lean` (the model of `src/dataset/stats.cpp`), for every linear ordered field `α`
  (exact arithmetic), every data column (`List (Option α)`, `none` = missing), every accumulator, every scaling mode.
  Conventions of the statements:
  * `hfin : ∀ y, FinTest.isFin y = true` — in exact arithmetic no computed value overflows (`nan2zero` only acts on
    missing inputs, which are `none`);
  * `0 < eps` — `epsilon2<scalar_t>()` is positive;
  * the standard deviation is `Sqrt.sqrt v`; where its value matters (`standard_unit`) the only hypotheses are
    `sqrt v * sqrt v = v` at the variance `v` of that column and `eps ≤ sqrt v`; everything else holds whatever `sqrt` returns;
  * `lo ≤ v ≤ hi` for the present values: a finite double lies within `numeric_limits::lowest()/max()`, the starting
    values of the running maximum / minimum.

  ## Gap table: every function of the anchored files
  `modelled` = hand-written Lean definition run against the code; `translated` = regenerated from the source text into
  `Gen/ScalingGuards.lean` on every check and proved equal to the modelled text (`Proofs/ScalingGen.lean`, `model_*_is_generated`,
  any scalar type); `oracle` = parameter with a contract; `outside` = not in the model.

  src/dataset/stats.cpp
  | function (lines)                                   | status                | Lean                                                        |
  |----------------------------------------------------|-----------------------|-------------------------------------------------------------|
  | `::nan2zero` (10-23)                               | modelled + translated | `nan2zero` = `Gen.nan2zero` (`model_nan2zero_is_generated`)  |
  | `::make_features` (25-47), `make_sclass/mclass/scalar/struct_features` (233-251) | modelled in C09 | `Iterator.makeFeatures` (`Model/IteratorSelect.lean`; `makeFeatures_mem`, `makeFeatures_sorted`): index lists of features by kind; not used by any scaling path |
  | `::make_scaling` (49-79)                           | modelled + translated | `makeScaling` = `Gen.makeScaling`; the `m_min.size() > 0` guard: see `upscaleAffine` (sizes must match, else `none`) |
  | `::update(scalar_stats_t&, values)` (81-100)       | modelled + translated | `Acc.push`, `accumulate` = fold of `Gen.updateColumn` (`model_push_is_generated`) |
  | `::done(scalar_stats_t&, enable_scaling)` (102-146)| modelled + translated | `finalize` = `Gen.doneColumn` (`model_finalize_is_generated`); ε = `Gen.epsilon2` (from numeric.h: `epsilon2`, `roundpow10`, `epsilon`), `epsilon2_pos` |
  | `::alloc_xclass_stats`, `::update(xclass_stats_t&)`, `::done(xclass_stats_t&)`, `::make_xclass_stats` ×2 (148-208), `xclass_stats_t::make_targets_stats / make_feature_stats` (452-491) | modelled | `Model/ScalingClass.lean`: `classCounts` / `incAt`, `sampleClasses`, `classWeights`, `xclassStats`, `xclassFor` (`none` = `critical0`); with `nano::make_hashes` (src/dataset/hash.cpp) = `setInsert` / `makeHashes` and `nano::find` (include/nano/dataset/hash.h) = `lowerBound` / `find`; `nano::hash` of an indicator row is an oracle (reported per sample by the harness; sclass: the label). Theorems: `makeHashes_sorted`, `mem_makeHashes`, `find_spec`, `sample_classified`, `class_weights_pos`, `class_counts_closed_form`, `xclass_counts_pos`, `xclass_weights_pos`, `class_weights_balanced`, `xclass_weights_balanced`. (No caller in the library besides test_dataset_stats.cpp; the property statement does not mention class weights.) Counts = number of samples per class (`class_counts_closed_form`), every class non-empty (`xclass_counts_pos`: the hypothesis of `class_weights_pos` holds for what `make_xclass_stats` computes, `xclass_weights_pos`), and total weight per class = norm (`class_weights_balanced`, `xclass_weights_balanced`); the python oracle checks both on every case as well (keys xclass-counts / xclass-balance) |
  | `nano::upscale(flatten_stats, …, weights, bias)` (211-231) | modelled      | `upscaleAffine` / `upscaleAffineRow` (the two matrix statements are Eigen expressions: compared with 1e-12·Σ|terms|) |
  | `scalar_stats_t::scalar_stats_t(dims)` (253-264)   | modelled + translated | `Acc.init` = `Gen.initColumn` (`model_init_is_generated`)     |
  | `scalar_stats_t::make_flatten_stats` (266-290)     | modelled              | `flattenStats`, `enableMask` (`enableMask_spec` against `column2feature`); batching loop: C09 `Iterator.makeStats` (`stats_batch_independent`); `dataset.flatten`: C08 |
  | `scalar_stats_t::make_targets_stats` (292-320)     | modelled              | `targetsStats` (`none` = `critical0`; mask by target kind; one entry per component of `target_dims`) |
  | `scalar_stats_t::make_feature_stats` (322-355)     | modelled              | `featureStats` (`none` = `critical0` for categorical; scalar and struct branch differ only in the buffer rank) |
  | `scalar_stats_t::scale(…, tensor2d_map_t)` (357-400)| modelled + translated| `scaleCell`, `scaleRow` = `Gen.scaleCell` (`model_scale_is_generated`); `default: throw` unreachable for the 4 enumerators (`Mode.ofNat?` = `none` ⇒ harness refuses) |
  | `scalar_stats_t::scale(…, tensor4d_map_t)` (402-407)| modelled             | `scale4` + `Dims3.off` / `get4` (row-major addressing of the reshaped tensor) |
  | `scalar_stats_t::upscale(…, tensor2d_map_t)` (409-443)| modelled + translated | `upscaleCell`, `upscaleRow` = `Gen.upscaleCell` (`model_upscale_is_generated`) |
  | `scalar_stats_t::upscale(…, tensor4d_map_t)` (445-450)| modelled           | `upscale4`                                                   |
  include/nano/dataset/stats.h: declarations of the above; the attribute list of `scalar_stats_t` is translated (`Gen.Col`, in declaration order).
  include/nano/dataset/scaling.h: `enum class scaling_type` translated (`Gen.ScalingType`, `Mode.toGen`); `enum_string` outside (C19: enum maps).
  src/linear.cpp, src/dataset/iterator.cpp (anchors): `flatten_iterator_t` statistics / scaling are run by the harness against the direct calls
  (flag in the answer) and modelled in C09 (`Model/Iterator.lean` on top of this model); `linear_t::fit / do_predict` call
  `nano::upscale` + `linear::predict`: both executed by the harness, the solver run itself is outside (C01/C11).

  `oracle` items: `Sqrt.sqrt` (`std::sqrt`: enters `standard_unit` only, as `sqrt v · sqrt v = v` at the one variance of the column — Float.sqrt in the
  driver; everything else holds whatever `sqrt` returns); `FinTest.isFin` (`std::isfinite`: always true in exact arithmetic, `Float.isFinite` in
  the driver). No other contract is left: `0 < eps` is `epsilon2_pos` for the regenerated constant; `Stats.WF` is `div_mul_one` for everything
  `done` produces. Hypotheses re-examined: `hb` (values within `[lo, hi]`) of `minmax_range` / `mean_centered` is necessary only through the
  running min/max starting values and holds for every finite double; `eps ≤ range` / `eps ≤ sd` in the second halves are necessary: below ε the
  advertised range / deviation is `range/ε` / `sd/ε`, not 1 — the regime witnesses among the examples (range `1/100000001 < ε`) and the boundary
  cases of the generator (range / deviation exactly ε, one ulp below, one ulp above) replay it on the real code.
-/
set_option linter.unusedSectionVars false

namespace NanoVerif.Scaling
open NanoVerif.Gen
variable {α : Type} [Field α] [LinearOrder α] [IsStrictOrderedRing α]

/-! ### invertibility -/

/-- `m_div_range * m_mul_range = 1` and `m_div_stdev * m_mul_stdev = 1` for every accumulator (any N, including 0 and 1,
    zero range, zero variance), enabled or not, whatever `sqrt` returns: the ε guard makes both denominators positive. -/
theorem div_mul_one [Sqrt α] (eps : α) (heps : 0 < eps) (enabled : Bool) (a : Acc α) :
    (finalize eps enabled a).divRange * (finalize eps enabled a).mulRange = 1 ∧
    (finalize eps enabled a).divSd * (finalize eps enabled a).mulSd = 1 :=
  finalize_wf eps heps enabled a

/-- `upscale(scale(x)) = x` for every finite `x` (not only the values the statistics were computed from), every mode,
    every column: constant, single-sample (`N = 1`), all-missing (`N = 0`) and disabled (categorical) columns included. -/
theorem upscale_scale_id [Sqrt α] [FinTest α] (hfin : ∀ y : α, FinTest.isFin y = true)
    (hi lo eps : α) (heps : 0 < eps) (enabled : Bool) (xs : List (Option α)) (m : Mode) (x : α) :
    upscaleCell m (columnStats hi lo eps enabled xs) (scaleCell m (columnStats hi lo eps enabled xs) (some x)) = x :=
  upscale_scale_cell hfin m _ (finalize_wf eps heps enabled _) x

/-- the same for a whole sample (`scalar_stats_t::scale` then `::upscale` on one row), for any statistics whose
    `div`/`mul` pairs are inverse (`div_mul_one`: all statistics produced by `done`) -/
theorem upscale_scale_id_row [FinTest α] (hfin : ∀ y : α, FinTest.isFin y = true) (m : Mode) :
    ∀ (ss : List (Stats α)) (xs : List α), (∀ s ∈ ss, s.WF) → ss.length = xs.length →
      (scaleRow m ss (xs.map some)).bind (upscaleRow m ss) = some xs := by
  intro ss xs hwf hlen
  rw [scaleRow, if_pos (by rw [List.length_map]; exact hlen), Option.bind_some, upscaleRow,
    if_pos (by rw [List.length_zipWith, List.length_map, ← hlen, min_self]), List.zipWith_map_right,
    zipWith_cancel _ _ ss xs (fun s hs x => upscale_scale_cell hfin m s (hwf s hs) x) hlen]

/-! ### advertised range / mean / deviation of the scaled column -/

/-- min-max scaling maps the values the statistics were computed from into `[0, 1]`; `0` is attained, and `1` is
    attained whenever the range reaches `ε` (below that the column is treated as constant and its values stay in
    `[0, range/ε] ⊆ [0, 1)`). -/
theorem minmax_range [Sqrt α] [FinTest α] (hfin : ∀ y : α, FinTest.isFin y = true)
    (hi lo eps : α) (heps : 0 < eps) (xs : List (Option α))
    (hb : ∀ v ∈ present xs, lo ≤ v ∧ v ≤ hi) (hne : present xs ≠ []) :
    (∀ v ∈ present xs, 0 ≤ scaleCell .minmax (columnStats hi lo eps true xs) (some v) ∧
        scaleCell .minmax (columnStats hi lo eps true xs) (some v) ≤ 1) ∧
    (∃ v ∈ present xs, scaleCell .minmax (columnStats hi lo eps true xs) (some v) = 0) ∧
    (eps ≤ (columnStats hi lo eps true xs).mx - (columnStats hi lo eps true xs).mn →
      ∃ v ∈ present xs, scaleCell .minmax (columnStats hi lo eps true xs) (some v) = 1) := by
  obtain ⟨⟨hmin_mem, hmin_le⟩, ⟨hmax_mem, hmax_ge⟩, -, hd, hle, heq⟩ := column_range hi lo eps heps xs hb hne
  simp only [scaleCell, nan2zero, hfin, if_true]
  -- `0 ≤ (v − min)·div ≤ (max − min)·div ≤ 1`, with `0` at the minimum and the scaled range at the maximum
  exact ⟨fun v hv => ⟨mul_nonneg (sub_nonneg.mpr (hmin_le v hv)) hd.le,
      (mul_le_mul_of_nonneg_right (sub_le_sub_right (hmax_ge v hv) _) hd.le).trans hle⟩,
    ⟨_, hmin_mem, by rw [sub_self, zero_mul]⟩, fun he => ⟨_, hmax_mem, heq he⟩⟩

/-- mean scaling centres the values the statistics were computed from (their scaled values sum to 0) and, when the
    range reaches `ε`, gives them range exactly 1 (`scale(max) − scale(min) = 1`). -/
theorem mean_centered [Sqrt α] [FinTest α] (hfin : ∀ y : α, FinTest.isFin y = true)
    (hi lo eps : α) (heps : 0 < eps) (xs : List (Option α))
    (hb : ∀ v ∈ present xs, lo ≤ v ∧ v ≤ hi) (hne : present xs ≠ []) :
    ((present xs).map (fun v => scaleCell .mean (columnStats hi lo eps true xs) (some v))).sum = 0 ∧
    (eps ≤ (columnStats hi lo eps true xs).mx - (columnStats hi lo eps true xs).mn →
      scaleCell .mean (columnStats hi lo eps true xs) (some (columnStats hi lo eps true xs).mx) -
        scaleCell .mean (columnStats hi lo eps true xs) (some (columnStats hi lo eps true xs).mn) = 1) := by
  obtain ⟨-, -, hmean, -, -, heq⟩ := column_range hi lo eps heps xs hb hne
  simp only [scaleCell, nan2zero, hfin, if_true]
  exact ⟨sum_centered _ _ _ hmean, fun he => by
    rw [← sub_mul, sub_sub_sub_cancel_right]; exact heq he⟩

/-- the accumulated `Σx² − (Σx)²/N` is never negative in exact arithmetic (Cauchy–Schwarz), for any data with at least
    one present value -/
theorem var_nonneg (hi lo : α) (xs : List (Option α)) (hne : present xs ≠ []) :
    0 ≤ (accumulate hi lo xs).sum2 -
      (accumulate hi lo xs).sum * (accumulate hi lo xs).sum / ((accumulate hi lo xs).n : α) := by
  obtain ⟨hn, hsum, hsum2, -, -⟩ := accumulate_spec hi lo xs
  rw [hn, hsum, hsum2, sumSq_sub_eq (present xs) hne]
  exact sum_sq_nonneg (present xs) _

/-- hence the clamp `std::max(variance, 0.0)` before the square root changes nothing in exact arithmetic: it only
    absorbs rounding (the repaired defect: a tiny negative rounded variance of a constant column gave `sqrt` = NaN) -/
theorem clamp_is_identity (hi lo : α) (xs : List (Option α)) (h2 : 2 ≤ (present xs).length) :
    0 ≤ rawVar (accumulate hi lo xs) ∧ cmax (rawVar (accumulate hi lo xs)) 0 = rawVar (accumulate hi lo xs) := by
  have h1 : (1 : α) ≤ ((accumulate hi lo xs).n : α) := by
    rw [(accumulate_spec hi lo xs).1]; exact Nat.one_le_cast.mpr (Nat.le_of_succ_le h2)
  have h0 : 0 ≤ rawVar (accumulate hi lo xs) :=
    div_nonneg (var_nonneg hi lo xs (List.ne_nil_of_length_pos (Nat.lt_of_succ_lt h2))) (sub_nonneg.mpr h1)
  exact ⟨h0, cmax_of_le h0⟩

/-- the one-pass formula the code accumulates, `(Σx² − (Σx)²/N)/(N − 1)`, IS the two-pass definition of the unbiased variance,
    `Σ(x − x̄)²/(N − 1)` with `x̄ = Σx/N`, exactly (any ordered field). At `Float` the one-pass form cancels: the oracle allows
    `1e-15·(N + 10)·Σx²` on `(N − 1)·variance` against the exactly (rationally) evaluated two-pass value. -/
theorem onepass_eq_twopass (hi lo : α) (xs : List (Option α)) (hne : present xs ≠ []) :
    rawVar (accumulate hi lo xs) =
      ((present xs).map (fun x => (x - (present xs).sum / ((present xs).length : α)) *
        (x - (present xs).sum / ((present xs).length : α)))).sum / (((present xs).length : α) - 1) := by
  obtain ⟨hn, hsum, hsum2, -, -⟩ := accumulate_spec hi lo xs
  rw [rawVar, hn, hsum, hsum2, sumSq_sub_eq (present xs) hne]

/-- standardisation: when the standard deviation `sd` of the column (`sd·sd` = its unbiased variance) reaches `ε`,
    the scaled values of the samples the statistics were computed from have mean 0 and unbiased variance 1
    (`Σ z = 0`, `Σ z² = N − 1`). -/
theorem standard_unit [Sqrt α] [FinTest α] (hfin : ∀ y : α, FinTest.isFin y = true)
    (hi lo eps : α) (heps : 0 < eps) (xs : List (Option α)) (h2 : 2 ≤ (present xs).length)
    (hsq : Sqrt.sqrt (rawVar (accumulate hi lo xs)) * Sqrt.sqrt (rawVar (accumulate hi lo xs)) =
      rawVar (accumulate hi lo xs))
    (hge : eps ≤ Sqrt.sqrt (rawVar (accumulate hi lo xs))) :
    ((present xs).map (fun v => scaleCell .standard (columnStats hi lo eps true xs) (some v))).sum = 0 ∧
    ((present xs).map (fun v => scaleCell .standard (columnStats hi lo eps true xs) (some v) *
        scaleCell .standard (columnStats hi lo eps true xs) (some v))).sum = ((present xs).length : α) - 1 := by
  have hne : present xs ≠ [] := List.ne_nil_of_length_pos (Nat.lt_of_succ_lt h2)
  obtain ⟨hn, hsum, -, -, -⟩ := accumulate_spec hi lo xs
  -- `N ≥ 2`, the variance clamp is the identity and `sd ≥ ε`: the mean is `Σx/N` and the divisor `1/sd`
  have hs := finalize_many eps (accumulate hi lo xs) (hn ▸ h2)
  have hmean : (columnStats hi lo eps true xs).mean = (present xs).sum / ((present xs).length : α) :=
    (congrArg Stats.mean hs).trans (by rw [hn, hsum])
  have hdiv : (columnStats hi lo eps true xs).divSd = 1 / Sqrt.sqrt (rawVar (accumulate hi lo xs)) :=
    (congrArg Stats.divSd hs).trans (by rw [(clamp_is_identity hi lo xs h2).2, cmax_of_le hge])
  simp only [scaleCell, nan2zero, hfin, if_true, hdiv, hmean]
  refine ⟨sum_centered _ _ _ (mul_div_cancel₀ _ (Nat.cast_ne_zero.mpr (List.length_pos_iff.mpr hne).ne')), ?_⟩
  -- `Σ ((v − x̄)/sd)² = (Σ (v − x̄)²)/sd²`, and `sd² = Σ (v − x̄)²/(N − 1)`
  rw [sum_sq_scaled]
  exact sumSq_div_var (heps.trans_le hge).ne' (hsq.trans (onepass_eq_twopass hi lo xs hne))

/-! ### categorical columns and missing values -/

/-- a column whose scaling is disabled (flatten column of a single-label or multi-label feature, or any target column of a
    classification task) is never rescaled: `scale` and `upscale` are the identity on it in every mode, for any data -/
theorem categorical_identity [Sqrt α] [FinTest α] (hfin : ∀ y : α, FinTest.isFin y = true)
    (hi lo eps : α) (xs : List (Option α)) (m : Mode) (x : α) :
    scaleCell m (columnStats hi lo eps false xs) (some x) = x ∧
    upscaleCell m (columnStats hi lo eps false xs) x = x := by
  cases m <;> simp [columnStats, finalize, scaleCell, upscaleCell, nan2zero, hfin]

/-- a missing value is scaled to 0 in every mode, and the statistics are those of the present values alone -/
theorem missing_to_zero_and_ignored [Sqrt α] [FinTest α] (hi lo eps : α) (enabled : Bool) (xs : List (Option α))
    (m : Mode) (s : Stats α) :
    scaleCell m s none = 0 ∧
    columnStats hi lo eps enabled xs = columnStats hi lo eps enabled ((present xs).map some) ∧
    (accumulate hi lo xs).n = (present xs).length := by
  refine ⟨rfl, ?_, (accumulate_spec hi lo xs).1⟩
  rw [columnStats, columnStats, accumulate, accumulate, foldl_push, foldl_push, present_map_some]

/-! ### the converted linear model is the same predictor -/

/-- one output of `nano::upscale(...)`: for every weight row `w`, bias `b`, input statistics `fs` (any), target
    statistics `t` with inverse `div`/`mul` pairs, every pair of modes and every finite raw input `x`:
    `w'·x + b' = upscale_t(w·scale_x(x) + b)`. -/
theorem affine_upscale_same_predictor_row [FinTest α] (hfin : ∀ y : α, FinTest.isFin y = true)
    (fm tm : Mode) (fs : List (Stats α)) (t : Stats α) (ht : t.WF) (w x : List α) (b : α)
    (hw : w.length = fs.length) (hx : x.length = fs.length) :
    dot (upscaleAffineRow ((fs.map (makeScaling fm)).map Prod.fst) ((fs.map (makeScaling fm)).map Prod.snd)
          (makeScaling tm t).1 (makeScaling tm t).2 w b).1 x +
      (upscaleAffineRow ((fs.map (makeScaling fm)).map Prod.fst) ((fs.map (makeScaling fm)).map Prod.snd)
          (makeScaling tm t).1 (makeScaling tm t).2 w b).2 =
    upscaleCell tm t (dot w (List.zipWith (scaleCell fm) fs (x.map some)) + b) := by
  have hscaled : List.zipWith (scaleCell fm) fs (x.map some) =
      List.zipWith (fun (p : α × α) xj => p.1 * xj + p.2) (fs.map (makeScaling fm)) x := by
    rw [List.zipWith_map_right, List.zipWith_map_left]
    exact congrArg (fun g => List.zipWith g fs x) (funext fun s => funext (scaleCell_affine hfin fm s))
  rw [upscaleCell_affine tm t ht, hscaled, upscaleAffineRow,
    dot_upscaled _ (fs.map (makeScaling fm)) w x (by rw [hw, List.length_map]) (by rw [hx, List.length_map])]
  ring

/-- `nano::upscale(flatten_stats, flatten_scaling, targets_stats, targets_scaling, W, b)`, n-dimensional: whenever the
    call is legal (its three size asserts) it yields `(W', b')` such that for **every** finite raw input `x`
    `W' x + b' = upscale_targets(W · scale_inputs(x) + b)`, for each of the 4×4 mode pairs, any input statistics and any
    target statistics with inverse `div`/`mul` pairs (`div_mul_one`: everything `done` produces). -/
theorem affine_upscale_same_predictor [FinTest α] (hfin : ∀ y : α, FinTest.isFin y = true)
    (fm tm : Mode) (fs ts : List (Stats α)) (hts : ∀ t ∈ ts, t.WF)
    (W : List (List α)) (b : List α) (W' : List (List α)) (b' : List α)
    (h : upscaleAffine fm fs tm ts W b = some (W', b')) (x : List α) (hx : x.length = fs.length) :
    (scaleRow fm fs (x.map some)).bind (fun sx => upscaleRow tm ts (predict W b sx)) = some (predict W' b' x) := by
  unfold upscaleAffine at h
  split at h
  · rename_i hg
    obtain ⟨hb, hW, hr⟩ := hg
    simp only [Option.some.injEq, Prod.mk.injEq] at h
    obtain ⟨rfl, rfl⟩ := h
    rw [predict_zip3With _ (upscaleCell tm) x (List.zipWith (scaleCell fm) fs (x.map some)) ts W b fun t ht w hw b0 =>
      affine_upscale_same_predictor_row hfin fm tm fs t (hts t ht) w x b0
        (of_decide_eq_true (List.all_eq_true.mp hr w hw)) hx]
    simp [scaleRow, upscaleRow, hx, predict, hb, hW]
  · cases h

/-- the same with both lists of statistics computed by `make_*_stats` from arbitrary data (any columns, any enable
    masks, any missing-value patterns, constant / single-sample / empty columns included): no hypothesis on the
    statistics is left -/
theorem affine_upscale_same_predictor_of_data [Sqrt α] [FinTest α] (hfin : ∀ y : α, FinTest.isFin y = true)
    (hi lo eps : α) (heps : 0 < eps) (fm tm : Mode) (fdata tdata : List (Bool × List (Option α)))
    (W : List (List α)) (b : List α) (W' : List (List α)) (b' : List α)
    (h : upscaleAffine fm (fdata.map (fun d => columnStats hi lo eps d.1 d.2)) tm
      (tdata.map (fun d => columnStats hi lo eps d.1 d.2)) W b = some (W', b'))
    (x : List α) (hx : x.length = fdata.length) :
    (scaleRow fm (fdata.map (fun d => columnStats hi lo eps d.1 d.2)) (x.map some)).bind
      (fun sx => upscaleRow tm (tdata.map (fun d => columnStats hi lo eps d.1 d.2)) (predict W b sx)) =
    some (predict W' b' x) := by
  refine affine_upscale_same_predictor hfin fm tm _ _ ?_ W b W' b' h x (by simpa using hx)
  intro t ht
  obtain ⟨d, -, rfl⟩ := List.mem_map.mp ht
  exact finalize_wf eps heps d.1 (accumulate hi lo d.2)

/-- the converse guard: with mismatching sizes (where the C++ `assert`s fire) the model refuses -/
theorem affine_upscale_guard (fm tm : Mode) (fs ts : List (Stats α)) (W : List (List α)) (b : List α)
    (h : b.length ≠ ts.length) : upscaleAffine fm fs tm ts W b = none := by
  unfold upscaleAffine
  simp [h]

/-! ### the ε guards regime by regime, and the source text -/

/-- `div_mul_one` over **the case split `::done` makes** (stats.cpp:106-145), with the exact value of every (de)normaliser:
    masked component; `N = 0`; `N = 1`; `N ≥ 2` with the range below / at-or-above `ε` and the deviation below / at-or-above `ε`
    (a range or deviation of exactly `ε` is in the "at-or-above" regime and gives `ε` either way). In every regime the products are
    exactly 1 and the multipliers positive. (Seeded changes this pins: finalisation for `N > 2` only; multipliers guarded by the
    deviation while the divisors keep the range clamp; categorical components with one sample; dropped variance clamp.) -/
theorem div_mul_one_regimes [Sqrt α] (eps : α) (heps : 0 < eps) (enabled : Bool) (a : Acc α) :
    (enabled = false → finalize eps enabled a = ⟨a.n, 0, 0, 0, 0, 1, 1, 1, 1⟩) ∧
    (enabled = true → a.n = 0 → finalize eps enabled a = ⟨a.n, 0, 0, 0, 0, 1, 1, 1, 1⟩) ∧
    (enabled = true → a.n = 1 → finalize eps enabled a = ⟨a.n, a.mn, a.mx, a.sum, 0, 1, 1, 1, 1⟩) ∧
    (enabled = true → 2 ≤ a.n →
      (finalize eps enabled a).n = a.n ∧ (finalize eps enabled a).mn = a.mn ∧ (finalize eps enabled a).mx = a.mx ∧
      (finalize eps enabled a).mean = a.sum / (a.n : α) ∧
      (finalize eps enabled a).sd = Sqrt.sqrt (cmax (rawVar a) 0) ∧
      (a.mx - a.mn < eps → (finalize eps enabled a).mulRange = eps ∧ (finalize eps enabled a).divRange = 1 / eps) ∧
      (eps ≤ a.mx - a.mn → (finalize eps enabled a).mulRange = a.mx - a.mn ∧
        (finalize eps enabled a).divRange = 1 / (a.mx - a.mn)) ∧
      ((finalize eps enabled a).sd < eps → (finalize eps enabled a).mulSd = eps ∧ (finalize eps enabled a).divSd = 1 / eps) ∧
      (eps ≤ (finalize eps enabled a).sd → (finalize eps enabled a).mulSd = (finalize eps enabled a).sd ∧
        (finalize eps enabled a).divSd = 1 / (finalize eps enabled a).sd)) ∧
    ((finalize eps enabled a).divRange * (finalize eps enabled a).mulRange = 1 ∧
      (finalize eps enabled a).divSd * (finalize eps enabled a).mulSd = 1 ∧
      0 < (finalize eps enabled a).mulRange ∧ 0 < (finalize eps enabled a).mulSd) := by
  obtain ⟨hr, hdr, hs, hds⟩ := finalize_normalisers eps heps enabled a
  refine ⟨?_, ?_, ?_, ?_, hdr, hds, hr, hs⟩
  · rintro rfl; exact finalize_disabled eps a
  · rintro rfl h0; exact finalize_zero eps a h0
  · rintro rfl h1; exact finalize_one eps a h1
  · rintro rfl h2
    rw [finalize_many eps a h2]
    refine ⟨rfl, rfl, rfl, rfl, rfl, fun h => ?_, fun h => ?_, fun h => ?_, fun h => ?_⟩
    · rw [cmax_of_lt h]; exact ⟨rfl, rfl⟩
    · rw [cmax_of_le h]; exact ⟨rfl, rfl⟩
    · rw [cmax_of_lt h]; exact ⟨rfl, rfl⟩
    · rw [cmax_of_le h]; exact ⟨rfl, rfl⟩

/-- `epsilon2<scalar_t>()` as regenerated from `numeric.h` (10⁻⁸) is positive: the hypothesis `0 < eps` of every theorem above
    holds for the constant the code uses -/
theorem epsilon2_pos : (0 : α) < ScalingGuards.epsilon2 := by
  unfold ScalingGuards.epsilon2
  positivity

/-- the regenerated body of `::done` computes the statistics of the model (`masked` = not `enabled`) -/
theorem doneColumn_eq_finalize [Sqrt α] (eps : α) (masked : Bool) (a : Acc α) :
    ScalingGuards.doneColumn Sqrt.sqrt eps masked a.toCol = (finalize eps (!masked) a).toCol := by
  rw [model_finalize_is_generated, Bool.not_not]
  rfl

/-- `div_mul_one` **about the source text**: the body of the loop of `::done` as regenerated from `stats.cpp`
    (`Gen.ScalingGuards.doneColumn`), with the regenerated `epsilon2`, on any accumulated component, masked or not. -/
theorem div_mul_one_generated [Sqrt α] (masked : Bool) (a : Acc α) :
    (ScalingGuards.doneColumn Sqrt.sqrt ScalingGuards.epsilon2 masked a.toCol).div_range *
      (ScalingGuards.doneColumn Sqrt.sqrt ScalingGuards.epsilon2 masked a.toCol).mul_range = 1 ∧
    (ScalingGuards.doneColumn Sqrt.sqrt ScalingGuards.epsilon2 masked a.toCol).div_stdev *
      (ScalingGuards.doneColumn Sqrt.sqrt ScalingGuards.epsilon2 masked a.toCol).mul_stdev = 1 := by
  rw [doneColumn_eq_finalize]
  exact finalize_wf _ epsilon2_pos (!masked) a

/-- invertibility **about the source text**: the regenerated `switch` of `scalar_stats_t::upscale` undoes the regenerated
    `switch` of `scalar_stats_t::scale` on every finite value, for statistics produced by the regenerated `::update` fold /
    `::done` body with the regenerated `epsilon2` — every mode, every data column, masked or not. -/
theorem upscale_scale_id_generated [Sqrt α] [FinTest α] (hfin : ∀ y : α, FinTest.isFin y = true)
    (hi lo : α) (masked : Bool) (xs : List (Option α)) (m : Mode) (x : α) :
    ScalingGuards.upscaleCell m.toGen
        (ScalingGuards.doneColumn Sqrt.sqrt ScalingGuards.epsilon2 masked (accumulate hi lo xs).toCol)
      (ScalingGuards.scaleCell FinTest.isFin m.toGen
        (ScalingGuards.doneColumn Sqrt.sqrt ScalingGuards.epsilon2 masked (accumulate hi lo xs).toCol) x) = x := by
  rw [doneColumn_eq_finalize, ← model_upscale_is_generated, ← model_scale_is_generated]
  exact upscale_scale_id hfin hi lo _ epsilon2_pos (!masked) xs m x

/-! ### the entry points: which components are rescaled -/

/-- `make_flatten_stats`: a flatten column owned (through `column2feature`) by a single-label or multi-label feature gets the
    identity statistics whatever data it holds (one valid sample, constant, anything), and `scale` / `upscale` leave every finite
    value of it unchanged in every mode; a column owned by a continuous feature gets `columnStats` of that column alone. -/
theorem flatten_categorical_never_rescaled [Sqrt α] [FinTest α] (hfin : ∀ y : α, FinTest.isFin y = true)
    (hi lo eps : α) (fs : List Feat) (rows : List (List (Option α))) (c i : Nat) (f : Feat)
    (hc : column2feature fs c = some i) (hf : fs[i]? = some f) :
    (f.isClass = true → ∃ s, (flattenStats hi lo eps fs rows)[c]? = some s ∧
        s = ⟨(accumulate hi lo (colOf rows c)).n, 0, 0, 0, 0, 1, 1, 1, 1⟩ ∧
        ∀ (m : Mode) (x : α), scaleCell m s (some x) = x ∧ upscaleCell m s x = x) ∧
    (f.isClass = false → (flattenStats hi lo eps fs rows)[c]? = some (columnStats hi lo eps true (colOf rows c))) := by
  obtain ⟨g, hg, hm⟩ := enableMask_spec fs c i hc
  obtain rfl : f = g := Option.some.inj (hf.symm.trans hg)
  have hs := statsOfMask_getElem? hi lo eps (enableMask fs) rows c
  rw [hm, Option.map_some] at hs
  constructor
  · intro hcl
    rw [hcl] at hs
    exact ⟨_, hs, finalize_disabled eps _, categorical_identity hfin hi lo eps (colOf rows c)⟩
  · intro hcl
    rw [hcl] at hs
    exact hs

/-- `make_targets_stats` refuses an unsupervised dataset, rescales no component of a classification target and every component
    of a regression target; `make_feature_stats` refuses a categorical feature (the two `critical0`). -/
theorem targets_and_feature_stats_guards [Sqrt α] (hi lo eps : α) (t : Feat) (rows : List (List (Option α))) :
    targetsStats hi lo eps none rows = none ∧
    (∀ c, c < t.cols → ((targetsStats hi lo eps (some t) rows).bind (fun ss => ss[c]?)) =
      some (columnStats hi lo eps (!t.isClass) (colOf rows c))) ∧
    (t.isClass = true → featureStats hi lo eps t rows = none) ∧
    (t.isClass = false → ∀ c, c < t.cols → ((featureStats hi lo eps t rows).bind (fun ss => ss[c]?)) =
      some (columnStats hi lo eps true (colOf rows c))) := by
  refine ⟨rfl, fun c hc => ?_, fun h => by simp [featureStats, h], fun h c hc => ?_⟩
  · simp only [targetsStats, Option.bind_some, statsOfMask_getElem?]
    simp [hc]
  · simp only [featureStats, h, Bool.false_eq_true, if_false, Option.bind_some, statsOfMask_getElem?]
    simp [hc]

/-! ### structured (4-D) targets and features -/

/-- scaling of structured targets / features with dims `(d1, d2, d3)` is **component-wise**: the statistics of component
    `(i, j, k)` are `columnStats` of the values at `(i, j, k)` of the samples alone (column `off i j k` of the reshaped matrix;
    distinct components own distinct columns below `size`), and `scale(scaling, tensor4d)` maps the element `(s, i, j, k)` through
    `scaleCell` with exactly those statistics, for every sample `s` — whenever the call is legal (every sample has `size` values). -/
theorem targets_scaling_componentwise [Sqrt α] [FinTest α] (hi lo eps : α) (en : Bool) (d : Dims3) (m : Mode)
    (rows t : List (List (Option α))) (t' : List (List α))
    (h : scale4 m (statsOfMask hi lo eps (List.replicate d.size en) rows) t = some t')
    (s i j k : Nat) (hi' : i < d.d1) (hj : j < d.d2) (hk : k < d.d3) :
    d.off i j k < d.size ∧
    (∀ i' j' k', j' < d.d2 → k' < d.d3 → d.off i j k = d.off i' j' k' → i = i' ∧ j = j' ∧ k = k') ∧
    (statsOfMask hi lo eps (List.replicate d.size en) rows)[d.off i j k]? =
      some (columnStats hi lo eps en (rows.map (fun r => (r[d.off i j k]?).join))) ∧
    get4 d t' s i j k = ((t[s]?).map (fun r => (r[d.off i j k]?).join)).map
      (scaleCell m (columnStats hi lo eps en (rows.map (fun r => (r[d.off i j k]?).join)))) := by
  have hlt := d.off_lt i j k hi' hj hk
  have hst : (statsOfMask hi lo eps (List.replicate d.size en) rows)[d.off i j k]? =
      some (columnStats hi lo eps en (rows.map (fun r => (r[d.off i j k]?).join))) := by
    rw [statsOfMask_getElem?]
    simp [hlt, colOf]
  refine ⟨hlt, fun i' j' k' hj' hk' he => d.off_inj i j k i' j' k' hj hk hj' hk' he, hst, ?_⟩
  obtain ⟨hlen, hget⟩ := mapM_some_getElem? _ t t' h
  rw [get4, hget s]
  cases hts : t[s]? with
  | none => rfl
  | some r =>
    -- sample `s` exists, so its scaled row does: it has `size` cells, each scaled with the statistics of its column
    have hs : s < t'.length := hlen ▸ (List.getElem?_eq_some_iff.mp hts).1
    have hrow := (hget s).symm.trans (List.getElem?_eq_getElem hs)
    rw [hts, Option.bind_some] at hrow
    obtain ⟨hl, hr'⟩ := scaleRow_eq_some hrow
    have hr : d.off i j k < r.length := by rw [← hl, statsOfMask_length, List.length_replicate]; exact hlt
    rw [Option.bind_some, hrow, Option.bind_some, hr', List.getElem?_zipWith, hst]
    simp only [List.getElem?_eq_getElem hr, Option.map_some, Option.join_some]

/-- `upscale(scaling, tensor4d)` undoes `scale(scaling, tensor4d)` on finite 4-D values, for the statistics of any data -/
theorem targets_roundtrip4 [Sqrt α] [FinTest α] (hfin : ∀ y : α, FinTest.isFin y = true) (hi lo eps : α) (heps : 0 < eps)
    (mask : List Bool) (m : Mode) (rows : List (List (Option α))) :
    ∀ (t : List (List α)), (∀ r ∈ t, r.length = mask.length) →
      (scale4 m (statsOfMask hi lo eps mask rows) (t.map (fun r => r.map some))).bind
        (upscale4 m (statsOfMask hi lo eps mask rows)) = some t := by
  intro t hl
  rw [scale4, List.mapM_map]
  exact mapM_bind_mapM _ (upscaleRow m _) t fun r hr =>
    upscale_scale_id_row hfin m _ r (statsOfMask_wf hi lo eps heps mask rows)
      (by rw [statsOfMask_length]; exact (hl r hr).symm)

/-! ### class statistics (`xclass_stats_t`) -/

/-- `norm` of `::done(xclass_stats_t&)` -/
def classNorm (counts : List Nat) : α :=
  1 / (counts.map (fun (n : Nat) => (1 : α) / ((n : Nat) : α))).foldl (· + ·) 0

theorem classWeights_eq (counts : List Nat) (classes : List Int) :
    classWeights (α := α) counts classes =
      classes.map (fun c => if c ≥ 0 then classNorm counts / ((counts.getD c.toNat 0 : Nat) : α) else 0) := rfl

theorem zip_map_self {β γ : Type} (f : β → γ) (l : List β) : List.zip l (l.map f) = l.map (fun c => (c, f c)) := by
  induction l with
  | nil => rfl
  | cons a l ih => rw [List.map_cons, List.zip_cons_cons, ih, List.map_cons]

theorem foldl_add_pos (l : List α) (acc : α) (hl : ∀ x ∈ l, 0 < x) (h : 0 < acc) : 0 < l.foldl (· + ·) acc := by
  induction l generalizing acc with
  | nil => exact h
  | cons x xs ih => exact ih _ (fun y hy => hl y (List.mem_cons_of_mem _ hy)) (add_pos h (hl x List.mem_cons_self))

theorem classNorm_pos (counts : List Nat) (hpos : ∀ n ∈ counts, 1 ≤ n) (hne : counts ≠ []) :
    0 < classNorm (α := α) counts := by
  obtain ⟨n, ns, rfl⟩ := List.exists_cons_of_ne_nil hne
  have hterm : ∀ x ∈ (n :: ns).map (fun (n : Nat) => (1 : α) / ((n : Nat) : α)), 0 < x := fun x hx => by
    obtain ⟨k, hk, rfl⟩ := List.mem_map.mp hx
    exact one_div_pos.mpr (Nat.cast_pos.mpr (hpos k hk))
  rw [classNorm, List.map_cons, List.foldl_cons, zero_add]
  exact one_div_pos.mpr (foldl_add_pos _ _ (fun x hx => hterm x (List.mem_cons_of_mem _ hx)) (hterm _ List.mem_cons_self))

/-- the class-balancing weights are positive: with every class count `≥ 1` (each class hash comes from a present sample, which
    `find` maps to that class: `sample_classified`), `norm = 1/Σ_c 1/count_c > 0` and every classified sample gets
    `norm / count_c > 0`; a sample without class gets exactly 0. -/
theorem class_weights_pos (counts : List Nat) (hpos : ∀ n ∈ counts, 1 ≤ n) (hne : counts ≠ []) (classes : List Int) :
    ∀ p ∈ List.zip classes (classWeights (α := α) counts classes),
      (p.1 < 0 → p.2 = 0) ∧ (0 ≤ p.1 → p.1.toNat < counts.length → 0 < p.2) := by
  intro p hp
  rw [classWeights_eq, zip_map_self] at hp
  obtain ⟨c, -, rfl⟩ := List.mem_map.mp hp
  refine ⟨fun hneg => if_neg (not_le.mpr hneg), fun h0 hlt => ?_⟩
  have hmem : counts.getD c.toNat 0 ∈ counts := by
    rw [← List.getElem_eq_getD (h := hlt)]; exact List.getElem_mem hlt
  exact (if_pos h0).trans_gt (div_pos (classNorm_pos counts hpos hne) (Nat.cast_pos.mpr (hpos _ hmem)))

/-- `m_class_samples` has one entry per class, and entry `k` is exactly the number of samples whose class index is `k`
    (closed form of the `::update(xclass_stats_t&)` loop, any sample list, any number of classes; indices outside `[0, n)`
    — in particular −1 — are counted nowhere). -/
theorem class_counts_closed_form (n : Nat) (classes : List Int) :
    (classCounts n classes).length = n ∧
    ∀ k, k < n → (classCounts n classes).getD k 0 = classes.countP (fun c => c = (k : Int)) :=
  ⟨by rw [classCounts, classFold_length, List.length_replicate], classCounts_getD n classes⟩

/-- what `make_xclass_stats` computes meets the hypotheses of `class_weights_pos`: every class has at least one sample, so
    every classified sample of every data set gets a strictly positive weight and every other sample exactly 0. -/
theorem xclass_weights_pos (ss : List (Bool × Nat)) (hne : makeHashes ss ≠ []) :
    ∀ p ∈ List.zip (xclassStats (α := α) ss).sampleClasses (xclassStats (α := α) ss).sampleWeights,
      (p.1 < 0 → p.2 = 0) ∧ (0 ≤ p.1 → p.1.toNat < (xclassStats (α := α) ss).classSamples.length → 0 < p.2) := by
  have hlen := (class_counts_closed_form (makeHashes ss).length (sampleClasses (makeHashes ss) ss)).1
  refine class_weights_pos _ ?_ ?_ _
  · intro n hn
    obtain ⟨k, hk, rfl⟩ := List.mem_iff_getElem.mp hn
    have := xclass_counts_pos ss k (hlen ▸ hk)
    simpa [List.getD_eq_getElem?_getD, List.getElem?_eq_getElem hk] using this
  · intro h
    have : (makeHashes ss).length = 0 := by rw [← hlen, h]; rfl
    exact hne (List.length_eq_zero_iff.mp this)

example : classCounts 3 [0, 2, -1, 2, 5] = [1, 0, 2] := by decide

/-! #### class balance: the weights of every class add up to the same `norm` -/

theorem sum_filter_class (f : Int → α) (k : Int) (classes : List Int) :
    (((classes.map (fun c => (c, f c))).filter (fun p => p.1 = k)).map (·.2)).sum =
      (classes.countP (fun c => c = k) : α) * f k := by
  induction classes with
  | nil => simp
  | cons c cs ih =>
    by_cases h : c = k
    · subst h
      simp only [List.map_cons, decide_true, List.filter_cons_of_pos, List.sum_cons, ih, List.countP_cons_of_pos]
      push_cast; ring
    · simp only [List.map_cons]
      rw [List.filter_cons_of_neg (by simpa using h), ih, List.countP_cons_of_neg (by simpa using h)]

/-- the weights balance the classes: the weights of the samples of any non-empty class `k` add up to `norm`, the same
    value for every class (`count_k · norm / count_k`) -/
theorem class_weights_balanced (counts : List Nat) (classes : List Int) (k : Nat)
    (hk : counts.getD k 0 = classes.countP (fun c => c = (k : Int))) (hpos : 1 ≤ counts.getD k 0) :
    (((List.zip classes (classWeights (α := α) counts classes)).filter (fun p => p.1 = (k : Int))).map (·.2)).sum =
      classNorm counts := by
  rw [classWeights_eq, zip_map_self, sum_filter_class, if_pos (Int.natCast_nonneg k), Int.toNat_natCast, ← hk]
  exact mul_div_cancel₀ _ (Nat.cast_ne_zero.mpr (Nat.ne_of_gt hpos))

/-- for what `make_xclass_stats` computes, with no hypothesis left: the sample weights of EVERY class add up to the same
    value `norm` — the classes are balanced whatever their sizes -/
theorem xclass_weights_balanced (ss : List (Bool × Nat)) (k : Nat) (hk : k < (makeHashes ss).length) :
    (((List.zip (xclassStats (α := α) ss).sampleClasses (xclassStats (α := α) ss).sampleWeights).filter
        (fun p => p.1 = (k : Int))).map (·.2)).sum = classNorm (xclassStats (α := α) ss).classSamples :=
  class_weights_balanced _ _ k (classCounts_getD _ _ k hk) (xclass_counts_pos ss k hk)

example : (((List.zip [0, 1, 0, -1, 1, 1] (classWeights (α := ℚ) [2, 3] [0, 1, 0, -1, 1, 1])).filter
    (fun p => p.1 = ((1 : Nat) : Int))).map (·.2)).sum = classNorm [2, 3] ∧ classNorm (α := ℚ) [2, 3] = 6 / 5 := by
  constructor
  · exact class_weights_balanced _ _ 1 (by decide) (by decide)
  · decide +kernel

/-! ### non-vacuity (ℚ; `sqrt` on the one value that occurs) -/

section examples

local instance : Sqrt ℚ := ⟨fun v => if v = 1 then 1 else 0⟩
local instance : FinTest ℚ := ⟨fun _ => true⟩

/-- field-wise equality tests, so that the kernel can evaluate the statistics of the test columns below -/
local instance : DecidableEq (Stats ℚ) := fun a b =>
  decidable_of_iff (a.n = b.n ∧ a.mn = b.mn ∧ a.mx = b.mx ∧ a.mean = b.mean ∧ a.sd = b.sd ∧
    a.divRange = b.divRange ∧ a.mulRange = b.mulRange ∧ a.divSd = b.divSd ∧ a.mulSd = b.mulSd)
    (by cases a; cases b; simp)
local instance : DecidableEq (XStats ℚ) := fun a b =>
  decidable_of_iff (a.hashes = b.hashes ∧ a.classSamples = b.classSamples ∧ a.sampleClasses = b.sampleClasses ∧
    a.sampleWeights = b.sampleWeights) (by cases a; cases b; simp)

/-- the data `1, missing, 3, 2`: N = 3, mean 2, variance 1, range 2 — every hypothesis of the theorems above holds -/
def exData : List (Option ℚ) := [some 1, none, some 3, some 2]

example : present exData = [1, 3, 2] := rfl
example : ∀ v ∈ present exData, (-100 : ℚ) ≤ v ∧ v ≤ 100 := by decide +kernel
example : rawVar (accumulate (100 : ℚ) (-100) exData) = 1 := by decide +kernel
example : Sqrt.sqrt (rawVar (accumulate (100 : ℚ) (-100) exData)) *
    Sqrt.sqrt (rawVar (accumulate (100 : ℚ) (-100) exData)) = rawVar (accumulate (100 : ℚ) (-100) exData) ∧
    (1 / 100000000 : ℚ) ≤ Sqrt.sqrt (rawVar (accumulate (100 : ℚ) (-100) exData)) := by decide +kernel
/-- the statistics `done` computes for it: min 1, max 3, mean 2, stdev 1, 1/range, range, 1/stdev, stdev -/
example : columnStats (100 : ℚ) (-100) (1 / 100000000) true exData = ⟨3, 1, 3, 2, 1, 1 / 2, 2, 1, 1⟩ := by decide +kernel
/-- a constant column (the shape of the repaired defect): variance 0, stdev 0, divisors 1/ε, multipliers ε, and the
    round trip still returns the value -/
example : columnStats (100 : ℚ) (-100) (1 / 100000000) true [some (1 / 10), some (1 / 10), some (1 / 10)] =
    ⟨3, 1 / 10, 1 / 10, 1 / 10, 0, 100000000, 1 / 100000000, 100000000, 1 / 100000000⟩ := by decide +kernel
example : upscaleCell .standard (columnStats (100 : ℚ) (-100) (1 / 100000000) true [some (1 / 10), some (1 / 10), some (1 / 10)])
    (scaleCell .standard (columnStats (100 : ℚ) (-100) (1 / 100000000) true [some (1 / 10), some (1 / 10), some (1 / 10)])
      (some (7 / 3))) = 7 / 3 :=
  upscale_scale_id (fun _ => rfl) 100 (-100) (1 / 100000000) (by norm_num) true _ .standard (7 / 3)
/-! the regimes of `div_mul_one_regimes`, one witness each (ε = 10⁻⁸; the local `sqrt` returns 0 except at 1) -/
/-- range exactly ε (N = 2): the "at-or-above" regime, multiplier = range = ε -/
example : (columnStats (100 : ℚ) (-100) (1 / 100000000) true [some 0, some (1 / 100000000)]).mulRange = 1 / 100000000 ∧
    (columnStats (100 : ℚ) (-100) (1 / 100000000) true [some 0, some (1 / 100000000)]).divRange = 100000000 := by
  decide +kernel
/-- range just below ε: clamped to ε -/
example : (columnStats (100 : ℚ) (-100) (1 / 100000000) true [some 0, some (1 / 100000001)]).mulRange = 1 / 100000000 := by
  decide +kernel
/-- range just above ε: the range itself -/
example : (columnStats (100 : ℚ) (-100) (1 / 100000000) true [some 0, some (1 / 99999999)]).mulRange = 1 / 99999999 := by
  decide +kernel
/-- N = 1 and N = 0 and a masked component -/
example : columnStats (100 : ℚ) (-100) (1 / 100000000) true [none, some 7] = ⟨1, 7, 7, 7, 0, 1, 1, 1, 1⟩ := by decide +kernel
example : columnStats (100 : ℚ) (-100) (1 / 100000000) true [none, none] = ⟨0, 0, 0, 0, 0, 1, 1, 1, 1⟩ := by decide +kernel
example : columnStats (100 : ℚ) (-100) (1 / 100000000) false [some 1, some (-1)] = ⟨2, 0, 0, 0, 0, 1, 1, 1, 1⟩ := by
  decide +kernel
/-- deviation ≥ ε regime (variance 1) is `exData` above; the regenerated ε is the one used there -/
example : (ScalingGuards.epsilon2 : ℚ) = 1 / 100000000 := rfl
example : ScalingGuards.epsilon2Exp10 = -8 := rfl
/-- `onepass_eq_twopass` / `upscale_scale_id_generated` have satisfiable hypotheses -/
example : present exData ≠ [] := by decide +kernel
example : ∀ y : ℚ, FinTest.isFin y = true := fun _ => rfl
/-- `flatten_categorical_never_rescaled`: a single-label feature with 2 flatten columns followed by a scalar one -/
example : column2feature [⟨.sclass, 2⟩, ⟨.scalar, 1⟩] 1 = some 0 ∧ column2feature [⟨.sclass, 2⟩, ⟨.scalar, 1⟩] 2 = some 1 ∧
    column2feature [⟨.sclass, 2⟩, ⟨.scalar, 1⟩] 3 = none ∧ enableMask [⟨.sclass, 2⟩, ⟨.scalar, 1⟩] = [false, false, true] := by
  decide
/-- `targets_scaling_componentwise`: a legal call on a `(1, 2, 1)` target with two samples -/
example : (scale4 .minmax (statsOfMask (100 : ℚ) (-100) (1 / 100000000) (List.replicate (Dims3.size ⟨1, 2, 1⟩) true)
      [[some 1, some 2], [some 3, some 5]]) [[some 1, some 2], [some 3, none]]).isSome = true := by
  decide +kernel
example : (Dims3.off ⟨2, 3, 2⟩ 1 2 1) = 11 ∧ Dims3.size ⟨2, 3, 2⟩ = 12 := by decide
/-- `targets_roundtrip4`: samples of the right length exist -/
example : ∀ r ∈ [[(1 : ℚ), 2], [3, 5]], r.length = [true, true].length := by simp

/-- class statistics: labels 2, 0, missing, 2 → hashes [0, 2], counts [1, 2], classes [1, 0, −1, 1], weights 1/3, 2/3, 0, 1/3 -/
example : (xclassStats (α := ℚ) [(true, 2), (true, 0), (false, 18446744073709551615), (true, 2)]) =
    ⟨[0, 2], [1, 2], [1, 0, -1, 1], [1 / 3, 2 / 3, 0, 1 / 3]⟩ := by decide +kernel
/-- a legal call of the affine conversion (2 inputs, 1 output), so the hypothesis of `affine_upscale_same_predictor`
    is satisfiable; and an illegal one is refused -/
example : (upscaleAffine .standard
      [columnStats (100 : ℚ) (-100) (1 / 100000000) true exData, columnStats (100 : ℚ) (-100) (1 / 100000000) false exData]
      .minmax [columnStats (100 : ℚ) (-100) (1 / 100000000) true exData] [[2, 5]] [7]).isSome = true := by
  decide +kernel
example : upscaleAffine Mode.mean ([] : List (Stats ℚ)) Mode.mean [] [[1]] [] = none := by
  decide +kernel

end examples

end NanoVerif.Scaling
