import NanoVerif.Gen.LossKernels
import NanoVerif.Model.Loss
/-!
  C06 — the hand-written loss kernels of `Model/Loss.lean` ARE the formulas of the C++ source: `Gen/LossKernels.lean` is
  re-translated from include/nano/loss/flatten.h, include/nano/loss/error.h and src/loss/pinball.cpp on every check
  (tools/props/c06_translate.py); every equation below is `rfl` for an arbitrary scalar type (only the core classes the
  model itself uses). An edit of a formula in the source changes the generated definition and breaks the corresponding line.
  Not translated: `classnll_t` (loops), `sclass_t::error` (arg-max branch); `mclass_t::error`'s `.count()` is tied by induction.
-/
set_option linter.unusedSectionVars false

namespace NanoVerif.C06
open NanoVerif.Loss

section
variable {α : Type} [Add α] [Sub α] [Mul α] [Div α] [Neg α] [LT α] [LE α] [DecidableLT α] [DecidableLE α]
  [OfNat α 0] [OfNat α 1] [OfNat α 2] [OfNat α 4] [NatCast α] [Transc α]

theorem model_loss_value_kernels_are_generated (a t o : α) :
    maeV t o = Gen.LossKernels.maeV t o ∧ mseV t o = Gen.LossKernels.mseV t o ∧
    cauchyV t o = Gen.LossKernels.cauchyV t o ∧ hingeV t o = Gen.LossKernels.hingeV t o ∧
    sqhingeV t o = Gen.LossKernels.sqhingeV t o ∧ savageV t o = Gen.LossKernels.savageV t o ∧
    tangentV t o = Gen.LossKernels.tangentV t o ∧ logisticV t o = Gen.LossKernels.logisticV t o ∧
    expV t o = Gen.LossKernels.expV t o ∧ pinballV a t o = Gen.LossKernels.pinballV a t o :=
  ⟨rfl, rfl, rfl, rfl, rfl, rfl, rfl, rfl, rfl, rfl⟩

theorem model_loss_grad_kernels_are_generated (a t o : α) :
    maeG t o = Gen.LossKernels.maeG t o ∧ mseG t o = Gen.LossKernels.mseG t o ∧
    cauchyG t o = Gen.LossKernels.cauchyG t o ∧ hingeG t o = Gen.LossKernels.hingeG t o ∧
    sqhingeG t o = Gen.LossKernels.sqhingeG t o ∧ savageG t o = Gen.LossKernels.savageG t o ∧
    tangentG t o = Gen.LossKernels.tangentG t o ∧ logisticG t o = Gen.LossKernels.logisticG t o ∧
    expG t o = Gen.LossKernels.expG t o ∧ pinballG a t o = Gen.LossKernels.pinballG a t o :=
  ⟨rfl, rfl, rfl, rfl, rfl, rfl, rfl, rfl, rfl, rfl⟩

/-- the per-sample value / gradient / L1 error of the ten translated kinds is assembled as in the source (sum over the
    outputs, leading `0.5` of mse and cauchy) -/
theorem model_loss_values_are_generated (a eps : α) (t o : List α) :
    value .mae a eps t o = Gen.LossKernels.maeValue t o ∧ value .mse a eps t o = Gen.LossKernels.mseValue t o ∧
    value .cauchy a eps t o = Gen.LossKernels.cauchyValue t o ∧ value .hinge a eps t o = Gen.LossKernels.hingeValue t o ∧
    value .sqhinge a eps t o = Gen.LossKernels.sqhingeValue t o ∧ value .savage a eps t o = Gen.LossKernels.savageValue t o ∧
    value .tangent a eps t o = Gen.LossKernels.tangentValue t o ∧
    value .logistic a eps t o = Gen.LossKernels.logisticValue t o ∧
    value .exponential a eps t o = Gen.LossKernels.expValue t o ∧
    value .pinball a eps t o = Gen.LossKernels.pinballValue a t o ∧
    absdiffE t o = Gen.LossKernels.absdiffError t o :=
  ⟨rfl, rfl, rfl, rfl, rfl, rfl, rfl, rfl, rfl, rfl, rfl⟩

theorem model_loss_vgrads_are_generated (a : α) (t o : List α) :
    vgrad .mae a t o = Gen.LossKernels.maeVgrad t o ∧ vgrad .mse a t o = Gen.LossKernels.mseVgrad t o ∧
    vgrad .cauchy a t o = Gen.LossKernels.cauchyVgrad t o ∧ vgrad .hinge a t o = Gen.LossKernels.hingeVgrad t o ∧
    vgrad .sqhinge a t o = Gen.LossKernels.sqhingeVgrad t o ∧ vgrad .savage a t o = Gen.LossKernels.savageVgrad t o ∧
    vgrad .tangent a t o = Gen.LossKernels.tangentVgrad t o ∧ vgrad .logistic a t o = Gen.LossKernels.logisticVgrad t o ∧
    vgrad .exponential a t o = Gen.LossKernels.expVgrad t o ∧ vgrad .pinball a t o = Gen.LossKernels.pinballVgrad a t o :=
  ⟨rfl, rfl, rfl, rfl, rfl, rfl, rfl, rfl, rfl, rfl⟩

/-- `mclass_t::error` (and the one-output branch of `sclass_t::error`): the model counts exactly the outputs for which the
    generated predicate `edges < epsilon` holds -/
theorem model_count_edges_is_generated (eps : α) : ∀ (t o : List α),
    countEdges eps t o = (List.zip t o).countP (fun p => Gen.LossKernels.mclassWrong eps p.1 p.2)
  | [], _ => by simp [countEdges]
  | _ :: _, [] => by simp [countEdges]
  | ti :: ts, oi :: os => by
    rw [countEdges, model_count_edges_is_generated eps ts os, List.zip_cons_cons, List.countP_cons]
    by_cases h : ti * oi < eps <;> simp [h, Gen.LossKernels.mclassWrong, Gen.LossKernels.mclassEdge] <;> omega

end
end NanoVerif.C06
