import NanoVerif.Proofs.Program
import NanoVerif.Model.ProgramSolve
/-!
  C04 — what the statements about the whole loop of `solve_with_inequality` (`Model/ProgramSolve.lean`) are made of: the
  tests of the loop body by name, the invariant, runs of continuing iterations, and what `start` accepts. The loop
  theorems themselves are in `Props/C04.lean`.
-/
set_option linter.unusedSectionVars false

namespace NanoVerif.Program
variable {α : Type} [Field α] [LinearOrder α] [IsStrictOrderedRing α]

/-! ### the status decision of `solver_t::done` (generated definition) -/

theorem doneStatus_cases (feas : Bool) (eta rd rp eps : α) :
    (doneStatus feas eta rd rp eps = .converged ↔ feas = true ∧ cmax3 eta rd rp < eps) ∧
    (doneStatus feas eta rd rp eps = .unbounded ↔ feas = true ∧ ¬ cmax3 eta rd rp < eps) ∧
    (doneStatus feas eta rd rp eps = .unfeasible ↔ feas = false) ∧
    doneStatus feas eta rd rp eps ≠ .failed ∧ doneStatus feas eta rd rp eps ≠ .maxIters := by
  unfold doneStatus
  cases feas <;> by_cases h : cmax3 eta rd rp < eps <;> simp [h]

/-! ### the tests of the loop body -/

/-- the finiteness test of solver.cpp:365 on the state after the step -/
def finAfter [Sqrt α] [FinTest α] (st2 : St α) : Bool :=
  FinTest.isFin st2.eta && FinTest.isFin (norm2 st2.rdual) && FinTest.isFin (norm2 st2.rprim)

/-- the `epsilon0` test of solver.cpp:372 -/
def noProgressTest [Sqrt α] (par : Params α) (st st2 : St α) : Prop :=
  cmax3 (st.eta - st2.eta) (norm2 st.rdual - norm2 st2.rdual) (norm2 st.rprim - norm2 st2.rprim) < par.epsilon0

/-! ### the invariant of the loop -/

/-- what holds of `(x, u, v, state)` at the top of every iteration and at every exit: shapes, `G x < h`, `u > 0`, and
    `fx, eta, rdual, rprim, rcent` are those `program_t::update` computes AT `(x, u, v)` -/
def Inv (P : Prog α) (mufx miu : α) (x u v : List α) (st : St α) : Prop :=
  x.length = P.n ∧ u.length = P.G.length ∧ v.length = P.A.length ∧ (∀ a ∈ slack P x, a < 0) ∧ (∀ a ∈ u, 0 < a) ∧
    ∃ stq, st = update P mufx miu x u v stq

/-- the parameter domains `solver_t` registers and the constants of the code, as far as the invariant needs them -/
structure ParOk (par : Params α) : Prop where
  big : 0 < par.big
  s0pos : 0 < par.s0
  s0lt : par.s0 < 1
  beta0 : 0 ≤ par.beta
  beta1 : par.beta ≤ 1

def Outcome.Holds (p : List α → List α → List α → St α → Prop) : Outcome α → Prop
  | .next x u v st => p x u v st
  | .stop _ x u v st => p x u v st

theorem Outcome.Holds.of_next {p : List α → List α → List α → St α → Prop} {o : Outcome α} {x u v : List α} {st : St α}
    (h : o.Holds p) (e : o = .next x u v st) : p x u v st := by
  subst e; exact h

theorem Outcome.Holds.of_stop {p : List α → List α → List α → St α → Prop} {o : Outcome α} {status : Status}
    {x u v : List α} {st : St α} (h : o.Holds p) (e : o = .stop status x u v st) : p x u v st := by
  subst e; exact h

/-! ### the start -/

theorem start_eq (P : Prog α) (mufx miu nan : α) (x0 : List α) :
    start P mufx miu nan x0 = if slack P x0 ≠ [] ∧ ∀ a ∈ slack P x0, a < 0 then
      some ((slack P x0).map (fun g => -1 / g), zeros P.p,
        update P mufx miu x0 ((slack P x0).map (fun g => -1 / g)) (zeros P.p) ⟨nan, nan, [], [], []⟩)
      else none := by
  unfold start
  cases slack P x0 with
  | nil => exact (if_neg fun h => h.1 rfl).symm
  | cons g gs =>
    have key : gs.foldl cmax g < 0 ↔ g :: gs ≠ [] ∧ ∀ a ∈ g :: gs, a < 0 := by
      rw [cmax_eq, Cxx.foldl_max_lt_iff, List.forall_mem_cons, and_iff_right (List.cons_ne_nil g gs)]
    simp only [maxCoeff]
    by_cases hc : gs.foldl cmax g < 0
    · rw [if_neg (not_le.2 hc), if_pos (key.1 hc)]
    · rw [if_pos (not_lt.1 hc), if_neg (fun h => hc (key.2 h))]

theorem start_none_iff (P : Prog α) (mufx miu nan : α) (x0 : List α) :
    start P mufx miu nan x0 = none ↔ slack P x0 = [] ∨ ∃ a ∈ slack P x0, 0 ≤ a := by
  rw [start_eq]
  constructor
  · intro h
    by_contra hc
    push Not at hc
    rw [if_pos hc] at h
    cases h
  · exact fun h => if_neg fun hc => h.elim hc.1 fun ⟨a, ha, h0⟩ => not_lt.2 h0 (hc.2 a ha)

theorem start_inv (P : Prog α) (mufx miu nan : α) (x0 u0 v0 : List α) (st0 : St α) (hx0 : x0.length = P.n)
    (hh : P.h.length = P.G.length) (h : start P mufx miu nan x0 = some (u0, v0, st0)) :
    Inv P mufx miu x0 u0 v0 st0 ∧ P.G ≠ [] := by
  rw [start_eq] at h
  split at h
  · rename_i hc
    rw [Option.some.injEq, Prod.mk.injEq, Prod.mk.injEq] at h
    obtain ⟨rfl, rfl, rfl⟩ := h
    refine ⟨⟨hx0, (List.length_map _).trans (slack_length P x0 hh), zeros_length _, hc.2, ?_, _, rfl⟩, ?_⟩
    · exact List.forall_mem_map.2 fun g hg => div_pos_of_neg_of_neg (by norm_num) (hc.2 g hg)
    · exact fun h0 => hc.1 (by rw [slack, h0]; rfl)
  · cases h

/-! ### runs of the loop -/

/-- `Reaches k (x,u,v,st) j (x',u',v',st')`: iterations `k … j−1` all took the `continues` exit and led from the first
    state to the second -/
inductive Reaches [Sqrt α] [FinTest α] (P : Prog α) (mufx : α) (par : Params α) (newton : Newton α) :
    Nat → List α → List α → List α → St α → Nat → List α → List α → List α → St α → Prop
  | refl (k : Nat) (x u v : List α) (st : St α) : Reaches P mufx par newton k x u v st k x u v st
  | head (k : Nat) (x u v : List α) (st : St α) (x1 u1 v1 : List α) (st1 : St α) (j : Nat) (x2 u2 v2 : List α) (st2 : St α) :
      iterate P mufx par x u v st (newton k x u v st).1 (newton k x u v st).2.1 (newton k x u v st).2.2.1
        (newton k x u v st).2.2.2 = .next x1 u1 v1 st1 →
      Reaches P mufx par newton (k + 1) x1 u1 v1 st1 j x2 u2 v2 st2 → Reaches P mufx par newton k x u v st j x2 u2 v2 st2

/-- the oracle answers with vectors of the sizes the code allocates (`dx ∈ ℝⁿ`, `du ∈ ℝᵐ`, `dv ∈ ℝᵖ`) -/
def NewtonShapes (P : Prog α) (newton : Newton α) : Prop :=
  ∀ k x u v st, (newton k x u v st).2.1.length = P.n ∧ (newton k x u v st).2.2.1.length = P.G.length ∧
    (newton k x u v st).2.2.2.length = P.A.length

/-! ### the whole `solve_with_inequality` -/

/-- a starting point that is not strictly inside the inequalities is answered with `unfeasible` at once: `m_iters = 0`,
    `m_x = x0` unchanged, no multipliers -/
theorem solveIneq_refused [Sqrt α] [FinTest α] (P : Prog α) (mufx : α) (par : Params α) (nan : α) (newton : Newton α)
    (x0 : List α) (h : start P mufx par.miu nan x0 = none) :
    (solveIneq P mufx par nan newton x0).status = .unfeasible ∧ (solveIneq P mufx par nan newton x0).iters = 0 ∧
      (solveIneq P mufx par nan newton x0).x = x0 := by
  simp [solveIneq, h]

end NanoVerif.Program
