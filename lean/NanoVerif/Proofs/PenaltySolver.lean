import NanoVerif.Model.PenaltySolver
import NanoVerif.Proofs.Penalty
import Mathlib.Data.List.Induction
/-!
  C05 — the outer loop of the two exterior-penalty solvers (`penStep`, `penLoop` of `Model/PenaltySolver.lean`) in exact
  arithmetic: the well-formedness of the ghost log of inner-solver calls (`Sched`), the invariant of the running loop
  (`PRun`) and what holds of the state the loop returns (`PFin`). The inner solver is universally quantified.
-/
namespace NanoVerif.Penalty
open NanoVerif.Constraint
set_option linter.unusedSectionVars false

variable {α : Type} [Field α] [LinearOrder α] [IsStrictOrderedRing α]

/-! ### the ghost log -/

/-- the point the outer loop holds after a sequence of inner-solver calls: the last valid answer, `x0` when none -/
def lastValid (x0 : List α) (calls : List (PCall α)) : List α :=
  calls.foldl (fun x c => if c.iterOk then c.cx else x) x0

theorem lastValid_nil (x0 : List α) : lastValid x0 [] = x0 := rfl

theorem lastValid_snoc (x0 : List α) (l : List (PCall α)) (c : PCall α) :
    lastValid x0 (l ++ [c]) = if c.iterOk then c.cx else lastValid x0 l := by
  simp [lastValid, List.foldl_append]

theorem lastValid_mem (x0 : List α) (l : List (PCall α)) :
    lastValid x0 l = x0 ∨ ∃ c ∈ l, c.iterOk = true ∧ lastValid x0 l = c.cx := by
  induction l using List.reverseRecOn with
  | nil => exact Or.inl rfl
  | append_singleton l c ih =>
    rw [lastValid_snoc]
    cases hc : c.iterOk
    · simp only [Bool.false_eq_true, if_false]
      rcases ih with h | ⟨d, hd, hok, he⟩
      · exact Or.inl h
      · exact Or.inr ⟨d, by simp [hd], hok, he⟩
    · simp only [if_true]
      exact Or.inr ⟨c, by simp, hc, rfl⟩

/-- a call after which the loop goes on: the inner solver failed, or it succeeded, the iterate still moved and the new
    `bstate` is valid -/
def NonStop (c : PCall α) : Prop := c.iterOk = true → c.xconv = false ∧ c.bvalid = true

/-- well-formedness of the log, call by call (`l` = the calls made before `c`): the penalty parameter passed is
    `penalty0 * eta^k`, the inner precision `epsilon0 * epsilonK^(valid answers so far)`, the starting point the last valid
    answer; the record is the oracle's answer in a loop state carrying exactly these values; `xconv` is the stopping test
    of `nano::converged` between the starting point and the answer -/
inductive Sched (p : PParams α) (penalty0 eps0 : α) (x0 : List α) (inner : Nat → PState α → PAnswer α) :
    List (PCall α) → Prop
  | nil : Sched p penalty0 eps0 x0 inner []
  | snoc (l : List (PCall α)) (c : PCall α) : Sched p penalty0 eps0 x0 inner l →
      c.penalty = penalty0 * p.eta ^ l.length →
      c.innerEps = eps0 * p.epsK ^ (l.countP (fun d => d.iterOk)) →
      c.start = lastValid x0 l →
      c.xconv = xConverged c.start c.cx p.eps →
      (∃ s : PState α, s.iters = l.length ∧ s.penalty = c.penalty ∧ s.innerEps = c.innerEps ∧ s.best.x = c.start ∧
        inner l.length s = ⟨c.cx, c.iterOk, c.bvalid⟩) →
      Sched p penalty0 eps0 x0 inner (l ++ [c])

/-- what `Sched` says of one call of the log -/
structure CallOk (p : PParams α) (penalty0 eps0 : α) (x0 : List α) (inner : Nat → PState α → PAnswer α)
    (l : List (PCall α)) (c : PCall α) : Prop where
  penalty_eq : c.penalty = penalty0 * p.eta ^ l.length
  innerEps_eq : c.innerEps = eps0 * p.epsK ^ (l.countP (fun d => d.iterOk))
  start_eq : c.start = lastValid x0 l
  xconv_eq : c.xconv = xConverged c.start c.cx p.eps
  answer : ∃ s : PState α, s.iters = l.length ∧ s.penalty = c.penalty ∧ s.innerEps = c.innerEps ∧ s.best.x = c.start ∧
    inner l.length s = ⟨c.cx, c.iterOk, c.bvalid⟩

theorem Sched.call {p : PParams α} {penalty0 eps0 : α} {x0 : List α} {inner : Nat → PState α → PAnswer α}
    {calls : List (PCall α)} (h : Sched p penalty0 eps0 x0 inner calls) :
    ∀ (l1 : List (PCall α)) (c : PCall α) (l2 : List (PCall α)), calls = l1 ++ c :: l2 →
      CallOk p penalty0 eps0 x0 inner l1 c := by
  induction h with
  | nil => intro l1 c l2 h; simp at h
  | snoc l c' hl h1 h2 h3 h4 h5 ih =>
    intro l1 c l2 heq
    -- `c` is the last call of `l ++ [c']`, or a call of `l`
    rcases l2.eq_nil_or_concat with rfl | ⟨L, b, rfl⟩
    · obtain ⟨rfl, rfl⟩ := List.append_singleton_inj.mp heq
      exact ⟨h1, h2, h3, h4, h5⟩
    · rw [List.concat_eq_append, ← List.cons_append, ← List.append_assoc] at heq
      exact ih l1 c L (List.append_singleton_inj.mp heq).1

/-! ### one step -/

/-- the ghost record `penStep` appends -/
def callOf (p : PParams α) (s : PState α) (a : PAnswer α) : PCall α :=
  ⟨s.penalty, s.innerEps, s.best.x, a.cx, a.iterOk, a.bvalid, xConverged s.best.x a.cx p.eps⟩

@[simp] theorem callOf_iterOk (p : PParams α) (s : PState α) (a : PAnswer α) : (callOf p s a).iterOk = a.iterOk := rfl
@[simp] theorem callOf_bvalid (p : PParams α) (s : PState α) (a : PAnswer α) : (callOf p s a).bvalid = a.bvalid := rfl
@[simp] theorem callOf_cx (p : PParams α) (s : PState α) (a : PAnswer α) : (callOf p s a).cx = a.cx := rfl
@[simp] theorem callOf_xconv (p : PParams α) (s : PState α) (a : PAnswer α) :
    (callOf p s a).xconv = xConverged s.best.x a.cx p.eps := rfl
@[simp] theorem callOf_penalty (p : PParams α) (s : PState α) (a : PAnswer α) : (callOf p s a).penalty = s.penalty := rfl

section Step
variable (cs : List (C α)) (p : PParams α) (s : PState α) (a : PAnswer α)

theorem penStep_fail (h : a.iterOk = false) :
    penStep cs p s a = ({ s with penalty := s.penalty * p.eta, iters := s.iters + 1, calls := s.calls ++ [callOf p s a] }, false) := by
  simp [penStep, callOf, h]

theorem penStep_stop (h : a.iterOk = true)
    (h2 : (xConverged s.best.x a.cx p.eps || !a.bvalid) = true) :
    penStep cs p s a = ({ s with best := mkState cs a.cx, iters := s.iters + 1, status := if xConverged s.best.x a.cx p.eps then 1 else 2, calls := s.calls ++ [callOf p s a] }, true) := by
  simp only [penStep, callOf, h, Bool.not_true, Bool.false_eq_true, if_false, h2, if_true]

theorem penStep_go (h : a.iterOk = true)
    (h2 : (xConverged s.best.x a.cx p.eps || !a.bvalid) = false) :
    penStep cs p s a = ({ best := mkState cs a.cx, penalty := s.penalty * p.eta, innerEps := s.innerEps * p.epsK, iters := s.iters + 1, status := s.status, calls := s.calls ++ [callOf p s a] }, false) := by
  simp only [penStep, callOf, h, Bool.not_true, Bool.false_eq_true, if_false, h2]

theorem penStep_iters : (penStep cs p s a).1.iters = s.iters + 1 := by
  cases hok : a.iterOk
  · rw [penStep_fail cs p s a hok]
  · cases hstop : (xConverged s.best.x a.cx p.eps || !a.bvalid)
    · rw [penStep_go cs p s a hok hstop]
    · rw [penStep_stop cs p s a hok hstop]

end Step

theorem penLoop_isLoop (cs : List (C α)) (p : PParams α) (inner : Nat → PState α → PAnswer α) :
    IsLoop (penLoop cs p inner) (fun s => penStep cs p s (inner s.iters s)) :=
  ⟨fun _ => rfl, fun _ _ => rfl⟩

/-! ### the invariant of the running loop and the description of the returned state -/

/-- invariant of the loop while it runs (`status` still the default `max_iters`) -/
structure PRun (cs : List (C α)) (p : PParams α) (penalty0 eps0 : α) (x0 : List α)
    (inner : Nat → PState α → PAnswer α) (s : PState α) : Prop where
  status_eq : s.status = 0
  calls_len : s.calls.length = s.iters
  sched : Sched p penalty0 eps0 x0 inner s.calls
  best_eq : s.best = mkState cs (lastValid x0 s.calls)
  penalty_eq : s.penalty = penalty0 * p.eta ^ s.iters
  innerEps_eq : s.innerEps = eps0 * p.epsK ^ (s.calls.countP (fun d => d.iterOk))
  nonstop : ∀ c ∈ s.calls, NonStop c

structure PFin (cs : List (C α)) (p : PParams α) (penalty0 eps0 : α) (x0 : List α)
    (inner : Nat → PState α → PAnswer α) (r : PState α) : Prop where
  calls_len : r.calls.length = r.iters
  sched : Sched p penalty0 eps0 x0 inner r.calls
  best_eq : r.best = mkState cs (lastValid x0 r.calls)
  running : r.status = 0 → (∀ c ∈ r.calls, NonStop c) ∧ r.penalty = penalty0 * p.eta ^ r.iters
  stopped : r.status ≠ 0 → ∃ (init : List (PCall α)) (last : PCall α), r.calls = init ++ [last] ∧
    (∀ c ∈ init, NonStop c) ∧ last.iterOk = true ∧ r.best.x = last.cx ∧ r.penalty = last.penalty ∧
    ((r.status = 1 ∧ last.xconv = true) ∨ (r.status = 2 ∧ last.xconv = false ∧ last.bvalid = false))

theorem penInit_run (cs : List (C α)) (p : PParams α) (penalty0 eps0 : α) (x0 : List α)
    (inner : Nat → PState α → PAnswer α) : PRun cs p penalty0 eps0 x0 inner (penInit cs x0 penalty0 eps0) :=
  ⟨rfl, rfl, Sched.nil, rfl, by simp [penInit], by simp [penInit], by simp [penInit]⟩

theorem sched_step {cs : List (C α)} {p : PParams α} {penalty0 eps0 : α} {x0 : List α}
    {inner : Nat → PState α → PAnswer α} {s : PState α} (h : PRun cs p penalty0 eps0 x0 inner s) :
    Sched p penalty0 eps0 x0 inner (s.calls ++ [callOf p s (inner s.iters s)]) := by
  have hx : s.best.x = lastValid x0 s.calls := by rw [h.best_eq]; rfl
  refine Sched.snoc _ _ h.sched ?_ ?_ hx rfl ⟨s, h.calls_len.symm, rfl, rfl, rfl, ?_⟩
  · show s.penalty = _
    rw [h.penalty_eq, h.calls_len]
  · exact h.innerEps_eq
  · rw [h.calls_len]; rfl

theorem penStep_run {cs : List (C α)} {p : PParams α} {penalty0 eps0 : α} {x0 : List α}
    {inner : Nat → PState α → PAnswer α} {s : PState α} (h : PRun cs p penalty0 eps0 x0 inner s) :
    ((penStep cs p s (inner s.iters s)).2 = false → PRun cs p penalty0 eps0 x0 inner (penStep cs p s (inner s.iters s)).1) ∧
    ((penStep cs p s (inner s.iters s)).2 = true → PFin cs p penalty0 eps0 x0 inner (penStep cs p s (inner s.iters s)).1) ∧
    (penStep cs p s (inner s.iters s)).1.iters = s.iters + 1 ∧
    ((penStep cs p s (inner s.iters s)).2 = true → (penStep cs p s (inner s.iters s)).1.status ≠ 0) := by
  have hsched := sched_step h
  have hlen : ∀ c : PCall α, (s.calls ++ [c]).length = s.iters + 1 := fun c => by
    rw [List.length_append, h.calls_len]; rfl
  -- the calls made so far went on; so does the log with a new call that goes on
  have hns : ∀ c : PCall α, NonStop c → ∀ d ∈ s.calls ++ [c], NonStop d := fun c hc d hd =>
    (List.mem_append.mp hd).elim (h.nonstop d) (fun hd => List.mem_singleton.mp hd ▸ hc)
  have hpen : s.penalty * p.eta = penalty0 * p.eta ^ (s.iters + 1) := by rw [h.penalty_eq, pow_succ, mul_assoc]
  generalize inner s.iters s = a at hsched ⊢
  cases hok : a.iterOk
  · -- the inner solver failed: the loop goes on from the same `bstate` with a larger penalty
    rw [penStep_fail cs p s a hok]
    refine ⟨fun _ => ⟨h.status_eq, hlen _, hsched, ?_, hpen, ?_, hns _ (fun hh => ?_)⟩, fun hh => absurd hh Bool.false_ne_true,
      rfl, fun hh => absurd hh Bool.false_ne_true⟩
    · rw [lastValid_snoc, callOf_iterOk, hok, if_neg Bool.false_ne_true]; exact h.best_eq
    · rw [List.countP_append, List.countP_singleton, callOf_iterOk, hok, if_neg Bool.false_ne_true, add_zero]
      exact h.innerEps_eq
    · rw [callOf_iterOk, hok] at hh; exact absurd hh Bool.false_ne_true
  · cases hstop : (xConverged s.best.x a.cx p.eps || !a.bvalid)
    · -- a valid answer that neither converged nor broke `bstate`: the loop goes on from it, more precisely
      rw [penStep_go cs p s a hok hstop]
      rw [Bool.or_eq_false_iff, Bool.not_eq_false'] at hstop
      refine ⟨fun _ => ⟨h.status_eq, hlen _, hsched, ?_, hpen, ?_, hns _ (fun _ => hstop)⟩, fun hh => absurd hh Bool.false_ne_true,
        rfl, fun hh => absurd hh Bool.false_ne_true⟩
      · rw [lastValid_snoc, callOf_iterOk, hok, if_pos rfl]; rfl
      · rw [List.countP_append, List.countP_singleton, callOf_iterOk, hok, if_pos rfl, pow_succ, ← mul_assoc]
        exact congrArg (· * p.epsK) h.innerEps_eq
    · -- a valid answer that stops the loop: `converged` if the step test held, else `failed` (`bstate` became invalid)
      rw [penStep_stop cs p s a hok hstop]
      have hst : (if xConverged s.best.x a.cx p.eps = true then 1 else 2) ≠ 0 := by split <;> decide
      refine ⟨fun hh => absurd hh (Bool.false_ne_true ∘ Eq.symm), fun _ => ⟨hlen _, hsched, ?_, fun h0 => absurd h0 hst,
        fun _ => ⟨s.calls, _, rfl, h.nonstop, hok, rfl, rfl, ?_⟩⟩, rfl, fun _ => hst⟩
      · rw [lastValid_snoc, callOf_iterOk, hok, if_pos rfl]; rfl
      · cases hconv : xConverged s.best.x a.cx p.eps
        · rw [hconv, Bool.false_or, Bool.not_eq_true'] at hstop
          exact Or.inr ⟨rfl, hconv, hstop⟩
        · exact Or.inl ⟨rfl, hconv⟩

theorem penLoop_fin (cs : List (C α)) (p : PParams α) (penalty0 eps0 : α) (x0 : List α)
    (inner : Nat → PState α → PAnswer α) :
    ∀ (fuel : Nat) (s : PState α), PRun cs p penalty0 eps0 x0 inner s →
      PFin cs p penalty0 eps0 x0 inner (penLoop cs p inner fuel s) ∧
      (penLoop cs p inner fuel s).iters ≤ s.iters + fuel ∧
      ((penLoop cs p inner fuel s).status = 0 → (penLoop cs p inner fuel s).iters = s.iters + fuel) ∧
      ((penLoop cs p inner fuel s).status ≠ 0 → s.iters < (penLoop cs p inner fuel s).iters) := by
  intro fuel s h
  -- the invariant with `n` steps of fuel left: the loop runs and has made `fuel - n` steps
  refine (penLoop_isLoop cs p inner).result
    (fun n t => PRun cs p penalty0 eps0 x0 inner t ∧ s.iters ≤ t.iters ∧ t.iters + n = s.iters + fuel)
    (fun r => PFin cs p penalty0 eps0 x0 inner r ∧ r.iters ≤ s.iters + fuel ∧ (r.status = 0 → r.iters = s.iters + fuel) ∧
      (r.status ≠ 0 → s.iters < r.iters))
    (fun n t ht hf => ?_) (fun n t ht hf => ?_) (fun t ht => ?_) fuel s ⟨h, le_refl _, rfl⟩
  · rw [penStep_iters]
    exact ⟨(penStep_run ht.1).1 hf, Nat.le_succ_of_le ht.2.1, (Nat.add_right_comm _ _ _).trans ht.2.2⟩
  · rw [penStep_iters]
    exact ⟨(penStep_run ht.1).2.1 hf, by omega, fun h0 => absurd h0 ((penStep_run ht.1).2.2.2 hf),
      fun _ => Nat.lt_succ_of_le ht.2.1⟩
  · exact ⟨⟨ht.1.calls_len, ht.1.sched, ht.1.best_eq, fun _ => ⟨ht.1.nonstop, ht.1.penalty_eq⟩, fun hne => absurd ht.1.status_eq hne⟩,
      le_of_eq ht.2.2, fun _ => ht.2.2, fun hne => absurd ht.1.status_eq hne⟩

end NanoVerif.Penalty
