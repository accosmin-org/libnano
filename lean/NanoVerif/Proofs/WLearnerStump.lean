import NanoVerif.Proofs.WLearnerConst
import NanoVerif.Proofs.WLearnerSweep
/-!
  C10 — the decision stump: every candidate's residual sum of squares is the RSS (from the definition) of the stump it
  stores, the stored outputs are the best coefficients for its threshold, and every threshold that splits the present
  values is represented by a candidate.
-/
set_option linter.unusedSectionVars false

namespace NanoVerif.WLearner
variable {α : Type} [Field α] [LinearOrder α] [IsStrictOrderedRing α]

/-- the contract of `std::sort` on the `(value, sample)` pairs: a sorted permutation -/
structure SortSpec (sort : List (Item α) → List (Item α)) : Prop where
  perm : ∀ l, (sort l).Perm l
  sorted : ∀ l, (sort l).Pairwise (fun a b => a.v ≤ b.v)

/-! ### residual sum of squares of a predictor that is zero on missing values -/

def missSum (T : Nat) (rows : List (Row α)) : α :=
  lsum (rows.map fun row => match row.x with
    | none => sqErr T row.r zeroV
    | some _ => 0)

theorem sqErr_zero (T : Nat) (r : Vec α) : sqErr T r zeroV = vsum (fun o => r o * r o) T := by
  unfold sqErr zeroV
  apply vsum_congr; intro o _; ring

theorem missRss_eq (T : Nat) (rows : List (Row α)) : missRss T rows = missSum T rows := by
  refine (foldl_add_eq _ id
    (fun row : Row α => match row.x with
      | none => sqErr T row.r zeroV
      | some _ => 0) (fun a row => ?_) rows 0).trans (zero_add _)
  cases row.x with
  | none => exact congrArg (a + ·) (sqErr_zero T row.r).symm
  | some v => exact (add_zero a).symm

theorem present_cons_none (row : Row α) (rows : List (Row α)) (h : row.x = none) :
    present (row :: rows) = present rows := by
  unfold present; simp [h]

theorem present_cons_some (row : Row α) (rows : List (Row α)) (v : α) (h : row.x = some v) :
    present (row :: rows) = ⟨v, row.idx, row.r⟩ :: present rows := by
  unfold present; simp [h]

theorem mem_present {rows : List (Row α)} {it : Item α} (h : it ∈ present rows) :
    ∃ row ∈ rows, row.x = some it.v ∧ row.r = it.r := by
  unfold present at h
  obtain ⟨row, hr, hx⟩ := List.mem_filterMap.mp h
  cases hv : row.x with
  | none => simp [hv] at hx
  | some v => simp [hv] at hx; subst hx; exact ⟨row, hr, hv, rfl⟩

theorem present_mem {rows : List (Row α)} {row : Row α} {v : α} (hr : row ∈ rows) (hv : row.x = some v) :
    ⟨v, row.idx, row.r⟩ ∈ present rows := by
  unfold present
  exact List.mem_filterMap.mpr ⟨row, hr, by simp [hv]⟩

theorem rssOf_split (T : Nat) (rows : List (Row α)) (pred : Option α → Vec α) (g : α → Vec α)
    (h0 : pred none = zeroV) (hp : ∀ x, pred (some x) = g x) :
    rssOf T rows pred = missSum T rows + lsum ((present rows).map fun it => sqErr T it.r (g it.v)) := by
  unfold rssOf missSum
  induction rows with
  | nil => simp [present]
  | cons row rows ih =>
    simp only [List.map_cons, lsum_cons]
    rw [ih]
    cases hx : row.x with
    | none => rw [present_cons_none row rows hx, h0]; ring
    | some v => rw [present_cons_some row rows v hx, hp]; simp only [List.map_cons, lsum_cons]; ring

theorem lsum_filter_split {β : Type} (p : β → Bool) (A B : β → α) (l : List β) :
    lsum (l.map fun x => if p x = true then A x else B x) =
      lsum ((l.filter p).map A) + lsum ((l.filter fun x => !p x).map B) := by
  induction l with
  | nil => exact (add_zero 0).symm
  | cons x xs ih =>
    simp only [List.map_cons, lsum_cons, List.filter_cons]
    rw [ih]
    cases hp : p x
    · simp only [Bool.false_eq_true, if_false, Bool.not_false, if_true, List.map_cons, lsum_cons]; ring
    · simp only [if_true, Bool.not_true, Bool.false_eq_true, if_false, List.map_cons, lsum_cons]; ring

/-- shared by the stump and both hinges -/
theorem rssOf_thr (T : Nat) (rows : List (Row α)) (t : α) (pred : Option α → Vec α) (gl gr : α → Vec α)
    (h0 : pred none = zeroV) (hp : ∀ x, pred (some x) = if x < t then gl x else gr x) :
    rssOf T rows pred = missSum T rows
      + lsum ((leftOf t (present rows)).map fun it => sqErr T it.r (gl it.v))
      + lsum ((rightOf t (present rows)).map fun it => sqErr T it.r (gr it.v)) := by
  rw [rssOf_split T rows pred _ h0 hp, add_assoc]
  refine congrArg (missSum T rows + ·) (Eq.trans ?_ (lsum_filter_split (fun it : Item α => decide (it.v < t)) _ _ _))
  apply lsum_map_congr; intro it _
  by_cases h : it.v < t <;> simp only [h, if_true, if_false, decide_true, decide_false, Bool.false_eq_true]

theorem rssOf_stump (T : Nat) (rows : List (Row α)) (t : α) (lo hi : Vec α) :
    rssOf T rows (stumpPred t lo hi) = missSum T rows
      + lsum ((leftOf t (present rows)).map fun it => sqErr T it.r lo)
      + lsum ((rightOf t (present rows)).map fun it => sqErr T it.r hi) :=
  rssOf_thr T rows t _ (fun _ => lo) (fun _ => hi) rfl (fun _ => rfl)

/-! ### one side of a stump -/

theorem sideScore_eq_binScore (T : Nat) (m : Mom α) (hx : m.x0 ≠ 0) :
    sideScore T m.x0 m.r1 m.r2 (fun o => m.r1 o / m.x0) = binScore T m := by
  unfold sideScore binScore
  simp only [two, one_add_one_eq_two]
  exact vsum_congr T fun o _ => quadratic_at_mean hx

theorem sqErr_congr (T : Nat) (r p q : Vec α) (h : ∀ o, p o = q o) : sqErr T r p = sqErr T r q := by
  unfold sqErr; apply vsum_congr; intro o _; rw [h]

theorem lsum_items_partition (items sorted : List (Item α)) (hperm : sorted.Perm items) (t : α) (F : Item α → α) :
    lsum (items.map F) = lsum ((leftOf t sorted).map F) + lsum ((rightOf t sorted).map F) := by
  rw [← lsum_perm (hperm.map F), leftOf, rightOf, ← lsum_filter_split _ F F]
  exact lsum_map_congr _ _ _ fun x _ => (ite_self _).symm

theorem lsum_leftOf_perm (items sorted : List (Item α)) (hperm : sorted.Perm items) (t : α) (F : Item α → α) :
    lsum ((leftOf t sorted).map F) = lsum ((leftOf t items).map F) :=
  lsum_perm ((hperm.filter _).map F)

theorem lsum_rightOf_perm (items sorted : List (Item α)) (hperm : sorted.Perm items) (t : α) (F : Item α → α) :
    lsum ((rightOf t sorted).map F) = lsum ((rightOf t items).map F) :=
  lsum_perm ((hperm.filter _).map F)

theorem length_items_partition (items sorted : List (Item α)) (hperm : sorted.Perm items) (t : α) :
    items.length - (leftOf t sorted).length = (rightOf t sorted).length := by
  have h := List.length_eq_length_filter_add (l := sorted) fun it => decide (it.v < t)
  rw [hperm.length_eq] at h
  exact Nat.sub_eq_of_eq_add' h

/-- `m_acc_sum − m_acc_neg` is the accumulator of the right side -/
theorem sub_momOf_eq (items sorted : List (Item α)) (hperm : sorted.Perm items) (t : α) :
    (momOf (items.map (·.r))).sub (momOf ((leftOf t sorted).map (·.r))) = momOf ((rightOf t sorted).map (·.r)) := by
  have hp : ∀ F : Item α → α, lsum (items.map F) - lsum ((leftOf t sorted).map F) = lsum ((rightOf t sorted).map F) :=
    fun F => sub_eq_of_eq_add' (lsum_items_partition items sorted hperm t F)
  have hz : ∀ rs : List (Vec α), (momOf rs).x1 = 0 ∧ (momOf rs).x2 = 0 ∧ (momOf rs).rx = zeroV := fun rs =>
    ⟨foldl_upd0_x1 rs _, foldl_upd0_x2 rs _, foldl_upd0_rx rs _⟩
  apply Mom.eq_of_fields
  · simp only [Mom.sub, momOf_n, List.length_map]; exact length_items_partition items sorted hperm t
  · simp only [Mom.sub, momOf_x0, countOf_map]; exact hp fun _ => 1
  · simp only [Mom.sub, (hz _).1, sub_zero]
  · simp only [Mom.sub, (hz _).2.1, sub_zero]
  · intro o; simp only [Mom.sub, momOf_r1, List.map_map]; exact hp fun it => it.r o
  · intro o; simp only [Mom.sub, (hz _).2.2, zeroV, sub_zero]
  · intro o; simp only [Mom.sub, momOf_r2, List.map_map]; exact hp fun it => it.r o * it.r o

/-! ### the candidates of one feature -/

structure StumpCandSpec (T : Nat) (K : α) (f : Nat) (rows : List (Row α)) (c : Cand α) : Prop where
  feature : c.feature = f
  /-- `fit_predict_reproduces_rss`: the value handed to `make_score` is the RSS of the stored stump's predictions -/
  rss_eq : c.rss = rssOf T rows (stumpPred c.thr (tab c.tables 0) (tab c.tables 1))
  coeff_opt : ∀ lo hi : Vec α, c.rss ≤ rssOf T rows (stumpPred c.thr lo hi)
  mid : ∃ a b, a ∈ present rows ∧ b ∈ present rows ∧ a.v < b.v ∧ c.thr = half * (a.v + b.v)
  score : c.score = cmax c.rss K

theorem stumpCand_of_split [Log α] (T : Nat) (K : α) (crit : Crit) (f : Nat) (sum : Mom α) (mrss : α) (mcnt : Nat) (t : α)
    (L R : List (Vec α)) (hL : L ≠ []) (hR : R ≠ []) (hsub : sum.sub (momOf L) = momOf R) :
    (stumpCand T K crit f sum mrss mcnt (t, momOf L)).rss = binScore T (momOf L) + binScore T (momOf R) + mrss ∧
    (stumpCand T K crit f sum mrss mcnt (t, momOf L)).tables = [binMean (momOf L), binMean (momOf R)] := by
  have hx0 : ∀ l : List (Vec α), l ≠ [] → (momOf l).x0 ≠ 0 := fun l hl => by
    rw [momOf_x0]; exact ne_of_gt (countOf_pos l hl)
  simp only [stumpCand, hsub]
  rw [sideScore_eq_binScore T _ (hx0 L hL), sideScore_eq_binScore T _ (hx0 R hR)]
  exact ⟨rfl, rfl⟩

theorem stumpCands_spec [Log α] (sort : List (Item α) → List (Item α)) (hsort : SortSpec sort)
    (T : Nat) (K : α) (f : Nat) (rows : List (Row α)) (c : Cand α)
    (hc : c ∈ stumpCands sort T K Crit.rss f rows) : StumpCandSpec T K f rows c := by
  unfold stumpCands at hc
  obtain ⟨sc, hsc, rfl⟩ := List.mem_map.mp hc
  have hperm := hsort.perm (present rows)
  obtain ⟨hacc, ⟨a, b, ha, hb, hlt, hm⟩, hlne, hrne, _, _⟩ :=
    sweep_spec Item.upd0 Mom.zero (sort (present rows)) (hsort.sorted (present rows)) sc hsc
  -- the residuals left and right of the threshold
  let Lr := (leftOf sc.1 (sort (present rows))).map (·.r)
  let Rr := (rightOf sc.1 (sort (present rows))).map (·.r)
  have hLne : Lr ≠ [] := fun h => hlne (List.map_eq_nil_iff.mp h)
  have hRne : Rr ≠ [] := fun h => hrne (List.map_eq_nil_iff.mp h)
  have hsc2 : sc = (sc.1, momOf Lr) := Prod.ext rfl (hacc.trans (foldl_itemUpd0 _ _))
  obtain ⟨hrss, htab⟩ := stumpCand_of_split T K Crit.rss f ((present rows).foldl Item.upd0 Mom.zero) (missRss T rows)
    (missCnt rows) sc.1 Lr Rr hLne hRne
    ((congrArg (Mom.sub · _) (foldl_itemUpd0 _ _)).trans (sub_momOf_eq (present rows) _ hperm sc.1))
  rw [← hsc2] at hrss htab
  -- the RSS of any stump with this threshold, over the sorted sides
  have hdef : ∀ lo hi : Vec α, rssOf T rows (stumpPred sc.1 lo hi) = missSum T rows
      + lsum (Lr.map fun r => sqErr T r lo) + lsum (Rr.map fun r => sqErr T r hi) := by
    intro lo hi
    rw [rssOf_stump, ← lsum_leftOf_perm _ _ hperm, ← lsum_rightOf_perm _ _ hperm, List.map_map, List.map_map]; rfl
  refine ⟨rfl, ?_, fun lo hi => ?_, ⟨a, b, hperm.subset ha, hperm.subset hb, hlt, hm⟩, rfl⟩
  · rw [hrss, htab, missRss_eq]
    show _ = rssOf T rows (stumpPred sc.1 (binMean (momOf Lr)) (binMean (momOf Rr)))
    rw [hdef, (const_fit_vec T Lr hLne zeroV).2, (const_fit_vec T Rr hRne zeroV).2]; ring
  · rw [hrss, missRss_eq]
    show _ ≤ rssOf T rows (stumpPred sc.1 lo hi)
    rw [hdef, add_comm _ (missSum T rows), add_assoc]
    exact add_le_add (le_refl _) (add_le_add (const_fit_vec T Lr hLne lo).1 (const_fit_vec T Rr hRne hi).1)

/-- completeness: every threshold with present values on both sides is represented by a candidate that splits the
    samples in the same way (so the stump with that threshold and any outputs has the same RSS) -/
theorem stumpCands_complete [Log α] (sort : List (Item α) → List (Item α)) (hsort : SortSpec sort)
    (T : Nat) (K : α) (crit : Crit) (f : Nat) (rows : List (Row α)) (t : α)
    (hl : ∃ it ∈ present rows, it.v < t) (hr : ∃ it ∈ present rows, ¬ it.v < t) :
    ∃ c ∈ stumpCands sort T K crit f rows, ∀ lo hi : Vec α,
      rssOf T rows (stumpPred c.thr lo hi) = rssOf T rows (stumpPred t lo hi) := by
  have hperm := hsort.perm (present rows)
  obtain ⟨x, hx, hxt⟩ := hl
  obtain ⟨y, hy, hyt⟩ := hr
  obtain ⟨sc, hsc, hsame, _⟩ := sweep_complete Item.upd0 t (sort (present rows)) Mom.zero (hsort.sorted _)
    ⟨x, hperm.symm.subset hx, hxt⟩ ⟨y, hperm.symm.subset hy, hyt⟩
  refine ⟨stumpCand T K crit f ((present rows).foldl Item.upd0 Mom.zero) (missRss T rows) (missCnt rows) sc, ?_, ?_⟩
  · unfold stumpCands; exact List.mem_map.mpr ⟨sc, hsc, rfl⟩
  · intro lo hi
    show rssOf T rows (stumpPred sc.1 lo hi) = _
    unfold rssOf
    apply lsum_map_congr
    intro row hrow
    cases hv : row.x with
    | none => rfl
    | some v =>
      have hm : (⟨v, row.idx, row.r⟩ : Item α) ∈ sort (present rows) := hperm.symm.subset (present_mem hrow hv)
      have := hsame _ hm
      simp only [stumpPred]
      by_cases h : v < t
      · rw [if_pos h, if_pos (this.mpr h)]
      · rw [if_neg h, if_neg (fun h' => h (this.mp h'))]

end NanoVerif.WLearner
