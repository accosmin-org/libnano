import NanoVerif.Gen.ParamReads
import NanoVerif.Gen.FactoryParams
import NanoVerif.Model.Factory
/-!
  C19 — the typed reads of the library (`Gen/ParamReads.lean`, regenerated from the sources on every run) against the
  parameters the factories register (`Gen/FactoryParams.lean`, regenerated from a run of the implementation): evaluated
  by the kernel. Kept in a file of its own: it is re-checked only when one of the two tables changes.
-/
namespace NanoVerif.Param
open NanoVerif.Gen

/-- every registered parameter of every object of the 11 factories and of the default constructed owners
    (`ml::params_t`, `gboost_model_t`) with the objects they own -/
def allParams : List (String × Storage XF) :=
  (FactoryParams.table.flatMap (·.params)) ++ (FactoryParams.owners.flatMap (fun o => o.2.flatParams))

/-- the generator's classification of the read types is the model's -/
theorem reads_kinds_checked : ∀ r ∈ ParamReads.reads, r.kind = RKind.ofType r.ty := by decide +kernel

/-- A number in place of a name. The kernel decides `s = t` on strings by encoding both literals to bytes again at
    every comparison; a key is computed once per distinct literal and numerals are compared in one step. -/
def nameKey (s : String) : Nat := s.toByteArray.data.toList.foldl (fun a b => a * 256 + b.toNat) 0

/-- `reads_fit_table` with the names compared through `key`, and each read compared only with the parameters whose
    key has the same remainder modulo 8 instead of with the whole table -/
def fitsKeyed (key : String → Nat) (reads : List ReadUse) (params : List (String × Storage XF)) : Bool :=
  (List.range 8).all fun b =>
    (reads.filter (key ·.name % 8 == b)).all fun r =>
      (params.filter (key ·.1 % 8 == b)).all fun p => key p.1 != key r.name || fitsRead r.pair r.kind p.2

/-- whatever `key` is: equal names have equal keys, so the keyed check asks at least as much -/
theorem fits_of_fitsKeyed {key : String → Nat} {reads : List ReadUse} {params : List (String × Storage XF)}
    (h : fitsKeyed key reads params = true) :
    ∀ r ∈ reads, ∀ p ∈ params, p.1 = r.name → fitsRead r.pair r.kind p.2 = true := by
  intro r hr p hp e
  simp only [fitsKeyed, List.all_eq_true, List.mem_range, List.mem_filter, beq_iff_eq, Bool.or_eq_true, bne_iff_ne,
    and_imp] at h
  exact (h _ (Nat.mod_lt _ (by decide)) r hr rfl p hp (by rw [e])).resolve_left (fun ne => ne (by rw [e]))

theorem nodup_of_keys {key : String → Nat} {l : List String} (h : (l.map key).Nodup) : l.Nodup :=
  List.Pairwise.of_map key (fun _ _ ne e => ne (congrArg key e)) h

/-- Everything that is evaluated about the names in the two tables, in one declaration: the kernel keeps what it has
    computed only until the end of a declaration, and encoding the 150 or so distinct names is most of the work. -/
theorem names_checked :
    fitsKeyed nameKey ParamReads.reads allParams = true ∧
    (∀ e ∈ FactoryParams.table, e.typeId = e.id ∧ ((e.params.map (·.1)).map nameKey).Nodup) ∧
    (∀ ch ∈ FactoryParams.chunks, ((ch.map (·.id)).map nameKey).Nodup) := by
  decide +kernel

/-- every typed read of the library, against every registered parameter of that name: the read is of the kind of the
    parameter and its conversion is exact on the whole declared domain -/
theorem reads_fit_table :
    ∀ r ∈ ParamReads.reads, ∀ p ∈ allParams, p.1 = r.name → fitsRead r.pair r.kind p.2 = true :=
  fits_of_fitsKeyed names_checked.1

end NanoVerif.Param
