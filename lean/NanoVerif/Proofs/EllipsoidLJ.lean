import NanoVerif.Proofs.Ellipsoid
import Mathlib.Tactic.FieldSimp
import Mathlib.Tactic.LinearCombination
/-!
  C03 — the Löwner–John step of the deep-cut ellipsoid method (ellipsoid.cpp:64-68), scalar core.

  Everything is reduced to four numbers attached to a direction `w` (with `d = z − x`, `r = √(gᵀHg)`):
  `a = w·d`, `b = g·d / r`, `p = wᵀHg / r`, `q = wᵀHw`. Membership `z ∈ E(x, H)` in support-function form, applied to the
  directions `w + μ g / r`, says `(a + μ b)² ≤ q + 2 μ p + μ²` for all `μ`; the cut says `b ≤ −α`. The updated ellipsoid has
  `w·(z − x⁺) = a + τ p` and `wᵀH⁺w = δ (q − σ p²)`, `τ = (1 + nα)/(n + 1)`, `δ = n²/(n² − 1) (1 − α²)`,
  `σ = 2 (1 + nα)/((n + 1)(1 + α))`. `lj_scalar` proves `(a + τ p)² ≤ δ (q − σ p²)` for `n > 1`, `−1/n ≤ α ≤ 1`.

  The proof goes through the shift `τ` of the centre as the parameter (`lj_shift`): `δ (1 + α − 2τ) = (1 − τ)² (1 + α)` and
  `σ (1 + α) = 2τ` are all that is used of the coded coefficients.
-/

namespace NanoVerif.Ellipsoid
variable {α : Type} [Field α] [LinearOrder α] [IsStrictOrderedRing α]

/-- the 2×2 Gram determinant: from `(a + μ b)² ≤ q + 2 μ p + μ²` for all `μ` and `b² ≤ 1`:
    `(a − p b)² ≤ (q − p²)(1 − b²)` -/
theorem lj_det (a b p q : α) (hb : b * b ≤ 1)
    (h : ∀ μ : α, (a + μ * b) * (a + μ * b) ≤ q + 2 * μ * p + μ * μ) :
    (a - p * b) * (a - p * b) ≤ (q - p * p) * (1 - b * b) := by
  have := ListVec.discr_le_of_nonneg (q - a * a) (p - a * b) (1 - b * b) (sub_nonneg.2 hb)
    (fun μ => by linear_combination h μ)
  linear_combination this

/-- `2 x y u ≤ x² s + y² m` when `u² ≤ s m` (the inequality of the means without a square root):
    `(x² s + y² m)² − (2 x y u)² = (x² s − y² m)² + 4 x² y² (s m − u²)` -/
theorem two_mul_le_of_sq_le (x y s m u : α) (hs : 0 ≤ s) (hm : 0 ≤ m) (hu : u * u ≤ s * m) :
    2 * (x * y * u) ≤ x * x * s + y * y * m := by
  apply Bundle.le_of_sq_le _ _ (add_nonneg (mul_nonneg (mul_self_nonneg x) hs) (mul_nonneg (mul_self_nonneg y) hm))
  linear_combination mul_self_nonneg (x * x * s - y * y * m) +
    4 * mul_nonneg (mul_self_nonneg (x * y)) (sub_nonneg.2 hu)

/-- the plane problem: the point `(c, u/√S)` lies in the ellipse `c²/A + (u²/S)/B ≤ 1` because `B c² + A m ≤ A B` and
    `u² ≤ S m`; support-function form of that containment. With `T = A p² + B S`:
    `A B (T − (p c + u)²) = (A B − B c² − A m) T + A B (S m − u²) + ((B c)² S + (A p)² m − 2 (B c)(A p) u)`. -/
theorem lj_plane (A B S m c u p : α) (hA : 0 < A) (hB : 0 < B) (hS : 0 ≤ S) (hm : 0 ≤ m)
    (hk : B * (c * c) + A * m ≤ A * B) (hu : u * u ≤ S * m) :
    (p * c + u) * (p * c + u) ≤ A * (p * p) + B * S := by
  have h1 := mul_nonneg (sub_nonneg.2 hk)
    (add_nonneg (mul_nonneg hA.le (mul_self_nonneg p)) (mul_nonneg hB.le hS))
  have h2 := mul_nonneg (mul_pos hA hB).le (sub_nonneg.2 hu)
  have h3 := two_mul_le_of_sq_le (B * c) (A * p) S m u hS hm hu
  refine sub_nonneg.1 (nonneg_of_mul_nonneg_right ?_ (mul_pos hA hB))
  linear_combination h1 + h2 + h3

/-- the ellipsoids through the cut, by the shift `τ` of the centre: for `0 ≤ τ < (1 + α)/2`, the one with
    `B = (1 − τ)² (1 + α)/(1 + α − 2τ)` and `s = 2τ/(1 + α)` (given by their defining equations) contains the part `b ≤ −α`
    of the old one. In the plane of `lj_plane` it is the ellipse with centre `−τ` and squared half-axes `(1 − τ)²`, `B`,
    which meets the unit circle at `b = −1` and `b = −α`:
    `(1 + α − 2τ) ((1 − τ)² B − B (b + τ)² − (1 − τ)² (1 − b²)) = 2τ (1 − τ)² (b + 1)(−α − b)`. -/
theorem lj_shift (t al B s a b p q : α) (ht : 0 ≤ t) (hw : 2 * t < 1 + al)
    (hB : B * (1 + al - 2 * t) = (1 - t) * (1 - t) * (1 + al)) (hs : s * (1 + al) = 2 * t)
    (hb1 : b * b ≤ 1) (hcut : b ≤ -al) (h : ∀ μ : α, (a + μ * b) * (a + μ * b) ≤ q + 2 * μ * p + μ * μ) :
    (a + t * p) * (a + t * p) ≤ B * (q - s * (p * p)) := by
  have hb : -1 ≤ b := Bundle.neg_le_of_sq_le b 1 zero_le_one (by rwa [mul_one])
  have hw' : 0 < 1 + al - 2 * t := sub_pos.2 hw
  have hL : 0 < 1 + al := lt_of_le_of_lt (mul_nonneg zero_le_two ht) hw
  have ht1 : 0 < 1 - t := by linarith only [hb, hcut, hw]
  have hA : 0 < (1 - t) * (1 - t) := mul_pos ht1 ht1
  have hBpos : 0 < B := pos_of_mul_pos_left (hB ▸ mul_pos hA hL) hw'.le
  have hS : 0 ≤ q - p * p := by linear_combination h (-p) + mul_self_nonneg (a + -p * b)
  have hk : B * ((b + t) * (b + t)) + (1 - t) * (1 - t) * (1 - b * b) ≤ (1 - t) * (1 - t) * B := by
    have h1 : 0 ≤ 2 * t * ((1 - t) * (1 - t)) * ((b + 1) * (-al - b)) :=
      mul_nonneg (mul_nonneg (mul_nonneg zero_le_two ht) hA.le)
        (mul_nonneg (neg_le_iff_add_nonneg.mp hb) (sub_nonneg.2 hcut))
    refine sub_nonneg.1 (nonneg_of_mul_nonneg_right ?_ hw')
    linear_combination h1 - ((1 - t) * (1 - t) - (b + t) * (b + t)) * hB
  have hr : B * (1 - s) = (1 - t) * (1 - t) := by
    apply mul_right_cancel₀ (mul_pos hw' hL).ne'
    linear_combination (1 + al - 2 * t) * hB - B * (1 + al - 2 * t) * hs
  have := lj_plane _ _ _ _ (b + t) _ p hA hBpos hS (sub_nonneg.2 hb1) hk (lj_det a b p q hb1 h)
  linear_combination this - p * p * hr

/-- THE SCALAR CORE of the Löwner–John step, with the coefficients exactly as coded (ellipsoid.cpp:66-68) -/
theorem lj_scalar (n al a b p q : α) (hn : 1 < n) (hlo : -1 ≤ n * al) (hhi : al ≤ 1) (hb1 : b * b ≤ 1)
    (hcut : b ≤ -al) (h : ∀ μ : α, (a + μ * b) * (a + μ * b) ≤ q + 2 * μ * p + μ * μ) :
    (a + (1 + n * al) / (n + 1) * p) * (a + (1 + n * al) / (n + 1) * p) ≤
      (n * n) / (n * n - 1) * (1 - al * al) * (q - 2 * (1 + n * al) / (n + 1) / (1 + al) * (p * p)) := by
  have hn1 : (0 : α) < n + 1 := add_pos (zero_lt_one.trans hn) zero_lt_one
  have hn2 : (0 : α) < n - 1 := sub_pos.2 hn
  rcases hhi.eq_or_lt with rfl | hlt
  · -- α = 1: the half-ellipsoid is the single point `x − Hg/r`, `b = −1` and `a + p = 0`
    have hb : b = -1 := le_antisymm hcut (Bundle.neg_le_of_sq_le b 1 zero_le_one (by rwa [mul_one]))
    subst hb
    have hdet := lj_det a (-1) p q hb1 h
    have e : a + p = 0 := mul_self_eq_zero.mp (le_antisymm (by linear_combination hdet) (mul_self_nonneg _))
    rw [mul_one, add_comm 1 n, div_self hn1.ne', one_mul, e, mul_one (1 : α), sub_self, mul_zero, mul_zero, zero_mul]
  · have hw : 2 * ((1 + n * al) / (n + 1)) < 1 + al := by
      rw [← mul_div_assoc, div_lt_iff₀ hn1]
      linear_combination mul_pos hn2 (sub_pos.2 hlt)
    have ht : 0 ≤ (1 + n * al) / (n + 1) := div_nonneg (neg_le_iff_add_nonneg'.mp hlo) hn1.le
    have hL : (0 : α) < 1 + al := lt_of_le_of_lt (mul_nonneg zero_le_two ht) hw
    refine lj_shift _ al _ _ a b p q ht hw ?_ ?_ hb1 hcut h
    · rw [show n * n - 1 = (n - 1) * (n + 1) by ring]
      field_simp
      ring
    · rw [div_mul_cancel₀ _ hL.ne', mul_div_assoc]

end NanoVerif.Ellipsoid
