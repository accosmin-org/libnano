import Mathlib.Order.MinMax
import Mathlib.Algebra.Order.Group.Abs
/-!
  `std::max`, `std::min`, `std::abs`, `std::clamp` and the running maximum (`maxCoeff`, `lpNorm<Infinity>`, `max_element`) in a linear
  order: what the `if`s and folds by which every model namespace spells them are, since each of them unfolds to the terms below.
-/
namespace NanoVerif.Cxx

section order
variable {β : Type} [LinearOrder β]

/-! ### `std::max`, `std::min` -/

theorem ite_max (a b : β) : (if a < b then b else a) = max a b := (max_def_lt a b).symm

theorem ite_min (a b : β) : (if b < a then b else a) = min a b := (min_def_lt' a b).symm

/-! ### `std::clamp` -/

/-- `std::clamp(v, lo, hi)` as every model file writes it -/
def clamp (v lo hi : β) : β := if v < lo then lo else if hi < v then hi else v

/-- the three branches, each with what its tests say about `v`; every other fact about `clamp` is read off here -/
theorem clamp_cases (v lo hi : β) :
    (clamp v lo hi = v ∧ lo ≤ v ∧ v ≤ hi) ∨ (clamp v lo hi = lo ∧ v < lo) ∨ (clamp v lo hi = hi ∧ lo ≤ v ∧ hi < v) := by
  unfold clamp
  by_cases h1 : v < lo
  · exact .inr (.inl ⟨if_pos h1, h1⟩)
  · rw [if_neg h1]
    by_cases h2 : hi < v
    · exact .inr (.inr ⟨if_pos h2, not_lt.mp h1, h2⟩)
    · exact .inl ⟨if_neg h2, not_lt.mp h1, not_lt.mp h2⟩

theorem clamp_of_mem {v lo hi : β} (h1 : lo ≤ v) (h2 : v ≤ hi) : clamp v lo hi = v := by
  rw [clamp, if_neg (not_lt.mpr h1), if_neg (not_lt.mpr h2)]

/-- bounds that come from the value, not from the interval: clamping from below cannot push the result under `a ≤ v`,
    nor clamping from above over `b ≥ v` -/
theorem le_clamp_of_le {a v lo hi : β} (h1 : a ≤ v) (h2 : a ≤ hi) : a ≤ clamp v lo hi := by
  rcases clamp_cases v lo hi with ⟨e, _⟩ | ⟨e, h⟩ | ⟨e, _⟩ <;> rw [e]
  exacts [h1, h1.trans h.le, h2]

theorem clamp_le_of_le {b v lo hi : β} (h1 : lo ≤ b) (h2 : v ≤ b) : clamp v lo hi ≤ b := by
  rcases clamp_cases v lo hi with ⟨e, _⟩ | ⟨e, _⟩ | ⟨e, _, h⟩ <;> rw [e]
  exacts [h2, h1, h.le.trans h2]

/-- no `lo ≤ hi` is assumed (the C++ call is undefined without it; the model is not) -/
theorem min_le_clamp (v lo hi : β) : min lo hi ≤ clamp v lo hi := by
  rcases clamp_cases v lo hi with ⟨e, h, _⟩ | ⟨e, _⟩ | ⟨e, _⟩ <;> rw [e]
  exacts [(min_le_left _ _).trans h, min_le_left _ _, min_le_right _ _]

theorem clamp_le_max (v lo hi : β) : clamp v lo hi ≤ max lo hi := by
  rcases clamp_cases v lo hi with ⟨e, _, h⟩ | ⟨e, _⟩ | ⟨e, _⟩ <;> rw [e]
  exacts [h.trans (le_max_right _ _), le_max_left _ _, le_max_right _ _]

theorem lt_clamp {c lo hi : β} (v : β) (hlo : c < lo) (hhi : c < hi) : c < clamp v lo hi :=
  (lt_min hlo hhi).trans_le (min_le_clamp v lo hi)

theorem clamp_mem {lo hi : β} (v : β) (h : lo ≤ hi) : lo ≤ clamp v lo hi ∧ clamp v lo hi ≤ hi :=
  ⟨(min_eq_left h).ge.trans (min_le_clamp v lo hi), (clamp_le_max v lo hi).trans (max_eq_right h).le⟩

/-- a result below the value was clamped to the upper end -/
theorem eq_hi_of_clamp_lt {v lo hi t : β} (ht : t = clamp v lo hi) (h : t < v) : t = hi := by
  rcases clamp_cases v lo hi with ⟨e, _⟩ | ⟨e, h'⟩ | ⟨e, _⟩
  exacts [absurd (ht.trans e) h.ne, absurd (h.trans h') (ht.trans e).not_lt, ht.trans e]

/-- a result above the value was clamped to the lower end -/
theorem eq_lo_of_lt_clamp {v lo hi t : β} (ht : t = clamp v lo hi) (h : v < t) : t = lo := by
  rcases clamp_cases v lo hi with ⟨e, _⟩ | ⟨e, _⟩ | ⟨e, _, h'⟩
  exacts [absurd (ht.trans e).symm h.ne, ht.trans e, absurd (h'.trans h) (ht.trans e).symm.not_lt]

/-! ### running maximum and minimum (`maxCoeff`, `minCoeff`, `std::max_element`, `lpNorm<Infinity>`) -/

theorem foldl_max_le_iff {l : List β} {a c : β} : l.foldl max a ≤ c ↔ a ≤ c ∧ ∀ b ∈ l, b ≤ c := by
  induction l generalizing a with
  | nil => simp
  | cons b l ih => rw [List.foldl_cons, ih, max_le_iff, List.forall_mem_cons, and_assoc]

theorem foldl_max_lt_iff {l : List β} {a c : β} : l.foldl max a < c ↔ a < c ∧ ∀ b ∈ l, b < c := by
  induction l generalizing a with
  | nil => simp
  | cons b l ih => rw [List.foldl_cons, ih, max_lt_iff, List.forall_mem_cons, and_assoc]

theorem foldl_max_mem (l : List β) (a : β) : l.foldl max a ∈ a :: l := by
  induction l generalizing a with
  | nil => exact List.mem_cons_self
  | cons b l ih =>
    rw [List.foldl_cons]
    rcases List.mem_cons.mp (ih (max a b)) with h | h
    · rcases max_choice a b with e | e <;> rw [h, e]
      exacts [List.mem_cons_self, List.mem_cons_of_mem _ List.mem_cons_self]
    · exact List.mem_cons_of_mem _ (List.mem_cons_of_mem _ h)

theorem le_foldl_max (l : List β) (a : β) : a ≤ l.foldl max a ∧ ∀ b ∈ l, b ≤ l.foldl max a :=
  foldl_max_le_iff.mp le_rfl

/-- the recursive spelling `max x (max y (.. a))` -/
theorem foldr_max_le_iff {l : List β} {a c : β} : l.foldr max a ≤ c ↔ a ≤ c ∧ ∀ b ∈ l, b ≤ c := by
  induction l with
  | nil => simp
  | cons b l ih => rw [List.foldr_cons, max_le_iff, ih, List.forall_mem_cons, and_left_comm]

/-- the running minimum: the statements above in the dual order -/
theorem le_foldl_min_iff {l : List β} {a c : β} : c ≤ l.foldl min a ↔ c ≤ a ∧ ∀ b ∈ l, c ≤ b :=
  foldl_max_le_iff (β := βᵒᵈ)

theorem foldl_min_mem (l : List β) (a : β) : l.foldl min a ∈ a :: l := foldl_max_mem (β := βᵒᵈ) l a

theorem foldl_min_le (l : List β) (a : β) : l.foldl min a ≤ a ∧ ∀ b ∈ l, l.foldl min a ≤ b :=
  le_foldl_min_iff.mp le_rfl

end order

/-! ### `std::abs` -/

theorem ite_abs {β : Type} [AddCommGroup β] [LinearOrder β] [IsOrderedAddMonoid β] (x : β) :
    (if x < 0 then -x else x) = |x| := by
  split
  · exact (abs_of_neg ‹_›).symm
  · exact (abs_of_nonneg (not_lt.mp ‹_›)).symm

end NanoVerif.Cxx
