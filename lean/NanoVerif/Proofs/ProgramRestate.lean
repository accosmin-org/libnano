import NanoVerif.Proofs.Program
import NanoVerif.Proofs.ListIndex
/-!
  C04 — what the equivalent restatements of a program in `Props/C04.lean` rest on (rescaled rows, appended dependent
  equalities, rescaled objective, permuted rows, permuted variables), with the definitions their statements use.
-/
set_option linter.unusedSectionVars false

namespace NanoVerif.Program
variable {α : Type} [Field α] [LinearOrder α] [IsStrictOrderedRing α]

/-- row `i` multiplied by `wᵢ` -/
def scaleRows (w : List α) (A : List (List α)) : List (List α) := List.zipWith (fun wi r => smul wi r) w A

def vmul (w b : List α) : List α := List.zipWith (· * ·) w b

theorem mv_scaleRows : ∀ (w : List α) (A : List (List α)) (x : List α), mv (scaleRows w A) x = vmul w (mv A x)
  | [], _, _ => by simp [scaleRows, vmul, mv]
  | _ :: _, [], _ => by simp [scaleRows, vmul, mv]
  | a :: w, r :: A, x => by
    have ih := mv_scaleRows w A x
    unfold scaleRows vmul mv at ih ⊢
    rw [List.zipWith_cons_cons, List.map_cons, List.map_cons, List.zipWith_cons_cons, ih, dot_smul_left]

/-- a relation on lists that is decided head by head (`R [] []`, and `R (a :: x) (b :: y) ↔ r a b ∧ R x y`) is kept by
    multiplying both sides by weights under which `r` is invariant (`LeV` with positive, `=` with non-zero weights) -/
theorem rel_vmul_iff (R : List α → List α → Prop) (r : α → α → Prop) (hnil : R [] [])
    (hcons : ∀ a b x y, R (a :: x) (b :: y) ↔ r a b ∧ R x y) :
    ∀ (w g h : List α), (∀ a ∈ w, ∀ x y, r (a * x) (a * y) ↔ r x y) → w.length = g.length → h.length = g.length →
      (R (vmul w g) (vmul w h) ↔ R g h)
  | [], [], [], _, _, _ => iff_of_true hnil hnil
  | [], _ :: _, _, _, hl, _ => by simp at hl
  | _ :: _, [], _, _, hl, _ => by simp at hl
  | [], [], _ :: _, _, _, hl => by simp at hl
  | _ :: _, _ :: _, [], _, _, hl => by simp at hl
  | a :: w, x :: g, y :: h, hw, h1, h2 => by
    have ih := rel_vmul_iff R r hnil hcons w g h (fun b hb => hw b (List.mem_cons_of_mem _ hb)) (Nat.succ.inj h1)
      (Nat.succ.inj h2)
    unfold vmul at ih ⊢
    rw [List.zipWith_cons_cons, List.zipWith_cons_cons, hcons, hcons, ih, hw a List.mem_cons_self]

theorem LeV_vmul (w g h : List α) (hw : ∀ a ∈ w, 0 < a) : w.length = g.length → h.length = g.length →
    (LeV (vmul w g) (vmul w h) ↔ LeV g h) :=
  rel_vmul_iff LeV (· ≤ ·) trivial LeV_cons w g h fun a ha _ _ => mul_le_mul_iff_right₀ (hw a ha)

theorem vmul_inj (w g h : List α) (hw : ∀ a ∈ w, a ≠ 0) : w.length = g.length → h.length = g.length →
    (vmul w g = vmul w h ↔ g = h) :=
  rel_vmul_iff Eq Eq rfl (fun _ _ _ _ => List.cons_eq_cons) w g h fun a ha _ _ => mul_right_inj' (hw a ha)

/-! ### the constraints row by row -/

theorem mv_eq_iff_zip (x : List α) : ∀ (A : List (List α)) (b : List α), b.length = A.length →
    (mv A x = b ↔ ∀ p ∈ A.zip b, dot p.1 x = p.2)
  | [], [], _ => by simp [mv]
  | [], _ :: _, h => by simp at h
  | _ :: _, [], h => by simp at h
  | r :: A, b0 :: b, h => by
    have ih := mv_eq_iff_zip x A b (Nat.succ.inj h)
    unfold mv at ih ⊢
    rw [List.map_cons, List.cons.injEq, List.zip_cons_cons, List.forall_mem_cons, ih]

theorem LeV_mv_iff_zip (x : List α) : ∀ (G : List (List α)) (h : List α), h.length = G.length →
    (LeV (mv G x) h ↔ ∀ p ∈ G.zip h, dot p.1 x ≤ p.2)
  | [], [], _ => by simp [mv]
  | [], _ :: _, hl => by simp at hl
  | _ :: _, [], hl => by simp at hl
  | r :: G, h0 :: h, hl => by
    have ih := LeV_mv_iff_zip x G h (Nat.succ.inj hl)
    unfold mv at ih ⊢
    rw [List.map_cons, LeV_cons, List.zip_cons_cons, List.forall_mem_cons, ih]

/-! ### appended equality rows -/

theorem mv_append (A : List (List α)) (r x : List α) : mv (A ++ [r]) x = mv A x ++ [dot r x] := by
  simp [mv]

/-- an equality row that every solution of `A x = b` satisfies anyway may be appended -/
theorem feasible_append_row (P : Prog α) (r : List α) (bi : α) (x : List α) (hbl : P.b.length = P.A.length)
    (himp : mv P.A x = P.b → dot r x = bi) :
    Feasible { P with A := P.A ++ [r], b := P.b ++ [bi] } x ↔ Feasible P x := by
  simp only [Feasible]
  rw [mv_append]
  constructor
  · rintro ⟨h1, h2⟩
    exact ⟨(List.append_inj h1 (by rw [mv_length, hbl])).1, h2⟩
  · rintro ⟨h1, h2⟩
    exact ⟨by rw [himp h1, h1], h2⟩

/-! ### a rescaled objective -/

theorem isArgmin_of_scaled (P P' : Prog α) (k : α) (hk : 0 < k) (hf : ∀ y, Feasible P' y ↔ Feasible P y)
    (ho : ∀ y, objective P' y = k * objective P y) (x : List α) : IsArgmin P' x ↔ IsArgmin P x := by
  unfold IsArgmin
  rw [hf x]
  refine and_congr_right fun _ => forall_congr' fun y => ?_
  rw [hf y, ho, ho, mul_le_mul_iff_right₀ hk]

/-! ### permuted variables -/

/-- the entries of `l` at the positions `idx` (out-of-range positions give `d`) -/
def pick {β : Type} (d : β) (idx : List Nat) (l : List β) : List β := idx.map (fun i => l.getD i d)

/-- the program in the variables `x'ⱼ = x_{idx j}` -/
def permVars (idx : List Nat) (P : Prog α) : Prog α :=
  ⟨if P.Q.isEmpty then [] else pick [] idx (P.Q.map (pick 0 idx)), pick 0 idx P.c, P.A.map (pick 0 idx), P.b,
   P.G.map (pick 0 idx), P.h⟩

theorem dot_map_map (f g : Nat → α) : ∀ (idx : List Nat),
    dot (idx.map f) (idx.map g) = (idx.map (fun i => f i * g i)).sum
  | [] => by simp
  | i :: idx => by simp [dot_map_map f g idx]

theorem dot_eq_sum_range : ∀ (n : Nat) (r x : List α), r.length = n → x.length = n →
    dot r x = ((List.range n).map (fun i => r.getD i 0 * x.getD i 0)).sum
  | 0, [], [], _, _ => by simp
  | 0, _ :: _, _, h, _ => by simp at h
  | 0, [], _ :: _, _, h => by simp at h
  | n + 1, [], _, h, _ => by simp at h
  | n + 1, _ :: _, [], _, h => by simp at h
  | n + 1, a :: r, b :: x, h1, h2 => by
    rw [List.range_succ_eq_map, List.map_cons, List.map_map, List.sum_cons, dot_cons,
      dot_eq_sum_range n r x (Nat.succ.inj h1) (Nat.succ.inj h2)]
    rfl

/-- `dot` sums over the positions, in any order -/
theorem dot_pick (n : Nat) (idx : List Nat) (hidx : idx.Perm (List.range n)) (r x : List α)
    (hr : r.length = n) (hx : x.length = n) : dot (pick 0 idx r) (pick 0 idx x) = dot r x := by
  unfold pick
  rw [dot_map_map, dot_eq_sum_range n r x hr hx]
  exact (hidx.map _).sum_eq

theorem mv_pick_rows (idx : List Nat) (M : List (List α)) (y : List α) :
    mv (pick [] idx M) y = pick 0 idx (mv M y) := by
  unfold pick mv
  rw [List.map_map]
  exact List.map_congr_left fun i _ => (Lst.getD_map (fun r => dot r y) (dot_nil_left y) M i).symm

theorem mv_pick_cols (n : Nat) (idx : List Nat) (hidx : idx.Perm (List.range n)) (A : List (List α)) (x : List α)
    (hA : ∀ r ∈ A, r.length = n) (hx : x.length = n) : mv (A.map (pick 0 idx)) (pick 0 idx x) = mv A x := by
  unfold mv
  rw [List.map_map]
  exact List.map_congr_left fun r hr => dot_pick n idx hidx r x (hA r hr) hx

end NanoVerif.Program
