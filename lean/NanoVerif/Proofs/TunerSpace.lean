import NanoVerif.Model.TunerSurrogate
import NanoVerif.Proofs.CxxOrder
import NanoVerif.Proofs.Tune
import NanoVerif.Proofs.TunerGrid
import Mathlib.Algebra.Order.Field.Basic
import Mathlib.Algebra.Order.AbsoluteValue.Basic
import Mathlib.Data.Nat.Sqrt
import Mathlib.Algebra.Group.Nat.Even
import Mathlib.Tactic.Ring
import Mathlib.Tactic.Linarith
/-!
  C13 — `param_space_t` (`Model/TunerSurrogate.lean`), lemmas under the theorems of `Props/C13.lean`: `fabs` is the absolute
  value, the closest-point scan answers a position of the grid, `clamp`, what an answer of `to_surrogate` says about its
  argument, `mapM` on `Option`, the centre proposed by the surrogate tuner is a point of the grid box; what the four
  `critical`s of the constructor guarantee (at least two values, strictly increasing, `m_min` / `m_max` the first / last value,
  values ≥ epsilon for a log10 space: the hypotheses of the round-trip and monotonicity theorems of `Props/C13.lean`); the
  dimension recovered from the number of coefficients of a quadratic (`quadDim`) is the right one.
-/

namespace NanoVerif.Tuner

section
variable {α : Type} [Field α] [LinearOrder α] [IsStrictOrderedRing α]

theorem fabs_eq_abs (x : α) : fabs x = |x| := Cxx.ite_abs x

/-! ### the scan of `closest_grid_point_from_surrogate` -/

omit [IsStrictOrderedRing α] in
theorem closestScan_lt (top : α) (sg : List α) (v : α) (hne : sg ≠ []) : closestScan top sg v < sg.length := by
  have := Tune.argminScan_lt top (sg.map fun g => fabs (v - g)) (mt List.map_eq_nil_iff.mp hne)
  rwa [List.length_map] at this

/-! ### the maps to and from the surrogate space -/

omit [Field α] [IsStrictOrderedRing α] in
/-- `clamp` unfolds to `Cxx.clamp`; restated because its users rewrite with it -/
theorem clamp_of_mem {v lo hi : α} (h1 : lo ≤ v) (h2 : v ≤ hi) : clamp v lo hi = v := Cxx.clamp_of_mem h1 h2

variable [Log10 α]

omit [IsStrictOrderedRing α] in
theorem toSurrogate_some (s : Space α) (v : α) (h1 : s.mn ≤ v) (h2 : v ≤ s.mx) :
    s.toSurrogate v = some (match s.kind with
      | .linear => (v - s.mn) / (s.mx - s.mn)
      | .log10 => Log10.log10 v) :=
  if_neg (not_or.mpr ⟨not_lt.mpr h1, not_lt.mpr h2⟩)

omit [IsStrictOrderedRing α] in
theorem toSurrogate_eq_some {s : Space α} {v a : α} (h : s.toSurrogate v = some a) :
    s.mn ≤ v ∧ v ≤ s.mx ∧ a = (match s.kind with
      | .linear => (v - s.mn) / (s.mx - s.mn)
      | .log10 => Log10.log10 v) := by
  unfold Space.toSurrogate at h
  split at h
  · cases h
  · rename_i hin
    exact ⟨not_lt.mp fun h' => hin (Or.inl h'), not_lt.mp fun h' => hin (Or.inr h'), (Option.some.inj h).symm⟩

omit [IsStrictOrderedRing α] in
theorem toSurrogate_linear_eq {s : Space α} (hk : s.kind = .linear) {v a : α} (h : s.toSurrogate v = some a) :
    s.mn ≤ v ∧ v ≤ s.mx ∧ a = (v - s.mn) / (s.mx - s.mn) := by
  have h' := toSurrogate_eq_some h
  rwa [hk] at h'

/-! ### the grid in surrogate coordinates -/

omit [Field α] [LinearOrder α] [IsStrictOrderedRing α] [Log10 α] in
theorem mapM_eq_some_spec {β : Type} (f : α → Option β) : ∀ (l : List α) (r : List β), l.mapM f = some r →
    r.length = l.length ∧ ∀ i (hi : i < l.length) (hi' : i < r.length), f l[i] = some r[i]
  | [], r, h => by
    cases (Option.some.inj h : [] = r)
    exact ⟨rfl, fun i hi => nomatch hi⟩
  | a :: l, r, h => by
    rw [List.mapM_cons] at h
    cases ha : f a with
    | none => rw [ha] at h; cases h
    | some b =>
      cases hl : l.mapM f with
      | none => rw [ha, hl] at h; cases h
      | some bs =>
        rw [ha, hl] at h
        cases (Option.some.inj h : b :: bs = r)
        obtain ⟨hlen, hget⟩ := mapM_eq_some_spec f l bs hl
        refine ⟨congrArg (· + 1) hlen, fun i hi hi' => ?_⟩
        cases i with
        | zero => exact ha
        | succ i => exact hget i (Nat.lt_of_succ_lt_succ hi) (Nat.lt_of_succ_lt_succ hi')

omit [Field α] [LinearOrder α] [IsStrictOrderedRing α] [Log10 α] in
theorem mapM_isSome_of_forall {β : Type} (f : α → Option β) : ∀ (l : List α), (∀ a ∈ l, ∃ b, f a = some b) →
    ∃ r, l.mapM f = some r ∧ r.length = l.length
  | [], _ => ⟨[], rfl, rfl⟩
  | a :: l, h => by
    obtain ⟨b, hb⟩ := h a List.mem_cons_self
    obtain ⟨r, hr, hlen⟩ := mapM_isSome_of_forall f l fun x hx => h x (List.mem_cons_of_mem _ hx)
    exact ⟨b :: r, by rw [List.mapM_cons, hb, hr]; rfl, congrArg (· + 1) hlen⟩

/-! ### the centre proposed by the surrogate tuner is a point of the grid -/

omit [IsStrictOrderedRing α] in
theorem closestGridPoint_lt (top : α) (s : Space α) (v : α) (k : Nat) (hne : s.grid ≠ [])
    (h : s.closestGridPoint top v = some k) : k < s.grid.length := by
  obtain ⟨sg, hsg, rfl⟩ := Option.map_eq_some_iff.mp h
  obtain ⟨hl, _⟩ := mapM_eq_some_spec s.toSurrogate s.grid sg hsg
  rw [← hl]
  exact closestScan_lt top sg v (List.ne_nil_of_length_pos (hl ▸ List.length_pos_iff.mpr hne))

set_option linter.unusedSectionVars false
/-- whatever the solver returned: the grid point derived from it lies in the box `[0, size − 1]` of every grid -/
theorem centreOf_inGrid (top : α) : ∀ (spaces : List (Space α)) (x : List α) (c : IGrid),
    (∀ s ∈ spaces, s.grid ≠ []) → centreOf top spaces x = some c →
    inGrid (minOf (spaces.map (·.grid.length))) (maxOf (spaces.map (·.grid.length))) c = true
  | [], [], c, _, h => by
    cases (Option.some.inj h : [] = c); rfl
  | [], _ :: _, c, _, h => nomatch h
  | _ :: _, [], c, _, h => nomatch h
  | s :: spaces, v :: x, c, hne, h => by
    unfold centreOf at h
    cases hk : s.closestGridPoint top v with
    | none => rw [hk] at h; cases h
    | some k =>
      cases hrest : centreOf top spaces x with
      | none => rw [hk, hrest] at h; cases h
      | some rest =>
        rw [hk, hrest] at h
        cases (Option.some.inj h : Int.ofNat k :: rest = c)
        have ih := centreOf_inGrid top spaces x rest (fun s' hs' => hne s' (List.mem_cons_of_mem _ hs')) hrest
        have hlt := closestGridPoint_lt top s v k (hne s List.mem_cons_self) hk
        rw [List.map_cons, inGrid_sizes_cons]
        exact ⟨Int.natCast_nonneg k, Int.ofNat_lt.mpr hlt, ih⟩

end

/-! ### the constructor (`Space.make?`): what its four `critical`s guarantee -/

section
variable {α : Type} [LinearOrder α]

theorem pairwise_of_sorted_distinct : ∀ (l : List α), isSortedL l = true → hasAdjEq l = false → l.Pairwise (· < ·)
  | [], _, _ => List.Pairwise.nil
  | [a], _, _ => List.pairwise_singleton _ a
  | a :: b :: rest, hs, hd => by
    simp only [isSortedL, Bool.and_eq_true, Bool.not_eq_true', decide_eq_false_iff_not] at hs
    simp only [hasAdjEq, Bool.or_eq_false_iff, beq_eq_false_iff_ne] at hd
    have hab : a < b := lt_of_le_of_ne (not_lt.mp hs.1) hd.1
    have ih := pairwise_of_sorted_distinct (b :: rest) hs.2 hd.2
    refine List.pairwise_cons.mpr ⟨fun x hx => ?_, ih⟩
    rcases List.mem_cons.mp hx with rfl | hx
    · exact hab
    · exact lt_trans hab ((List.pairwise_cons.mp ih).1 x hx)

/-- `*std::min_element` of a range whose first element is below all others is that element -/
theorem foldl_min_of_lt (l : List α) (m : α) (h : ∀ x ∈ l, m < x) : l.foldl (fun m v => if v < m then v else m) m = m := by
  rw [funext₂ Cxx.ite_min]
  exact le_antisymm (Cxx.foldl_min_le l m).1 (Cxx.le_foldl_min_iff.mpr ⟨le_rfl, fun x hx => (h x hx).le⟩)

/-- `*std::max_element` of a strictly increasing range is its last element -/
theorem foldl_max_increasing : ∀ (a : α) (rest : List α), (a :: rest).Pairwise (· < ·) →
    rest.foldl (fun m v => if m < v then v else m) a = (a :: rest).getLast (List.cons_ne_nil _ _)
  | a, [], _ => rfl
  | a, b :: rest, h => by
    rw [List.foldl_cons, if_pos ((List.pairwise_cons.mp h).1 b List.mem_cons_self),
      foldl_max_increasing b rest (List.pairwise_cons.mp h).2]
    rfl

theorem make?_eq_some {eps : α} {kind : SpaceKind} {grid : List α} {s : Space α} (h : Space.make? eps kind grid = some s) :
    ∃ mn mx, minElem grid = some mn ∧ maxElem grid = some mx ∧ 2 ≤ grid.length ∧ isSortedL grid = true ∧
      hasAdjEq grid = false ∧ (kind = .log10 → eps ≤ mn) ∧ s = ⟨kind, grid, mn, mx⟩ := by
  unfold Space.make? at h
  split at h
  · rename_i mn mx hmn hmx
    simp only [Option.ite_none_left_eq_some, Option.some.injEq, Bool.not_eq_true', Bool.not_eq_false,
      Bool.and_eq_true, beq_iff_eq, decide_eq_true_eq, not_and, not_lt, Bool.not_eq_true] at h
    obtain ⟨hlen, hsorted, hdistinct, hlog, rfl⟩ := h
    exact ⟨mn, mx, hmn, hmx, hlen, hsorted, hdistinct, hlog, rfl⟩
  · cases h

theorem le_getLast_of_increasing : ∀ (l : List α) (h : l ≠ []), l.Pairwise (· < ·) → ∀ v ∈ l, v ≤ l.getLast h
  | [a], _, _, v, hv => (List.mem_singleton.mp hv).le
  | a :: b :: rest, _, hpw, v, hv => by
    rw [List.getLast_cons (List.cons_ne_nil b rest)]
    rcases List.mem_cons.mp hv with rfl | hv
    · exact ((List.pairwise_cons.mp hpw).1 _ (List.getLast_mem _)).le
    · exact le_getLast_of_increasing (b :: rest) _ (List.pairwise_cons.mp hpw).2 v hv

end

/-! ### the dimension recovered from the number of coefficients (surrogate.cpp:66) -/

theorem two_mul_quadLen (n : Nat) : 2 * quadLen n = (n + 1) * (n + 2) := by
  unfold quadLen
  exact Nat.two_mul_div_two_of_even (Nat.even_mul_succ_self (n + 1))

/-- `static_cast<tensor_size_t>(std::sqrt(2 * size)) - 1` recovers `n` from `size = (n + 1)(n + 2) / 2` -/
theorem quadDim_quadLen (n : Nat) : quadDim (quadLen n) = n := by
  unfold quadDim
  rw [two_mul_quadLen, ← Nat.eq_sqrt.mpr ⟨Nat.mul_le_mul_left (n + 1) (Nat.le_succ (n + 1)),
    Nat.mul_lt_mul_of_lt_of_le (Nat.lt_succ_self (n + 1)) (Nat.le_refl _) (Nat.succ_pos _)⟩]
  rfl

theorem quadSize_quadLen {α : Type} (m : List α) (n : Nat) (hn : 0 < n) (hm : m.length = quadLen n) :
    quadSize? m = some n := by
  unfold quadSize?
  simp only [hm, quadDim_quadLen]
  rw [if_pos ⟨hn, trivial⟩]

/-- room for the constant and the linear coefficients: `2 (n + 1) ≤ (n + 1) (n + 2)` -/
theorem succ_le_quadLen (n : Nat) : 1 + n ≤ quadLen n :=
  (Nat.le_div_iff_mul_le Nat.two_pos).mpr (Nat.add_comm 1 n ▸ Nat.mul_le_mul_left (n + 1) (Nat.le_add_left 2 n))

end NanoVerif.Tuner
