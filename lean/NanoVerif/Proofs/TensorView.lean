import NanoVerif.Model.TensorView
import NanoVerif.Proofs.ListIndex
/-!
  C16 — helper lemmas for the non-owning tensors of `Model/TensorView.lean`: overwriting a range of a buffer,
  the row loop of `indexed`, and the integral commuting with additive maps. Core Lean only.
-/
namespace NanoVerif.Tensor

/-! ### `splice`: overwrite `buf[off, off + |vals|)` -/

theorem splice_length {α} (buf : List α) (off : Nat) (vals : List α) (h : off + vals.length ≤ buf.length) :
    (splice buf off vals).length = buf.length := Lst.splice_length buf off vals h

theorem splice_getElem? {α} (buf : List α) (off : Nat) (vals : List α) (h : off ≤ buf.length) (i : Nat) :
    (splice buf off vals)[i]? = if off ≤ i ∧ i < off + vals.length then vals[i - off]? else buf[i]? :=
  Lst.splice_getElem? buf off vals h i

/-- consecutive overwrites compose: `a` written at `off` and then `b` written right behind it is `a ++ b` written at `off` -/
theorem splice_splice {α} (buf : List α) (off : Nat) (a b : List α) (h : off ≤ buf.length) :
    splice (splice buf off a) (off + a.length) b = splice buf off (a ++ b) := by
  have hl : (buf.take off ++ a).length = off + a.length := by rw [List.length_append, List.length_take, Nat.min_eq_left h]
  unfold splice
  rw [List.take_left' hl, ← hl, List.drop_length_add_append, List.drop_drop, hl, List.length_append, Nat.add_assoc,
    List.append_assoc (buf.take off)]

theorem splice_nil {α} (buf : List α) (off : Nat) : splice buf off [] = buf := by
  unfold splice
  rw [List.append_nil, List.length_nil, Nat.add_zero, List.take_append_drop]

/-- overwriting a whole buffer leaves the written values -/
theorem splice_zero {α} (buf vals : List α) (h : buf.length ≤ vals.length) : splice buf 0 vals = vals := by
  unfold splice
  rw [List.take_zero, List.nil_append, Nat.zero_add, List.drop_of_length_le h, List.append_nil]

/-! ### the row loop of `indexed` -/

/-- the loop writes the selected sub-tensors of the source one behind the other from sub-tensor `k` of the output on: one
    overwrite by their concatenation -/
theorem gatherRows_spec {α} (n : Nat) (src : List α) : ∀ (I : List Nat) (k : Nat) (out : List α),
    (k + I.length) * n ≤ out.length → (∀ i ∈ I, ((src.drop (i * n)).take n).length = n) →
    gatherRows n src I k out = splice out (k * n) (I.flatMap (fun i => (src.drop (i * n)).take n))
  | [], k, out, _, _ => (splice_nil out (k * n)).symm
  | i :: is, k, out, hl, hrow => by
    have hr := hrow i List.mem_cons_self
    rw [List.length_cons, ← Nat.add_assoc, Nat.add_right_comm] at hl
    have hkn : k * n + n ≤ out.length := Nat.le_trans (by rw [← Nat.succ_mul]; exact Nat.mul_le_mul_right n (Nat.le_add_right _ _)) hl
    rw [gatherRows, gatherRows_spec n src is (k + 1) _ (by rw [splice_length _ _ _ (by rw [hr]; exact hkn)]; exact hl)
      (fun x hx => hrow x (List.mem_cons_of_mem _ hx)), Nat.succ_mul]
    have := splice_splice out (k * n) ((src.drop (i * n)).take n) (is.flatMap fun i => (src.drop (i * n)).take n)
      (Nat.le_trans (Nat.le_add_right _ _) hkn)
    rw [hr] at this
    rw [this, List.flatMap_cons]

theorem resizeBuf_length {α} (junk : α) (buf : List α) (n : Nat) : (resizeBuf junk buf n).length = n := by
  unfold resizeBuf
  split
  · assumption
  · simp

/-! ### the integral commutes with every map that preserves `+` (conversion to a wider type, reduction modulo `2^w`) -/

section hom
variable {α β : Type} [Add α] [Add β] (h : α → β) (hadd : ∀ a b, h (a + b) = h a + h b)
include hadd

theorem prefixSums_map : ∀ (xs : List α) (acc : α),
    prefixSums (h acc) (xs.map h) = (prefixSums acc xs).map h
  | [], _ => by simp [prefixSums]
  | x :: xs, acc => by
    simp only [List.map_cons, prefixSums]
    rw [← hadd, prefixSums_map xs (acc + x)]

theorem prefixSums1_map : ∀ (xs : List α), prefixSums1 (xs.map h) = (prefixSums1 xs).map h
  | [] => by simp [prefixSums1]
  | x :: xs => by simp only [List.map_cons, prefixSums1]; rw [prefixSums_map h hadd xs x]

theorem zipAdd_map : ∀ (xs ys : List α), zipAdd (xs.map h) (ys.map h) = (zipAdd xs ys).map h
  | [], _ => by simp [zipAdd]
  | _ :: _, [] => by simp [zipAdd]
  | x :: xs, y :: ys => by simp only [List.map_cons, zipAdd]; rw [← hadd, zipAdd_map xs ys]

theorem accRows_map : ∀ (rs : List (List α)) (prev : List α),
    accRows (prev.map h) (rs.map (List.map h)) = (accRows prev rs).map (List.map h)
  | [], _ => by simp [accRows]
  | r :: rs, prev => by
    simp only [List.map_cons, accRows]
    rw [zipAdd_map h hadd r prev, accRows_map rs (zipAdd r prev)]

theorem accRows1_map : ∀ (rs : List (List α)), accRows1 (rs.map (List.map h)) = (accRows1 rs).map (List.map h)
  | [] => by simp [accRows1]
  | r :: rs => by simp only [List.map_cons, accRows1]; rw [accRows_map h hadd rs r]

omit hadd [Add α] [Add β] in
theorem rows_map (n : Nat) : ∀ (k : Nat) (xs : List α), rows n k (xs.map h) = (rows n k xs).map (List.map h)
  | 0, _ => by simp [rows]
  | k + 1, xs => by
    simp only [rows, List.map_cons]
    rw [← List.map_drop, rows_map n k (xs.drop n), List.map_take]

/-- **the integral commutes with additive maps**: converting (or wrapping) every input first and integrating in
    the target arithmetic gives the converted (wrapped) exact integral -/
theorem integralData_hom : ∀ (dims : List Nat) (xs : List α),
    integralData dims (xs.map h) = (integralData dims xs).map h
  | [], xs => by simp [integralData]
  | [_], xs => by simp only [integralData]; exact prefixSums1_map h hadd xs
  | d :: d2 :: ds, xs => by
    simp only [integralData]
    rw [rows_map h, List.map_map]
    have hpt : (rows (size (d2 :: ds)) d xs).map (integralData (d2 :: ds) ∘ List.map h)
        = ((rows (size (d2 :: ds)) d xs).map (integralData (d2 :: ds))).map (List.map h) := by
      rw [List.map_map]
      apply List.map_congr_left
      intro r _
      exact integralData_hom (d2 :: ds) r
    rw [hpt, accRows1_map h hadd, List.map_flatten]

end hom

end NanoVerif.Tensor
