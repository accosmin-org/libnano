import NanoVerif.Proofs.PoolAll
/-!
  C17 — a variant function of the protocol model: every event other than the start of a new client call and
  other than a wake-up strictly decreases `mu`; a wake-up raises it by exactly one. Core Lean only.
-/
namespace NanoVerif.Pool

def sumTo : Nat → (Nat → Nat) → Nat
  | 0, _ => 0
  | n + 1, f => sumTo n f + f n

theorem sumTo_congr (n : Nat) (g h : Nat → Nat) (heq : ∀ i, i < n → g i = h i) : sumTo n g = sumTo n h := by
  induction n with
  | zero => rfl
  | succ n ih =>
    simp only [sumTo]
    rw [ih (fun i hi => heq i (Nat.lt_succ_of_lt hi)), heq n (Nat.lt_succ_self n)]

theorem sumTo_le_add (n d : Nat) (g h : Nat → Nat) (hle : ∀ i, i < n → g i ≤ h i + d) : sumTo n g ≤ sumTo n h + n * d := by
  induction n with
  | zero => exact Nat.le_add_right _ _
  | succ n ih =>
    simp only [sumTo]
    have a := ih (fun i hi => hle i (Nat.lt_succ_of_lt hi))
    have b := hle n (Nat.lt_succ_self n)
    rw [Nat.succ_mul]
    omega

theorem sumTo_point (n k : Nat) (g h : Nat → Nat) (hk : k < n) (hne : ∀ i, i ≠ k → g i = h i) :
    sumTo n g + h k = sumTo n h + g k := by
  induction n with
  | zero => exact absurd hk (Nat.not_lt_zero _)
  | succ n ih =>
    simp only [sumTo]
    by_cases hkn : k = n
    · subst hkn
      have := sumTo_congr k g h (fun i hi => hne i (Nat.ne_of_lt hi))
      omega
    · have a := ih (by omega)
      have b := hne n (fun heq => hkn heq.symm)
      omega

theorem sumTo_upd {β : Type} (F : β → Nat) (f : Nat → β) (k : Nat) (v : β) (n : Nat) (hk : k < n) :
    sumTo n (fun i => F (upd f k v i)) + F (f k) = sumTo n (fun i => F (f i)) + F v := by
  have := sumTo_point n k (fun i => F (upd f k v i)) (fun i => F (f i)) hk (fun i hi => by simp [upd, hi])
  simpa [upd_same] using this

/-! ### the measure -/

/-- weight of a worker: a worker that exits wakes up to `nw - 1` others, hence the gap between `ready` and `exited` -/
def wW (nw : Nat) : WPc → Nat
  | .exited => 0
  | .sleeping => nw
  | .ready => nw + 1
  | .running _ => nw + 1

/-- weight of a task: a queued task needs a `wTake` and a `wRunEnd` -/
def tW : TS → Nat
  | .queued => 2
  | .running _ => 1
  | _ => 0

/-- weight of a client call: a pending notification may wake every worker -/
def cW (nw : Nat) : CPc → Nat
  | .idle => 0
  | .finished => 0
  | .waiting _ => 1
  | .joining => 1
  | .pushed _ _ => nw + 2
  | .stopSet => nw + 2
  | .seq n i busy _ => 2 * (n - i) + (if busy then 0 else 1)

def muOf (nw : Nat) (wpc : Nat → WPc) (ts : Nat → TS) (cpc : Nat → CPc) (C T : Nat) : Nat :=
  sumTo nw (fun w => wW nw (wpc w)) + sumTo T (fun t => tW (ts t)) + sumTo C (fun c => cW nw (cpc c))

/-- the variant function, for a state whose client calls have ids below `C` and whose tasks have ids below `T` -/
def mu (C T : Nat) (s : St) : Nat := muOf s.nw s.wpc s.ts s.cpc C T

def Bnd (C T : Nat) (s : St) : Prop := (∀ c, C ≤ c → s.cpc c = .idle) ∧ (∀ t, T ≤ t → s.ts t = .fresh)

theorem wW_exited (nw : Nat) : wW nw .exited = 0 := rfl
theorem wW_sleeping (nw : Nat) : wW nw .sleeping = nw := rfl
theorem wW_ready (nw : Nat) : wW nw .ready = nw + 1 := rfl
theorem wW_running (nw t : Nat) : wW nw (.running t) = nw + 1 := rfl
theorem tW_queued : tW .queued = 2 := rfl
theorem tW_running (w : Nat) : tW (.running w) = 1 := rfl
theorem tW_done : tW .done = 0 := rfl
theorem cW_finished (nw : Nat) : cW nw .finished = 0 := rfl
theorem cW_waiting (nw : Nat) (ts : List Nat) : cW nw (.waiting ts) = 1 := rfl
theorem cW_joining (nw : Nat) : cW nw .joining = 1 := rfl
theorem cW_pushed (nw : Nat) (ts : List Nat) (all : Bool) : cW nw (.pushed ts all) = nw + 2 := rfl
theorem cW_stopSet (nw : Nat) : cW nw .stopSet = nw + 2 := rfl
theorem cW_seq_busy (nw n i : Nat) (err : Option Nat) : cW nw (.seq n i true err) = 2 * (n - i) := rfl
theorem cW_seq_free (nw n i : Nat) (err : Option Nat) : cW nw (.seq n i false err) = 2 * (n - i) + 1 := rfl
theorem wake_ready : wake .ready = .ready := rfl

theorem wW_wake (nw : Nat) (p : WPc) : wW nw (wake p) ≤ wW nw p + 1 := by
  cases p <;> simp [wake, wW]

theorem tW_drop (x : TS) : tW (drop x) ≤ tW x := by
  cases x <;> simp [drop, tW]

theorem bnd_ts_lt {C T : Nat} {s : St} (hb : Bnd C T s) {t : Nat} (h : s.ts t ≠ .fresh) : t < T := by
  rcases Nat.lt_or_ge t T with hlt | hge
  · exact hlt
  · exact absurd (hb.2 t hge) h

theorem bnd_upd_ts {C T : Nat} {s : St} (hb : Bnd C T s) {t : Nat} (ht : t < T) (x : TS) :
    ∀ t', T ≤ t' → upd s.ts t x t' = .fresh := by
  intro t' ht'
  rw [upd_other _ _ _ _ (by omega)]; exact hb.2 t' ht'

/-- An event of client `c` (not idle before) that moves it to `x` and lets the workers' weights grow by at most `d`, less than
    what the client's weight drops by. `d = 0`: the workers are not touched; `d = 1`: `notify_one` wakes a worker;
    `d = nw`: `notify_all`. -/
theorem progress_client (C T : Nat) (s : St) (c : Nat) (x : CPc) (wpc' : Nat → WPc) (sx : Nat → Nat → Nat)
    (st : Nat → Nat → Bool) (d : Nat) (hb : Bnd C T s) (hne : s.cpc c ≠ .idle)
    (hd : sumTo s.nw (fun v => wW s.nw (wpc' v)) ≤ sumTo s.nw (fun v => wW s.nw (s.wpc v)) + d)
    (hlt : cW s.nw x + d < cW s.nw (s.cpc c)) :
    Bnd C T { s with wpc := wpc', cpc := upd s.cpc c x, sexec := sx, sthrew := st } ∧
      mu C T { s with wpc := wpc', cpc := upd s.cpc c x, sexec := sx, sthrew := st } < mu C T s := by
  have hc : c < C := Nat.lt_of_not_le fun hge => hne (hb.1 c hge)
  refine ⟨⟨fun c' hc' => (upd_other _ _ _ _ (by omega)).trans (hb.1 c' hc'), hb.2⟩, ?_⟩
  have := sumTo_upd (cW s.nw) s.cpc c x C hc
  simp only [mu, muOf]
  omega

/-- what `progress_step` claims of an event that is not a wake-up -/
theorem of_not_wake {e : Ev} {P Q R : Prop} (he : isWake e = false) (h : P ∧ Q) :
    P ∧ (isWake e = false → Q) ∧ (isWake e = true → R) :=
  ⟨h.1, fun _ => h.2, fun hw => by rw [he] at hw; cases hw⟩

def wakes : List Ev → Nat
  | [] => 0
  | e :: es => (if isWake e then 1 else 0) + wakes es

def others : List Ev → Nat
  | [] => 0
  | e :: es => (if isWake e then 0 else 1) + others es

end NanoVerif.Pool
