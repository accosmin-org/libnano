import NanoVerif.Model.Solver
/-!
  C01 / C02 — lemmas about the control skeleton of `Model/Solver.lean` that hold for EVERY scalar type (only the core
  operation classes, no axioms about them): objective, direction rule, line search and step oracles are arbitrary.
  Core Lean only. The statements are about the generated decision logic of `Gen/DoneLogic.lean`: they are re-checked
  against what `solver_t::done`, the loop guards and the return statements say now on every run.
-/
namespace NanoVerif.Solver
open NanoVerif.Gen.DoneLogic
set_option linter.unusedSectionVars false

section
variable {α : Type} [Add α] [Sub α] [Mul α] [Div α] [Neg α] [LT α] [LE α] [DecidableLT α] [DecidableLE α] [∀ n, OfNat α n]

def Consistent (f : Objective α) (s : State α) : Prop := s.fx = (f s.x).1 ∧ s.gx = (f s.x).2

/-- contract of a line search (C07 `success_state_is_eval`): whatever it returns, the state it leaves behind is an evaluation
    of `f`, and it does not touch the status -/
def LsContract (f : Objective α) (ls : Ls α) : Prop :=
  ∀ k s d, (Consistent f s → Consistent f (ls k s d).1) ∧ (ls k s d).1.status = s.status

def evals (s : State α) : Nat := s.fcalls + s.gcalls

/-! ### `solver_t::done` -/

theorem done_x (env : Env α) (s : State α) (a b : Bool) : (done env s a b).1.x = s.x := rfl
theorem done_fx (env : Env α) (s : State α) (a b : Bool) : (done env s a b).1.fx = s.fx := rfl
theorem done_gx (env : Env α) (s : State α) (a b : Bool) : (done env s a b).1.gx = s.gx := rfl
theorem done_fcalls (env : Env α) (s : State α) (a b : Bool) : (done env s a b).1.fcalls = s.fcalls := rfl
theorem done_gcalls (env : Env α) (s : State α) (a b : Bool) : (done env s a b).1.gcalls = s.gcalls := rfl

theorem done_valid (env : Env α) (s : State α) (a b : Bool) : valid env (done env s a b).1 = valid env s := rfl

theorem done_consistent (env : Env α) (f : Objective α) (s : State α) (a b : Bool) (h : Consistent f s) :
    Consistent f (done env s a b).1 := h

/-- what `solver_t::done` decides (C02 `done_spec`): it stops iff `converged || !(iter_ok && valid)`; when it stops the
    status becomes `converged` if the flag is set and `failed` otherwise; when it does not stop the status is untouched,
    the step was ok and the state is valid. -/
theorem done_spec (env : Env α) (s : State α) (iterOk conv : Bool) :
    ((done env s iterOk conv).2 = true ↔ (conv = true ∨ ¬ (iterOk = true ∧ valid env s = true))) ∧
    ((done env s iterOk conv).2 = true →
      (done env s iterOk conv).1.status = (if conv then Status.converged else Status.failed)) ∧
    ((done env s iterOk conv).2 = false →
      (done env s iterOk conv).1.status = s.status ∧ iterOk = true ∧ valid env s = true ∧ conv = false) := by
  simp only [done]
  cases iterOk <;> cases conv <;> cases hv : valid env s <;>
    simp [doneReturn, doneNewStatus, doneCond, doneStatus, doneStepOk]

theorem done_stop_status (env : Env α) (s : State α) (iterOk conv : Bool) (h : (done env s iterOk conv).2 = true) :
    (done env s iterOk conv).1.status = (if conv then Status.converged else Status.failed) :=
  (done_spec env s iterOk conv).2.1 h

theorem done_go (env : Env α) (s : State α) (iterOk conv : Bool) (h : (done env s iterOk conv).2 = false) :
    (done env s iterOk conv).1.status = s.status ∧ iterOk = true ∧ valid env s = true ∧ conv = false :=
  (done_spec env s iterOk conv).2.2 h

theorem done_converged (env : Env α) (s : State α) (iterOk conv : Bool)
    (h : (done env s iterOk conv).1.status = Status.converged) : conv = true ∨ s.status = Status.converged := by
  cases hstop : (done env s iterOk conv).2
  · exact Or.inr ((done_go env s iterOk conv hstop).1 ▸ h)
  · have := done_stop_status env s iterOk conv hstop
    rw [this] at h
    cases conv
    · simp at h
    · exact Or.inl rfl

theorem done_status_cases (env : Env α) (s : State α) (iterOk conv : Bool) :
    (done env s iterOk conv).1.status = s.status ∨ (done env s iterOk conv).1.status = Status.converged ∨
      (done env s iterOk conv).1.status = Status.failed := by
  cases hstop : (done env s iterOk conv).2
  · exact Or.inl (done_go env s iterOk conv hstop).1
  · have := done_stop_status env s iterOk conv hstop
    cases conv
    · exact Or.inr (Or.inr (by simpa using this))
    · exact Or.inr (Or.inl (by simpa using this))

/-! ### the loop of the line-search solvers -/

/-- invariant: the state is an evaluation of `f`, and if it says `converged` then its own stored value and gradient
    passed one of the two convergence tests of the solver body -/
structure Good {M : Type} (f : Objective α) (rule : Rule α M) (eps : α) (s : State α) : Prop where
  cons : Consistent f s
  conv : s.status = Status.converged →
    rule.conv (gradientTestS s) eps = true ∨ rule.convInit (gradientTestS s) eps = true

theorem gradientTestS_done (env : Env α) (s : State α) (a b : Bool) :
    gradientTestS (done env s a b).1 = gradientTestS s := rfl

theorem good_of_not_converged {M : Type} (f : Objective α) (rule : Rule α M) (eps : α) (s : State α)
    (hc : Consistent f s) (hs : s.status ≠ Status.converged) : Good f rule eps s :=
  ⟨hc, fun h => absurd h hs⟩

/-- `Good` read at the returned point: the convergence test holds of the value and gradient of `f` there -/
theorem Good.truthful {M : Type} {f : Objective α} {rule : Rule α M} {eps : α} {s : State α} (h : Good f rule eps s)
    (hs : s.status = Status.converged) :
    rule.conv (gradientTest (infNorm (f s.x).2) (f s.x).1) eps = true ∨
    rule.convInit (gradientTest (infNorm (f s.x).2) (f s.x).1) eps = true := by
  rw [← h.cons.1, ← h.cons.2]; exact h.conv hs

theorem done_good {M : Type} (env : Env α) (f : Objective α) (rule : Rule α M) (eps : α) (s : State α) (ok b : Bool)
    (hb : b = true → rule.conv (gradientTestS s) eps = true ∨ rule.convInit (gradientTestS s) eps = true)
    (hc : Consistent f s) (hs : s.status ≠ Status.converged) : Good f rule eps (done env s ok b).1 :=
  ⟨hc, fun h => (done_converged env s ok b h).elim hb fun h1 => absurd h1 hs⟩

section
variable {M : Type} (env : Env α) (rule : Rule α M) (ls : Ls α) (eps : α) (maxEvals : Nat)

theorem lsResult_cases (o : Out α M) :
    lsResult env rule o = o.c ∨ lsResult env rule o = o.p := by
  unfold lsResult
  split
  · exact Or.inl rfl
  · exact Or.inr rfl

def lsIter (k : Nat) (c : State α) (d : Vec α) :
    State α × Bool :=
  done env (ls k c d).1 (ls k c d).2 (rule.conv (gradientTestS (ls k c d).1) eps)

/-- invariant rule of the loop: `J` holds of every state an iteration starts from (hence of the previous state), `I` of every
    state `done` leaves behind. One iteration — guard passed, line search, `done` — takes `J` to `I`, and back to `J` when `done`
    does not stop. -/
theorem lsLoop_inv (I J : State α → Prop)
    (hJI : ∀ s, J s → I s)
    (hstep : ∀ k c d, rule.guard c.fcalls c.gcalls maxEvals = true → J c →
      I (lsIter env rule ls eps k c d).1 ∧ ((lsIter env rule ls eps k c d).2 = false → J (lsIter env rule ls eps k c d).1)) :
    ∀ (fuel k : Nat) (m : M) (p c : State α), J p → J c →
      J (lsLoop env rule ls eps maxEvals fuel k m p c).p ∧ I (lsLoop env rule ls eps maxEvals fuel k m p c).c := by
  intro fuel k m p c hp hc
  fun_induction lsLoop env rule ls eps maxEvals fuel k m p c with
  | case1 => exact ⟨hp, hJI _ hc⟩
  | case2 fuel k m p c hg dm r d hstop => exact ⟨hc, (hstep k c dm.1 hg hc).1⟩
  | case3 fuel k m p c hg dm r d hstop o ih =>
    exact ih hc ((hstep k c dm.1 hg hc).2 (eq_false_of_ne_true hstop))
  | case4 => exact ⟨hp, hJI _ hc⟩

theorem lsRun_inv (I J : State α → Prop)
    (hJI : ∀ s, J s → I s)
    (hstep : ∀ k c d, rule.guard c.fcalls c.gcalls maxEvals = true → J c →
      I (lsIter env rule ls eps k c d).1 ∧ ((lsIter env rule ls eps k c d).2 = false → J (lsIter env rule ls eps k c d).1))
    (fuel : Nat) (c0 : State α) (h0 : I (done env c0 true (rule.convInit (gradientTestS c0) eps)).1)
    (h0' : (done env c0 true (rule.convInit (gradientTestS c0) eps)).2 = false →
      J (done env c0 true (rule.convInit (gradientTestS c0) eps)).1) :
    I (lsRun env rule ls eps maxEvals fuel c0).1 := by
  simp only [lsRun]
  split
  · exact h0
  · next hstop =>
    have hJ := h0' (by simpa using hstop)
    have h := lsLoop_inv env rule ls eps maxEvals I J hJI hstep fuel 0 rule.init _ _ hJ hJ
    rcases lsResult_cases env rule
      (lsLoop env rule ls eps maxEvals fuel 0 rule.init (done env c0 true (rule.convInit (gradientTestS c0) eps)).1
        (done env c0 true (rule.convInit (gradientTestS c0) eps)).1) with hr | hr
    · simp only [hr]; exact h.2
    · simp only [hr]; exact hJI _ h.1

theorem lsRun_good (f : Objective α) (hls : LsContract f ls) (fuel : Nat) (c0 : State α) (hc : Consistent f c0) (hs : c0.status ≠ Status.converged) :
    Good f rule eps (lsRun env rule ls eps maxEvals fuel c0).1 := by
  refine lsRun_inv env rule ls eps maxEvals (Good f rule eps) (fun s => Good f rule eps s ∧ s.status ≠ Status.converged)
    (fun _ h => h.1) (fun k c d _ hJ => ?_) fuel c0 (done_good env f rule eps c0 true _ Or.inr hc hs) (fun hgo => ?_)
  · have hns : (ls k c d).1.status ≠ Status.converged := by rw [(hls k c d).2]; exact hJ.2
    have hg := done_good env f rule eps (ls k c d).1 (ls k c d).2 _ Or.inl ((hls k c d).1 hJ.1.cons) hns
    exact ⟨hg, fun hgo => ⟨hg, by
      rw [show (lsIter env rule ls eps k c d).1.status = _ from (done_go env _ _ _ hgo).1]; exact hns⟩⟩
  · exact ⟨done_good env f rule eps c0 true _ Or.inr hc hs, by rw [(done_go env _ _ _ hgo).1]; exact hs⟩

theorem initState_consistent (f : Objective α) (x0 : Vec α) : Consistent f (initState f x0) := ⟨rfl, rfl⟩

theorem initState_status (f : Objective α) (x0 : Vec α) : (initState f x0).status ≠ Status.converged := by
  simp [initState, Status.initial]

/-- what `minimize` of a line-search solver returns is `Good`: the one fact behind `converged_truthful` (C01) and
    `ls_solver_consistent` (C02) -/
theorem lsMinimize_good (f : Objective α) (hls : LsContract f ls) (fuel : Nat) (x0 : Vec α) :
    Good f rule eps (lsMinimize env rule ls f eps maxEvals fuel x0) :=
  lsRun_good env rule ls eps maxEvals f hls fuel _ (initState_consistent f x0) (initState_status f x0)

/-! ### status trichotomy and validity of what is returned -/

def Tri (s : Status) : Prop := s = Status.max_iters ∨ s = Status.converged ∨ s = Status.failed

theorem done_tri (s : State α) (iterOk conv : Bool) (h : Tri s.status) :
    Tri (done env s iterOk conv).1.status := by
  rcases done_status_cases env s iterOk conv with h1 | h1 | h1
  · rw [h1]; exact h
  · exact Or.inr (Or.inl h1)
  · exact Or.inr (Or.inr h1)

/-- `return cstate.valid() ? cstate : pstate`: inside the loop the previous state is always valid (the loop only goes on from a
    valid state); so when the body returns the current state only if it is valid, what it returns after an initial `done` that
    did not stop is valid -/
theorem lsRun_valid (fuel : Nat) (c0 : State α)
    (hret : ∀ b, rule.returnsCurrent b = b)
    (hgo : (done env c0 true (rule.convInit (gradientTestS c0) eps)).2 = false) :
    valid env (lsRun env rule ls eps maxEvals fuel c0).1 = true := by
  have hv0 : valid env (done env c0 true (rule.convInit (gradientTestS c0) eps)).1 = true :=
    (done_go env _ _ _ hgo).2.2.1
  have hp := (lsLoop_inv env rule ls eps maxEvals (fun _ => True) (fun s => valid env s = true) (fun _ _ => trivial)
    (fun k c d _ _ => ⟨trivial, fun hgo' => (done_go env _ _ _ hgo').2.2.1⟩) fuel 0 rule.init _ _ hv0 hv0).1
  simp only [lsRun, hgo, Bool.false_eq_true, if_false, lsResult, hret]
  split
  · next h => exact h
  · exact hp

end

/-! ### best-state tracking -/

section
variable (env : Env α) (step : Nat → Nat × Nat → BState α → NmStep α) (patience : Nat) (eps : α) (maxEvals : Nat)

theorem updateIfBetter_cases (b : BState α) (x gx : Vec α) (fx : α) :
    ((updateIfBetter env b x gx fx).2 = false ∧ (updateIfBetter env b x gx fx).1.st = b.st) ∨
    ((updateIfBetter env b x gx fx).2 = true ∧ env.fin fx = true ∧ uibBetter (uibDf b.st.fx fx) = true ∧
      (updateIfBetter env b x gx fx).1.st = { b.st with x := x, fx := fx, gx := gx }) := by
  unfold updateIfBetter
  by_cases hf : env.fin fx = true
  · by_cases hb : uibBetter (uibDf b.st.fx fx) = true
    · exact Or.inr (by simp [hf, hb])
    · exact Or.inl (by simp [hf, hb])
  · exact Or.inl (by simp [hf])

theorem applyCands_ind (Q : State α → Prop) (cands : List (Vec α × Vec α × α)) (b : BState α) (hb : Q b.st)
    (hc : ∀ c ∈ cands, ∀ b' : BState α, Q b'.st → Q (updateIfBetter env b' c.1 c.2.1 c.2.2).1.st) :
    Q (applyCands env b cands).1.st := by
  unfold applyCands
  generalize ([] : List α) = acc
  induction cands generalizing b acc with
  | nil => exact hb
  | cons c cs ih =>
    simp only [List.foldl_cons]
    exact ih _ (hc c List.mem_cons_self b hb) (fun c' h' => hc c' (List.mem_cons_of_mem _ h')) _

theorem applyCands_inv (P : Vec α → Vec α → α → Prop) (cands : List (Vec α × Vec α × α)) (b : BState α)
    (hb : P b.st.x b.st.gx b.st.fx) (hc : ∀ c ∈ cands, P c.1 c.2.1 c.2.2) :
    P (applyCands env b cands).1.st.x (applyCands env b cands).1.st.gx (applyCands env b cands).1.st.fx :=
  applyCands_ind env (fun s => P s.x s.gx s.fx) cands b hb fun c hcm b' hb' => by
    rcases updateIfBetter_cases env b' c.1 c.2.1 c.2.2 with ⟨_, h⟩ | ⟨_, _, _, h⟩
    · rw [h]; exact hb'
    · rw [h]; exact hc c hcm

theorem applyCands_status (cands : List (Vec α × Vec α × α)) (b : BState α) :
    (applyCands env b cands).1.st.status = b.st.status :=
  applyCands_ind env (fun s => s.status = b.st.status) cands b rfl fun c _ b' hb' => by
    rcases updateIfBetter_cases env b' c.1 c.2.1 c.2.2 with ⟨_, h⟩ | ⟨_, _, _, h⟩ <;> rw [h] <;> exact hb'

theorem nmIter_tri (b : BState α) (r : NmStep α) (h : Tri b.st.status) :
    Tri (nmIter env patience eps b r).b.st.status := by
  simp only [nmIter]
  apply done_tri
  show Tri (applyCands env b r.cands).1.st.status
  rw [applyCands_status]; exact h

/-- invariant rule of the generic non-monotonic loop: `J` holds of every state an iteration starts from, `I` of every state an
    iteration leaves; one iteration (guard passed) takes `J` to `I`, and back to `J` when `done` does not stop -/
theorem nmLoop_ind (I J : BState α → Prop) (hJI : ∀ b, J b → I b)
    (hstep : ∀ k gf gg b, gdGuard gf gg maxEvals = true → J b →
      I (nmIter env patience eps b (step k (gf, gg) b)).b ∧
      ((nmIter env patience eps b (step k (gf, gg) b)).stop = false → J (nmIter env patience eps b (step k (gf, gg) b)).b)) :
    ∀ (fuel k gf gg : Nat) (b : BState α), J b → I (nmLoop env step patience eps maxEvals fuel k gf gg b).1 := by
  intro fuel k gf gg b hb
  fun_induction nmLoop env step patience eps maxEvals fuel k gf gg b with
  | case1 => exact hJI _ hb
  | case2 fuel k gf gg b hg r hstop => exact (hstep k gf gg b hg hb).1
  | case3 fuel k gf gg b hg r hstop o ih => exact ih ((hstep k gf gg b hg hb).2 (by simpa using hstop))
  | case4 => exact hJI _ hb

/-- the generic non-monotonic loop: what it returns satisfies every predicate that the initial state and all the triples
    handed to `update_if_better` satisfy (`P := "is one of them"`, `P := "is an evaluation of f"` …) -/
theorem nmLoop_inv (P : Vec α → Vec α → α → Prop)
    (hstep : ∀ k g b, ∀ c ∈ (step k g b).cands, P c.1 c.2.1 c.2.2) (fuel k gf gg : Nat) (b : BState α)
    (hb : P b.st.x b.st.gx b.st.fx) :
    P (nmLoop env step patience eps maxEvals fuel k gf gg b).1.st.x
      (nmLoop env step patience eps maxEvals fuel k gf gg b).1.st.gx
      (nmLoop env step patience eps maxEvals fuel k gf gg b).1.st.fx :=
  nmLoop_ind env step patience eps maxEvals (fun b => P b.st.x b.st.gx b.st.fx) (fun b => P b.st.x b.st.gx b.st.fx)
    (fun _ h => h)
    (fun k gf gg b _ hJ =>
      have h := applyCands_inv env P (step k (gf, gg) b).cands b hJ (hstep k (gf, gg) b)
      ⟨h, fun _ => h⟩)
    fuel k gf gg b hb

theorem nmLoop_tri (fuel k gf gg : Nat) (b : BState α) (hb : Tri b.st.status) :
    Tri (nmLoop env step patience eps maxEvals fuel k gf gg b).1.st.status :=
  nmLoop_ind env step patience eps maxEvals (fun b => Tri b.st.status) (fun b => Tri b.st.status) (fun _ h => h)
    (fun k gf gg b _ hJ =>
      have h := nmIter_tri env patience eps b (step k (gf, gg) b) hJ
      ⟨h, fun _ => h⟩)
    fuel k gf gg b hb

/-- budget of the generic loop: if one iteration performs at most `K` evaluations (function's counters at the next guard
    ≤ counters at this guard + `K`) and `done` reports counters that were read no later than the next guard, the reported
    evaluations stay below `max_evals + K` -/
theorem nmLoop_budget (K : Nat)
    (hK : ∀ k g b, (step k g b).fcalls + (step k g b).gcalls ≤ (step k g b).guardF + (step k g b).guardG ∧
      (step k g b).guardF + (step k g b).guardG ≤ g.1 + g.2 + K)
    (fuel k gf gg : Nat) (b : BState α) (hb : evals b.st < maxEvals + K) :
    evals (nmLoop env step patience eps maxEvals fuel k gf gg b).1.st < maxEvals + K :=
  nmLoop_ind env step patience eps maxEvals (fun b => evals b.st < maxEvals + K) (fun b => evals b.st < maxEvals + K)
    (fun _ h => h)
    (fun k gf gg b hg _ =>
      have hlt : gf + gg < maxEvals := by simpa [gdGuard] using hg
      have h : evals (nmIter env patience eps b (step k (gf, gg) b)).b.st < maxEvals + K := by
        show (step k (gf, gg) b).fcalls + (step k (gf, gg) b).gcalls < maxEvals + K
        have := hK k (gf, gg) b
        simp only at this
        omega
      ⟨h, fun _ => h⟩)
    fuel k gf gg b hb

end

/-! ### the call counters -/

/-- the function's counters after a sequence of evaluations (`true` = the gradient was requested as well) -/
def countersAfter (evs : List Bool) : Nat × Nat :=
  evs.foldl (fun c g => vgradCounters c.1 c.2 g) (0, 0)

theorem countersAfter_foldl (evs : List Bool) (c : Nat × Nat) :
    (evs.foldl (fun c g => vgradCounters c.1 c.2 g) c).1 = c.1 + evs.length ∧
    (evs.foldl (fun c g => vgradCounters c.1 c.2 g) c).2 = c.2 + evs.count true := by
  induction evs generalizing c with
  | nil => simp
  | cons g gs ih =>
    simp only [List.foldl_cons, List.length_cons, List.count_cons]
    have := ih (vgradCounters c.1 c.2 g)
    cases g <;> simp [vgradCounters] at this ⊢ <;> omega

theorem countersAfter_eq (evs : List Bool) :
    (countersAfter evs).1 = evs.length ∧ (countersAfter evs).2 = evs.count true := by
  have := countersAfter_foldl evs (0, 0)
  simpa [countersAfter] using this

/-! ### `value_test` -/

/-- what `lastImprovement` finds: nothing iff no recorded `df` is positive; otherwise the most recent entry with `df > 0`
    (position `i` counted from the most recent entry) -/
theorem lastImprovement_spec : ∀ (h : List (α × α)) (k0 : Nat),
    match lastImprovement h k0 with
    | none => ∀ e ∈ h, ¬ (e.1 > 0)
    | some (k, df, dx) => ∃ i, k = k0 + i ∧ h[i]? = some (df, dx) ∧ df > 0 ∧ ∀ j, j < i → ∀ e, h[j]? = some e → ¬ (e.1 > 0)
  | [], k0 => by simp [lastImprovement]
  | (df, dx) :: rest, k0 => by
    simp only [lastImprovement]
    by_cases hd : df > 0
    · rw [if_pos hd]
      exact ⟨0, rfl, rfl, hd, fun j hj => absurd hj (Nat.not_lt_zero j)⟩
    · rw [if_neg hd]
      have ih := lastImprovement_spec rest (k0 + 1)
      cases hl : lastImprovement rest (k0 + 1) with
      | none =>
        rw [hl] at ih
        simp only at ih ⊢
        intro e he
        rcases List.mem_cons.mp he with rfl | he'
        · exact hd
        · exact ih e he'
      | some r =>
        obtain ⟨k, df', dx'⟩ := r
        rw [hl] at ih
        simp only at ih ⊢
        obtain ⟨i, hk, hi, hpos, hbefore⟩ := ih
        refine ⟨i + 1, by omega, by simpa using hi, hpos, fun j hj e he => ?_⟩
        cases j with
        | zero => simp at he; rw [← he]; exact hd
        | succ j => exact hbefore j (by omega) e (by simpa using he)

theorem mem_take_of_getElem? {β : Type} (l : List β) (i n : Nat) (e : β) (h : l[i]? = some e) (hi : i < n) : e ∈ l.take n := by
  rw [List.mem_iff_getElem?]
  exact ⟨i, by rw [List.getElem?_take]; simp [hi, h]⟩

end
end NanoVerif.Solver
