/-!
  Indexing as the C++ code does it: `v(i)` with a default outside the range (`List.getD`), `v(i) = x` (`List.set`), `push_back`,
  a block copied into a buffer (`splice`). Core Lean only, as the storage modules that use it are.
-/
namespace NanoVerif.Lst

universe u v
variable {β : Type u} {γ : Type v}

/-! ### `getD` -/

theorem getD_of_lt {l : List β} {i : Nat} (h : i < l.length) (d : β) : l.getD i d = l[i] := by
  rw [List.getD_eq_getElem?_getD, List.getElem?_eq_getElem h, Option.getD_some]

theorem getD_mem {l : List β} {i : Nat} (h : i < l.length) (d : β) : l.getD i d ∈ l := by
  rw [getD_of_lt h]; exact List.getElem_mem h

/-- the default of the image is the image of the default (`e = 0` with `f [] = 0`, `f 0 = 0` in the users) -/
theorem getD_map (f : β → γ) {d : β} {e : γ} (hf : f d = e) (l : List β) (i : Nat) :
    (l.map f).getD i e = f (l.getD i d) := by
  rw [List.getD_eq_getElem?_getD, List.getD_eq_getElem?_getD, List.getElem?_map]
  cases l[i]? with
  | none => exact hf.symm
  | some b => rfl

/-- inside the range the defaults do not matter -/
theorem getD_map_of_lt (f : β → γ) {l : List β} {i : Nat} (h : i < l.length) (d : β) (e : γ) :
    (l.map f).getD i e = f (l.getD i d) := by
  rw [getD_of_lt (by rw [List.length_map]; exact h), List.getElem_map, getD_of_lt h]

theorem getD_set {l : List β} {i : Nat} (h : i < l.length) (j : Nat) (a d : β) :
    (l.set i a).getD j d = if i = j then a else l.getD j d := by
  simp only [List.getD_eq_getElem?_getD, List.getElem?_set, if_pos h]
  split <;> rfl

theorem getD_set_ne (l : List β) {i j : Nat} (h : i ≠ j) (a d : β) : (l.set i a).getD j d = l.getD j d := by
  rw [List.getD_eq_getElem?_getD, List.getD_eq_getElem?_getD, List.getElem?_set_ne h]

theorem map_getD_range (l : List β) (d : β) : (List.range l.length).map (fun k => l.getD k d) = l := by
  apply List.ext_getElem
  · rw [List.length_map, List.length_range]
  · intro i _ h2
    rw [List.getElem_map, List.getElem_range, getD_of_lt h2]

/-! ### `push_back` -/

theorem getElem?_concat_cases {l : List β} {x y : β} {j : Nat} (h : (l ++ [x])[j]? = some y) :
    (j < l.length ∧ l[j]? = some y) ∨ (j = l.length ∧ y = x) := by
  rcases Nat.lt_trichotomy j l.length with hj | rfl | hj
  · exact .inl ⟨hj, by rwa [List.getElem?_append_left hj] at h⟩
  · rw [List.getElem?_concat_length] at h
    exact .inr ⟨rfl, (Option.some.inj h).symm⟩
  · rw [List.getElem?_eq_none (by rw [List.length_append]; exact hj)] at h
    cases h

/-! ### a block copied into a buffer -/

/-- overwrite `buf[off, off + |vals|)` by `vals`: `Tensor.splice` and `Dataset.writeAt` unfold to this -/
def splice (buf : List β) (off : Nat) (vals : List β) : List β :=
  buf.take off ++ vals ++ buf.drop (off + vals.length)

theorem splice_length (buf : List β) (off : Nat) (vals : List β) (h : off + vals.length ≤ buf.length) :
    (splice buf off vals).length = buf.length := by
  simp only [splice, List.length_append, List.length_take, List.length_drop]
  omega

theorem splice_getElem? (buf : List β) (off : Nat) (vals : List β) (h : off ≤ buf.length) (i : Nat) :
    (splice buf off vals)[i]? = if off ≤ i ∧ i < off + vals.length then vals[i - off]? else buf[i]? := by
  unfold splice
  rw [List.append_assoc, List.getElem?_append, List.getElem?_append, List.length_take, Nat.min_eq_left h,
    List.getElem?_take, List.getElem?_drop]
  by_cases h1 : i < off
  · rw [if_pos h1, if_pos h1, if_neg (fun hx => Nat.not_le_of_lt h1 hx.1)]
  · have h1' : off ≤ i := Nat.le_of_not_lt h1
    rw [if_neg h1]
    by_cases h2 : i - off < vals.length
    · rw [if_pos h2, if_pos ⟨h1', by omega⟩]
    · rw [if_neg h2, if_neg (fun hx => h2 (by omega))]
      congr 1
      omega

end NanoVerif.Lst
