import NanoVerif.Proofs.WLearnerBasic
/-!
  C10 — predict / split / scale / merge of the fitted weak learners (all five kinds), over an ordered field.
-/
set_option linter.unusedSectionVars false

namespace NanoVerif.WLearner
variable {α : Type} [Field α] [LinearOrder α] [IsStrictOrderedRing α]

/-! ### predict -/

/-- the vector a learner adds to the outputs of a sample (zero when the sample is not assigned) -/
def contrib (l : Learner α) (s : Nat → FVal α) : Vec α :=
  match eval l s with
  | some (_, v) => v
  | none => zeroV

theorem predictOne_eq (l : Learner α) (s : Nat → FVal α) (out : Vec α) (o : Nat) :
    predictOne l s out o = out o + contrib l s o := by
  unfold predictOne contrib
  cases eval l s with
  | none => simp [zeroV]
  | some p => rfl

/-- the feature whose value decides first whether a sample is assigned: the selected feature of a single-feature learner,
    the feature of the root node of a tree -/
def Learner.rootFeature : Learner α → Option Nat
  | .affine f _ => some f
  | .stump f _ _ => some f
  | .hinge f _ _ _ => some f
  | .table f _ _ _ => some f
  | .dtree nodes _ => nodes.head?.map (·.feature)

/-- the learners whose prediction is a stored table row (stump, look-up tables, decision trees) -/
def Learner.isTable : Learner α → Prop
  | .affine _ _ => False
  | .hinge _ _ _ _ => False
  | _ => True

theorem eval_missing (l : Learner α) (s : Nat → FVal α) (f : Nat) (hf : l.rootFeature = some f)
    (hm : s f = FVal.missing) : eval l s = none := by
  cases l with
  | affine f' t => cases hf; simp only [eval, hm]
  | stump f' thr t => cases hf; simp only [eval, hm]
  | hinge f' thr left t => cases hf; simp only [eval, hm]
  | table f' hs h2t t => cases hf; simp only [eval, hm]
  | dtree nodes t =>
    cases nodes with
    | nil => cases hf
    | cons nd rest => cases hf; simp only [eval, dtreeGroup, List.length_cons, List.getElem?_cons_zero, hm]

theorem eval_isTable (l : Learner α) (hl : l.isTable) (s : Nat → FVal α) (g : Nat) (v : Vec α)
    (h : eval l s = some (g, v)) : v = tab l.tables g := by
  cases l with
  | affine f t => exact hl.elim
  | hinge f thr left t => exact hl.elim
  | stump f thr t =>
    simp only [eval] at h
    split at h
    · cases h; rfl
    · cases h
  | table f hs' h2t t =>
    simp only [eval] at h
    split at h
    · split at h
      · split at h
        · cases h; rfl
        · cases h
      · cases h
    · cases h
  | dtree nodes t =>
    simp only [eval] at h
    split at h
    · cases h; rfl
    · cases h

theorem eval_linear (l : Learner α) (hl : ¬ l.isTable) (s : Nat → FVal α) (g : Nat) (v : Vec α)
    (h : eval l s = some (g, v)) :
    g = 0 ∧ ∃ f x, l.rootFeature = some f ∧ s f = FVal.num x ∧ v = lin l.tables x := by
  cases l with
  | stump f thr t => exact absurd trivial hl
  | table f hs h2t t => exact absurd trivial hl
  | dtree nodes t => exact absurd trivial hl
  | affine f t =>
    simp only [eval] at h
    split at h
    · rename_i x hs; cases h; exact ⟨rfl, f, x, rfl, hs, rfl⟩
    · cases h
  | hinge f thr left t =>
    simp only [eval] at h
    split at h
    · rename_i x hs
      split at h
      · cases h; exact ⟨rfl, f, x, rfl, hs, rfl⟩
      · cases h
    · cases h

/-! ### scale -/

/-- a table row scaled: valid for every index (rows that do not exist are zero before and after) -/
theorem tab_scaleTables (sc : List α) (tables : List (Vec α)) (i : Nat) (o : Nat) :
    tab (scaleTables sc tables) i o = tab tables i o * sc.getD (min i (sc.length - 1)) 0 := by
  unfold tab scaleTables
  rw [List.getD_eq_getElem?_getD, List.getD_eq_getElem?_getD, List.getElem?_mapIdx]
  cases tables[i]? with
  | none => exact (zero_mul _).symm
  | some t => rfl

/-- the factor applied to group `g` by `scale(sc)`: `scale(std::min(g, scale.size() - 1))` -/
def factor (sc : List α) (g : Nat) : α := sc.getD (min g (sc.length - 1)) 0

theorem tab_scale (sc : List α) (tables : List (Vec α)) (g : Nat) :
    tab (scaleTables sc tables) g = fun o => tab tables g o * factor sc g :=
  funext fun o => tab_scaleTables sc tables g o

theorem lin_scale (c : α) (tables : List (Vec α)) (x : α) :
    lin (scaleTables [c] tables) x = fun o => lin tables x o * factor [c] 0 := by
  funext o
  unfold lin
  rw [tab_scaleTables, tab_scaleTables]
  show tab tables 0 o * c * x + tab tables 1 o * c = (tab tables 0 o * x + tab tables 1 o) * c
  ring

/-- `scale` keeps the groups and multiplies the added vector by the group's factor (table learners: any scale vector;
    affine / hinge: the one-element vector they are given since they have one group) -/
theorem eval_scale (l : Learner α) (sc : List α) (hsc : l.isTable ∨ ∃ c, sc = [c]) (s : Nat → FVal α) :
    eval (l.scale sc) s = (eval l s).map fun p => (p.1, fun o => p.2 o * factor sc p.1) := by
  cases l with
  | affine f t =>
    rcases hsc with h | ⟨c, rfl⟩
    · exact h.elim
    · simp only [Learner.scale, Learner.withTables, Learner.tables, eval]
      split
      · simp only [Option.map_some, lin_scale]
      · rfl
  | hinge f thr left t =>
    rcases hsc with h | ⟨c, rfl⟩
    · exact h.elim
    · simp only [Learner.scale, Learner.withTables, Learner.tables, eval]
      split
      · split
        · simp only [Option.map_some, lin_scale]
        · rfl
      · rfl
  | stump f thr t =>
    simp only [Learner.scale, Learner.withTables, Learner.tables, eval]
    split
    · simp only [Option.map_some, tab_scale]
    · rfl
  | table f hs h2t t =>
    simp only [Learner.scale, Learner.withTables, Learner.tables, eval]
    split
    · split
      · split
        · simp only [Option.map_some, tab_scale]
        · rfl
      · rfl
    · rfl
  | dtree nodes t =>
    simp only [Learner.scale, Learner.withTables, Learner.tables, eval]
    split
    · simp only [Option.map_some, tab_scale]
    · rfl

/-! ### merge -/

theorem tab_addTables (a b : List (Vec α)) (h : a.length = b.length) (i o : Nat) :
    tab (addTables a b) i o = tab a i o + tab b i o := by
  unfold tab addTables
  rw [List.getD_eq_getElem?_getD, List.getD_eq_getElem?_getD, List.getD_eq_getElem?_getD, List.getElem?_zipWith]
  by_cases hi : i < a.length
  · rw [List.getElem?_eq_getElem hi, List.getElem?_eq_getElem (h ▸ hi)]; rfl
  · rw [List.getElem?_eq_none (not_lt.mp hi), List.getElem?_eq_none (h ▸ not_lt.mp hi)]; exact (add_zero _).symm

theorem lin_addTables (a b : List (Vec α)) (h : a.length = b.length) (x : α) (o : Nat) :
    lin (addTables a b) x o = lin a x o + lin b x o := by
  unfold lin
  rw [tab_addTables a b h, tab_addTables a b h]; ring

theorem tryMerge_contrib (a b c : Learner α) (h : tryMerge a b = some c) (s : Nat → FVal α) (o : Nat) :
    contrib c s o = contrib a s o + contrib b s o := by
  unfold tryMerge at h
  split at h
  · rename_i f t f' t'
    split at h
    · rename_i hc
      obtain ⟨hf, hlen⟩ := hc
      subst hf
      cases h
      simp only [contrib, eval]
      cases s f with
      | num x => exact lin_addTables t t' hlen x o
      | cls k => exact (add_zero _).symm
      | missing => exact (add_zero _).symm
    · cases h
  · rename_i f hs h2t t f' hs' h2t' t'
    split at h
    · rename_i hc
      obtain ⟨h1, h2, h3, hlen⟩ := hc
      subst h1 h2 h3
      cases h
      simp only [contrib, eval]
      cases s f with
      | num x => exact (add_zero _).symm
      | missing => exact (add_zero _).symm
      | cls k =>
        simp only
        cases findHash hs k with
        | none => exact (add_zero _).symm
        | some i =>
          simp only
          cases h2t[i]? with
          | none => exact (add_zero _).symm
          | some j => exact tab_addTables t t' hlen j o
    · cases h
  · cases h

def sumContrib (ls : List (Learner α)) (s : Nat → FVal α) (o : Nat) : α := lsum (ls.map fun l => contrib l s o)

theorem sumContrib_cons (l : Learner α) (ls : List (Learner α)) (s : Nat → FVal α) (o : Nat) :
    sumContrib (l :: ls) s o = contrib l s o + sumContrib ls s o := rfl

theorem absorb_sum (a : Learner α) (bs : List (Learner α)) (s : Nat → FVal α) (o : Nat) :
    contrib (absorb a bs).1 s o + sumContrib (absorb a bs).2.1 s o = contrib a s o + sumContrib bs s o := by
  induction bs generalizing a with
  | nil => rfl
  | cons b bs ih =>
    simp only [absorb]
    cases hm : tryMerge a b with
    | some a' => exact (ih a').trans (by rw [tryMerge_contrib a b a' hm, sumContrib_cons, add_assoc])
    | none => simp only; rw [sumContrib_cons, sumContrib_cons, add_left_comm, ih a, add_left_comm]

theorem mergeAux_sum (fuel : Nat) (ls : List (Learner α)) (s : Nat → FVal α) (o : Nat) :
    sumContrib (mergeAux fuel ls) s o = sumContrib ls s o := by
  induction fuel generalizing ls with
  | zero => cases ls <;> rfl
  | succ fuel ih =>
    cases ls with
    | nil => rfl
    | cons a rest =>
      simp only [mergeAux]
      split
      · rw [sumContrib_cons, ih, absorb_sum, sumContrib_cons]
      · rw [sumContrib_cons, absorb_sum, sumContrib_cons]

end NanoVerif.WLearner
