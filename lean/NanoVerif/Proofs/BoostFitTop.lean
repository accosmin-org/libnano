import NanoVerif.Model.BoostFitTop
/-! C11 — `foldModels` of `Model/BoostFitTop.lean` (the per-fold models `gboost_model_t::fit` sums) when every slot of the trial is set -/
set_option linter.unusedSectionVars false

namespace NanoVerif.MLResult
open NanoVerif.Tune NanoVerif.Stats

variable {E α : Type} [Add α] [Sub α] [Mul α] [Div α] [LT α] [LE α] [DecidableLT α] [DecidableLE α]
  [OfNat α 0] [OfNat α 1] [OfNat α 2] [OfNat α 50] [OfNat α 100] [FloorI α] [HasSqrt α]

open NanoVerif.BoostFit in
/-- when every fold of the trial has a stored model, the fold models are these, fold by fold: mapping `G` over them is
    mapping over the folds any `H` that agrees with `G` on the stored model -/
theorem foldModels_map {W X β : Type} (r : Result (Payload (FoldResult W X α) α)) (trial folds : Nat)
    (hset : ∀ f, f < folds → ∃ R, extraOf r trial f = some R) (G : GModel W X α → β) (H : Nat → β)
    (hH : ∀ f R, extraOf r trial f = some R → H f = G ⟨R.bias, R.ws⟩) :
    (foldModels r trial folds).map G = (List.range folds).map H := by
  induction folds with
  | zero => rfl
  | succ n ih =>
    obtain ⟨R, hR⟩ := hset n (Nat.lt_succ_self n)
    unfold foldModels at ih ⊢
    rw [List.range_succ, List.filterMap_append, List.map_append, List.map_append,
      ih fun f hf => hset f (Nat.lt_succ_of_lt hf)]
    simp [hR, hH n R hR]

end NanoVerif.MLResult
