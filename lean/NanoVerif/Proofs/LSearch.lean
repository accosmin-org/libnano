import NanoVerif.Model.LSearch
import NanoVerif.Proofs.CxxOrder
import Mathlib.Algebra.Order.Field.Basic
import Mathlib.Tactic.Linarith
import Mathlib.Tactic.Ring
/-!
  C07 — helper lemmas about the line-search model (`Model/LSearch.lean`) over an arbitrary linearly ordered field:
  the preamble of `lsearchk_t::get`, backtracking, LeMaréchal, Fletcher (+ zoom).
  Each loop gets one `…_spec` lemma proved by induction on its fuel, collecting
    * how many oracle requests it adds at most,
    * what holds when it reports success (the advertised predicates, evaluated on the returned state and step),
    * that the returned `(state, step)` is either the pair it was entered with or a pair produced by `ask`
      (i.e. the state is the oracle's answer at the returned step),
  and one `…_pos` lemma (the returned step is positive under the parameter domains).
-/
namespace NanoVerif.LSearch
open NanoVerif.Gen.LsPredicates

set_option linter.unusedSectionVars false

variable {α : Type} [Field α] [LinearOrder α] [IsStrictOrderedRing α]

/-- `ctx.cur` is the oracle's answer to the most recent request, and that request was made at step `t` -/
def Cons (φ : Oracle α) (ctx : Ctx α) (t : α) : Prop :=
  ∃ rest, ctx.trace = t :: rest ∧ ctx.cur = φ rest.length t

theorem cons_ask (φ : Oracle α) (ctx : Ctx α) (t : α) : Cons φ (ask φ ctx t) t := ⟨ctx.trace, rfl, rfl⟩

@[simp] theorem ask_trace_length (φ : Oracle α) (ctx : Ctx α) (t : α) :
    (ask φ ctx t).trace.length = ctx.trace.length + 1 := by simp [ask]

def SameOrCons (φ : Oracle α) (ctx : Ctx α) (t : α) (ctx' : Ctx α) (t' : α) : Prop :=
  (ctx' = ctx ∧ t' = t) ∨ Cons φ ctx' t'

theorem sameOrCons_refl {φ : Oracle α} {a : Ctx α} {t : α} : SameOrCons φ a t a t := Or.inl ⟨rfl, rfl⟩

theorem SameOrCons.cons {φ : Oracle α} {a b : Ctx α} {ta tb : α} (h : SameOrCons φ a ta b tb) (ha : Cons φ a ta) :
    Cons φ b tb := by
  rcases h with ⟨e1, e2⟩ | h
  · rw [e1, e2]; exact ha
  · exact h

theorem sameOrCons_trans {φ : Oracle α} {a b c : Ctx α} {ta tb tc : α}
    (h1 : SameOrCons φ a ta b tb) (h2 : SameOrCons φ b tb c tc) : SameOrCons φ a ta c tc := by
  rcases h2 with ⟨e1, e2⟩ | h2
  · rw [e1, e2]; exact h1
  · exact Or.inr h2

/-! ### `std::min`, `std::max`, `std::clamp` over a linear order -/

theorem cmin_eq_min (a b : α) : cmin a b = min a b := Cxx.ite_min a b

theorem cmax_eq_max (a b : α) : cmax a b = max a b := Cxx.ite_max a b

theorem absv_eq_abs (x : α) : absv x = |x| := Cxx.ite_abs x

/-- the facts about `clamp` are those of `Cxx.clamp`, to which it unfolds; this one is restated because its users rewrite with it -/
theorem clamp_mem {v lo hi : α} (h : lo ≤ hi) : lo ≤ clamp v lo hi ∧ clamp v lo hi ≤ hi := Cxx.clamp_mem v h

/-- a target `c` strictly inside `(m, M)`, clamped to the interval shortened by `μ (M - m)` on the left and `τ (M - m)` on the right
    (`μ ≤ τ ≤ 1/2`; the trial steps of LeMaréchal's bracket phase and of `zoom`): a result other than `c` is the end it was clamped
    to, and that end is on the other side of `c` -/
theorem clamp_trial {m M c μ τ t : α} (h1 : m < c) (h2 : c < M) (hμ : 0 < μ) (hμτ : μ ≤ τ) (hτ : τ ≤ 1 / 2)
    (ht : t = clamp c (m + μ * (M - m)) (M - τ * (M - m))) :
    m < t ∧ t < M ∧ (c < t → t - m ≤ τ * (M - m)) ∧ (t < c → M - t ≤ τ * (M - m)) := by
  have hW := sub_pos.2 (h1.trans h2)
  have hμW := mul_pos hμ hW
  have hμτW := mul_le_mul_of_nonneg_right hμτ hW.le
  have hτW := mul_le_mul_of_nonneg_right hτ hW.le
  obtain ⟨tc1, tc2⟩ := clamp_mem (v := c) (show m + μ * (M - m) ≤ M - τ * (M - m) by linarith only [hμτW, hτW])
  rw [← ht] at tc1 tc2
  refine ⟨lt_of_lt_of_le (lt_add_of_pos_right m hμW) tc1, lt_of_le_of_lt tc2 (sub_lt_self M (hμW.trans_le hμτW)), fun hc => ?_,
    fun hc => ?_⟩
  · rw [Cxx.eq_lo_of_lt_clamp ht hc, add_sub_cancel_left]; exact hμτW
  · rw [Cxx.eq_hi_of_clamp_lt ht hc, sub_sub_cancel]

/-- both ends of the safeguarded intervals of backtracking and LeMaréchal have this form -/
theorem between_pos {a b s : α} (ha : 0 ≤ a) (hb : 0 ≤ b) (hab : 0 < a ∨ 0 < b) (hs0 : 0 < s) (hs1 : s < 1) :
    0 < a + s * (b - a) := by
  have e : a + s * (b - a) = (1 - s) * a + s * b := by ring
  rw [e]
  rcases hab with h | h
  · exact add_pos_of_pos_of_nonneg (mul_pos (sub_pos.mpr hs1) h) (mul_nonneg hs0.le hb)
  · exact add_pos_of_nonneg_of_pos (mul_nonneg (sub_nonneg.mpr hs1.le) ha) (mul_pos hs0 h)

/-! ### preamble -/

theorem stpmin_pos (e : α) (he : 0 < e) : 0 < stpmin e := by
  unfold stpmin; positivity

theorem initialStep_pos (cfg : Cfg α) (t0 : α) (he : 0 < cfg.macheps) : 0 < initialStep cfg t0 := by
  unfold initialStep; split
  · exact Cxx.lt_clamp _ (stpmin_pos _ he) one_pos
  · exact one_pos

theorem shrink_spec (φ : Oracle α) : ∀ (n : Nat) (t : α) (ctx : Ctx α),
    (shrink φ n t ctx).2.trace.length ≤ ctx.trace.length + n ∧
    (0 < t → 0 < (shrink φ n t ctx).1) ∧
    (0 < n → (shrink φ n t ctx).2.cur.ok = true → Cons φ (shrink φ n t ctx).2 (shrink φ n t ctx).1) := by
  intro n
  induction n with
  | zero => intro t ctx; exact ⟨le_rfl, id, fun h => absurd h (lt_irrefl 0)⟩
  | succ n ih =>
    intro t ctx
    simp only [shrink]
    split
    · exact ⟨by simp, id, fun _ _ => cons_ask φ ctx t⟩
    · obtain ⟨h1, h2, h3⟩ := ih (t * (3 / 10)) (ask φ ctx t)
      refine ⟨by simp only [ask_trace_length] at h1; omega, fun h => h2 (by positivity), fun _ => ?_⟩
      rcases Nat.eq_zero_or_pos n with rfl | hn
      · exact fun hok => absurd hok ‹_›
      · exact h3 hn

def GrowPost (φ : Oracle α) (ctx : Ctx α) (t : α) (n : Nat) : Sum (α × Ctx α) (α × Ctx α) → Prop
  | .inl p => p.2.trace.length ≤ ctx.trace.length + n
  | .inr p => p.2.trace.length ≤ ctx.trace.length + n ∧ (0 < t → 0 < p.1) ∧ SameOrCons φ ctx t p.2 p.1

theorem grow_spec (φ : Oracle α) (eps1 f0 : α) : ∀ (n : Nat) (t : α) (ctx : Ctx α),
    GrowPost φ ctx t n (grow φ eps1 f0 n t ctx) := by
  intro n
  induction n with
  | zero => intro t ctx; simp [grow, GrowPost, SameOrCons]
  | succ n ih =>
    intro t ctx
    by_cases h : absv (ctx.cur.f - f0) < eps1
    · by_cases hok : (ask φ ctx (t * 3)).cur.ok = true
      · simp only [grow, h, hok, if_true]
        have := ih (t * 3) (ask φ ctx (t * 3))
        revert this
        cases grow φ eps1 f0 n (t * 3) (ask φ ctx (t * 3)) with
        | inl p => simp only [GrowPost, ask_trace_length]; intro h; omega
        | inr p =>
          simp only [GrowPost, ask_trace_length]
          rintro ⟨h1, h2, h3⟩
          exact ⟨by omega, fun h => h2 (by positivity), Or.inr (h3.cons (cons_ask φ ctx (t * 3)))⟩
      · simp only [grow, h, hok, if_true]
        simp [GrowPost]
    · simp only [grow, h, if_false]
      simp [GrowPost, SameOrCons]

/-! ### the shape shared by the five `do_get` loops -/

theorem ite_post {β : Type} {P : β → Prop} {c : Prop} [Decidable c] {a b : β} (ha : c → P a) (hb : ¬ c → P b) :
    P (if c then a else b) := by
  split
  · exact ha ‹_›
  · exact hb ‹_›

theorem ite_pos {c : Prop} [Decidable c] {a b : Res α} (ha : c → 0 < a.t) (hb : ¬ c → 0 < b.t) :
    0 < (if c then a else b).t :=
  ite_post (P := fun r : Res α => 0 < r.t) ha hb

theorem ite_ok {Q : Res α → Prop} {c : Prop} [Decidable c] {a b : Res α} (ha : c → a.ok = true → Q a)
    (hb : ¬ c → b.ok = true → Q b) : (if c then a else b).ok = true → Q (if c then a else b) :=
  ite_post (P := fun r : Res α => r.ok = true → Q r) ha hb

theorem ite_ok_pos {c : Prop} [Decidable c] {a b : Res α} (ha : c → a.ok = true → 0 < a.t)
    (hb : ¬ c → b.ok = true → 0 < b.t) : (if c then a else b).ok = true → 0 < (if c then a else b).t :=
  ite_ok (Q := fun r => 0 < r.t) ha hb

/-- outcome `r` of a loop entered with `(ctx, t)` and fuel `n`: at most `n` further requests; on success `Q r` holds and
    the returned state is either the state on entry (with the step on entry) or the oracle's answer at the returned step -/
def Post (φ : Oracle α) (Q : Res α → Prop) (ctx : Ctx α) (t : α) (n : Nat) (r : Res α) : Prop :=
  r.ctx.trace.length ≤ ctx.trace.length + n ∧ (r.ok = true → Q r ∧ SameOrCons φ ctx t r.ctx r.t)

theorem post_here {φ : Oracle α} {Q : Res α → Prop} {ctx : Ctx α} {t : α} {n : Nat} (h : Q ⟨true, t, ctx⟩) :
    Post φ Q ctx t n ⟨true, t, ctx⟩ :=
  ⟨by simp, fun _ => ⟨h, Or.inl ⟨rfl, rfl⟩⟩⟩

theorem post_fail {φ : Oracle α} {Q : Res α → Prop} {ctx ctx' : Ctx α} {t t' : α} {n : Nat}
    (h : ctx'.trace.length ≤ ctx.trace.length + n) : Post φ Q ctx t n ⟨false, t', ctx'⟩ :=
  ⟨h, fun h => by simp at h⟩

theorem post_step {φ : Oracle α} {Q : Res α → Prop} {ctx : Ctx α} {t t' : α} {n : Nat} {r : Res α}
    (h : Post φ Q (ask φ ctx t') t' n r) : Post φ Q ctx t (n + 1) r := by
  obtain ⟨h1, h2⟩ := h
  exact ⟨by simp only [ask_trace_length] at h1; omega, fun h => ⟨(h2 h).1, Or.inr ((h2 h).2.cons (cons_ask φ ctx t'))⟩⟩

theorem post_mono {φ : Oracle α} {Q : Res α → Prop} {ctx : Ctx α} {t : α} {n m : Nat} {r : Res α}
    (h : Post φ Q ctx t n r) (hnm : n ≤ m) : Post φ Q ctx t m r :=
  ⟨by have := h.1; omega, h.2⟩

theorem post_trans {φ : Oracle α} {Q : Res α → Prop} {ctx ctx' : Ctx α} {t t' : α} {n m : Nat} {r : Res α}
    (h : Post φ Q ctx' t' n r) (hlen : ctx'.trace.length ≤ ctx.trace.length + m) (hc : SameOrCons φ ctx t ctx' t') :
    Post φ Q ctx t (m + n) r := by
  obtain ⟨h1, h2⟩ := h
  exact ⟨by omega, fun h => ⟨(h2 h).1, sameOrCons_trans hc (h2 h).2⟩⟩

/-- what a success of `do_get` guarantees, stated with the generated predicates on the returned state and step: Armijo and a valid
    state (backtracking), Armijo and Wolfe (LeMaréchal), Armijo and strong Wolfe (Fletcher, Moré–Thuente); nothing for CG_DESCENT
    (what its exits imply: `CgQ`, Proofs/LSearchCG.lean) -/
def Advertised (m : Method) (cfg : Cfg α) (s0 : Eval α) (r : Res α) : Prop :=
  match m with
  | .backtrack => hasArmijo s0.f s0.g r.ctx.cur.f r.t cfg.c1 = true ∧ r.ctx.cur.ok = true
  | .lemarechal => hasArmijo s0.f s0.g r.ctx.cur.f r.t cfg.c1 = true ∧ hasWolfe s0.g r.ctx.cur.g cfg.c2 = true
  | .fletcher | .morethuente => hasArmijo s0.f s0.g r.ctx.cur.f r.t cfg.c1 = true ∧ hasStrongWolfe s0.g r.ctx.cur.g cfg.c2 = true
  | .cgdescent => True

/-! ### the generated predicates (`Gen/LsPredicates.lean`) as propositions -/

section
omit [IsStrictOrderedRing α]
theorem armijo_iff (f0 dg0 f t c1 : α) : hasArmijo f0 dg0 f t c1 = true ↔ f ≤ f0 + t * c1 * dg0 := by simp [hasArmijo]
theorem wolfe_iff (dg0 dg c2 : α) : hasWolfe dg0 dg c2 = true ↔ c2 * dg0 ≤ dg := by simp [hasWolfe]
theorem descent_iff (g : α) : hasDescent g = true ↔ g < 0 := by simp [hasDescent]
theorem descent_false_iff (g : α) : hasDescent g = false ↔ 0 ≤ g := by simp [hasDescent]
theorem approxArmijo_iff (f0 f e : α) : hasApproxArmijo f0 f e = true ↔ f ≤ f0 + e := by simp [hasApproxArmijo]
theorem approxWolfe_iff (dg0 dg c1 c2 : α) :
    hasApproxWolfe dg0 dg c1 c2 = true ↔ dg ≤ (2 * c1 - 1) * dg0 ∧ c2 * dg0 ≤ dg := by simp [hasApproxWolfe]
end

theorem strongWolfe_iff (dg0 dg c2 : α) : hasStrongWolfe dg0 dg c2 = true ↔ |dg| ≤ c2 * |dg0| := by
  simp [hasStrongWolfe, absv_eq_abs]

section
variable (cfg : Cfg α) (φ : Oracle α) (s0 : Eval α)

/-! ### backtracking -/

theorem backtrack_spec : ∀ (n : Nat) (t : α) (ctx : Ctx α),
    Post φ (Advertised .backtrack cfg s0) ctx t n (backtrack cfg φ s0 n t ctx) := by
  intro n
  induction n with
  | zero => intro t ctx; exact post_fail (by simp)
  | succ n ih =>
    intro t ctx
    simp only [backtrack]
    refine ite_post (fun hok => ite_post (fun hA => post_here ⟨hA, hok⟩)
      (fun _ => ite_post (fun _ => post_step (ih _ _)) (fun _ => post_fail (by simp)))) (fun _ => post_fail (by simp))

theorem backtrack_pos (hs0 : 0 < cfg.safeguard) (hs1 : cfg.safeguard < 1) :
    ∀ (n : Nat) (t : α) (ctx : Ctx α), 0 < t → 0 < (backtrack cfg φ s0 n t ctx).t := by
  intro n
  induction n with
  | zero => intro t ctx h; simpa [backtrack] using h
  | succ n ih =>
    intro t ctx ht
    have hstep : ∀ v : α, 0 < clamp v (cmin 0 t + cfg.safeguard * (cmax 0 t - cmin 0 t))
        (cmax 0 t - cfg.safeguard * (cmax 0 t - cmin 0 t)) := by
      intro v
      rw [cmin_eq_min, cmax_eq_max, min_eq_left ht.le, max_eq_right ht.le]
      apply Cxx.lt_clamp
      · exact between_pos le_rfl ht.le (Or.inr ht) hs0 hs1
      · linarith only [between_pos ht.le le_rfl (Or.inl ht) hs0 hs1]
    simp only [backtrack]
    exact ite_pos (fun _ => ite_pos (fun _ => ht) (fun _ => ite_pos (fun _ => ih _ _ (hstep _)) (fun _ => hstep _)))
      (fun _ => ht)

/-! ### LeMaréchal -/

theorem lemarechal_spec : ∀ (n : Nat) (L R : Step α) (t : α) (ctx : Ctx α),
    Post φ (Advertised .lemarechal cfg s0) ctx t n (lemarechal cfg φ s0 n L R t ctx) := by
  intro n
  induction n with
  | zero => intro L R t ctx; exact post_fail (by simp)
  | succ n ih =>
    intro L R t ctx
    simp only [lemarechal]
    refine ite_post (fun hA => ite_post (fun hW => post_here ⟨hA, hW⟩)
      (fun _ => ite_post (fun _ => post_step (ih _ _ _ _)) (fun _ => post_fail (by simp))))
      (fun _ => ite_post (fun _ => post_step (ih _ _ _ _)) (fun _ => post_fail (by simp)))

theorem lemInterp_pos (L R : Step α) (hs0 : 0 < cfg.safeguard) (hs1 : cfg.safeguard < 1)
    (hL : 0 ≤ L.t) (hR : 0 ≤ R.t) (hLR : 0 < L.t ∨ 0 < R.t) : 0 < lemInterp cfg L R := by
  unfold lemInterp
  apply Cxx.lt_clamp
  · exact between_pos hL hR hLR hs0 hs1
  · linarith only [between_pos hR hL hLR.symm hs0 hs1]

theorem lemarechal_pos (hs0 : 0 < cfg.safeguard) (hs1 : cfg.safeguard < 1)
    (htau : 0 < cfg.tau1) :
    ∀ (n : Nat) (L R : Step α) (t : α) (ctx : Ctx α), 0 ≤ L.t → 0 ≤ R.t → 0 < t →
      0 < (lemarechal cfg φ s0 n L R t ctx).t := by
  intro n
  induction n with
  | zero => intro L R t ctx _ _ h; simpa [lemarechal] using h
  | succ n ih =>
    intro L R t ctx hL hR ht
    have ht1 : 0 < (if R.t < cfg.eps0 then cfg.tau1 * (stepOf ctx t).t else lemInterp cfg (stepOf ctx t) R) :=
      ite_post (P := fun x : α => 0 < x) (fun _ => mul_pos htau ht)
        (fun _ => lemInterp_pos cfg _ R hs0 hs1 (le_of_lt ht) hR (Or.inl ht))
    have ht2 : 0 < lemInterp cfg L (stepOf ctx t) := lemInterp_pos cfg L _ hs0 hs1 hL (le_of_lt ht) (Or.inr ht)
    simp only [lemarechal]
    exact ite_pos
      (fun _ => ite_pos (fun _ => ht)
        (fun _ => ite_pos (fun _ => ih _ _ _ _ (le_of_lt ht) hR ht1) (fun _ => ht1)))
      (fun _ => ite_pos (fun _ => ih _ _ _ _ hL (le_of_lt ht) ht2) (fun _ => ht2))

/-! ### Fletcher -/

/-- along a descent direction the origin itself fails Wolfe and strong Wolfe when `c2 < 1`: a search that evaluates again at
    step `0` cannot accept it -/
theorem wolfe_origin {g c2 : α} (hg : g < 0) (hc2 : c2 < 1) : ¬ hasWolfe g g c2 = true := by
  rw [wolfe_iff, not_le]
  exact lt_mul_of_lt_one_left hg hc2

theorem strongWolfe_origin {g c2 : α} (hg : g < 0) (hc2 : c2 < 1) : ¬ hasStrongWolfe g g c2 = true := by
  rw [strongWolfe_iff, abs_of_neg hg, mul_neg, neg_le_neg_iff, not_le]
  exact lt_mul_of_lt_one_left hg hc2

theorem zoom_spec : ∀ (n : Nat) (lo hi : Step α) (ctx : Ctx α) (t : α),
    Post φ (Advertised .fletcher cfg s0) ctx t n (zoom cfg φ s0 n lo hi ctx) := by
  intro n
  induction n with
  | zero => intro lo hi ctx t; exact post_fail (by simp)
  | succ n ih =>
    intro lo hi ctx t
    simp only [zoom]
    refine ite_post (fun _ => ite_post (fun _ => ite_post (fun _ => post_step (ih _ _ _ _))
      (fun hA => ite_post (fun hW => post_step (post_here ⟨?_, hW⟩)) (fun _ => post_step (ih _ _ _ _))))
      (fun _ => post_fail (by simp))) (fun _ => post_fail (by simp))
    simpa using (not_or.mp hA).1

theorem fletcher_spec :
    ∀ (n : Nat) (prev curr : Step α) (t : α) (ctx : Ctx α),
    Post φ (Advertised .fletcher cfg s0) ctx t (n + cfg.maxIter) (fletcher cfg φ s0 n prev curr t ctx) := by
  intro n
  induction n with
  | zero => intro prev curr t ctx; exact post_fail (by simp)
  | succ n ih =>
    intro prev curr t ctx
    simp only [fletcher]
    refine ite_post (fun _ => post_mono (zoom_spec cfg φ s0 _ _ _ _ _) (by omega))
      (fun hA => ite_post (fun hW => post_here ⟨?_, hW⟩)
        (fun _ => ite_post (fun _ => post_mono (zoom_spec cfg φ s0 _ _ _ _ _) (by omega))
          (fun _ => ite_post (fun _ => post_mono (post_step (ih _ _ _ _)) (by omega))
            (fun _ => post_fail (by simp only [ask_trace_length]; omega)))))
    simpa using (not_or.mp hA).1

theorem zoom_bounds_pos (lo hi : Step α) (htau2 : 0 < cfg.tau2) (hc2 : 0 < cfg.c2)
    (htau3' : cfg.tau3 < 1) (heps : 0 ≤ cfg.eps0) (hlo : 0 ≤ lo.t) (hhi : 0 ≤ hi.t)
    (hw : absv (lo.t - hi.t) > cfg.eps0) (v : α) :
    0 < clamp v (cmin lo.t hi.t + cmin cfg.tau2 cfg.c2 * absv (hi.t - lo.t))
      (cmax lo.t hi.t - cfg.tau3 * absv (hi.t - lo.t)) := by
  rw [absv_eq_abs, abs_sub_comm] at hw
  rw [cmin_eq_min, cmin_eq_min, cmax_eq_max, absv_eq_abs]
  have hd : 0 < |hi.t - lo.t| := lt_of_le_of_lt heps hw
  have hm : 0 ≤ min lo.t hi.t := le_min hlo hhi
  -- with `d = |hi - lo|` the two bounds are `min + μ d` and `min + (1 - tau3) d`
  have hmax : max lo.t hi.t = min lo.t hi.t + |hi.t - lo.t| := by rw [← max_sub_min_eq_abs]; ring
  apply Cxx.lt_clamp
  · linarith only [hm, mul_pos (lt_min htau2 hc2) hd]
  · rw [hmax]; linarith only [hm, mul_pos (sub_pos.mpr htau3') hd]

theorem zoom_pos (htau2 : 0 < cfg.tau2) (hc2 : 0 < cfg.c2)
    (htau3' : cfg.tau3 < 1) (heps : 0 ≤ cfg.eps0) :
    ∀ (n : Nat) (lo hi : Step α) (ctx : Ctx α), 0 ≤ lo.t → 0 ≤ hi.t →
      (zoom cfg φ s0 n lo hi ctx).ok = true → 0 < (zoom cfg φ s0 n lo hi ctx).t := by
  intro n
  induction n with
  | zero => intro lo hi ctx _ _ h; simp [zoom] at h
  | succ n ih =>
    intro lo hi ctx hlo hhi
    simp only [zoom]
    refine ite_ok_pos (fun hw => ?_) (fun _ h => by simp at h)
    have hpos := zoom_bounds_pos cfg lo hi htau2 hc2 htau3' heps hlo hhi hw (cfg.interp lo hi)
    refine ite_ok_pos (fun _ => ite_ok_pos (fun _ => ih _ _ _ hlo hpos.le)
      (fun _ => ite_ok_pos (fun _ _ => hpos) (fun _ => ih _ _ _ hpos.le ?_))) (fun _ h => by simp at h)
    exact ite_post (P := fun s : Step α => 0 ≤ s.t) (fun _ => hlo) (fun _ => hhi)

theorem fletcher_pos (htau1 : 0 < cfg.tau1) (htau2 : 0 < cfg.tau2)
    (hc2 : 0 < cfg.c2) (htau3' : cfg.tau3 < 1) (heps : 0 ≤ cfg.eps0) :
    ∀ (n : Nat) (prev curr : Step α) (t : α) (ctx : Ctx α), 0 ≤ prev.t → prev.t < curr.t → curr.t = t →
      (fletcher cfg φ s0 n prev curr t ctx).ok = true → 0 < (fletcher cfg φ s0 n prev curr t ctx).t := by
  intro n
  induction n with
  | zero => intro prev curr t ctx _ _ _ h; simp [fletcher] at h
  | succ n ih =>
    intro prev curr t ctx hp hpc hct
    have hc : 0 < curr.t := lt_of_le_of_lt hp hpc
    have hgt : curr.t < clamp (cfg.interp prev curr) (curr.t + 2 * (curr.t - prev.t))
        (curr.t + cfg.tau1 * (curr.t - prev.t)) :=
      Cxx.lt_clamp _ (by linarith only [hpc]) (by linarith only [mul_pos htau1 (sub_pos.mpr hpc)])
    simp only [fletcher]
    exact ite_ok_pos (fun _ => zoom_pos cfg φ s0 htau2 hc2 htau3' heps _ _ _ _ hp hc.le)
      (fun _ => ite_ok_pos (fun _ _ => hct ▸ hc)
        (fun _ => ite_ok_pos (fun _ => zoom_pos cfg φ s0 htau2 hc2 htau3' heps _ _ _ _ hc.le hp)
          (fun _ => ite_ok_pos (fun _ => ih _ _ _ _ hc.le hgt rfl) (fun _ h => by simp at h))))

end

end NanoVerif.LSearch
