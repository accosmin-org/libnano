import NanoVerif.Proofs.TensorStorage
/-!
  C16 — the conversions / assignments / copies / moves / resizes of the three tensor storages on the heap model
  (`Model/TensorStorage.lean`): what each operation does to the destination, to the source and to EVERY other cell of the heap.
  Core Lean only.
-/
namespace NanoVerif.Tensor.Store
open NanoVerif.Tensor

variable {α : Type}

/-! ### objects -/

theorem inBuf_iff (p : Ptr) (c : Nat) : p.inBuf c = true ↔ ∃ off, p = some (c, off) := by
  cases p with
  | none => simp [Ptr.inBuf]
  | some q =>
    obtain ⟨b, o⟩ := q
    simp only [Ptr.inBuf, beq_iff_eq, Option.some.injEq, Prod.mk.injEq]
    constructor
    · intro hb; exact ⟨o, hb, rfl⟩
    · intro ⟨_, hb, _⟩; exact hb

theorem inBuf_false_iff (p : Ptr) (c : Nat) : p.inBuf c = false ↔ ∀ off, p ≠ some (c, off) := by
  rw [← Bool.not_eq_true, inBuf_iff]
  exact not_exists

theorem count_of_view {h : Heap α} {o : Obj} (hk : o.kind ≠ .mem) : o.count h = size o.dims := by
  simp [Obj.count, hk]

theorem len_of_okMem {h : Heap α} {o : Obj} (ho : o.OkMem h) : h.len o.ptr = size o.dims := by
  obtain ⟨_, ho⟩ := ho
  rcases ho with ⟨hp, hs⟩ | ⟨b, buf, hp, hb, hl, _⟩
  · rw [hp, hs]; rfl
  · rw [hp]; simp [Heap.len, hb, hl]

theorem count_of_okMem {h : Heap α} {o : Obj} (ho : o.OkMem h) : o.count h = size o.dims := by
  simp [Obj.count, ho.1, len_of_okMem ho]

theorem ok_of_okMem {h : Heap α} {o : Obj} (ho : o.OkMem h) : o.Ok h := by
  obtain ⟨_, ho⟩ := ho
  unfold Obj.Ok Obj.elems
  rcases ho with ⟨hp, hs⟩ | ⟨b, buf, hp, hb, hl, _⟩
  · rw [hs, read_zero]; rfl
  · rw [hp, read_of_buf hb (by omega)]; rfl

theorem ptr_lt_of_okMem {h : Heap α} {o : Obj} (ho : o.OkMem h) : ∀ b off, o.ptr = some (b, off) → b < h.length ∧ off = 0 := by
  intro b off hp
  obtain ⟨_, ho⟩ := ho
  rcases ho with ⟨hp', _⟩ | ⟨b', buf, hp', hb, _, _⟩
  · rw [hp'] at hp; cases hp
  · rw [hp'] at hp
    cases hp
    exact ⟨buf_lt hb, rfl⟩

/-- well-formedness of an owner looks at the dims only through `size` -/
theorem okMem_dims {h : Heap α} {o : Obj} (ho : o.OkMem h) {dims : List Nat} (hs : size dims = size o.dims) :
    (⟨.mem, o.ptr, dims⟩ : Obj).OkMem h := by
  refine ⟨rfl, ?_⟩
  show (o.ptr = none ∧ size dims = 0) ∨ ∃ b buf, o.ptr = some (b, 0) ∧ h.buf b = some buf ∧ buf.length = size dims ∧ 0 < size dims
  rw [hs]
  exact ho.2

/-- a successful write through an object: the object is not a constant map, all its elements are given, and the write is the
    write at its pointer -/
theorem Obj.write_some {h h' : Heap α} {o : Obj} {vals : List α} (hw : o.write h vals = some h') :
    o.kind ≠ .cmap ∧ vals.length = size o.dims ∧ h.write o.ptr vals = some h' := by
  unfold Obj.write at hw
  split at hw
  · exact ⟨‹_ ∧ _›.1, ‹_ ∧ _›.2, hw⟩
  · cases hw

/-- reading a sub-range through an advanced pointer: `(p + k)[0, m)` = `p[k, k + m)` — no element outside `p[0, n)` -/
theorem read_add {h : Heap α} {p : Ptr} {n : Nat} {xs : List α} (hr : h.read p n = some xs) (k m : Nat) (hkm : k + m ≤ n) :
    h.read (p.add k) m = some ((xs.drop k).take m) := by
  by_cases hm : m = 0
  · subst hm; simp [read_zero]
  · rcases read_cases hr with ⟨h0, _⟩ | ⟨b, off, buf, rfl, hb, hle, _, rfl⟩
    · omega
    · show h.read (some (b, off + k)) m = _
      rw [read_of_buf hb (by omega), List.drop_take, List.drop_drop, List.take_take, Nat.min_eq_left (by omega)]

/-! ### fresh allocations: the two orders in which the code allocates and releases -/

/-- allocate, then release the previous allocation (`owning = map`): the new object is well-formed and holds the elements -/
theorem alloc_then_free (h : Heap α) (xs : List α) (dims : List Nat) (p : Ptr) (hx : xs.length = size dims)
    (hp : ∀ b off, p = some (b, off) → b < h.length) :
    (⟨.mem, (h.alloc xs).2, dims⟩ : Obj).OkMem ((h.alloc xs).1.free p) ∧
    ((h.alloc xs).1.free p).read (h.alloc xs).2 (size dims) = some xs := by
  rcases alloc_ptr h xs with ⟨h0, he⟩ | ⟨hpos, he⟩
  · rw [he]
    have hs : size dims = 0 := by omega
    exact ⟨⟨rfl, Or.inl ⟨rfl, hs⟩⟩, by rw [hs, read_zero, List.eq_nil_of_length_eq_zero h0]⟩
  · rw [he]
    have hb : ((h ++ [some xs]).free p).buf h.length = some xs := by
      rw [buf_free, if_neg, buf_append_new]
      intro hin
      obtain ⟨off, hin⟩ := (inBuf_iff _ _).mp hin
      exact Nat.lt_irrefl _ (hp _ _ hin)
    refine ⟨⟨rfl, Or.inr ⟨h.length, xs, rfl, hb, hx, (by show 0 < size dims; omega)⟩⟩, ?_⟩
    rw [read_of_buf hb (by omega)]
    simp [← hx]

/-- allocate without releasing / after releasing (`h` is the heap the allocation is made in) -/
theorem alloc_okMem (h : Heap α) (xs : List α) (dims : List Nat) (hx : xs.length = size dims) :
    (⟨.mem, (h.alloc xs).2, dims⟩ : Obj).OkMem (h.alloc xs).1 ∧ (h.alloc xs).1.read (h.alloc xs).2 (size dims) = some xs :=
  alloc_then_free h xs dims none hx (by intro b off hp; cases hp)

/-- release, then allocate (`resize` to, `owning = owning` of, another element count): the new object is well-formed, holds
    the elements and lives in an allocation that did not exist; of the previous buffers only the released one changed -/
theorem free_then_alloc (h : Heap α) (p : Ptr) (xs : List α) (dims : List Nat) (hx : xs.length = size dims) :
    (⟨.mem, ((h.free p).alloc xs).2, dims⟩ : Obj).OkMem ((h.free p).alloc xs).1 ∧
    ((h.free p).alloc xs).1.read ((h.free p).alloc xs).2 (size dims) = some xs ∧
    (∀ b off, ((h.free p).alloc xs).2 = some (b, off) → b = h.length ∧ off = 0) ∧
    (∀ c, c < h.length → ((h.free p).alloc xs).1.buf c = if p.inBuf c then none else h.buf c) := by
  obtain ⟨hok, hrd⟩ := alloc_okMem (h.free p) xs dims hx
  refine ⟨hok, hrd, fun b off hp => ?_, fun c hc => ?_⟩
  · obtain ⟨hb, h0, _⟩ := alloc_some hp
    exact ⟨hb.trans (free_length h p), h0⟩
  · rw [buf_alloc_old _ _ c (by rw [free_length]; exact hc), buf_free]

/-! ### copy construction of an owning tensor (storage.h:35, 53-63) -/

theorem memCopy_some {h h' : Heap α} {src o : Obj} (hm : memCopy h src = some (h', o)) :
    ∃ xs, h.read src.ptr (src.count h) = some xs ∧ h' = (h.alloc xs).1 ∧ o = ⟨.mem, (h.alloc xs).2, src.dims⟩ := by
  unfold memCopy at hm
  cases hr : h.read src.ptr (src.count h) with
  | none => simp [hr] at hm
  | some xs =>
    simp only [hr, Option.bind_eq_bind, Option.bind_some, Option.pure_def, Option.some.injEq, Prod.mk.injEq] at hm
    exact ⟨xs, rfl, hm.1.symm, hm.2.symm⟩

/-- `assign_preserves_elements`, constructor form: the new owning tensor has the source's dims and the source's element
    sequence; it is well-formed -/
theorem memCopy_elems {h h' : Heap α} {src o : Obj} (hc : src.count h = size src.dims)
    (hm : memCopy h src = some (h', o)) :
    o.dims = src.dims ∧ o.elems h' = src.elems h ∧ o.OkMem h' := by
  obtain ⟨xs, hr, rfl, rfl⟩ := memCopy_some hm
  rw [hc] at hr
  obtain ⟨hok, hrd⟩ := alloc_okMem h xs src.dims (read_length hr)
  exact ⟨rfl, hrd.trans hr.symm, hok⟩

theorem memCopy_succeeds {h : Heap α} {src : Obj} (hc : src.count h = size src.dims) (hs : src.Ok h) :
    ∃ r, memCopy h src = some r := by
  obtain ⟨xs, hr⟩ := Option.isSome_iff_exists.mp hs
  unfold Obj.elems at hr
  unfold memCopy
  rw [hc, hr]
  exact ⟨_, rfl⟩

/-- FRAME: the copy construction changes no existing buffer (it only appends a fresh allocation) -/
theorem memCopy_frame {h h' : Heap α} {src o : Obj} (hm : memCopy h src = some (h', o)) (b : Nat) (hb : b < h.length) :
    h'.buf b = h.buf b := by
  obtain ⟨xs, _, rfl, _⟩ := memCopy_some hm
  exact buf_alloc_old h xs b hb

/-- the copy lives in an allocation that did not exist before: no pointer valid in the old heap addresses it -/
theorem memCopy_fresh {h h' : Heap α} {src o : Obj} (hm : memCopy h src = some (h', o)) :
    ∀ b off, o.ptr = some (b, off) → b = h.length ∧ off = 0 := by
  obtain ⟨xs, _, _, rfl⟩ := memCopy_some hm
  exact fun b off hp => ⟨(alloc_some hp).1, (alloc_some hp).2.1⟩

theorem memCopy_others {h h' : Heap α} {src o : Obj} (hm : memCopy h src = some (h', o)) (q : Obj) (ys : List α)
    (hq : q.elems h = some ys) : q.elems h' = some ys := by
  obtain ⟨xs, _, rfl, _⟩ := memCopy_some hm
  exact read_alloc_keep h xs q.ptr _ ys hq

/-- COPIES ARE INDEPENDENT (1): writing the copy never changes the source — nor any other object that was readable
    before the copy was made -/
theorem copy_independent_of_writes_to_copy {h h' h'' : Heap α} {src o : Obj} (hm : memCopy h src = some (h', o))
    (vals : List α) (hw : o.write h' vals = some h'') (q : Obj) (ys : List α) (hq : q.elems h = some ys) :
    q.elems h'' = some ys := by
  -- `q` addresses an allocation that existed, the copy a fresh one
  exact read_keep hq fun c _ _ hc => (buf_write_other (Obj.write_some hw).2.2 c (fun off hx => by
    have := (memCopy_fresh hm c off hx).1; omega)).trans (memCopy_frame hm c hc)

/-- COPIES ARE INDEPENDENT (2): writing through any pointer that was valid before the copy was made (the source, a view
    of it, anything else) never changes the copy -/
theorem copy_independent_of_writes_to_source {h h' h'' : Heap α} {src o : Obj} (hm : memCopy h src = some (h', o))
    (b off : Nat) (hb : b < h.length) (vals : List α) (hw : h'.write (some (b, off)) vals = some h'') :
    o.elems h'' = o.elems h' := by
  unfold Obj.elems
  match hop : o.ptr with
  | none => rfl
  | some (c, o2) =>
    exact read_write_disjoint hw c o2 _ (Or.inl (by have := (memCopy_fresh hm c o2 hop).1; omega))

/-! ### `owning = map / constant map` (storage.h:65-79) -/

theorem memAssignView_some {h h' : Heap α} {dst src o : Obj} (hm : memAssignView h dst src = some (h', o)) :
    ∃ xs, h.read src.ptr (size src.dims) = some xs ∧ h' = (h.alloc xs).1.free dst.ptr ∧
      o = ⟨.mem, (h.alloc xs).2, src.dims⟩ := by
  unfold memAssignView at hm
  cases hr : h.read src.ptr (size src.dims) with
  | none => simp [hr] at hm
  | some xs =>
    simp only [hr, Option.bind_eq_bind, Option.bind_some, Option.pure_def, Option.some.injEq, Prod.mk.injEq] at hm
    exact ⟨xs, rfl, hm.1.symm, hm.2.symm⟩

/-- `assign_preserves_elements`, also for a source that views the destination's own buffer (`t = t.slice(b, e)`, any
    offset, any shape): the assigned tensor holds the elements the source had BEFORE the assignment, has the source's
    dims and is well-formed. Nothing relates `src` to `dst` in the hypotheses. -/
theorem memAssignView_elems {h h' : Heap α} {dst src o : Obj} (hd : dst.OkMem h)
    (hm : memAssignView h dst src = some (h', o)) :
    o.dims = src.dims ∧ o.elems h' = src.elems h ∧ o.OkMem h' := by
  obtain ⟨xs, hr, rfl, rfl⟩ := memAssignView_some hm
  obtain ⟨hok, hrd⟩ := alloc_then_free h xs src.dims dst.ptr (read_length hr)
    (fun b off hp => (ptr_lt_of_okMem hd b off hp).1)
  exact ⟨rfl, hrd.trans hr.symm, hok⟩

theorem memAssignView_succeeds {h : Heap α} {dst src : Obj} (hs : src.Ok h) : ∃ r, memAssignView h dst src = some r := by
  obtain ⟨xs, hr⟩ := Option.isSome_iff_exists.mp hs
  unfold Obj.elems at hr
  unfold memAssignView
  rw [hr]
  exact ⟨_, rfl⟩

/-- `owning = map` ALWAYS moves the tensor into a fresh allocation — also when the element count is unchanged -/
theorem memAssignView_fresh {h h' : Heap α} {dst src o : Obj} (hm : memAssignView h dst src = some (h', o)) :
    ∀ b off, o.ptr = some (b, off) → b = h.length ∧ off = 0 := by
  obtain ⟨xs, _, _, rfl⟩ := memAssignView_some hm
  exact fun b off hp => ⟨(alloc_some hp).1, (alloc_some hp).2.1⟩

/-- FRAME: every existing buffer except the destination's previous allocation is untouched; that one is released -/
theorem memAssignView_frame {h h' : Heap α} {dst src o : Obj} (hm : memAssignView h dst src = some (h', o)) (c : Nat)
    (hc : c < h.length) :
    h'.buf c = if dst.ptr.inBuf c then none else h.buf c := by
  obtain ⟨xs, _, rfl, _⟩ := memAssignView_some hm
  rw [buf_free, buf_alloc_old h xs c hc]

/-- … so a view of the destination's PREVIOUS allocation (the source itself included, when it viewed the destination)
    points into released memory afterwards: any access through it is an access outside every live buffer -/
theorem memAssignView_stale_view_dangles {h h' : Heap α} {dst src o : Obj} (hd : dst.OkMem h)
    (hm : memAssignView h dst src = some (h', o)) (q : Obj) (b off : Nat) (hq : q.ptr = some (b, off))
    (hdp : ∃ o2, dst.ptr = some (b, o2)) (hn : 0 < size q.dims) : q.elems h' = none := by
  obtain ⟨o2, hdp'⟩ := hdp
  have := memAssignView_frame hm b (ptr_lt_of_okMem hd b o2 hdp').1
  rw [if_pos ((inBuf_iff _ _).mpr ⟨o2, hdp'⟩)] at this
  unfold Obj.elems
  rw [hq]
  simp only [Heap.read, this]
  rw [if_neg (by omega)]

theorem memAssignView_others {h h' : Heap α} {dst src o : Obj} (hm : memAssignView h dst src = some (h', o)) (q : Obj)
    (ys : List α) (hq : q.elems h = some ys) (hne : ∀ b o1 o2, q.ptr = some (b, o1) → dst.ptr ≠ some (b, o2)) :
    q.elems h' = some ys := by
  refine read_keep hq fun c o2 hqp hc => ?_
  rw [memAssignView_frame hm c hc, if_neg]
  intro hx
  obtain ⟨o3, hx⟩ := (inBuf_iff _ _).mp hx
  exact hne c o2 o3 hqp hx

/-! ### `resize` (storage.h:81-92) -/

/-- resize to the same number of elements: nothing is allocated, released or written — the allocation and every element
    (in flat order) are kept, only the dims change; maps of the tensor stay valid -/
theorem memResize_same_count (junk : α) (h : Heap α) (dst : Obj) (dims : List Nat) (hs : h.len dst.ptr = size dims) :
    memResize junk h dst dims = (h, ⟨.mem, dst.ptr, dims⟩) := by
  unfold memResize
  rw [if_pos hs]

theorem memResize_same_count_elems (junk : α) (h : Heap α) (dst : Obj) (dims : List Nat) (hd : dst.OkMem h)
    (hs : size dst.dims = size dims) :
    (memResize junk h dst dims).1 = h ∧ (memResize junk h dst dims).2.elems h = dst.elems h ∧
    (memResize junk h dst dims).2.OkMem h := by
  rw [memResize_same_count junk h dst dims (by rw [len_of_okMem hd, hs])]
  exact ⟨rfl, by unfold Obj.elems; rw [← hs], okMem_dims hd hs.symm⟩

/-- resize to another number of elements: the previous allocation is released, the tensor moves to a fresh allocation of
    uninitialised elements (the previous contents are LOST), every other buffer is untouched -/
theorem memResize_other_count (junk : α) (h : Heap α) (dst : Obj) (dims : List Nat) (hd : dst.OkMem h)
    (hs : size dst.dims ≠ size dims) :
    let r := memResize junk h dst dims
    r.2.OkMem r.1 ∧ r.2.elems r.1 = some (List.replicate (size dims) junk) ∧ r.2.dims = dims ∧
    (∀ b off, r.2.ptr = some (b, off) → b = h.length ∧ off = 0) ∧
    (∀ c, c < h.length → r.1.buf c = if dst.ptr.inBuf c then none else h.buf c) := by
  intro r
  have hr : r = (((h.free dst.ptr).alloc (List.replicate (size dims) junk)).1,
      ⟨.mem, ((h.free dst.ptr).alloc (List.replicate (size dims) junk)).2, dims⟩) := by
    show memResize junk h dst dims = _
    unfold memResize
    rw [if_neg (by rw [len_of_okMem hd]; exact hs)]
  rw [hr]
  obtain ⟨hok, hrd, hfresh, hframe⟩ := free_then_alloc h dst.ptr (List.replicate (size dims) junk) dims (by simp)
  exact ⟨hok, hrd, rfl, hfresh, hframe⟩

/-! ### bounds of element writes -/

theorem write_in_bounds {h h' : Heap α} {b off : Nat} {vals : List α} (hv : 0 < vals.length)
    (hw : h.write (some (b, off)) vals = some h') : off + vals.length ≤ h.len (some (b, off)) := by
  rcases write_cases hw with ⟨rfl, _⟩ | ⟨_, _, buf, hp, hb, hle, _, _⟩
  · exact absurd hv (Nat.lt_irrefl 0)
  · cases hp
    simp [Heap.len, hb, hle]

/-- no fault: writing all elements of a readable non-constant tensor succeeds, and they are read back -/
theorem obj_write_succeeds {h : Heap α} {o : Obj} (ho : o.Ok h) (hk : o.kind ≠ .cmap) (vals : List α)
    (hl : vals.length = size o.dims) : ∃ h', o.write h vals = some h' ∧ o.elems h' = some vals := by
  unfold Obj.write
  rw [if_pos ⟨hk, hl⟩]
  obtain ⟨ys, hys⟩ := Option.isSome_iff_exists.mp ho
  obtain ⟨h', hw⟩ := write_of_read (p := o.ptr) (vals := vals) (xs := ys) (by rw [hl]; exact hys)
  exact ⟨h', hw, by unfold Obj.elems; rw [← hl]; exact read_write_same hw⟩

theorem okMem_write {h h' : Heap α} {p : Ptr} {vals : List α} (hw : h.write p vals = some h') {o : Obj} (ho : o.OkMem h) :
    o.OkMem h' := by
  refine ⟨ho.1, ho.2.imp id ?_⟩
  rintro ⟨b, buf, hp, hb, hl, hpos⟩
  have hlen := len_write hw (some (b, 0))
  simp only [Heap.len, hb, Option.map_some, Option.getD_some] at hlen
  cases hb' : h'.buf b with
  | none => simp [hb'] at hlen; omega
  | some buf' =>
    simp only [hb', Option.map_some, Option.getD_some] at hlen
    exact ⟨b, buf', hp, hb', by omega, hpos⟩

/-! ### `owning = owning` (storage.h:37 → Eigen `_set`) -/

/-- same element count: the destination KEEPS its allocation (no allocation, no release) and receives the source's elements
    and dims; the source is unchanged; exactly the cells of the destination's allocation are written -/
theorem memAssignMem_same_count {h : Heap α} {dst src : Obj} (hd : dst.OkMem h) (hs : src.OkMem h)
    (hc : size dst.dims = size src.dims) :
    ∃ h', memAssignMem h dst src = some (h', ⟨.mem, dst.ptr, src.dims⟩) ∧ h'.length = h.length ∧
      (⟨.mem, dst.ptr, src.dims⟩ : Obj).elems h' = src.elems h ∧ (⟨.mem, dst.ptr, src.dims⟩ : Obj).OkMem h' ∧
      (∀ c, (∀ off, dst.ptr ≠ some (c, off)) → h'.buf c = h.buf c) := by
  obtain ⟨xs, hxs⟩ := Option.isSome_iff_exists.mp (ok_of_okMem hs)
  obtain ⟨ys, hys⟩ := Option.isSome_iff_exists.mp (ok_of_okMem hd)
  unfold Obj.elems at hxs hys
  have hxl := read_length hxs
  -- the source's elements fit the destination's allocation: the write succeeds
  obtain ⟨h', hw⟩ := write_of_read (p := dst.ptr) (vals := xs) (xs := ys) (by rw [hxl, ← hc]; exact hys)
  refine ⟨h', ?_, write_length hw, ?_, okMem_dims (okMem_write hw hd) hc.symm, buf_write_other hw⟩
  · unfold memAssignMem
    simp only [len_of_okMem hd, len_of_okMem hs, hc, if_true, hxs, hw, Option.bind_eq_bind, Option.bind_some,
      Option.pure_def]
  · have := read_write_same hw
    rw [hxl] at this
    exact this.trans hxs.symm

/-- another element count: the destination releases its allocation and moves to a fresh one holding the source's elements;
    the source (a DIFFERENT owner: a different allocation) is unchanged -/
theorem memAssignMem_other_count {h : Heap α} {dst src : Obj} (hd : dst.OkMem h) (hs : src.OkMem h)
    (hc : size dst.dims ≠ size src.dims)
    (hdis : ∀ b c o1 o2, dst.ptr = some (b, o1) → src.ptr = some (c, o2) → b ≠ c) :
    ∃ h' o, memAssignMem h dst src = some (h', o) ∧ o.dims = src.dims ∧ o.elems h' = src.elems h ∧ o.OkMem h' ∧
      (∀ b off, o.ptr = some (b, off) → b = h.length ∧ off = 0) ∧
      (∀ c, c < h.length → h'.buf c = if dst.ptr.inBuf c then none else h.buf c) := by
  obtain ⟨xs, hxs⟩ := Option.isSome_iff_exists.mp (ok_of_okMem hs)
  unfold Obj.elems at hxs
  -- the source reads the same after the destination's allocation has been released
  have hxs' : (h.free dst.ptr).read src.ptr (size src.dims) = some xs :=
    read_keep hxs fun c o2 hsp _ => by
      rw [buf_free, (inBuf_false_iff _ _).mpr fun o hp => hdis c c o o2 hp hsp rfl]
      rfl
  unfold memAssignMem
  simp only [len_of_okMem hd, len_of_okMem hs, if_neg hc, hxs', Option.bind_eq_bind, Option.bind_some, Option.pure_def]
  obtain ⟨hok, hrd, hfresh, hframe⟩ := free_then_alloc h dst.ptr xs src.dims (read_length hxs)
  exact ⟨_, _, rfl, rfl, hrd.trans hxs.symm, hok, hfresh, hframe⟩

/-- assignment of an Eigen expression to an owning tensor: it takes the expression's dims, holds exactly the
    expression's elements and is well-formed — whatever it held before -/
theorem assignExpr_mem (junk : α) {h : Heap α} {dst : Obj} (hd : dst.OkMem h) (dims : List Nat) (vals : List α)
    (hl : vals.length = size dims) :
    ∃ h' o, assignExpr junk h dst dims vals = some (h', o) ∧ o.dims = dims ∧ o.elems h' = some vals ∧ o.OkMem h' := by
  unfold assignExpr
  rw [if_pos hd.1]
  have hok : (memResize junk h dst dims).2.OkMem (memResize junk h dst dims).1 ∧ (memResize junk h dst dims).2.dims = dims := by
    by_cases hs : size dst.dims = size dims
    · rw [memResize_same_count junk h dst dims (by rw [len_of_okMem hd, hs])]
      exact ⟨okMem_dims hd hs.symm, rfl⟩
    · have := memResize_other_count junk h dst dims hd hs
      exact ⟨this.1, this.2.2.1⟩
  obtain ⟨h', hw, he⟩ := obj_write_succeeds (ok_of_okMem hok.1) (by rw [hok.1.1]; decide) vals (by rw [hok.2]; exact hl)
  exact ⟨h', _, by simp only [hw]; rfl, hok.2, he, okMem_write (Obj.write_some hw).2.2 hok.1⟩

/-- … to a map (same number of elements): the map keeps pointer and dims and holds the expression's elements -/
theorem assignExpr_map (junk : α) {h : Heap α} {dst : Obj} (hk : dst.kind = .map) (hd : dst.Ok h) (dims : List Nat)
    (vals : List α) (hl : vals.length = size dst.dims) :
    ∃ h', assignExpr junk h dst dims vals = some (h', dst) ∧ dst.elems h' = some vals := by
  unfold assignExpr
  rw [if_neg (by rw [hk]; decide)]
  obtain ⟨h', hw, he⟩ := obj_write_succeeds hd (by rw [hk]; decide) vals hl
  exact ⟨h', by rw [hw]; rfl, he⟩

/-! ### moves of owning tensors -/

/-- move construction transfers the allocation: the new tensor reads what the source read, no element is copied; the
    moved-from tensor holds nullptr but KEEPS its dims (base.h:45 copies them) -/
theorem memMoveCtor_spec (h : Heap α) (src : Obj) :
    (memMoveCtor src).1.elems h = src.elems h ∧ (memMoveCtor src).1.ptr = src.ptr ∧ (memMoveCtor src).1.dims = src.dims ∧
    (memMoveCtor src).2.ptr = none ∧ (memMoveCtor src).2.dims = src.dims := ⟨rfl, rfl, rfl, rfl, rfl⟩

/-- as coded, a moved-from tensor with elements is NOT well-formed: `size()` still reports the old count over a null
    pointer; every element access through it would leave every buffer -/
theorem memMoveCtor_source_unusable (h : Heap α) (src : Obj) (hn : 0 < size src.dims) :
    ¬ (memMoveCtor src).2.OkMem h ∧ (memMoveCtor src).2.elems h = none := by
  refine ⟨fun hx => ?_, read_null h _ hn⟩
  have h0 : 0 = size src.dims := len_of_okMem hx
  omega

/-- move assignment exchanges the allocations: the destination reads what the source read; the moved-from source is left
    with the destination's previous allocation under its OWN dims — well-formed only if the two counts happened to agree -/
theorem memMoveAssign_spec (h : Heap α) (dst src : Obj) :
    (memMoveAssign dst src).1.elems h = src.elems h ∧ (memMoveAssign dst src).1.dims = src.dims ∧
    (memMoveAssign dst src).2.ptr = dst.ptr ∧ (memMoveAssign dst src).2.dims = src.dims := ⟨rfl, rfl, rfl, rfl⟩

theorem memMoveAssign_source_okMem_iff (h : Heap α) (dst src : Obj) (hd : dst.OkMem h) :
    (memMoveAssign dst src).2.OkMem h ↔ size src.dims = size dst.dims := by
  constructor
  · intro hx
    have h1 : h.len dst.ptr = size src.dims := len_of_okMem hx
    rw [← h1, len_of_okMem hd]
  · exact okMem_dims hd

/-! ### `map = anything` (storage.h:215-246) -/

/-- when the destination does not start INSIDE the source's range, the ascending element-wise copy is: read the source,
    then write what was read -/
theorem copyFwd_eq_write {h : Heap α} {dp sp : Ptr} {n : Nat} {xs : List α} (hs : h.read sp n = some xs)
    (hd : (h.read dp n).isSome) (hsafe : ∀ b d s, dp = some (b, d) → sp = some (b, s) → d ≤ s ∨ s + n ≤ d) :
    h.copyFwd dp sp n = h.write dp xs := by
  obtain ⟨ys, hys⟩ := Option.isSome_iff_exists.mp hd
  unfold Heap.copyFwd
  rcases read_cases hs with ⟨h0, rfl⟩ | ⟨sb, s, sbuf, rfl, hsb, hsle, hpos, hxe⟩
  · rw [if_pos h0, write_nil]
  · rcases read_cases hys with ⟨h0, _⟩ | ⟨db, d, dbuf, rfl, hdb, hdle, _, _⟩
    · omega
    · rw [if_neg (by omega)]
      simp only
      by_cases hbb : db = sb
      · subst hbb
        have hbuf : dbuf = sbuf := Option.some.inj (hdb.symm.trans hsb)
        subst hbuf
        have hxl : xs.length = n := read_length hs
        simp only [if_true, hdb]
        rw [if_pos ⟨hdle, hsle⟩, fwd_eq_splice dbuf d s n (hsafe db d s rfl rfl) hsle hdle, ← hxe,
          write_of_buf hdb (by omega) (by omega)]
      · rw [if_neg hbb]
        simp only [hs, Option.bind_eq_bind, Option.bind_some]

/-- the assignment to a mutable map: under `assert(size() == other.size())`, for a readable source, a destination inside
    a live allocation, and a destination that does not start INSIDE the source's range (another allocation, disjoint ranges,
    or `dst ≤ src` for the ascending copy) — the map holds the elements the source had BEFORE the assignment, and exactly
    the destination's cells changed -/
theorem mapAssign_elems {h : Heap α} {dst src : Obj} {xs : List α} (hn : size dst.dims = size src.dims)
    (hs : src.elems h = some xs) (hd : dst.Ok h)
    (hsafe : ∀ b d s, dst.ptr = some (b, d) → src.ptr = some (b, s) → d ≤ s ∨ s + size dst.dims ≤ d) :
    ∃ h', mapAssign h dst src = some h' ∧ dst.elems h' = some xs ∧ h'.length = h.length ∧
      ∀ c i, h'.cell c i =
        match dst.ptr with
        | some (b, d) => if c = b ∧ d ≤ i ∧ i < d + size dst.dims then xs[i - d]? else h.cell c i
        | none => h.cell c i := by
  unfold Obj.elems at hs
  rw [← hn] at hs
  have hxl := read_length hs
  obtain ⟨ys, hys⟩ := Option.isSome_iff_exists.mp hd
  obtain ⟨h', hw⟩ := write_of_read (p := dst.ptr) (vals := xs) (xs := ys) (by rw [hxl]; exact hys)
  refine ⟨h', (copyFwd_eq_write hs hd hsafe).trans hw, ?_, write_length hw, fun c i => ?_⟩
  · have := read_write_same hw
    rw [hxl] at this
    exact this
  · match hp : dst.ptr with
    | none =>
      rw [hp] at hw
      rcases write_cases hw with ⟨_, rfl⟩ | ⟨_, _, _, hx, _⟩
      · rfl
      · cases hx
    | some (b, d) =>
      rw [hp] at hw
      simp only
      rw [cell_write hw c i, hxl]

/-- `mapAssign` looks only at the source's POINTER and at the destination's element count -/
theorem mapAssign_src_dims (h : Heap α) (dst src : Obj) (k : Kind) :
    mapAssign h dst src = mapAssign h dst ⟨k, src.ptr, dst.dims⟩ := rfl

/-- the assert violated with a BIGGER source (`size() < other.size()`), release build: no fault — the first `size()` elements
    of the source are copied, the rest is ignored, the destination keeps its own dims -/
theorem mapAssign_bigger_source {h : Heap α} {dst src : Obj} {xs : List α} (hn : size dst.dims ≤ size src.dims)
    (hs : src.elems h = some xs) (hd : dst.Ok h)
    (hsafe : ∀ b d s, dst.ptr = some (b, d) → src.ptr = some (b, s) → d ≤ s ∨ s + size dst.dims ≤ d) :
    ∃ h', mapAssign h dst src = some h' ∧ dst.elems h' = some (xs.take (size dst.dims)) := by
  have hs' : (⟨src.kind, src.ptr, dst.dims⟩ : Obj).elems h = some (xs.take (size dst.dims)) := by
    have := read_add hs 0 (size dst.dims) (by omega)
    cases hp : src.ptr with
    | none => simpa [Obj.elems, Ptr.add, hp] using this
    | some q => simpa [Obj.elems, Ptr.add, hp] using this
  obtain ⟨h', hm, he, _⟩ := mapAssign_elems (dst := dst) (src := ⟨src.kind, src.ptr, dst.dims⟩) rfl hs' hd hsafe
  exact ⟨h', hm, he⟩

/-- WHAT `map = map` DOES when the destination starts inside (or after the start of) the source range in the same allocation
    (`s < d`; not guaranteed to preserve the source's elements — `mapAssign_overlap_witness`): cell `d + i` of the allocation
    receives the ORIGINAL element `s + i mod (d - s)`; every other cell of the allocation, and every other allocation, is
    unchanged; no access leaves the allocation -/
theorem mapAssign_overlap {h : Heap α} {dst src : Obj} {b d s : Nat} {buf : List α} (hdp : dst.ptr = some (b, d))
    (hsp : src.ptr = some (b, s)) (hb : h.buf b = some buf) (hsd : s < d) (hd : d + size dst.dims ≤ buf.length) :
    ∃ h', mapAssign h dst src = some h' ∧ (∀ c, c ≠ b → h'.buf c = h.buf c) ∧
      ∀ k, h'.cell b k = if d ≤ k ∧ k < d + size dst.dims then buf[s + (k - d) % (d - s)]? else buf[k]? := by
  unfold mapAssign Heap.copyFwd
  by_cases hz : size dst.dims = 0
  · rw [if_pos hz]
    refine ⟨h, rfl, fun _ _ => rfl, ?_⟩
    intro k
    rw [if_neg (by omega)]
    simp [Heap.cell, hb]
  · rw [if_neg hz, hdp, hsp]
    simp only [if_true, hb]
    rw [if_pos ⟨hd, by omega⟩]
    refine ⟨_, rfl, fun c hc => buf_set_other _ _ _ _ hc, ?_⟩
    intro k
    unfold Heap.cell
    rw [buf_set_same _ _ _ (buf_lt hb)]
    simp only [Option.bind_some]
    exact fwd_periodic (size dst.dims) buf d s hsd hd k

/-- WITNESS (overlap in the unsupported direction, `src < dst < src + n` inside one allocation): the ascending element-wise
    copy re-reads elements it has already overwritten — the map does NOT receive the elements the source had before the
    assignment (`[1, 2, 3]`) but `[1, 1, 1]` -/
theorem mapAssign_overlap_witness :
    (⟨.map, some (0, 0), [3]⟩ : Obj).elems [some [(1 : Int), 2, 3, 4]] = some [1, 2, 3] ∧
    (mapAssign [some [(1 : Int), 2, 3, 4]] ⟨.map, some (0, 1), [3]⟩ ⟨.map, some (0, 0), [3]⟩).bind
      (fun h' => (⟨.map, some (0, 1), [3]⟩ : Obj).elems h') = some [1, 1, 1] := by decide

/-- WITNESS (the assert violated with a SMALLER source, release build): the loop runs over the destination's `size()`
    elements — it reads the source's NEIGHBOURS inside the source's allocation (silently: `[5, 6, 7]` although the source
    is `[5, 6]`), and leaves the allocation (a fault) when the source ends where its allocation ends -/
theorem mapAssign_smaller_source_witness :
    (mapAssign [some [(1 : Int), 2, 3], some [5, 6, 7]] ⟨.map, some (0, 0), [3]⟩ ⟨.cmap, some (1, 0), [2]⟩)
      = some [some [5, 6, 7], some [5, 6, 7]] ∧
    (mapAssign [some [(1 : Int), 2, 3], some [5, 6, 7]] ⟨.map, some (0, 0), [3]⟩ ⟨.cmap, some (1, 1), [2]⟩) = none := by decide

/-- only the element COUNT is asserted by `map = other`, not the shape: a `2 × 3` map accepts a `3 × 2` source, keeps its
    own dims and receives the six elements in flat order -/
theorem mapAssign_shape_witness :
    (mapAssign [some [(0 : Int), 0, 0, 0, 0, 0], some [1, 2, 3, 4, 5, 6]] ⟨.map, some (0, 0), [2, 3]⟩ ⟨.mem, some (1, 0), [3, 2]⟩)
      = some [some [1, 2, 3, 4, 5, 6], some [1, 2, 3, 4, 5, 6]] := by decide

end NanoVerif.Tensor.Store
