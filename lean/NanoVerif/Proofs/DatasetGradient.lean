import NanoVerif.Proofs.DatasetColumns
import NanoVerif.Proofs.DatasetViews
/-!
  C08 — the gradient generator: addressing of the image through the C16 tensor model, the output map of `gradient3x3`,
  the per-sample tensor `encGradient`. Helper lemmas for `Props/C08.lean` (core Lean only; no Mathlib).
-/
namespace NanoVerif.Dataset
open NanoVerif.Tensor NanoVerif.Mask

/-! ### row-major double loops -/

section
variable {β : Type}

theorem flatMap_congr_mem {γ : Type} : ∀ (l : List γ) (f g : γ → List β), (∀ a ∈ l, f a = g a) → l.flatMap f = l.flatMap g
  | [], _, _, _ => rfl
  | a :: l, f, g, h => by
    rw [List.flatMap_cons, List.flatMap_cons, h a List.mem_cons_self,
      flatMap_congr_mem l f g (fun b hb => h b (List.mem_cons_of_mem _ hb))]

theorem loop2_length (rows cols : Nat) (f : Nat → Nat → β) :
    ((List.range rows).flatMap (fun r => (List.range cols).map (fun c => f r c))).length = rows * cols := by
  induction rows with
  | zero => simp
  | succ n ih =>
    rw [List.range_succ, List.flatMap_append, List.length_append, ih]
    simp [Nat.succ_mul]

theorem loop2_getElem? (rows cols : Nat) (f : Nat → Nat → β) (r c : Nat) (hr : r < rows) (hc : c < cols) :
    ((List.range rows).flatMap (fun r => (List.range cols).map (fun c => f r c)))[r * cols + c]? = some (f r c) := by
  induction rows with
  | zero => omega
  | succ n ih =>
    rw [List.range_succ, List.flatMap_append]
    by_cases hrn : r < n
    · rw [List.getElem?_append_left]
      · exact ih hrn
      · rw [loop2_length]
        calc r * cols + c < r * cols + cols := by omega
          _ = (r + 1) * cols := by rw [Nat.succ_mul]
          _ ≤ n * cols := Nat.mul_le_mul_right _ hrn
    · have hrn' : r = n := by omega
      subst hrn'
      rw [List.getElem?_append_right (by rw [loop2_length]; omega), loop2_length]
      simp [hc]

end

/-! ### the image of one channel -/

section
variable {α : Type} [Scalar α]

/-- the pixel `(r, c)` of channel `ch` read directly from the sample's row-major `(d0, d1, d2)` buffer at the offset the C16
    tensor model assigns to the index `(ch, r, c)` -/
def srcPixel (f : Feature) (v : List Int) (ch r c : Nat) : α :=
  Scalar.ofInt (v.getD (index [f.d0, f.d1, f.d2] [ch, r, c]) 0)

theorem index3 (d0 d1 d2 ch r c : Nat) : index [d0, d1, d2] [ch, r, c] = ch * (d1 * d2) + (r * d2 + c) := by
  simp [index, size]

/-- the offset of a valid index is inside the buffer (nothing outside the sample's values is read) -/
theorem index3_lt (d0 d1 d2 ch r c : Nat) (hch : ch < d0) (hr : r < d1) (hc : c < d2) :
    index [d0, d1, d2] [ch, r, c] < d0 * d1 * d2 := by
  rw [index3]
  have h1 : r * d2 + c < d1 * d2 := by
    calc r * d2 + c < r * d2 + d2 := by omega
      _ = (r + 1) * d2 := by rw [Nat.succ_mul]
      _ ≤ d1 * d2 := Nat.mul_le_mul_right _ hr
  calc ch * (d1 * d2) + (r * d2 + c) < ch * (d1 * d2) + d1 * d2 := by omega
    _ = (ch + 1) * (d1 * d2) := by rw [Nat.succ_mul]
    _ ≤ d0 * (d1 * d2) := Nat.mul_le_mul_right _ hch
    _ = d0 * d1 * d2 := by rw [Nat.mul_assoc]

/-- `values.tensor(channel)`: the `(d1, d2)` image of channel `ch`, aliasing `d1 * d2` consecutive values -/
theorem sub_channel (d0 d1 d2 ch : Nat) (v : List Int) (hch : ch < d0) :
    (⟨[d0, d1, d2], v⟩ : T Int).sub [ch] = some ⟨[d1, d2], (v.drop (ch * (d1 * d2))).take (d1 * d2)⟩ := by
  unfold T.sub
  rw [if_pos (by simp [ValidPrefix, hch])]
  simp [dims0, index, size]

/-- `input(r, c)` of the channel image is the value at `index (ch, r, c)` of the sample's buffer -/
theorem pixel_channel (f : Feature) (v : List Int) (ch r c : Nat) (hr : r < f.d1) (hc : c < f.d2) :
    pixel (α := α) ⟨[f.d1, f.d2], (v.drop (ch * (f.d1 * f.d2))).take (f.d1 * f.d2)⟩ r c = srcPixel f v ch r c := by
  unfold pixel srcPixel T.get?
  rw [if_pos (by simp [Valid, hr, hc]), index3]
  have hin : r * f.d2 + c < f.d1 * f.d2 := by
    calc r * f.d2 + c < r * f.d2 + f.d2 := by omega
      _ = (r + 1) * f.d2 := by rw [Nat.succ_mul]
      _ ≤ f.d1 * f.d2 := Nat.mul_le_mul_right _ hr
  have hidx : index [f.d1, f.d2] [r, c] = r * f.d2 + c := by simp [index, size]
  simp only [hidx]
  rw [List.getElem?_take_of_lt hin, List.getElem?_drop, List.getD_eq_getElem?_getD]

/-! ### `gradient3x3` and the per-sample tensor of the gradient generator -/

theorem gradient3x3_some (mode : Nat) (img : T Int) (k : α × α × α) (rows cols : Nat)
    (h : img.dims = [rows + 2, cols + 2]) :
    gradient3x3 mode img k rows cols =
      some ((List.range rows).flatMap (fun r => (List.range cols).map (fun c => gradPixel mode k img r c))) := by
  unfold gradient3x3
  rw [if_pos h]

/-- horizontal gradient at `(r, c)` of an image given by its pixel function: right column minus left column of the 3x3
    neighbourhood, the three rows weighted by the kernel, summed top to bottom -/
def gxAt (kk : α × α × α) (P : Nat → Nat → α) (r c : Nat) : α :=
  makeGG kk (P r (c + 2)) (P r c) (P (r + 1) (c + 2)) (P (r + 1) c) (P (r + 2) (c + 2)) (P (r + 2) c)

/-- vertical gradient: bottom row minus top row, the three columns weighted by the kernel, summed left to right -/
def gyAt (kk : α × α × α) (P : Nat → Nat → α) (r c : Nat) : α :=
  makeGG kk (P (r + 2) c) (P r c) (P (r + 2) (c + 1)) (P r (c + 1)) (P (r + 2) (c + 2)) (P r (c + 2))

/-- the value of a gradient feature at one (given) sample, as a function of the sample's stored values: `gx`, `gy` over the
    3x3 neighbourhood of `(r, c)` in channel `m.chan` (pixels addressed by `index`, see `srcPixel`), combined by the mode -/
def gradientAt (k : Kernel3) (f : Feature) (m : FMap) (v : List Int) (r c : Nat) : α :=
  gradMode m.mode (gxAt (makeKernel k) (srcPixel f v m.chan) r c) (gyAt (makeKernel k) (srcPixel f v m.chan) r c)

/-- the whole tensor of a given sample, row-major over `(m.d1, m.d2)` -/
def gradientOf (k : Kernel3) (f : Feature) (m : FMap) (v : List Int) : List α :=
  (List.range m.d1).flatMap (fun r => (List.range m.d2).map (fun c => gradientAt k f m v r c))

/-- for a row of a fitted gradient generator, `process` succeeds on every given sample (no `assert` of `tensor(channel)` /
    `gradient3x3` fires) and writes `gradientOf`; that every pixel it names lies inside the sample's `d0 * d1 * d2` values
    is `index3_lt` -/
theorem encGradient_some (k : Kernel3) (f : Feature) (m : FMap) (v : List Int)
    (hdesc : rowDescribes (.gradient k) m f) :
    encGradient (α := α) k f m (some v) = gradientOf k f m v := by
  obtain ⟨_, _, h1, h2, hch, _⟩ := hdesc
  unfold encGradient
  simp only [sub_channel f.d0 f.d1 f.d2 m.chan v hch, Option.bind_some]
  rw [gradient3x3_some _ _ _ _ _ (by simp [h1, h2])]
  simp only [Option.getD_some]
  unfold gradientOf
  apply flatMap_congr_mem
  intro r hr
  apply List.map_congr_left
  intro c hc
  simp only [List.mem_range] at hr hc
  have hr0 : r < f.d1 := by omega
  have hr1 : r + 1 < f.d1 := by omega
  have hr2 : r + 2 < f.d1 := by omega
  have hc0 : c < f.d2 := by omega
  have hc1 : c + 1 < f.d2 := by omega
  have hc2 : c + 2 < f.d2 := by omega
  unfold gradPixel gradientAt makeGx makeGy gxAt gyAt
  rw [pixel_channel f v m.chan r (c + 2) hr0 hc2, pixel_channel f v m.chan r c hr0 hc0,
    pixel_channel f v m.chan (r + 1) (c + 2) hr1 hc2, pixel_channel f v m.chan (r + 1) c hr1 hc0,
    pixel_channel f v m.chan (r + 2) (c + 2) hr2 hc2, pixel_channel f v m.chan (r + 2) c hr2 hc0,
    pixel_channel f v m.chan (r + 2) (c + 1) hr2 hc1, pixel_channel f v m.chan r (c + 1) hr0 hc1]

theorem gradientOf_length (k : Kernel3) (f : Feature) (m : FMap) (v : List Int) :
    (gradientOf (α := α) k f m v).length = m.d1 * m.d2 :=
  loop2_length _ _ _

theorem encGradient_length (k : Kernel3) (f : Feature) (m : FMap) (x : Option (List Int))
    (hdesc : rowDescribes (.gradient k) m f) :
    (encGradient (α := α) k f m x).length = m.d1 * m.d2 := by
  cases x with
  | none => simp [encGradient]
  | some v => rw [encGradient_some k f m v hdesc, gradientOf_length]

/-- the tensor of one sample as a function of the abstract map `D`: `gradientOf` of the stored value, NaN everywhere for a
    missing one -/
def gradientValue (k : Kernel3) (f : Feature) (m : FMap) (x : Option (List Int)) : List α :=
  match x with
  | some v => gradientOf k f m v
  | none => List.replicate (m.d1 * m.d2) Scalar.nan

theorem encGradient_eq_value (k : Kernel3) (f : Feature) (m : FMap) (x : Option (List Int))
    (hdesc : rowDescribes (.gradient k) m f) : encGradient (α := α) k f m x = gradientValue k f m x := by
  cases x with
  | none => rfl
  | some v => exact encGradient_some k f m v hdesc

/-- a 3x3 source gives the degenerate 1x1 map, anything larger a map of more than one pixel -/
theorem gradient_degenerate_iff (k : Kernel3) (m : FMap) (f : Feature) (hdesc : rowDescribes (.gradient k) m f) :
    1 < m.d1 * m.d2 ↔ ¬ (f.d1 = 3 ∧ f.d2 = 3) := by
  obtain ⟨_, _, h1, h2, _, _, h3, h4⟩ := hdesc
  have e : ∀ a, a + 2 = 3 ↔ a = 1 := fun a => by omega
  rw [← h1, ← h2, e, e]
  constructor
  · rintro h ⟨e1, e2⟩
    rw [e1, e2] at h
    exact absurd h (by decide)
  · intro h
    apply Nat.lt_of_le_of_ne (Nat.mul_le_mul h3 h4)
    intro e
    exact h ⟨Nat.eq_one_of_mul_eq_one_right e.symm, Nat.eq_one_of_mul_eq_one_left e.symm⟩

end

/-- executable form of `Gen.NonDegenerate` -/
def Gen.nonDegenerateB (g : Gen) : Bool :=
  match g.kind with
  | .gradient _ => g.mapping.all (fun m => decide (1 < m.d1 * m.d2))
  | _ => true

theorem nonDegenerateB_iff (g : Gen) : g.nonDegenerateB = true ↔ g.NonDegenerate := by
  unfold Gen.nonDegenerateB Gen.NonDegenerate
  cases hk : g.kind with
  | gradient k =>
    simp only [List.all_eq_true, decide_eq_true_eq]
    constructor
    · intro h k' _ m hm
      exact h m hm
    · intro h m hm
      exact h k rfl m hm
  | sclassId | mclassId | scalarId | structId | product | custom _ =>
    all_goals
      simp only [true_iff]
      intro k' hk'
      cases hk'

end NanoVerif.Dataset
