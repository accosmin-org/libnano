import NanoVerif.Proofs.WLearnerStump
/-!
  C10 — the look-up tables on one categorical feature. The bins are the distinct label sets of the fitted samples. Dense table:
  every bin stores its mean, the reported RSS is the RSS of that table and no table does better. Discrete step (second part):
  the one bin whose mean reduces the RSS most.
-/
set_option linter.unusedSectionVars false

namespace NanoVerif.WLearner
variable {α : Type} [Field α] [LinearOrder α] [IsStrictOrderedRing α]

/-! ### the sorted set of hashes -/

theorem mem_insertUniq (h x : Nat) (l : List Nat) : x ∈ insertUniq h l ↔ x = h ∨ x ∈ l := by
  induction l with
  | nil => simp [insertUniq]
  | cons a as ih =>
    simp only [insertUniq]
    split
    · simp
    · split
      · rename_i _ heq; subst heq; simp
      · simp only [List.mem_cons, ih]
        exact or_left_comm

theorem sorted_insertUniq (h : Nat) (l : List Nat) (hs : l.Pairwise (· < ·)) : (insertUniq h l).Pairwise (· < ·) := by
  induction l with
  | nil => simp [insertUniq]
  | cons a as ih =>
    simp only [insertUniq]
    have ha := (List.pairwise_cons.mp hs).1
    have has := (List.pairwise_cons.mp hs).2
    split
    · rename_i hlt
      refine List.pairwise_cons.mpr ⟨?_, hs⟩
      intro x hx
      rcases List.mem_cons.mp hx with rfl | hx
      · exact hlt
      · exact Nat.lt_trans hlt (ha x hx)
    · split
      · exact hs
      · rename_i hnlt hne
        refine List.pairwise_cons.mpr ⟨?_, ih has⟩
        intro x hx
        rcases (mem_insertUniq h x as).mp hx with rfl | hx
        · omega
        · exact ha x hx

theorem hashesOf_aux (rows : List (CRow α)) (acc : List Nat) (hacc : acc.Pairwise (· < ·)) :
    let res := rows.foldl (fun acc row => match row.h with
      | some h => insertUniq h acc
      | none => acc) acc
    res.Pairwise (· < ·) ∧ ∀ x, x ∈ res ↔ (x ∈ acc ∨ ∃ row ∈ rows, row.h = some x) := by
  induction rows generalizing acc with
  | nil => simp [hacc]
  | cons row rows ih =>
    simp only [List.foldl_cons]
    cases hh : row.h with
    | none =>
      obtain ⟨h1, h2⟩ := ih acc hacc
      refine ⟨h1, fun x => ?_⟩
      simp only [h2 x, List.mem_cons, exists_eq_or_imp, hh, reduceCtorEq, false_or]
    | some h =>
      obtain ⟨h1, h2⟩ := ih (insertUniq h acc) (sorted_insertUniq h acc hacc)
      refine ⟨h1, fun x => ?_⟩
      simp only [h2 x, mem_insertUniq, List.mem_cons, exists_eq_or_imp, hh, Option.some.injEq, or_assoc]
      exact or_left_comm.trans (or_congr_right (or_congr_left eq_comm))

theorem hashesOf_sorted (rows : List (CRow α)) : (hashesOf rows).Pairwise (· < ·) :=
  (hashesOf_aux rows [] List.Pairwise.nil).1

theorem mem_hashesOf (rows : List (CRow α)) (x : Nat) : x ∈ hashesOf rows ↔ ∃ row ∈ rows, row.h = some x := by
  have := (hashesOf_aux rows [] List.Pairwise.nil).2 x
  simp only [List.not_mem_nil, false_or] at this
  exact this

theorem hashesOf_nodup (rows : List (CRow α)) : (hashesOf rows).Nodup :=
  (hashesOf_sorted rows).imp (fun h => Nat.ne_of_lt h)

/-! ### bins -/

def binRows (rows : List (CRow α)) (h : Nat) : List (CRow α) := rows.filter fun row => decide (row.h = some h)

theorem binMom_eq (rows : List (CRow α)) (h : Nat) : binMom rows h = momOf ((binRows rows h).map (·.r)) := by
  unfold binMom momOf binRows
  suffices hgen : ∀ m : Mom α, rows.foldl (fun m row => if row.h = some h then m.upd0 row.r else m) m
      = ((rows.filter fun row => decide (row.h = some h)).map (·.r)).foldl Mom.upd0 m from hgen _
  induction rows with
  | nil => intro m; rfl
  | cons row rows ih =>
    intro m
    simp only [List.foldl_cons, List.filter_cons]
    by_cases hr : row.h = some h
    · simp only [hr, if_true, decide_true, List.map_cons, List.foldl_cons]; exact ih _
    · simp only [hr, if_false, decide_false]; exact ih _

theorem binRows_ne_nil (rows : List (CRow α)) (h : Nat) (hm : h ∈ hashesOf rows) : binRows rows h ≠ [] := by
  obtain ⟨row, hr, hh⟩ := (mem_hashesOf rows h).mp hm
  intro hnil
  have : row ∈ binRows rows h := by
    unfold binRows; exact List.mem_filter.mpr ⟨hr, by simp [hh]⟩
  rw [hnil] at this; simp at this

def missSumC (T : Nat) (rows : List (CRow α)) : α :=
  lsum (rows.map fun row => match row.h with
    | none => sqErr T row.r zeroV
    | some _ => 0)

theorem missRssC_eq (T : Nat) (rows : List (CRow α)) : missRssC T rows = missSumC T rows := by
  refine (foldl_add_eq _ id
    (fun row : CRow α => match row.h with
      | none => sqErr T row.r zeroV
      | some _ => 0) (fun a row => ?_) rows 0).trans (zero_add _)
  cases row.h with
  | none => exact congrArg (a + ·) (sqErr_zero T row.r).symm
  | some v => exact (add_zero a).symm

theorem lsum_by_bins (rows : List (CRow α)) (hs : List Nat) (hnd : hs.Nodup)
    (hall : ∀ row ∈ rows, ∀ h, row.h = some h → h ∈ hs) (G : CRow α → α) :
    lsum (rows.map G) = lsum (rows.map fun row => match row.h with
        | none => G row
        | some _ => 0)
      + lsum (hs.map fun h => lsum ((binRows rows h).map G)) := by
  induction rows with
  | nil =>
    simp only [List.map_nil, lsum_nil, List.filter_nil, binRows, zero_add]
    exact (lsum_map_zero hs).symm
  | cons row rows ih =>
    have ih' := ih (fun r hr => hall r (List.mem_cons_of_mem _ hr))
    simp only [List.map_cons, lsum_cons]
    cases hh : row.h with
    | none =>
      have : (hs.map fun h => lsum ((binRows (row :: rows) h).map G)) = hs.map fun h => lsum ((binRows rows h).map G) := by
        apply List.map_congr_left; intro h _
        unfold binRows; simp [hh]
      rw [this, ih']; ring
    | some h0 =>
      have hm : h0 ∈ hs := hall row (by simp) h0 hh
      have : (hs.map fun h => lsum ((binRows (row :: rows) h).map G))
          = hs.map fun h => (if h = h0 then G row else 0) + lsum ((binRows rows h).map G) := by
        apply List.map_congr_left; intro h _
        unfold binRows
        by_cases e : h = h0
        · subst e; simp [hh]
        · have : ¬ (some h0 = some h) := fun e' => e (Option.some.inj e').symm
          simp [hh, e, this]
      rw [this, lsum_map_add, lsum_ite_eq hs hnd h0 hm, ih']; ring

theorem rssOfC_table (T : Nat) (rows : List (CRow α)) (tbl : Nat → Vec α) :
    rssOfC T rows (tablePred tbl) = missSumC T rows
      + lsum ((hashesOf rows).map fun h => lsum (((binRows rows h).map (·.r)).map fun r => sqErr T r (tbl h))) := by
  unfold rssOfC
  rw [lsum_by_bins rows (hashesOf rows) (hashesOf_nodup rows)
    (fun row hr h hh => (mem_hashesOf rows h).mpr ⟨row, hr, hh⟩)]
  congr 1
  · unfold missSumC
    apply lsum_map_congr; intro row _
    cases hh : row.h with
    | none => simp [tablePred]
    | some h => rfl
  · congr 1
    apply List.map_congr_left; intro h _
    rw [List.map_map]
    apply lsum_map_congr; intro row hrow
    have : row.h = some h := by
      unfold binRows at hrow
      have := (List.mem_filter.mp hrow).2
      simpa using this
    simp [this, tablePred]

/-! ### the dense table -/

theorem denseCand_rss [Log α] (T : Nat) (K : α) (crit : Crit) (f : Nat) (rows : List (CRow α)) :
    (denseCand T K crit f rows).rss = missSumC T rows
      + lsum ((hashesOf rows).map fun h => binScore T (momOf ((binRows rows h).map (·.r)))) := by
  simp only [denseCand]
  rw [sumL_eq, missRssC_eq]
  congr 2
  apply List.map_congr_left; intro h _
  rw [binMom_eq]

theorem denseCand_score [Log α] (T : Nat) (K : α) (f : Nat) (rows : List (CRow α)) :
    (denseCand T K Crit.rss f rows).score = cmax (denseCand T K Crit.rss f rows).rss K := rfl

def denseTable (rows : List (CRow α)) : Nat → Vec α := fun h => binMean (binMom rows h)

/-- the value handed to `make_score` is the RSS of the table of bin means, and no table has a smaller RSS -/
theorem denseCand_spec [Log α] (T : Nat) (K : α) (crit : Crit) (f : Nat) (rows : List (CRow α)) :
    (denseCand T K crit f rows).rss = rssOfC T rows (tablePred (denseTable rows)) ∧
    ∀ tbl : Nat → Vec α, (denseCand T K crit f rows).rss ≤ rssOfC T rows (tablePred tbl) := by
  have hne : ∀ h ∈ hashesOf rows, (binRows rows h).map (·.r) ≠ [] := fun h hm hnil =>
    binRows_ne_nil rows h hm (List.map_eq_nil_iff.mp hnil)
  rw [denseCand_rss]
  constructor
  · rw [rssOfC_table]
    congr 2
    apply List.map_congr_left; intro h hm
    rw [(const_fit_vec T _ (hne h hm) zeroV).2]
    simp only [denseTable, binMom_eq]
  · intro tbl
    rw [rssOfC_table]
    exact add_le_add (le_refl _) (lsum_map_le _ _ _ fun h hm => (const_fit_vec T _ (hne h hm) (tbl h)).1)

/-! ## the discrete step (`score_kbest(…, 1)`): the single label set whose mean reduces the RSS most -/

/-- the hypothesis class of the discrete step: one label set `h0` gets the vector `c`, everything else zero -/
def stepPred (h0 : Nat) (c : Vec α) : Option Nat → Vec α :=
  tablePred fun h => if h = h0 then c else zeroV

theorem argminFirst_spec (l : List (α × Nat)) (hl : l ≠ []) :
    ∃ q, argminFirst l = some q ∧ q ∈ l ∧ ∀ p ∈ l, q.1 ≤ p.1 := by
  induction l with
  | nil => exact absurd rfl hl
  | cons p ps ih =>
    simp only [argminFirst]
    by_cases hps : ps = []
    · subst hps
      exact ⟨p, rfl, List.mem_cons_self, fun x hx => by rw [List.mem_singleton.mp hx]⟩
    · obtain ⟨q, hq, hqm, hqmin⟩ := ih hps
      rw [hq]
      simp only
      split
      · rename_i hlt
        refine ⟨q, rfl, List.mem_cons_of_mem _ hqm, fun x hx => ?_⟩
        rcases List.mem_cons.mp hx with rfl | hx
        · exact le_of_lt hlt
        · exact hqmin x hx
      · rename_i hnlt
        refine ⟨p, rfl, List.mem_cons_self, fun x hx => ?_⟩
        rcases List.mem_cons.mp hx with rfl | hx
        · exact le_refl _
        · exact le_trans (not_lt.mp hnlt) (hqmin x hx)

/-- the front of the sorted `(delta, bin)` pairs: the position and the element of a smallest value -/
theorem argminFirst_map_zipIdx {β : Type} (g : β → α) (l : List β) (hl : l ≠ []) :
    ∃ i b, l[i]? = some b ∧ argminFirst ((l.map g).zipIdx) = some (g b, i) ∧ ∀ b' ∈ l, g b ≤ g b' := by
  obtain ⟨q, hq, hqm, hqmin⟩ := argminFirst_spec ((l.map g).zipIdx)
    fun e => hl (List.map_eq_nil_iff.mp (List.zipIdx_eq_nil_iff.mp e))
  have h1 := List.mem_zipIdx_iff_getElem?.mp hqm
  rw [List.getElem?_map] at h1
  obtain ⟨b, hb, hgb⟩ := Option.map_eq_some_iff.mp h1
  refine ⟨q.2, b, hb, by rw [hq, hgb], fun b' hb' => ?_⟩
  obtain ⟨i, hi⟩ := List.mem_iff_getElem?.mp hb'
  rw [hgb]
  exact hqmin (g b', i) (List.mem_zipIdx_iff_getElem?.mpr (by rw [List.getElem?_map, hi]; rfl))

theorem lsum_sqErr_zero (T : Nat) (rs : List (Vec α)) :
    lsum (rs.map fun r => sqErr T r zeroV) = vsum (momOf rs).r2 T := by
  rw [lsum_sqErr]
  apply vsum_congr; intro o _
  rw [momOf_r2]
  apply lsum_map_congr; intro r _
  simp [zeroV]

theorem binScore_eq_delta (T : Nat) (m : Mom α) : binScore T m = vsum m.r2 T + binDelta T m := by
  unfold binScore binDelta
  rw [vsum_sub, vsum_div]; ring

theorem binDelta_nonpos (T : Nat) (rs : List (Vec α)) : binDelta T (momOf rs) ≤ 0 := by
  unfold binDelta
  rw [neg_div, momOf_x0]
  exact neg_nonpos.mpr (div_nonneg (vsum_nonneg T fun o _ => mul_self_nonneg _) (countOf_nonneg rs))

theorem dstepRss0_eq (T : Nat) (rows : List (CRow α)) :
    dstepRss0 T rows = missSumC T rows
      + lsum ((hashesOf rows).map fun h => vsum (momOf ((binRows rows h).map (·.r))).r2 T) := by
  unfold dstepRss0
  rw [sumL_eq, missRssC_eq]
  congr 2
  apply List.map_congr_left; intro h _
  rw [binMom_eq]

/-- against predicting nothing, only the error of the bin `h0` changes -/
theorem rssOfC_step_mem (T : Nat) (rows : List (CRow α)) (h0 : Nat) (hm : h0 ∈ hashesOf rows) (c : Vec α) :
    rssOfC T rows (stepPred h0 c) = dstepRss0 T rows
      + (lsum (((binRows rows h0).map (·.r)).map fun r => sqErr T r c)
          - vsum (momOf ((binRows rows h0).map (·.r))).r2 T) := by
  unfold stepPred
  rw [rssOfC_table, dstepRss0_eq]
  have : ((hashesOf rows).map fun h => lsum (((binRows rows h).map (·.r)).map fun r =>
      sqErr T r (if h = h0 then c else zeroV)))
      = (hashesOf rows).map fun h => vsum (momOf ((binRows rows h).map (·.r))).r2 T
        + (if h = h0 then lsum (((binRows rows h0).map (·.r)).map fun r => sqErr T r c)
            - vsum (momOf ((binRows rows h0).map (·.r))).r2 T else 0) := by
    apply List.map_congr_left; intro h _
    by_cases e : h = h0
    · subst e; simp only [if_true]; exact (add_sub_cancel _ _).symm
    · simp only [e, if_false, add_zero]; exact lsum_sqErr_zero T _
  rw [this, lsum_map_add, lsum_ite_eq _ (hashesOf_nodup rows) h0 hm, add_assoc]

theorem rssOfC_step_not_mem (T : Nat) (rows : List (CRow α)) (h0 : Nat) (hm : h0 ∉ hashesOf rows) (c : Vec α) :
    rssOfC T rows (stepPred h0 c) = dstepRss0 T rows := by
  unfold stepPred
  rw [rssOfC_table, dstepRss0_eq]
  congr 2
  apply List.map_congr_left; intro h hh
  have : h ≠ h0 := fun e => hm (e ▸ hh)
  simp only [this, if_false]
  exact lsum_sqErr_zero T _

theorem dstepCandOf_rss [Log α] (T : Nat) (K : α) (crit : Crit) (f : Nat) (rows : List (CRow α)) (h : Nat) :
    (dstepCandOf T K crit f rows h).rss = dstepRss0 T rows + binDelta T (momOf ((binRows rows h).map (·.r))) := by
  simp only [dstepCandOf, binMom_eq]

theorem dstepCandOf_score [Log α] (T : Nat) (K : α) (f : Nat) (rows : List (CRow α)) (h : Nat) :
    (dstepCandOf T K Crit.rss f rows h).score = cmax (dstepCandOf T K Crit.rss f rows h).rss K := rfl

theorem dstepCandOf_spec [Log α] (T : Nat) (K : α) (crit : Crit) (f : Nat) (rows : List (CRow α)) (h : Nat)
    (hm : h ∈ hashesOf rows) :
    (dstepCandOf T K crit f rows h).rss = rssOfC T rows (stepPred h (tab (dstepCandOf T K crit f rows h).tables 0)) ∧
    ∀ c : Vec α, (dstepCandOf T K crit f rows h).rss ≤ rssOfC T rows (stepPred h c) := by
  have hne : (binRows rows h).map (·.r) ≠ [] := fun hnil => binRows_ne_nil rows h hm (List.map_eq_nil_iff.mp hnil)
  have hfit := const_fit_vec T _ hne
  rw [binScore_eq_delta] at hfit
  have htab : tab (dstepCandOf T K crit f rows h).tables 0 = binMean (momOf ((binRows rows h).map (·.r))) := by
    simp only [dstepCandOf, tab, List.getD_cons_zero, binMom_eq]
  rw [dstepCandOf_rss, htab]
  constructor
  · rw [rssOfC_step_mem T rows h hm]
    exact congrArg (dstepRss0 T rows + ·) (eq_sub_iff_add_eq'.mpr (hfit zeroV).2)
  · intro c
    rw [rssOfC_step_mem T rows h hm]
    exact add_le_add (le_refl _) (le_sub_iff_add_le'.mpr (hfit c).1)

/-- `score_kbest(…, 1)`: no fit exactly when no value is present; otherwise the stored one-row table is on a present
    label set, its reported RSS is the RSS of its predictions, and no one-label-set table has a smaller RSS -/
theorem dstepCand_spec [Log α] (T : Nat) (K : α) (crit : Crit) (f : Nat) (rows : List (CRow α)) :
    (hashesOf rows = [] → dstepCand T K crit f rows = none) ∧
    (hashesOf rows ≠ [] → ∃ h0 ∈ hashesOf rows, dstepCand T K crit f rows = some (dstepCandOf T K crit f rows h0) ∧
      ∀ (h' : Nat) (c' : Vec α), (dstepCandOf T K crit f rows h0).rss ≤ rssOfC T rows (stepPred h' c')) := by
  constructor
  · intro h
    simp [dstepCand, h, argminFirst]
  · intro hne
    obtain ⟨i, h0, hget, harg, hmin⟩ := argminFirst_map_zipIdx (fun h => binDelta T (binMom rows h)) _ hne
    refine ⟨h0, List.mem_of_getElem? hget, ?_, fun h' c' => ?_⟩
    · simp only [dstepCand, harg, hget, Option.map_some]
    · rw [dstepCandOf_rss]
      by_cases hm' : h' ∈ hashesOf rows
      · have h1 := (dstepCandOf_spec T K crit f rows h' hm').2 c'
        have h2 := hmin h' hm'
        rw [dstepCandOf_rss] at h1
        rw [binMom_eq, binMom_eq] at h2
        exact (add_le_add (le_refl _) h2).trans h1
      · rw [rssOfC_step_not_mem T rows h' hm' c']
        exact add_le_of_nonpos_right (binDelta_nonpos T _)

end NanoVerif.WLearner
