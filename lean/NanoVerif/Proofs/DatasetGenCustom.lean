import NanoVerif.Proofs.DatasetHistory
/-!
  C08 — computers plugged into the two generator templates (`elemwise_generator_t`, `pairwise_generator_t`): their results as
  functions of the abstract map `D = Storage.stored`, their views under a flag. Helper lemmas for `Props/C08.lean` (core
  Lean only; no Mathlib).
-/
namespace NanoVerif.Dataset
open NanoVerif.Tensor NanoVerif.Mask

/-- the operator's result at one stored sample as a function of `D`: element-wise — `customOut` of the summary of the stored
    value, missing when the value is missing; pair-wise — `customOut` of the two summaries, missing when either value is -/
def customValue (st : Storage) (c : Custom) (m : FMap) (s : Nat) : Option (List Int) :=
  match c.in2 with
  | none => (st.stored (st.inputIndex m.orig) s).map (fun v => customOut c (summary v, summary v))
  | some _ =>
    match st.stored (st.inputIndex m.orig) s, st.stored (st.inputIndex m.orig2) s with
    | some a, some b => some (customOut c (summary a, summary b))
    | _, _ => none

theorem derived_eq_spec (st : Storage) (c : Custom) (m : FMap) (ss : List Nat) :
    derived st c m [] ss = ss.map (customValue st c m) := by
  unfold derived customValue
  cases hc : c.in2 with
  | none => simp [iterate_nil, List.map_map, Function.comp]
  | some k2 =>
    simp only [iterate2, iterSample_nil, List.map_map]
    apply List.map_congr_left
    intro s _
    simp only [Function.comp]
    cases st.stored (st.inputIndex m.orig) s <;> cases st.stored (st.inputIndex m.orig2) s <;> rfl

section
variable {α : Type} [Scalar α]

def customSpecView (st : Storage) (c : Custom) (m : FMap) (fl : Flag) (ss : List Nat) : View α :=
  match fl with
  | .dropped => customDropped c.out ss.length
  | .shuffled p => customView c.out ((ss.map (iterSample p)).map (customValue st c m))
  | .none => customView c.out (ss.map (customValue st c m))

theorem specSelect_custom (st : Storage) (c : Custom) (m : FMap) (fl : Flag) (ss : List Nat) :
    specSelect (α := α) st (.custom c) m fl ss = customSpecView st c m fl ss := by
  cases fl with
  | dropped => rfl
  | none => simp [specSelect, plainView, customSpecView, derived_eq_spec]
  | shuffled p => simp [specSelect, plainView, customSpecView, derived_eq_spec]

end

end NanoVerif.Dataset
