import NanoVerif.Model.WLearnerKTable
import NanoVerif.Proofs.WLearnerBrute
/-!
  C10 — the k-best table fit (`Model/WLearnerKTable.lean`): the RSS handed to `make_score` for `kbest = k` is
  `rss0 + Σ (the k smallest deltas)`; every delta is `≤ 0`; with all bins kept it is the RSS of the dense table.
-/
set_option linter.unusedSectionVars false

namespace NanoVerif.WLearner
variable {α : Type} [Field α] [LinearOrder α] [IsStrictOrderedRing α]

theorem kbestRss_eq (T : Nat) (rows : List (CRow α)) (pre : List (α × Nat)) :
    kbestRss T rows pre = dstepRss0 T rows + lsum (pre.map (·.1)) := by
  unfold kbestRss
  exact sumL_eq (fun p : α × Nat => p.1) pre (dstepRss0 T rows)

theorem binDeltas_fst (T : Nat) (rows : List (CRow α)) :
    (binDeltas T rows).map (·.1) = (hashesOf rows).map fun h => binDelta T (binMom rows h) := by
  unfold binDeltas
  exact List.zipIdx_map_fst _ _

/-- the entries of `accumulator_t::sort()`: entry `(d, b)` is the delta of bin `b` -/
theorem mem_binDeltas (T : Nat) (rows : List (CRow α)) (p : α × Nat) (hp : p ∈ binDeltas T rows) :
    p.2 < (hashesOf rows).length ∧ p.1 = binDelta T (binMom rows ((hashesOf rows).getD p.2 0)) := by
  unfold binDeltas at hp
  have h := List.mem_zipIdx_iff_getElem?.mp (show (p.1, p.2) ∈ _ from hp)
  rw [List.getElem?_map] at h
  cases hh : (hashesOf rows)[p.2]? with
  | none => rw [hh] at h; simp at h
  | some x =>
    rw [hh] at h
    simp at h
    have hlt : p.2 < (hashesOf rows).length := (List.getElem?_eq_some_iff.mp hh).1
    refine ⟨hlt, ?_⟩
    rw [List.getD_eq_getElem?_getD, hh]
    exact h.symm

theorem binDeltas_nonpos (T : Nat) (rows : List (CRow α)) : ∀ p ∈ binDeltas T rows, p.1 ≤ 0 := by
  intro p hp
  rw [(mem_binDeltas T rows p hp).2, binMom_eq]
  exact binDelta_nonpos T _

theorem dense_rss_eq_deltas [Log α] (T : Nat) (K : α) (crit : Crit) (f : Nat) (rows : List (CRow α)) :
    (denseCand T K crit f rows).rss = dstepRss0 T rows + lsum ((binDeltas T rows).map (·.1)) := by
  rw [binDeltas_fst]
  simp only [denseCand, dstepRss0]
  rw [sumL_eq, sumL_eq, add_assoc, ← lsum_map_add]
  congr 2
  apply List.map_congr_left; intro h _
  exact binScore_eq_delta T _

/-- `max_kbest = -1`: one candidate per prefix of the sorted `(delta, bin)` pairs -/
theorem kbestCands_zero [Log α] (sortP : List (α × Nat) → List (α × Nat)) (T : Nat) (K : α) (crit : Crit) (f : Nat)
    (rows : List (CRow α)) :
    kbestCands sortP T K crit f rows 0 = (List.range (hashesOf rows).length).map fun i =>
      kbestCandOf T K crit f rows (kbestRss T rows ((sortP (binDeltas T rows)).take (i + 1)))
        (sortAsc (((sortP (binDeltas T rows)).take (i + 1)).map (·.2))) := rfl

theorem binDeltas_length (T : Nat) (rows : List (CRow α)) : (binDeltas T rows).length = (hashesOf rows).length := by
  rw [binDeltas, List.length_zipIdx, List.length_map]

/-- what every k-best candidate of a feature is (RSS criterion): its RSS is `rss0 +` the deltas of a prefix of the sorted
    `(delta, bin)` pairs, which is at least the RSS of the dense table (the remaining deltas are `≤ 0`), with equality for the
    last candidate (`kbest = bins`) -/
theorem kbestCands_spec [Log α] (sortP : List (α × Nat) → List (α × Nat)) (hperm : ∀ l, (sortP l).Perm l)
    (T : Nat) (K : α) (f : Nat) (rows : List (CRow α)) :
    (∀ c ∈ kbestCands sortP T K Crit.rss f rows 0,
      c.feature = f ∧ c.score = cmax c.rss K ∧ (denseCand T K Crit.rss f rows).rss ≤ c.rss) ∧
    (hashesOf rows ≠ [] → ∃ c ∈ kbestCands sortP T K Crit.rss f rows 0, c.rss = (denseCand T K Crit.rss f rows).rss) := by
  -- the dense table's RSS through the sorted deltas
  have hdense : (denseCand T K Crit.rss f rows).rss = kbestRss T rows (sortP (binDeltas T rows)) := by
    rw [kbestRss_eq, dense_rss_eq_deltas, lsum_perm ((hperm _).map _)]
  rw [kbestCands_zero]
  constructor
  · intro c hc
    obtain ⟨i, hi, rfl⟩ := List.mem_map.mp hc
    refine ⟨rfl, rfl, ?_⟩
    show _ ≤ kbestRss T rows _
    have hrest : lsum (((sortP (binDeltas T rows)).drop (i + 1)).map (·.1)) ≤ 0 := by
      apply lsum_nonpos
      intro x hx
      obtain ⟨p, hp, rfl⟩ := List.mem_map.mp hx
      exact binDeltas_nonpos T rows p ((hperm _).subset (List.mem_of_mem_drop hp))
    have hsplit : lsum ((sortP (binDeltas T rows)).map (·.1)) = lsum (((sortP (binDeltas T rows)).take (i + 1)).map (·.1))
        + lsum (((sortP (binDeltas T rows)).drop (i + 1)).map (·.1)) := by
      rw [← lsum_append, ← List.map_append, List.take_append_drop]
    rw [hdense, kbestRss_eq, kbestRss_eq, hsplit]
    linarith only [hrest]
  · intro hne
    have hpos : 0 < (hashesOf rows).length := List.length_pos_iff.mpr hne
    refine ⟨_, List.mem_map.mpr ⟨(hashesOf rows).length - 1, List.mem_range.mpr (Nat.sub_lt hpos Nat.one_pos), rfl⟩, ?_⟩
    show kbestRss T rows _ = _
    rw [hdense, Nat.sub_add_cancel hpos, ← binDeltas_length T rows, ← (hperm _).length_eq, List.take_length]

/-- the contract of `std::sort` on the `(delta, bin)` pairs: a permutation sorted by the first component -/
structure PairSortSpec (sortP : List (α × Nat) → List (α × Nat)) : Prop where
  perm : ∀ l, (sortP l).Perm l
  sorted : ∀ l, (sortP l).Pairwise (fun a b => a.1 ≤ b.1)

theorem mergeSort_pairSortSpec : PairSortSpec (α := α) (fun l => l.mergeSort pairLe) :=
  ⟨fun l => List.mergeSort_perm l pairLe, fun l =>
    (List.pairwise_mergeSort pairLe_trans pairLe_total l).imp fun h => pairLe_le h⟩

/-- the first `k` entries of a list sorted by the first component have the smallest sum among all its `k`-element sublists -/
theorem lsum_take_le_sublist : ∀ (l : List (α × Nat)), l.Pairwise (fun a b => a.1 ≤ b.1) →
    ∀ (s : List (α × Nat)), s.Sublist l → lsum ((l.take s.length).map (·.1)) ≤ lsum (s.map (·.1)) := by
  intro l
  induction l with
  | nil => intro _ s hs; rw [List.sublist_nil.mp hs]; exact le_refl _
  | cons a l ih =>
    intro hp s hs
    obtain ⟨ha, hp'⟩ := List.pairwise_cons.mp hp
    cases s with
    | nil => exact le_refl _
    | cons b s' =>
      show a.1 + lsum ((l.take s'.length).map (·.1)) ≤ b.1 + lsum (s'.map (·.1))
      rcases List.sublist_cons_iff.mp hs with h | ⟨r, hr, hrl⟩
      · -- `b :: s'` lies inside `l`: every entry of `l` is at least `a`
        exact add_le_add (ha b (h.subset List.mem_cons_self)) (ih hp' s' ((List.sublist_cons_self b s').trans h))
      · obtain ⟨rfl, rfl⟩ := List.cons.inj hr
        exact add_le_add (le_refl _) (ih hp' s' hrl)

def kbestAll [Log α] (sortP : List (α × Nat) → List (α × Nat)) (T : Nat) (K : α) (cols : List (Nat × List (CRow α))) :
    List (Cand α) :=
  cols.flatMap fun p => kbestCands sortP T K Crit.rss p.1 p.2 0

end NanoVerif.WLearner
