import NanoVerif.Proofs.LSearchGet
import Mathlib.Tactic.FieldSimp
/-!
  C07 — helper lemmas, convex quadratics along the line: `φ(t) = f0 + g0 t + h t²/2` with `g0 < 0 < h`, in EXACT arithmetic.

  * the acceptance predicates (generated) as intervals of the step: Armijo `t ≤ 2(1 - c1) t*`, Wolfe `(1 - c2) t* ≤ t`,
    strong Wolfe `|t - t*| ≤ c2 t*`, where `t* = -g0/h` is the minimiser;
  * at `t*`: strong Wolfe for every `c2 ≥ 0`, Armijo iff `c1 ≤ 1/2`;
  * the interpolation formulas of lstep.cpp (`quadratic`, `secant`, `cubic`) return exactly `t*` on quadratic data; `InterpExact` is
    that contract on `cfg.interp`, under which the runs of LeMaréchal and Fletcher are proved.
-/
namespace NanoVerif.LSearch
open NanoVerif.Gen.LsPredicates

set_option linter.unusedSectionVars false

variable {α : Type} [Field α] [LinearOrder α] [IsStrictOrderedRing α]

def quadLine (f0 g0 h : α) (t : α) : Eval α := ⟨f0 + g0 * t + h * t * t / 2, g0 + h * t, true⟩

/-- the exact minimiser along the line -/
def tstar (g0 h : α) : α := -g0 / h

def OnQuad (f0 g0 h : α) (s : Step α) : Prop := s.f = f0 + g0 * s.t + h * s.t * s.t / 2 ∧ s.g = g0 + h * s.t

theorem tstar_pos {g0 h : α} (hg : g0 < 0) (hh : 0 < h) : 0 < tstar g0 h :=
  div_pos (neg_pos.mpr hg) hh

theorem h_tstar {g0 h : α} (hh : 0 < h) : h * tstar g0 h = -g0 :=
  mul_div_cancel₀ _ hh.ne'

/-- every fact below is an identity in `h`, `t*` and the step once `g0` is written as `-(h t*)`:
    `generalize tstar g0 h = T at e ⊢; subst e` -/
theorem g0_eq {g0 h : α} (hh : 0 < h) : g0 = -(h * tstar g0 h) := by
  rw [h_tstar hh, neg_neg]

theorem quadLine_zero (f0 g0 h : α) : quadLine f0 g0 h 0 = ⟨f0, g0, true⟩ := by
  simp [quadLine]

theorem quad_diff {f0 g0 h : α} (hh : 0 < h) (x y : α) :
    (quadLine f0 g0 h x).f - (quadLine f0 g0 h y).f = h / 2 * (x - y) * (x + y - 2 * tstar g0 h) := by
  have e := g0_eq (g0 := g0) hh
  generalize tstar g0 h = T at e ⊢
  subst e; simp only [quadLine]; ring

theorem quad_slope {f0 g0 h : α} (hh : 0 < h) (x : α) : (quadLine f0 g0 h x).g = h * (x - tstar g0 h) := by
  have e := g0_eq (g0 := g0) hh
  generalize tstar g0 h = T at e ⊢
  subst e; simp only [quadLine]; ring

theorem quadLine_tstar_g {f0 g0 h : α} (hh : 0 < h) : (quadLine f0 g0 h (tstar g0 h)).g = 0 := by
  rw [quad_slope hh, sub_self, mul_zero]

theorem quad_slope_pos {f0 g0 h t : α} (hh : 0 < h) (ht : tstar g0 h < t) : 0 < (quadLine f0 g0 h t).g := by
  rw [quad_slope hh]; exact mul_pos hh (sub_pos.2 ht)

theorem quad_slope_neg {f0 g0 h t : α} (hh : 0 < h) (ht : t < tstar g0 h) : (quadLine f0 g0 h t).g < 0 := by
  rw [quad_slope hh]; exact mul_neg_of_pos_of_neg hh (sub_neg.2 ht)

theorem quad_slope_nonneg {f0 g0 h t : α} (hh : 0 < h) (ht : tstar g0 h ≤ t) : 0 ≤ (quadLine f0 g0 h t).g := by
  rw [quad_slope hh]; exact mul_nonneg hh.le (sub_nonneg.2 ht)

theorem quad_slope_lt_iff {f0 g0 h : α} (hh : 0 < h) (c t : α) :
    (quadLine f0 g0 h t).g < c * g0 ↔ t < (1 - c) * tstar g0 h := by
  have e : c * g0 = h * (-(c * tstar g0 h)) := by rw [mul_neg, mul_left_comm, h_tstar hh, mul_neg, neg_neg]
  rw [quad_slope hh, e, mul_lt_mul_iff_right₀ hh, sub_lt_iff_lt_add, neg_add_eq_sub, sub_mul, one_mul]

theorem quad_lt_iff {f0 g0 h : α} (hh : 0 < h) {s t : α} (hst : s < t) :
    (quadLine f0 g0 h s).f < (quadLine f0 g0 h t).f ↔ 2 * tstar g0 h < s + t := by
  rw [← sub_pos, quad_diff hh t s, mul_pos_iff_of_pos_left (mul_pos (half_pos hh) (sub_pos.mpr hst)), sub_pos, add_comm t s]

theorem quad_change {f0 g0 h : α} (hh : 0 < h) (t : α) :
    (quadLine f0 g0 h t).f - f0 = h / 2 * t * (t - 2 * tstar g0 h) := by
  have e := quad_diff (f0 := f0) (g0 := g0) hh t 0
  rwa [quadLine_zero, sub_zero, add_zero] at e

theorem descent_quad_iff {f0 g0 h t : α} (hh : 0 < h) : hasDescent (quadLine f0 g0 h t).g = false ↔ tstar g0 h ≤ t := by
  rw [descent_false_iff, quad_slope hh, mul_nonneg_iff_of_pos_left hh, sub_nonneg]

theorem quad_closer_lt {f0 g0 h x y : α} (hh : 0 < h) (hcl : (y < x ∧ x ≤ tstar g0 h) ∨ (tstar g0 h ≤ x ∧ x < y)) :
    (quadLine f0 g0 h x).f < (quadLine f0 g0 h y).f := by
  rw [← sub_neg, quad_diff hh, two_mul]
  rcases hcl with ⟨a, b⟩ | ⟨a, b⟩
  · exact mul_neg_of_pos_of_neg (mul_pos (half_pos hh) (sub_pos.2 a)) (sub_neg.2 (add_lt_add_of_le_of_lt b (a.trans_le b)))
  · exact mul_neg_of_neg_of_pos (mul_neg_of_pos_of_neg (half_pos hh) (sub_neg.2 b))
      (sub_pos.2 (add_lt_add_of_le_of_lt a (a.trans_lt b)))

theorem onQuad_origin (f0 g0 h : α) : OnQuad f0 g0 h ⟨0, f0, g0⟩ := by
  constructor <;> simp

theorem onQuad_stepOf (f0 g0 h : α) (ctx : Ctx α) (t : α) (hc : ctx.cur = quadLine f0 g0 h t) :
    OnQuad f0 g0 h (stepOf ctx t) := by
  constructor <;> simp [stepOf, hc, quadLine]

theorem onQuad_slope {f0 g0 h : α} (hh : 0 < h) {t f g : α} (hu : OnQuad f0 g0 h ⟨t, f, g⟩) : g = h * (t - tstar g0 h) :=
  (show g = (quadLine f0 g0 h t).g from hu.2).trans (quad_slope hh t)

/-- success on the quadratic at a positive step (that the state is the evaluation there and that the advertised conditions hold then
    follows for every oracle: `get_spec`) -/
def QuadOK (r : Res α) : Prop := r.ok = true ∧ 0 < r.t

/-! ### the acceptance predicates on a quadratic -/

theorem le_iff_of_sub_eq_mul {a b c d p : α} (hp : 0 < p) (e : b - a = p * (d - c)) : a ≤ b ↔ c ≤ d := by
  rw [← sub_nonneg, e, mul_nonneg_iff_of_pos_left hp, sub_nonneg]

theorem armijo_quad_iff {f0 g0 h c1 t : α} (hh : 0 < h) (ht : 0 < t) :
    hasArmijo f0 g0 (quadLine f0 g0 h t).f t c1 = true ↔ t ≤ 2 * (1 - c1) * tstar g0 h := by
  have e := g0_eq (g0 := g0) hh
  generalize tstar g0 h = T at e ⊢
  subst e
  rw [armijo_iff]
  exact le_iff_of_sub_eq_mul (mul_pos (half_pos hh) ht) (by simp only [quadLine]; ring)

theorem wolfe_quad_iff {f0 g0 h c2 t : α} (hh : 0 < h) :
    hasWolfe g0 (quadLine f0 g0 h t).g c2 = true ↔ (1 - c2) * tstar g0 h ≤ t := by
  have e := g0_eq (g0 := g0) hh
  generalize tstar g0 h = T at e ⊢
  subst e
  rw [wolfe_iff]
  exact le_iff_of_sub_eq_mul hh (by simp only [quadLine]; ring)

theorem strongWolfe_quad_iff {f0 g0 h c2 t : α} (hg : g0 < 0) (hh : 0 < h) :
    hasStrongWolfe g0 (quadLine f0 g0 h t).g c2 = true ↔ |t - tstar g0 h| ≤ c2 * tstar g0 h := by
  rw [strongWolfe_iff, quad_slope hh, abs_mul, abs_of_pos hh, abs_of_neg hg, ← h_tstar hh]
  exact le_iff_of_sub_eq_mul hh (by ring)

theorem strongWolfe_at_tstar {f0 g0 h c2 : α} (hg : g0 < 0) (hh : 0 < h) (hc2 : 0 ≤ c2) :
    hasStrongWolfe g0 (quadLine f0 g0 h (tstar g0 h)).g c2 = true ∧ hasWolfe g0 (quadLine f0 g0 h (tstar g0 h)).g c2 = true := by
  have hp := mul_nonneg hc2 (tstar_pos hg hh).le
  constructor
  · rw [strongWolfe_quad_iff hg hh, sub_self, abs_zero]; exact hp
  · rw [wolfe_quad_iff hh]; linarith only [hp]

theorem one_sub_mul_le {c T : α} (hc : 0 ≤ c) (hT : 0 ≤ T) : (1 - c) * T ≤ T := mul_le_of_le_one_left hT (sub_le_self 1 hc)

theorem one_sub_mul_anti {c c' T : α} (hc : c ≤ c') (hT : 0 ≤ T) : (1 - c') * T ≤ (1 - c) * T :=
  mul_le_mul_of_nonneg_right (sub_le_sub_left hc 1) hT

theorem le_two_mul_one_sub_mul {c T : α} (hc : c ≤ 1 / 2) (hT : 0 ≤ T) : T ≤ 2 * (1 - c) * T :=
  le_mul_of_one_le_left hT (by linarith only [hc])

theorem tstar_le_armijo_iff {T c1 : α} (hT : 0 < T) : T ≤ 2 * (1 - c1) * T ↔ c1 ≤ 1 / 2 :=
  le_iff_of_sub_eq_mul (mul_pos two_pos hT) (by ring)

theorem tstar_le_armijo {g0 h c1 : α} (hg : g0 < 0) (hh : 0 < h) (hc1 : c1 ≤ 1 / 2) :
    tstar g0 h ≤ 2 * (1 - c1) * tstar g0 h :=
  le_two_mul_one_sub_mul hc1 (tstar_pos hg hh).le

theorem armijo_at_tstar_iff {f0 g0 h c1 : α} (hg : g0 < 0) (hh : 0 < h) :
    hasArmijo f0 g0 (quadLine f0 g0 h (tstar g0 h)).f (tstar g0 h) c1 = true ↔ c1 ≤ 1 / 2 :=
  (armijo_quad_iff hh (tstar_pos hg hh)).trans (tstar_le_armijo_iff (tstar_pos hg hh))

theorem quadLine_tstar_lt {f0 g0 h : α} (hg : g0 < 0) (hh : 0 < h) : (quadLine f0 g0 h (tstar g0 h)).f < f0 := by
  have hp := tstar_pos hg hh
  rw [← sub_neg, quad_change hh, two_mul, sub_add_cancel_left]
  exact mul_neg_of_pos_of_neg (mul_pos (half_pos hh) hp) (neg_neg_of_pos hp)

/-! ### the interpolation formulas hit the minimiser exactly -/

theorem onQuad_secant_slope {f0 g0 h : α} (u v : Step α) (hu : OnQuad f0 g0 h u) (hv : OnQuad f0 g0 h v) (hne : u.t ≠ v.t) :
    (u.f - v.f) / (u.t - v.t) = (u.g + v.g) / 2 := by
  rw [div_eq_iff (sub_ne_zero.2 hne), hu.1, hu.2, hv.1, hv.2]; ring

theorem quadratic_exact {f0 g0 h : α} (hh : 0 < h) (u v : Step α) (hu : OnQuad f0 g0 h u) (hv : OnQuad f0 g0 h v)
    (hne : u.t ≠ v.t) : quadratic u v = tstar g0 h := by
  have hd : u.t - v.t ≠ 0 := sub_ne_zero.mpr hne
  have e2 : u.g - (u.g + v.g) / 2 = h * (u.t - v.t) / 2 := by rw [hu.2, hv.2]; ring
  simp only [quadratic]
  rw [onQuad_secant_slope u v hu hv hne, e2, hu.2, tstar]
  field_simp
  ring

theorem secant_exact {f0 g0 h : α} (hh : 0 < h) (u v : Step α) (hu : OnQuad f0 g0 h u) (hv : OnQuad f0 g0 h v)
    (hne : u.t ≠ v.t) : secant u v = tstar g0 h := by
  have hd : u.t - v.t ≠ 0 := sub_ne_zero.mpr hne
  have e2 : g0 + h * u.t - (g0 + h * v.t) = h * (u.t - v.t) := by ring
  rw [secant, hu.2, hv.2, e2, tstar]
  field_simp
  ring

theorem cubic_exact [Sqrt α] (hs : ∀ x : α, 0 ≤ x → 0 ≤ Sqrt.sqrt x ∧ Sqrt.sqrt x * Sqrt.sqrt x = x)
    {f0 g0 h : α} (hh : 0 < h) (u v : Step α) (hu : OnQuad f0 g0 h u) (hv : OnQuad f0 g0 h v) (hne : u.t ≠ v.t) :
    cubic u v = tstar g0 h := by
  have hd' : v.t - u.t ≠ 0 := sub_ne_zero.mpr (Ne.symm hne)
  -- d1 = -(u.g + v.g)/2, and the radicand d1² - u.g v.g is the square of w = (v.g - u.g)/2 = h (v.t - u.t)/2
  have e1 : u.g + v.g - 3 * (u.f - v.f) / (u.t - v.t) = -((u.g + v.g) / 2) := by
    rw [mul_div_assoc, onQuad_secant_slope u v hu hv hne]; ring
  have e2 : -((u.g + v.g) / 2) * -((u.g + v.g) / 2) - u.g * v.g = (v.g - u.g) / 2 * ((v.g - u.g) / 2) := by ring
  have hw : (v.g - u.g) / 2 = h / 2 * (v.t - u.t) := by rw [hu.2, hv.2]; ring
  obtain ⟨s1, s2⟩ := hs _ (mul_self_nonneg ((v.g - u.g) / 2))
  -- the signed root is `w`
  have hroot : (if v.t > u.t then (1 : α) else -1) * Sqrt.sqrt ((v.g - u.g) / 2 * ((v.g - u.g) / 2)) = (v.g - u.g) / 2 := by
    rw [(mul_self_inj_of_nonneg s1 (abs_nonneg _)).1 (s2.trans (abs_mul_abs_self _).symm), hw]
    split
    · rename_i hlt
      rw [abs_of_pos (mul_pos (half_pos hh) (sub_pos.2 hlt)), one_mul]
    · rename_i hge
      rw [abs_of_neg (mul_neg_of_pos_of_neg (half_pos hh) (sub_neg.2 (lt_of_le_of_ne (not_lt.1 hge) hne.symm))), neg_one_mul, neg_neg]
  simp only [cubic]
  rw [e1, e2, hroot]
  -- numerator `2 v.g`, denominator `2 (v.g - u.g) = 2 h (v.t - u.t)`
  have hnum : v.g + (v.g - u.g) / 2 - -((u.g + v.g) / 2) = 2 * v.g := by ring
  have hden : v.g - u.g + 2 * ((v.g - u.g) / 2) = 2 * (h * (v.t - u.t)) := by rw [hu.2, hv.2]; ring
  have hh' := hh.ne'
  rw [hnum, hden, hv.2, tstar]
  field_simp
  ring

/-- the interpolation of the configuration returns the minimiser on quadratic data (the real `lsearch_step_t::interpolate` does:
    `interpolate_exact`, Proofs/LSearchQuadOver.lean) -/
def InterpExact (cfg : Cfg α) (f0 g0 h : α) : Prop :=
  ∀ u v : Step α, OnQuad f0 g0 h u → OnQuad f0 g0 h v → u.t ≠ v.t → cfg.interp u v = tstar g0 h

end NanoVerif.LSearch
