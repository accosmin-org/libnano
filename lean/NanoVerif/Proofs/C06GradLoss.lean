import NanoVerif.Proofs.C06Line
import NanoVerif.Proofs.C06Comp
/-!
  C06 — the gradient is the derivative of the value along every line: what the theorems of `Props/C06.lean` on the
  losses (class negative log-likelihood: `posSum`, `expSum` and the soft-max gradient along a line), on the constraint
  kinds (`vsub` along a line) and on the elastic-net prototypes need.
-/

namespace NanoVerif.C06
open NanoVerif.Loss NanoVerif.Fn

/-- the seven smooth element-wise kinds -/
def smoothKind (k : Kind) : Bool :=
  match k with
  | .mse | .cauchy | .sqhinge | .savage | .tangent | .logistic | .exponential => true
  | _ => false

/-! ### class negative log-likelihood (no `ε` inside the logarithm) -/

theorem posSum_line (t o d : List ℝ) (s : ℝ) (ho : o.length = t.length) (hd : d.length = t.length) :
    posSum t (line o d s) = posSum t o + s * posSum t d := by
  induction t, o, d, ho, hd using length_eq_induction₃ with
  | nil => simp only [posSum, mul_zero, add_zero]
  | cons t ts o os d ds ho hd ih =>
    rw [line_cons]; simp only [posSum]; rw [ih]
    split <;> ring

theorem expSum_eq_sumL_map (c : ℝ) : ∀ o : List ℝ, expSum c o = sumL (o.map fun y => Real.exp (y - c))
  | [] => rfl
  | _ :: o => congrArg _ (expSum_eq_sumL_map c o)

theorem classnllG_dot_dir (c s : ℝ) (t o d : List ℝ) (ho : o.length = t.length) (hd : d.length = t.length) :
    dot (map2 (fun ti oi => if 0 < ti then Transc.exp (oi - c) / s - 1 else Transc.exp (oi - c) / s) t o) d
      = dot (o.map (fun y => Real.exp (y - c))) d / s - posSum t d := by
  induction t, o, d, ho, hd using length_eq_induction₃ with
  | nil => simp only [map2, List.map, dot, posSum, zero_div, sub_zero]
  | cons t ts o os d ds ho hd ih =>
    simp only [map2, dot, posSum, List.map, texp_eq] at ih ⊢
    rw [ih]
    split <;> ring

theorem classnllShift_indep (c c0 : ℝ) (t o : List ℝ) (hne : o ≠ []) :
    classnllShift 0 c t o = classnllShift 0 c0 t o := by
  simp only [classnllShift, tlog_eq, zero_add, sub_add_eq_add_sub, fun c => log_expSum_shift c o hne]

theorem vsub_line (x d o : List ℝ) (t : ℝ) (hd : d.length = x.length) (ho : o.length = x.length) :
    vsub (line x d t) o = line (vsub x o) d t := by
  induction x, d, o, hd, ho using length_eq_induction₃ with
  | nil => rfl
  | cons x xs d ds o os hd ho ih => rw [line_cons]; simp only [vsub]; rw [line_cons, ih, add_sub_right_comm]

/-! ### the elastic-net prototypes: `loss(inputs·x + b, targets)/N + α₁‖x‖₁ + ½‖√α₂ x‖²` -/

theorem enetOutputs_line (A : List (List ℝ)) (b : ℝ) (x d : List ℝ) (s : ℝ) (h : d.length = x.length) :
    enetOutputs A b (line x d s) = line (enetOutputs A b x) (mulVec A d) s := by
  induction A with
  | nil => rfl
  | cons r A ih =>
    simp only [enetOutputs, mulVec, List.map] at ih ⊢
    rw [line_cons, ih, dot_line_right r x d s h, add_right_comm]

end NanoVerif.C06
