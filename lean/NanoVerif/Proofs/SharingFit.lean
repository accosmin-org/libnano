import NanoVerif.Props.C10
import NanoVerif.Proofs.IteratorSelect
/-!
  C18 — schedule / thread-count independence of the weak-learner fits on the models of C10 (`Model/WLearnerTree.lean`) and C09
  (`Model/IteratorSelect.lean`).

  * `dtreeLoopS`: the BFS loop of `dtree_wlearner_t::do_fit` where the stump fit of EVERY processed node runs under its own
    assignment of the features to the pool's workers (the assignment may change from node to node and from call to call);
  * `stumpFitAssigned_eq`: the node fit under any index-sorted assignment = the node fit of one thread (C10
    `fit_assignment_independent` instantiated with the stump candidates);
  * `dtree_fit_schedule_independent`: hence the whole tree fit;
  * `select_loop_thread_count_independent`: the per-feature loop of `select_iterator_t` visits the same features whatever the pool
    size; `seeded_loop_drops_features`: the seeded variant ("one contiguous range per worker", C18-e3) does not.
-/

namespace NanoVerif.Sharing
open NanoVerif.WLearner

section tree
variable {α : Type} [LT α] [DecidableLT α] [Add α] [OfNat α 0]

/-- `dtreeLoop` (C10) with the node fit indexed by the step: `fitAt fuel samples` is what the stump fit of the node processed
    when `fuel` steps remain returns — its own pool call, its own schedule -/
def dtreeLoopS (cfg : TreeCfg α) (fitAt : Nat → List Nat → Option (Cand α)) : Nat → List TCache → TState α → TResult α
  | _, [], st => .ok st
  | 0, _ :: _, _ => .fuel
  | fuel + 1, c :: rest, st =>
    match fitAt fuel c.samples with
    | none => .nofit st
    | some cand =>
      let r := dtreeStep cfg st c cand
      dtreeLoopS cfg fitAt fuel (rest ++ r.2) r.1

theorem dtreeLoopS_eq (cfg : TreeCfg α) (fitAt : Nat → List Nat → Option (Cand α))
    (h : ∀ n sel, fitAt n sel = cfg.fit sel) : ∀ (fuel : Nat) (q : List TCache) (st : TState α),
    dtreeLoopS cfg fitAt fuel q st = dtreeLoop cfg fuel q st := by
  intro fuel
  induction fuel with
  | zero =>
    intro q st
    cases q <;> rfl
  | succ n ih =>
    intro q st
    cases q with
    | nil => rfl
    | cons c rest =>
      simp only [dtreeLoopS, dtreeLoop, h]
      cases cfg.fit c.samples with
      | none => rfl
      | some cand => exact ih _ _

end tree

section stump
variable {α : Type} [Field α] [LinearOrder α] [IsStrictOrderedRing α] [Log α] [FinTest α]

/-- `stump_wlearner_t::fit` on the samples of a node under an assignment of the features to the workers of the dataset's pool:
    `workers` = per worker, the features it processed, in its order; per-worker caches, then `min_reduce_feature` -/
def stumpFitAssigned (sort : List (Item α) → List (Item α)) (T : Nat) (K big : α) (crit : Crit)
    (workers : List (List Nat)) (val : Nat → Nat → FVal α) (resid : Nat → Vec α) (sel : List Nat) : Option (Cand α) :=
  let c := fitAssigned big (workers.map fun w => w.flatMap fun f => stumpCands sort T K crit f (rowsOf val resid sel f))
  if c.fitted big then some c else none

omit [IsStrictOrderedRing α] [FinTest α] in
theorem stumpCands_feature (sort : List (Item α) → List (Item α)) (T : Nat) (K : α) (crit : Crit) (f : Nat)
    (rows : List (Row α)) (c : Cand α) (hc : c ∈ stumpCands sort T K crit f rows) : c.feature = f := by
  unfold stumpCands at hc
  obtain ⟨sc, _, rfl⟩ := List.mem_map.mp hc
  rfl

/-- **the stump fit of a node is assignment independent**: `feats` = the scalar features in increasing index order; every
    feature goes to exactly one worker (`hperm`, C17) and every worker sees ITS features in increasing order (what `pool_t::map`
    produces) — any number of workers, exact score ties allowed. -/
theorem stumpFitAssigned_eq (sort : List (Item α) → List (Item α)) (T : Nat) (K big : α) (crit : Crit) (feats : List Nat)
    (hinc : feats.Pairwise (· < ·)) (workers : List (List Nat)) (hperm : workers.flatten.Perm feats)
    (hsorted : ∀ w ∈ workers, w.Pairwise (· < ·)) (val : Nat → Nat → FVal α) (resid : Nat → Vec α) (sel : List Nat) :
    stumpFitAssigned sort T K big crit workers val resid sel = stumpFitOn sort T K big crit feats val resid sel := by
  let F : Nat → FeatC α := fun f => (f, stumpCands sort T K crit f (rowsOf val resid sel f))
  have hfst : ∀ l : List Nat, (l.map F).map Prod.fst = l := fun l => by
    rw [List.map_map]
    exact List.map_id l
  have hstream : ∀ l : List Nat, streamC (l.map F) = l.flatMap fun f => stumpCands sort T K crit f (rowsOf val resid sel f) :=
    fun l => List.flatMap_map _ _ l
  have hmain := (fit_assignment_independent big (feats.map F) (workers.map (·.map F))
    (by
      intro p hp c hc
      obtain ⟨f, _, rfl⟩ := List.mem_map.mp hp
      exact stumpCands_feature sort T K crit f _ c hc)
    (by rw [hfst]; exact hinc)
    (by rw [← List.map_flatten]; exact hperm.map F)
    (by
      intro w hw
      obtain ⟨w0, hw0, rfl⟩ := List.mem_map.mp hw
      rw [hfst]
      exact hsorted w0 hw0)).1
  unfold stumpFitAssigned stumpFitOn
  rw [← hstream feats, ← hmain, List.map_map]
  simp only [Function.comp_def, hstream]

/-- C18 `dtree_fit_assignment_independent` (full text there); the tree is `dtreeFit` of C10, about which `dtree_fit_wellformed`,
    `dtree_leaves_partition`, `dtree_leaf_table_is_mean` speak -/
theorem dtree_fit_schedule_independent (sort : List (Item α) → List (Item α)) (T : Nat) (K big : α) (crit : Crit)
    (feats : List Nat) (hinc : feats.Pairwise (· < ·)) (val : Nat → Nat → FVal α) (resid : Nat → Vec α)
    (N maxDepth minSplit : Nat) (sched : Nat → List Nat → List (List Nat))
    (hs : ∀ n sel, (sched n sel).flatten.Perm feats ∧ ∀ w ∈ sched n sel, w.Pairwise (· < ·)) (samples : List Nat) :
    dtreeLoopS (stumpTreeCfg sort T K big crit feats val resid N maxDepth minSplit)
        (fun n sel => stumpFitAssigned sort T K big crit (sched n sel) val resid sel)
        (2 ^ maxDepth) [⟨samples, 0, 0⟩] TState.init =
      dtreeFit (stumpTreeCfg sort T K big crit feats val resid N maxDepth minSplit) samples := by
  unfold dtreeFit
  exact dtreeLoopS_eq _ _
    (fun n sel => stumpFitAssigned_eq sort T K big crit feats hinc (sched n sel) (hs n sel).1 (hs n sel).2 val resid sel) _ _ _

end stump

/-! ### the per-feature loop of `select_iterator_t` -/

section select
open NanoVerif.Iterator NanoVerif.Objective

/-- C18 `feature_selection_thread_count_independent` (full text there): both loops are `loopList_visits` of one feature list -/
theorem select_loop_thread_count_independent (kinds : List FKind) (k : FKind) (w1 w2 : Nat) (asg1 asg2 : List Nat)
    (h1 : ValidAsg w1 (makeFeatures kinds k).length (featuresPerThread (makeFeatures kinds k).length w1) asg1)
    (h2 : ValidAsg w2 (makeFeatures kinds k).length (featuresPerThread (makeFeatures kinds k).length w2) asg2) :
    ∃ c1 c2, loopKind kinds k w1 asg1 = some c1 ∧ loopKind kinds k w2 asg2 = some c2 ∧
      c1.map Call.ifeature = c2.map Call.ifeature ∧ c1.map Call.ifeature = makeFeatures kinds k ∧
      (∀ c ∈ c1, c.tnum < w1) ∧ (∀ c ∈ c2, c.tnum < w2) := by
  obtain ⟨c1, a1, a2, a3⟩ := loopList_visits (makeFeatures kinds k) w1 asg1 h1
  obtain ⟨c2, b1, b2, b3⟩ := loopList_visits (makeFeatures kinds k) w2 asg2 h2
  exact ⟨c1, c2, a1, b1, by rw [a2, b2], a2, a3, b3⟩

/-- the seeded variant C18-e3 (`loop_features`: `tasks = min(concurrency, n)` tasks, task `i` handles the positions
    `[i * chunk, min((i + 1) * chunk, n))` with `chunk = features_per_thread(n, concurrency)`): the positions it visits -/
def seededVisits (n concurrency : Nat) : List Nat :=
  let chunk := featuresPerThread n concurrency
  (List.range (min concurrency n)).flatMap fun task =>
    (List.range n).filter fun i => decide (task * chunk ≤ i) && decide (i < min (task * chunk + chunk) n)

/-- C18 `seeded_feature_loop_drops_features` (full text there); complete for some (features, threads) pairs, which is why a fixed
    test configuration does not see it -/
theorem seeded_loop_drops_features :
    seededVisits 9 8 = [0, 1, 2, 3, 4, 5, 6, 7] ∧ seededVisits 17 16 = List.range 16 ∧ seededVisits 9 2 = List.range 9 ∧
    seededVisits 8 8 = List.range 8 ∧
    (loopList (List.range 9) 8 [0, 1, 2, 3, 4, 5, 6, 7, 0]).map (·.map Call.ifeature) = some (List.range 9) := by
  decide +kernel

end select
end NanoVerif.Sharing
