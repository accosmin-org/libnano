import NanoVerif.Model.TunerSurrogate
import NanoVerif.Gen.TunerSpace
/-!
  C13 — the hand-written model text IS the text regenerated from the C++ source (`Gen/TunerSpace.lean`, translator
  tools/props/c13_translate.py): one `model_…_is_generated` theorem per translated function, for every scalar type. An edit of
  the C++ formula / guard / loop nest changes the generated definition and breaks the corresponding theorem.
-/
namespace NanoVerif.Tuner
open NanoVerif.Gen

/-- the model's `SpaceKind` as the generated `enum class type` -/
def SpaceKind.toGen : SpaceKind → TunerSpace.SpaceType
  | .log10 => .log10
  | .linear => .linear

/-! ### src/tuner/util.cpp `local_search`, the loop headers of tuner.cpp / local.cpp / surrogate.cpp -/

/-- `make_min_igrid`, `make_max_igrid`, `make_avg_igrid`: the generated coordinate per space -/
theorem model_minOf_is_generated (sizes : List Nat) : minOf sizes = sizes.map fun _ => TunerSpace.minIgridCoord := rfl

theorem model_maxOf_is_generated (sizes : List Nat) :
    maxOf sizes = sizes.map fun n => TunerSpace.maxIgridCoord (Int.ofNat n) := rfl

theorem model_avgOf_is_generated (sizes : List Nat) :
    avgOf sizes = sizes.map fun n => TunerSpace.avgIgridCoord (Int.ofNat n) := rfl

/-- the counts handed to `combinatorial_iterator_t` are the generated `trialsPerSpace` per space -/
theorem model_combos_is_generated (d : Nat) :
    combos3 (d + 1) =
      ((List.range TunerSpace.trialsPerSpace).map Int.ofNat).flatMap fun c => (combos3 d).map fun rest => c :: rest := rfl

theorem model_addScaled_is_generated (src : IGrid) (r : Int) (c : List Int) :
    addScaled src r c = List.zipWith (fun c s => TunerSpace.localSearchCoord c r s) c src := rfl

/-- the per-coordinate test of `inGrid` is the negation of the generated `continue` test -/
theorem model_inGrid_is_generated (a b x : Int) (mn mx g : IGrid) :
    inGrid (a :: mn) (b :: mx) (x :: g) = (!(TunerSpace.localSearchOutside x a b) && inGrid mn mx g) := by
  simp only [inGrid, TunerSpace.localSearchOutside, Bool.not_or, ← decide_not, Int.not_lt, Int.sub_nonneg]

section
variable {α : Type}

/-- `evaluate`: the filter of the points already evaluated and the rejection test are the generated ones -/
theorem model_evaluate_is_generated (fin : α → Bool) (f : IGrid → α) (sortFn : List (Step α) → List (Step α))
    (igrids : List IGrid) (steps : List (Step α)) :
    evaluate fin f sortFn igrids steps =
      (let fresh := TunerSpace.evaluateFresh (steps.map (·.igrid)) igrids
       if fresh.isEmpty then .unchanged
       else if fresh.all (fun g => !(TunerSpace.evaluateRejects fin (f g))) then
         .ok (sortFn (steps ++ fresh.map fun g => ⟨g, f g⟩)) fresh
       else .bad fresh) := by
  have h1 : (fun g : IGrid => !(steps.any fun s => s.igrid == g)) =
      fun g => !(TunerSpace.evaluateKnown (steps.map (·.igrid)) g) := by
    funext g
    simp [TunerSpace.evaluateKnown, TunerSpace.evaluateSame, List.any_map, Function.comp_def]
  have h2 : (fun g : IGrid => fin (f g)) = fun g => !(TunerSpace.evaluateRejects fin (f g)) := by
    funext g
    cases h : fin (f g) <;> simp [TunerSpace.evaluateRejects, h]
  unfold evaluate TunerSpace.evaluateFresh
  rw [h1, h2]

/-- the first radius of the coarse initialisation loop is the generated one -/
theorem model_optimize_is_generated (c : Cfg α) (avg : IGrid) (fuel : Nat) :
    optimize c avg fuel =
      match evaluate c.fin c.f c.sortFn [avg] [] with
      | .unchanged => .ok [] []
      | .bad b => .bad [b]
      | .ok steps b => run c fuel ⟨steps, .coarse TunerSpace.coarseRadius0⟩ [b] := rfl

/-- `tuner_t::optimize` refuses exactly under the generated condition of its `critical` -/
theorem model_tunerOptimize_is_generated (kind : Kind) (sizes : List Nat) (maxEvals : Nat) (fin : α → Bool) (f : IGrid → α)
    (sortFn : List (Step α) → List (Step α)) (oracle : List (Step α) → Option IGrid) :
    tunerOptimize kind sizes maxEvals fin f sortFn oracle =
      if TunerSpace.optimizeRefuses sizes.length then .noSpaces
      else
        (let c : Cfg α := ⟨kind, minOf sizes, maxOf sizes, maxEvals, fin, f, sortFn, oracle⟩
         optimize c (avgOf sizes) (gridCard c.mn c.mx + 2)) := by
  cases sizes <;> simp [tunerOptimize, TunerSpace.optimizeRefuses]

/-- one iteration of the coarse loop (tuner.cpp): generated loop condition, generated radius update -/
theorem model_step_coarse_is_generated (c : Cfg α) (steps : List (Step α)) (r : Int) :
    step c ⟨steps, .coarse r⟩ =
      if TunerSpace.coarseContinue steps.length c.maxEvals then
        match steps with
        | [] => .next ⟨steps, .main⟩ []
        | s :: _ =>
          match evaluate c.fin c.f c.sortFn (localSearch c.mn c.mx s.igrid r) steps with
          | .unchanged => .next ⟨steps, .main⟩ []
          | .ok steps' batch => .next ⟨steps', .coarse (TunerSpace.coarseNextRadius r)⟩ batch
          | .bad batch => .bad batch
      else .next ⟨steps, .main⟩ [] := by
  cases steps with
  | nil => simp [step, TunerSpace.coarseContinue]
  | cons s rest =>
    simp only [step, List.length_cons, TunerSpace.coarseNextRadius]
    by_cases h : rest.length + 1 < c.maxEvals / 2
    · simp only [h, TunerSpace.coarseContinue, if_true, Nat.add_one_ne_zero, not_false_eq_true, and_self]
      rfl
    · simp [h, TunerSpace.coarseContinue]

/-- one iteration of the loop of `do_optimize` (local.cpp; surrogate.cpp has the same header: `surrogate_header_is_local`): generated loop
    condition and radius -/
theorem model_step_main_is_generated (c : Cfg α) (steps : List (Step α)) :
    step c ⟨steps, .main⟩ =
      if TunerSpace.localContinue steps.length c.maxEvals then
        match steps with
        | [] => .next ⟨steps, .done⟩ []
        | s :: _ =>
          match (match c.kind with
                 | .localSearch => some s.igrid
                 | .surrogate => c.oracle steps) with
          | none => .fail
          | some centre =>
            match evaluate c.fin c.f c.sortFn (localSearch c.mn c.mx centre TunerSpace.localRadius) steps with
            | .unchanged => .next ⟨steps, .done⟩ []
            | .ok steps' batch => .next ⟨steps', .main⟩ batch
            | .bad batch => .bad batch
      else .next ⟨steps, .done⟩ [] := by
  cases steps with
  | nil => simp [step, TunerSpace.localContinue]
  | cons s rest =>
    simp only [step, List.length_cons, TunerSpace.localRadius]
    by_cases h : rest.length + 1 < c.maxEvals
    · simp only [h, TunerSpace.localContinue, if_true, Nat.add_one_ne_zero, not_false_eq_true, and_self]
      rfl
    · simp [h, TunerSpace.localContinue]

theorem surrogate_header_is_local :
    TunerSpace.surrogateContinue = TunerSpace.localContinue ∧ TunerSpace.surrogateRadius = TunerSpace.localRadius := ⟨rfl, rfl⟩

end

/-! ### src/machine/result.cpp (arg-min scans), src/machine/tune.cpp (`thread_callback`) -/

section
variable {α : Type} [LT α] [DecidableLT α]

/-- the model's arg-min scan over the keys `key b` is a generated loop over the `b`s whose state holds the best index and value
    in some arrangement `enc` and whose body keeps a key that improves strictly -/
theorem argminScan_go {β σ : Type} (key : β → α) (enc : Nat → α → σ) (step : Nat → β → σ → σ)
    (hstep : ∀ i b best bv, step i b (enc best bv) = if key b < bv then enc i (key b) else enc best bv) :
    ∀ (l : List β) (best : Nat) (bv : α) (i : Nat),
      (fun r : Nat × α × Nat => enc r.1 r.2.1) ((l.map key).foldl (fun (acc : Nat × α × Nat) d =>
          let (best, bestVal, i) := acc
          if d < bestVal then (i, d, i + 1) else (best, bestVal, i + 1)) (best, bv, i)) =
        TunerSpace.forIdx.go step l i (enc best bv)
  | [], _, _, _ => rfl
  | b :: rest, best, bv, i => by
    simp only [List.map_cons, List.foldl_cons, TunerSpace.forIdx.go, hstep]
    split <;> exact argminScan_go key enc step hstep rest _ _ _

/-- `result_t::optimum_trial`: the model's scan is the generated loop -/
theorem model_optimumTrial_is_generated (top : α) (values : List α) :
    Tune.optimumTrial top values = TunerSpace.optimumTrial top values :=
  congrArg Prod.fst (List.map_id values ▸ argminScan_go id Prod.mk TunerSpace.optimumTrialStep (fun _ _ _ _ => rfl) values 0 top 0)

/-- `result_t::closest_trial`: the generated loop over the distances of the first `max_trials` rows -/
theorem model_closestTrial_is_generated {π : Type} (top : α) (dist : π → π → α) (rows : List π) (params : π)
    (maxTrials : Nat) :
    Tune.closestTrial top dist rows params maxTrials =
      TunerSpace.closestTrial top ((rows.map fun row => dist row params).take maxTrials) := by
  rw [← List.map_take]
  exact congrArg Prod.fst (List.map_id _ ▸ argminScan_go id Prod.mk TunerSpace.closestTrialStep (fun _ _ _ _ => rfl)
    ((rows.take maxTrials).map fun row => dist row params) 0 top 0)

end

/-- `result_t::value(trial)`: generated accumulator, per-fold update and final division -/
theorem model_trialValue_is_generated {σ α : Type} [Add α] [Div α] [OfNat α 0] [NatCast α] (mean : σ → α)
    (r : Tune.Result σ) (trial : Nat) :
    Tune.Result.value mean r trial =
      ((List.range r.folds).mapM fun fold => r.get? trial fold).map fun ps =>
        TunerSpace.trialValueFinish
          (ps.foldl (fun acc p => TunerSpace.trialValueStep acc (mean p)) TunerSpace.trialValueInit) r.folds := rfl

/-- `thread_callback` of `ml::tune`: generated decoding of the task index, generated slot -/
theorem model_threadCallback_is_generated {σ : Type} (cb : Nat → Nat → Option σ → σ) (closest : Nat → Nat)
    (pre : Tune.Result σ) (old : Nat) (r : Tune.Result σ) (index : Nat) :
    Tune.threadCallback cb closest pre old r index =
      (let trial := TunerSpace.tuneTrial pre.folds index
       let fold := TunerSpace.tuneFold pre.folds index
       r.store (TunerSpace.tuneStoreTrial old trial fold) (TunerSpace.tuneStoreFold old trial fold)
         (cb trial fold (pre.get? (closest trial) fold))) := rfl

/-- … the closest trial is searched among the `old` earlier trials; the pool gets `folds * k` tasks (what `tune_calls_once`,
    `tune_reads_only_earlier` assume) -/
theorem model_tune_counts_is_generated (old trial fold folds k : Nat) :
    TunerSpace.tuneClosestMax old trial fold = old ∧ TunerSpace.tuneTasks folds k = folds * k ∧
      Tune.decode folds k = (TunerSpace.tuneTrial folds k, TunerSpace.tuneFold folds k) := ⟨rfl, rfl, rfl⟩

/-! ### src/tuner/space.cpp -/

/-- a `critical` on a disjunction is a chain of `critical`s -/
theorem ite_or_none {β : Type} (p q : Prop) [Decidable p] [Decidable q] (x : Option β) :
    (if p ∨ q then none else x) = if p then none else if q then none else x := by
  by_cases hp : p <;> simp only [hp, true_or, false_or, if_true, if_false]

section
variable {α : Type} [Add α] [Sub α] [Mul α] [Div α] [Neg α] [LT α] [DecidableLT α] [BEq α]
  [OfNat α 0] [OfNat α 1] [OfNat α 2] [Log10 α]

set_option linter.unusedSectionVars false
/-- the constructor refuses exactly when one of the generated `critical` conditions holds -/
theorem model_make_is_generated (eps : α) (kind : SpaceKind) (grid : List α) :
    Space.make? eps kind grid =
      match minElem grid, maxElem grid with
      | some mn, some mx =>
        if TunerSpace.ctorThrows isSortedL hasAdjEq eps kind.toGen grid mn then none else some ⟨kind, grid, mn, mx⟩
      | _, _ => none := by
  unfold Space.make?
  cases minElem grid <;> cases maxElem grid <;> try rfl
  cases kind <;>
    simp only [TunerSpace.ctorThrows, SpaceKind.toGen, ite_or_none, Bool.not_eq_true', Bool.and_eq_true, beq_iff_eq,
      decide_eq_true_eq, reduceCtorEq, true_and, false_and, if_false, Bool.not_eq_true]

theorem model_toSurrogate_is_generated (s : Space α) (v : α) :
    s.toSurrogate v = TunerSpace.toSurrogate Log10.log10 s.kind.toGen s.mn s.mx v := by
  obtain ⟨kind, grid, mn, mx⟩ := s
  cases kind <;> rfl

theorem model_fromSurrogate_is_generated (s : Space α) (v : α) :
    s.fromSurrogate v = TunerSpace.fromSurrogate Log10.pow10 s.kind.toGen s.mn s.mx v := by
  obtain ⟨kind, grid, mn, mx⟩ := s
  cases kind <;> rfl

/-- the arg-min scan of the model is the generated loop (initial values, body, returned variable) -/
theorem model_closestScan_is_generated (top : α) (sg : List α) (v : α) :
    closestScan top sg v =
      (TunerSpace.forIdx sg (TunerSpace.closestGridPointStep v) (TunerSpace.closestGridPointInit top)).2 :=
  congrArg Prod.snd (argminScan_go (fun g => fabs (v - g)) (fun b x => (x, b)) (TunerSpace.closestGridPointStep v)
    (fun _ _ _ _ => rfl) sg 0 top 0)

theorem model_closestGridPoint_is_generated (top : α) (s : Space α) (v : α) :
    s.closestGridPoint top v =
      TunerSpace.closestGridPoint Log10.log10 top s.kind.toGen s.mn s.mx s.grid v := by
  have h1 : s.toSurrogate = TunerSpace.toSurrogate Log10.log10 s.kind.toGen s.mn s.mx :=
    funext (model_toSurrogate_is_generated s)
  have h2 : (fun sg => closestScan top sg v) = fun sg =>
      (TunerSpace.forIdx sg (TunerSpace.closestGridPointStep v) (TunerSpace.closestGridPointInit top)).2 :=
    funext fun sg => model_closestScan_is_generated top sg v
  unfold Space.closestGridPoint Space.sgrid TunerSpace.closestGridPoint
  rw [h1, h2]

theorem model_closestGridValue_is_generated (top : α) (s : Space α) (v : α) :
    s.closestGridValue top v =
      TunerSpace.closestGridValue Log10.log10 top s.kind.toGen s.mn s.mx s.grid v := by
  unfold Space.closestGridValue TunerSpace.closestGridValue
  rw [model_closestGridPoint_is_generated]

/-! ### src/tuner/surrogate.cpp: number of coefficients, index walks -/

theorem model_quadLen_is_generated (n : Nat) : quadLen n = TunerSpace.quadLen n := rfl

theorem model_quadDim_is_generated (size : Nat) : quadDim size = TunerSpace.quadDim size := rfl

/-- the two `assert`s of the constructor of `quadratic_surrogate_t` -/
theorem model_quadSize_is_generated (m : List α) :
    quadSize? m =
      if TunerSpace.QuadSizeOk (TunerSpace.quadDim m.length) m.length then some (TunerSpace.quadDim m.length) else none := rfl

/-- the loop nest of the feature map visits the index pairs in the model's order -/
theorem model_featPairIdx_is_generated (n : Nat) : pairIdx n = TunerSpace.featPairIdx n := by
  simp [pairIdx, TunerSpace.featPairIdx, List.range_eq_range']

/-- … the loop nest of the gradient of the fitted quadratic -/
theorem model_gradPairIdx_is_generated (n : Nat) : pairIdx n = TunerSpace.gradPairIdx n := by
  simp [pairIdx, TunerSpace.gradPairIdx, List.range_eq_range']

/-- … the loop nest of its value -/
theorem model_valuePairIdx_is_generated (n : Nat) : pairIdx n = TunerSpace.valuePairIdx n := by
  simp [pairIdx, TunerSpace.valuePairIdx, List.range_eq_range']

/-- one row of `m_p2`: generated constant, the coordinates, the generated product per generated index pair -/
theorem model_quadTerms_is_generated (p : List α) :
    quadTerms p =
      TunerSpace.featConst :: (p ++ (TunerSpace.featPairIdx p.length).map fun ij => TunerSpace.featTerm p ij.1 ij.2) := by
  rw [← model_featPairIdx_is_generated]
  rfl

theorem foldl_zipWith_zip {β γ δ ε : Type} (f : β → γ → δ) (g : ε → δ → ε) :
    ∀ (l : List β) (x : List γ) (init : ε),
      (List.zipWith f l x).foldl g init = (List.zip l x).foldl (fun a cx => g a (f cx.1 cx.2)) init := by
  intro l
  induction l with
  | nil => intro x init; rfl
  | cons a rest ih =>
    intro x init
    cases x with
    | nil => rfl
    | cons b xs => simp only [List.zipWith_cons_cons, List.zip_cons_cons, List.foldl_cons]; exact ih xs _

/-- the value of the fitted quadratic: generated constant index, generated first coefficient of the walk, generated first- and second-order
    updates over the generated index pairs; coefficient `k` of the walk goes with the `k`-th pair -/
theorem model_quadValue_is_generated (m x : List α) :
    quadValue m x =
      (List.zipWith (fun q ij => (q, ij.1, ij.2)) (m.drop (TunerSpace.valueK0 + x.length)) (TunerSpace.valuePairIdx x.length)).foldl
        (fun fx (t : α × Nat × Nat) => TunerSpace.valueTerm x fx t.1 t.2.1 t.2.2)
        ((List.zip ((m.drop TunerSpace.valueK0).take x.length) x).foldl (fun fx cx => TunerSpace.valueLin fx cx.1 cx.2)
          (m.getD TunerSpace.valueInitIdx 0)) := by
  have h := foldl_zipWith_zip (fun (c xi : α) => c * xi) (fun (fx t : α) => fx + t) ((m.drop 1).take x.length) x (m.getD 0 0)
  rw [← model_valuePairIdx_is_generated]
  show quadValueGo x (qterms (m.drop (1 + x.length)) x.length)
      ((List.zipWith (fun c xi => c * xi) ((m.drop 1).take x.length) x).foldl (fun fx t => fx + t) (m.getD 0 0)) = _
  rw [h]
  rfl

/-- the gradient of the fitted quadratic, likewise (`gx.zero()` then `gx(i) += m(k++)`, then the two updates per generated index pair) -/
theorem model_quadGrad_is_generated (m x : List α) :
    quadGrad m x =
      (List.zipWith (fun q ij => (q, ij.1, ij.2)) (m.drop (TunerSpace.gradK0 + x.length)) (TunerSpace.gradPairIdx x.length)).foldl
        (fun g (t : α × Nat × Nat) => TunerSpace.gradTerm addAt x g t.1 t.2.1 t.2.2)
        (List.zipWith (fun (_ : α) c => TunerSpace.gradLin 0 c) x ((m.drop TunerSpace.gradK0).take x.length)) := by
  rw [← model_gradPairIdx_is_generated]
  rfl

end

end NanoVerif.Tuner
