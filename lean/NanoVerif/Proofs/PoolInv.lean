import NanoVerif.Proofs.PoolStep
/-!
  C17 — the bookkeeping invariant `Inv` of the pool protocol model and its preservation by all fourteen events.
  Core Lean only.
-/
namespace NanoVerif.Pool

/-- bookkeeping of tasks: the queue holds exactly the queued tasks, once each; a task is `running w` exactly when worker
    `w` is running it; a task has been started once if it is running or done, never otherwise -/
structure Inv (s : St) : Prop where
  q_nodup : s.queue.Nodup
  q_iff : ∀ t, t ∈ s.queue ↔ s.ts t = .queued
  run_iff : ∀ t w, s.ts t = .running w ↔ (w < s.nw ∧ s.wpc w = .running t)
  exec_le : ∀ t, s.exec t = (match s.ts t with | .running _ => 1 | .done => 1 | _ => 0)

theorem inv_init (nw : Nat) : Inv (init nw) := by
  refine ⟨?_, ?_, ?_, ?_⟩ <;> simp [init]

/-- the bookkeeping reads the worker pcs only to see who runs which task, and the client pcs, `stop` and the ghost state of
    the sequential path not at all -/
theorem inv_frame (s s' : St) (hi : Inv s) (hq : s'.queue = s.queue) (hts : s'.ts = s.ts) (hn : s'.nw = s.nw)
    (he : s'.exec = s.exec) (hw : ∀ v t, s'.wpc v = .running t ↔ s.wpc v = .running t) : Inv s' := by
  refine ⟨?_, ?_, ?_, ?_⟩
  · rw [hq]; exact hi.q_nodup
  · rw [hq, hts]; exact hi.q_iff
  · intro t w; rw [hts, hn, hw, hi.run_iff]
  · rw [hts, he]; exact hi.exec_le

theorem upd_running_iff {wpc : Nat → WPc} {w : Nat} {p : WPc} (hnr : ∀ t, wpc w ≠ .running t) (hp : ∀ t, p ≠ .running t)
    (v t : Nat) : upd wpc w p v = .running t ↔ wpc v = .running t := by
  by_cases hv : v = w
  · subst hv; rw [upd_same]; exact ⟨fun h => absurd h (hp t), fun h => absurd h (hnr t)⟩
  · rw [upd_other _ _ _ _ hv]

theorem inv_step (s s' : St) (e : Ev) (hi : Inv s) (h : step s e = some s') : Inv s' := by
  cases e with
  | wTake w =>
    obtain ⟨hw, hpc, _, t, q, hq, rfl⟩ := step_wTake h
    obtain ⟨htnq, hnd⟩ := List.nodup_cons.mp (hq ▸ hi.q_nodup)
    have htq : s.ts t = .queued := (hi.q_iff t).mp (by rw [hq]; simp)
    -- before the step nobody runs `t` and `w` runs nothing
    have ht : ∀ v, ¬ (v < s.nw ∧ s.wpc v = .running t) := fun v hv => by
      have := (hi.run_iff t v).mpr hv; rw [htq] at this; cases this
    have hwr : ∀ u, s.ts u ≠ .running w := fun u hu => by
      have := ((hi.run_iff u w).mp hu).2; rw [hpc] at this; cases this
    refine ⟨hnd, fun u => ?_, fun u v => ?_, fun u => ?_⟩
    · show u ∈ q ↔ upd s.ts t (.running w) u = .queued
      by_cases hu : u = t
      · subst hu; simp [upd_same, htnq]
      · rw [upd_other _ _ _ _ hu, ← hi.q_iff u, hq]; simp [hu]
    · show upd s.ts t (.running w) u = .running v ↔ (v < s.nw ∧ upd s.wpc w (.running t) v = .running u)
      by_cases hu : u = t <;> by_cases hv : v = w
      · simp [hu, hv, upd_same, hw]
      · have := ht v
        simp [hu, hv, upd_same, upd_other, Ne.symm hv]
        exact fun h1 h2 => this ⟨h1, hu ▸ h2⟩
      · simp [hu, hv, upd_same, upd_other, Ne.symm hu, hwr u]
      · simp only [upd_other _ _ _ _ hu, upd_other _ _ _ _ hv]; exact hi.run_iff u v
    · show upd s.exec t (s.exec t + 1) u = (match upd s.ts t (.running w) u with | .running _ => 1 | .done => 1 | _ => 0)
      by_cases hu : u = t
      · subst hu; simp [upd_same, hi.exec_le u, htq]
      · rw [upd_other _ _ _ _ hu, upd_other _ _ _ _ hu]; exact hi.exec_le u
  | wRunEnd w b =>
    obtain ⟨hw, t, hpc, rfl⟩ := step_wRunEnd h
    have hts : s.ts t = .running w := (hi.run_iff t w).mpr ⟨hw, hpc⟩
    -- before the step only `w` runs `t` and `w` runs only `t`
    have ht : ∀ v, v ≠ w → ¬ (v < s.nw ∧ s.wpc v = .running t) := fun v hv h1 => by
      have := (hi.run_iff t v).mpr h1; rw [hts] at this; cases this; exact hv rfl
    have hwr : ∀ u, u ≠ t → s.ts u ≠ .running w := fun u hu h1 => by
      have := ((hi.run_iff u w).mp h1).2; rw [hpc] at this; cases this; exact hu rfl
    refine ⟨hi.q_nodup, fun u => ?_, fun u v => ?_, fun u => ?_⟩
    · show u ∈ s.queue ↔ upd s.ts t .done u = .queued
      by_cases hu : u = t
      · subst hu; simp [upd_same, hi.q_iff u, hts]
      · rw [upd_other _ _ _ _ hu]; exact hi.q_iff u
    · show upd s.ts t .done u = .running v ↔ (v < s.nw ∧ upd s.wpc w .ready v = .running u)
      by_cases hu : u = t <;> by_cases hv : v = w
      · simp [hu, hv, upd_same]
      · have := ht v hv
        simp [hu, hv, upd_same, upd_other]
        exact fun h1 h2 => this ⟨h1, h2⟩
      · simp [hu, hv, upd_same, upd_other, hwr u hu]
      · simp only [upd_other _ _ _ _ hu, upd_other _ _ _ _ hv]; exact hi.run_iff u v
    · show s.exec u = (match upd s.ts t .done u with | .running _ => 1 | .done => 1 | _ => 0)
      by_cases hu : u = t
      · subst hu; simp [upd_same, hi.exec_le u, hts]
      · rw [upd_other _ _ _ _ hu]; exact hi.exec_le u
  | wExit w =>
    obtain ⟨_, hpc, _, rfl⟩ := step_wExit h
    refine ⟨List.nodup_nil, fun t => ?_, fun t v => ?_, fun t => ?_⟩
    · show t ∈ ([] : List Nat) ↔ drop (s.ts t) = .queued
      simp [drop_queued]
    · show drop (s.ts t) = .running v ↔ (v < s.nw ∧ (if v = w then WPc.exited else wake (s.wpc v)) = .running t)
      rw [drop_running, hi.run_iff t v]
      by_cases hvw : v = w
      · subst hvw; simp [hpc]
      · simp [hvw, wake_running]
    · show s.exec t = (match drop (s.ts t) with | .running _ => 1 | .done => 1 | _ => 0)
      rw [hi.exec_le t]
      cases s.ts t <;> rfl
  | cPush c ts all =>
    obtain ⟨_, hfresh, hnd, _, rfl⟩ := step_cPush h
    refine ⟨?_, fun t => ?_, fun t v => ?_, fun t => ?_⟩
    · refine List.nodup_append.mpr ⟨hi.q_nodup, hnd, ?_⟩
      rintro a ha _ hb rfl
      have h1 := (hi.q_iff a).mp ha
      rw [hfresh a hb] at h1; cases h1
    · show t ∈ s.queue ++ ts ↔ (if t ∈ ts then TS.queued else s.ts t) = .queued
      by_cases ht : t ∈ ts <;> simp [ht, hi.q_iff t]
    · show (if t ∈ ts then TS.queued else s.ts t) = .running v ↔ (v < s.nw ∧ s.wpc v = .running t)
      rw [← hi.run_iff t v]
      by_cases ht : t ∈ ts <;> simp [ht, hfresh t]
    · show s.exec t = (match (if t ∈ ts then TS.queued else s.ts t) with | .running _ => 1 | .done => 1 | _ => 0)
      rw [hi.exec_le t]
      by_cases ht : t ∈ ts <;> simp [ht, hfresh t]
  | wSleep w =>
    obtain ⟨_, hpc, _, _, rfl⟩ := step_wSleep h
    exact inv_frame s _ hi rfl rfl rfl rfl (upd_running_iff (by simp [hpc]) (by simp))
  | wWake w =>
    obtain ⟨_, hpc, rfl⟩ := step_wWake h
    exact inv_frame s _ hi rfl rfl rfl rfl (upd_running_iff (by simp [hpc]) (by simp))
  | cNotify c w =>
    rcases step_cNotify h with ⟨ts, _, rfl⟩ | ⟨ts, v, _, _, _, hs, rfl⟩ | ⟨ts, _, _, _, rfl⟩ | ⟨_, rfl⟩
    · exact inv_frame s _ hi rfl rfl rfl rfl fun _ _ => wake_running _ _
    · exact inv_frame s _ hi rfl rfl rfl rfl (upd_running_iff (by simp [hs]) (by simp))
    · exact inv_frame s _ hi rfl rfl rfl rfl fun _ _ => Iff.rfl
    · exact inv_frame s _ hi rfl rfl rfl rfl fun _ _ => wake_running _ _
  | dStop c => obtain ⟨_, rfl⟩ := step_dStop h; exact inv_frame s _ hi rfl rfl rfl rfl fun _ _ => Iff.rfl
  | _ =>
    obtain ⟨c, x, sx, st, rfl, _⟩ := step_clientOnly rfl h
    exact inv_frame s _ hi rfl rfl rfl rfl fun _ _ => Iff.rfl

end NanoVerif.Pool
