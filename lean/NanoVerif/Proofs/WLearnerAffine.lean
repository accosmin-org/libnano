import NanoVerif.Proofs.WLearnerStump
/-!
  C10 — the affine learner and the hinge. Affine: the closed form solves the normal equations (regular branch of
  `cache_t::constant()`), the constant fit is optimal on a feature that is constant over the fitted samples, the reported RSS is
  the RSS of the stored coefficients' predictions (both branches). The hinge (second part) is the affine map on one side of a
  threshold.
-/
set_option linter.unusedSectionVars false

namespace NanoVerif.WLearner
variable {α : Type} [Field α] [LinearOrder α] [IsStrictOrderedRing α]

/-! ### the full accumulator (`update(value, vgrad)`) as sums -/

def fullMom (items : List (Item α)) : Mom α := items.foldl Item.upd Mom.zero

theorem fullMom_x0 (items : List (Item α)) : (fullMom items).x0 = countOf items :=
  (foldl_add_eq Item.upd (·.x0) (fun _ => 1) (fun _ _ => rfl) items Mom.zero).trans (zero_add _)
theorem fullMom_n (items : List (Item α)) : (fullMom items).n = items.length :=
  (Cxx.foldl_count_eq Item.upd (·.n) (fun _ _ => rfl) items Mom.zero).trans (Nat.zero_add _)
theorem fullMom_x1 (items : List (Item α)) : (fullMom items).x1 = lsum (items.map fun it => it.v) :=
  (foldl_add_eq Item.upd (·.x1) (fun it => it.v) (fun _ _ => rfl) items Mom.zero).trans (zero_add _)
theorem fullMom_x2 (items : List (Item α)) : (fullMom items).x2 = lsum (items.map fun it => it.v * it.v) :=
  (foldl_add_eq Item.upd (·.x2) (fun it => it.v * it.v) (fun _ _ => rfl) items Mom.zero).trans (zero_add _)
theorem fullMom_r1 (items : List (Item α)) (o : Nat) : (fullMom items).r1 o = lsum (items.map fun it => it.r o) :=
  (foldl_add_eq Item.upd (·.r1 o) (fun it => it.r o) (fun _ _ => rfl) items Mom.zero).trans (zero_add _)
theorem fullMom_rx (items : List (Item α)) (o : Nat) :
    (fullMom items).rx o = lsum (items.map fun it => it.r o * it.v) :=
  (foldl_add_eq Item.upd (·.rx o) (fun it => it.r o * it.v) (fun _ _ => rfl) items Mom.zero).trans (zero_add _)
theorem fullMom_r2 (items : List (Item α)) (o : Nat) :
    (fullMom items).r2 o = lsum (items.map fun it => it.r o * it.r o) :=
  (foldl_add_eq Item.upd (·.r2 o) (fun it => it.r o * it.r o) (fun _ _ => rfl) items Mom.zero).trans (zero_add _)

theorem fullMom_x0_nonneg (items : List (Item α)) : 0 ≤ (fullMom items).x0 := by
  rw [fullMom_x0]; exact countOf_nonneg items

theorem fullMom_x2_nonneg (items : List (Item α)) : 0 ≤ (fullMom items).x2 := by
  rw [fullMom_x2]; exact lsum_map_nonneg _ _ (fun it _ => mul_self_nonneg _)

/-- `rss_affine()` is `Σ (r − w x − b)²` expanded in the moments, for ANY coefficients -/
theorem affineRss_eq (T : Nat) (items : List (Item α)) (w b : Vec α) :
    affineRss T (fullMom items) w b = lsum (items.map fun it => sqErr T it.r (fun o => w o * it.v + b o)) := by
  unfold affineRss sqErr
  rw [← vsum_lsum (fun it o => (it.r o - (w o * it.v + b o)) * (it.r o - (w o * it.v + b o))) items T]
  apply vsum_congr; intro o _
  rw [fullMom_r2, fullMom_x2, fullMom_x0, fullMom_rx, fullMom_r1, fullMom_x1]
  unfold two
  induction items with
  | nil => simp [countOf_nil]
  | cons it items ih => simp only [List.map_cons, lsum_cons, countOf_cons, ← ih]; ring

/-- `rss_zero(bin_missed)` -/
theorem missedMom_r2 (T : Nat) (rows : List (Row α)) : vsum (missedMom rows).r2 T = missSum T rows := by
  refine (foldl_add_eq _ (fun m => vsum m.r2 T)
    (fun row : Row α => match row.x with
      | none => sqErr T row.r zeroV
      | some _ => 0) (fun m row => ?_) rows Mom.zero).trans ((congrArg (· + _) (vsum_const_zero T)).trans (zero_add _))
  cases row.x with
  | none => exact (vsum_add _ _ T).trans (congrArg _ (sqErr_zero T row.r).symm)
  | some v => exact (add_zero _).symm

theorem missedMom_n (rows : List (Row α)) : (missedMom rows).n + (present rows).length = rows.length := by
  unfold missedMom
  suffices h : ∀ m : Mom α, (rows.foldl (fun m row => match row.x with
      | none => m.upd0 row.r
      | some _ => m) m).n + (present rows).length = m.n + rows.length by
    refine (h Mom.zero).trans ?_
    simp [Mom.zero]
  induction rows with
  | nil => intro m; simp [present]
  | cons row rows ih =>
    intro m
    simp only [List.foldl_cons, List.length_cons]
    cases hx : row.x with
    | none => rw [present_cons_none row rows hx]; simp only; rw [ih]; simp only [Mom.upd0]; omega
    | some v => rw [present_cons_some row rows v hx]; simp only [List.length_cons]; have := ih m; omega

theorem rssOf_affine (T : Nat) (rows : List (Row α)) (w b : Vec α) :
    rssOf T rows (affinePred w b) = affineRss T (fullMom (present rows)) w b + missSum T rows := by
  rw [rssOf_split T rows (affinePred w b) (fun x => fun o => w o * x + b o) rfl (fun x => rfl), affineRss_eq]
  exact add_comm _ _

/-! ### least squares in two parameters -/

/-- Where `(w, b)` solves the normal equations of `Q(w, b) = r2 + w²·x2 + b²·x0 − 2w·rx − 2b·r1 + 2wb·x1` and the matrix
    of `Q` is positive semi-definite (`0 < x0`, `0 ≤ x2·x0 − x1²`), no `(w', b')` does better:
    `x0·(Q(w', b') − Q(w, b)) = (x0·δb + x1·δw)² + (x2·x0 − x1²)·δw²`. The determinant may vanish: that is the constant
    branch of the affine learner. -/
theorem lsq2_optimal {x0 x1 x2 r1 rx r2 w b : α} (n1 : x2 * w + x1 * b = rx) (n2 : x1 * w + x0 * b = r1)
    (hx0 : 0 < x0) (hD : 0 ≤ x2 * x0 - x1 * x1) (w' b' : α) :
    r2 + w * w * x2 + b * b * x0 - 2 * w * rx - 2 * b * r1 + 2 * w * b * x1
      ≤ r2 + w' * w' * x2 + b' * b' * x0 - 2 * w' * rx - 2 * b' * r1 + 2 * w' * b' * x1 := by
  have e : (x0 * (b' - b) + x1 * (w' - w)) * (x0 * (b' - b) + x1 * (w' - w))
        + (x2 * x0 - x1 * x1) * ((w' - w) * (w' - w))
      = x0 * ((r2 + w' * w' * x2 + b' * b' * x0 - 2 * w' * rx - 2 * b' * r1 + 2 * w' * b' * x1)
        - (r2 + w * w * x2 + b * b * x0 - 2 * w * rx - 2 * b * r1 + 2 * w * b * x1)) := by
    rw [← n1, ← n2]; ring
  have hr := add_nonneg (mul_self_nonneg (x0 * (b' - b) + x1 * (w' - w))) (mul_nonneg hD (mul_self_nonneg (w' - w)))
  rw [e] at hr
  exact sub_nonneg.mp (nonneg_of_mul_nonneg_right hr hx0)

/-- the closed form of `cache_t::w()`, `cache_t::b()` solves the normal equations -/
theorem affine_closed_form {x0 x1 x2 r1 rx : α} (hD : x2 * x0 - x1 * x1 ≠ 0) :
    x2 * ((rx * x0 - r1 * x1) / (x2 * x0 - x1 * x1)) + x1 * ((r1 * x2 - rx * x1) / (x2 * x0 - x1 * x1)) = rx ∧
    x1 * ((rx * x0 - r1 * x1) / (x2 * x0 - x1 * x1)) + x0 * ((r1 * x2 - rx * x1) / (x2 * x0 - x1 * x1)) = r1 := by
  constructor
  · rw [mul_div_assoc', mul_div_assoc', ← add_div, div_eq_iff hD]; ring
  · rw [mul_div_assoc', mul_div_assoc', ← add_div, div_eq_iff hD]; ring

theorem affineRss_le (T : Nat) (m : Mom α) {w b : Vec α} (n1 : ∀ o, m.x2 * w o + m.x1 * b o = m.rx o)
    (n2 : ∀ o, m.x1 * w o + m.x0 * b o = m.r1 o) (hx0 : 0 < m.x0) (hD : 0 ≤ affineDen m) (w' b' : Vec α) :
    affineRss T m w b ≤ affineRss T m w' b' := by
  unfold affineRss
  simp only [two, one_add_one_eq_two]
  exact vsum_le T fun o _ => lsq2_optimal (n1 o) (n2 o) hx0 hD (w' o) (b' o)

/-! ### the two branches of `cache_t::constant()` -/

theorem affine_of_regular {eps1 : α} {m : Mom α} (h : affineConst eps1 m = false) :
    affineW eps1 m = (fun o => (m.rx o * m.x0 - m.r1 o * m.x1) / affineDen m) ∧
    affineB eps1 m = (fun o => (m.r1 o * m.x2 - m.rx o * m.x1) / affineDen m) := by
  simp only [affineW, affineB, h, Bool.false_eq_true, if_false, and_self]

theorem affine_of_const {eps1 : α} {m : Mom α} (h : affineConst eps1 m = true) :
    affineW eps1 m = zeroV ∧ affineB eps1 m = fitConstant m := by
  simp only [affineW, affineB, h, if_true, and_self]

/-- no division by zero on the regular branch -/
theorem affineConst_false {eps1 : α} (heps : 0 ≤ eps1) (items : List (Item α))
    (h : affineConst eps1 (fullMom items) = false) :
    0 < affineDen (fullMom items) ∧ 0 < (fullMom items).x0 := by
  unfold affineConst at h
  simp only [Bool.not_eq_false', decide_eq_true_eq] at h
  have h0 := fullMom_x0_nonneg items
  have hD : 0 < affineDen (fullMom items) :=
    lt_of_le_of_lt (mul_nonneg heps (mul_nonneg (fullMom_x2_nonneg items) h0)) h
  refine ⟨hD, lt_of_le_of_ne h0 fun hz => ?_⟩
  -- without samples the determinant is `−x1²`
  unfold affineDen at hD
  rw [← hz, mul_zero, zero_sub] at hD
  exact not_lt.mpr (neg_nonpos.mpr (mul_self_nonneg _)) hD

theorem affineCand_rss [Log α] (eps1 : α) (T : Nat) (K : α) (crit : Crit) (f : Nat) (rows : List (Row α)) :
    (affineCand eps1 T K crit f rows).rss =
      affineRss T (fullMom (present rows)) (affineW eps1 (fullMom (present rows))) (affineB eps1 (fullMom (present rows)))
        + missSum T rows := by
  simp only [affineCand]
  rw [missedMom_r2]; rfl

/-- `fit_predict_reproduces_rss` for the affine learner (both branches of `constant()`) -/
theorem affineCand_rss_eq [Log α] (eps1 : α) (T : Nat) (K : α) (crit : Crit) (f : Nat) (rows : List (Row α)) :
    (affineCand eps1 T K crit f rows).rss =
      rssOf T rows (affinePred (tab (affineCand eps1 T K crit f rows).tables 0)
                               (tab (affineCand eps1 T K crit f rows).tables 1)) := by
  rw [affineCand_rss, rssOf_affine]
  rfl

theorem fullMom_const (items : List (Item α)) (c : α) (h : ∀ it ∈ items, it.v = c) :
    (fullMom items).x1 = c * (fullMom items).x0 ∧ (fullMom items).x2 = c * c * (fullMom items).x0 ∧
    ∀ o, (fullMom items).rx o = c * (fullMom items).r1 o := by
  simp only [fullMom_x1, fullMom_x2, fullMom_x0, fullMom_rx, fullMom_r1]
  induction items with
  | nil => simp [countOf_nil]
  | cons it items ih =>
    obtain ⟨h1, h2, h3⟩ := ih (fun x hx => h x (List.mem_cons_of_mem _ hx))
    simp only [List.map_cons, lsum_cons, countOf_cons, h1, h2, h3, h it List.mem_cons_self]
    exact ⟨by ring, by ring, fun o => by ring⟩

/-! ## the hinge

  A hinge `β·(x − t)` on one side of the threshold is the affine map with slope `β` and offset `−t·β`. For every candidate
  threshold (mid-point between two consecutive distinct values) and both directions the stored slope is the least-squares slope
  on the active side, the reported RSS is the RSS of the stored hinge, and every such threshold / direction is tried. -/

def devSq (t : α) (items : List (Item α)) : α := lsum (items.map fun it => (it.v - t) * (it.v - t))

theorem devSq_eq (t : α) (items : List (Item α)) :
    devSq t items = (fullMom items).x2 - 2 * t * (fullMom items).x1 + t * t * (fullMom items).x0 := by
  have h := lsum_sq_dev (items.map fun it => it.v) t
  rw [List.map_map, List.map_map, countOf_map] at h
  rw [fullMom_x2, fullMom_x1, fullMom_x0]
  exact h

theorem hingeDen_eq (items : List (Item α)) (t : α) :
    hingeDenB (fullMom items) t = devSq t items ∧ hingeDenS (fullMom items) t = devSq t items := by
  unfold hingeDenB hingeDenS two
  rw [devSq_eq]
  exact ⟨by ring, by ring⟩

theorem devSq_pos (t : α) (items : List (Item α)) (hne : items ≠ []) (hv : ∀ it ∈ items, it.v ≠ t) :
    0 < devSq t items := by
  unfold devSq
  cases items with
  | nil => exact absurd rfl hne
  | cons it rest =>
    exact add_pos_of_pos_of_nonneg (mul_self_pos.mpr (sub_ne_zero.mpr (hv it List.mem_cons_self)))
      (lsum_map_nonneg _ _ fun x _ => mul_self_nonneg _)

/-- the hinge `β·(x − t)` is the affine map with slope `β` and offset `−t·β` (the two rows a hinge stores): `::score` is
    `rss_affine()` at these coefficients -/
theorem hingeSide_eq_affineRss (T : Nat) (m : Mom α) (t : α) (beta : Vec α) :
    hingeSide T m t beta = affineRss T m beta (fun o => -t * beta o) := by
  unfold hingeSide affineRss hingeDenS
  apply vsum_congr; intro o _; ring

theorem hingeSide_eq (T : Nat) (items : List (Item α)) (t : α) (beta : Vec α) :
    hingeSide T (fullMom items) t beta
      = lsum (items.map fun it => sqErr T it.r (fun o => beta o * (it.v - t))) := by
  rw [hingeSide_eq_affineRss, affineRss_eq]
  apply lsum_map_congr; intro it _
  apply sqErr_congr; intro o; ring

/-- the stored slope is optimal on its side: it solves the normal equation `Σ(x−t)² · β = Σ r·(x−t)` -/
theorem hingeSide_optimal (T : Nat) (items : List (Item α)) (t : α) (hpos : 0 < devSq t items) (beta : Vec α) :
    hingeSide T (fullMom items) t (hingeBeta (fullMom items) t) ≤ hingeSide T (fullMom items) t beta := by
  unfold hingeSide hingeBeta
  simp only [(hingeDen_eq items t).1, (hingeDen_eq items t).2, two, one_add_one_eq_two]
  exact vsum_le T fun o _ => lsq1_optimal (mul_div_cancel₀ _ hpos.ne') hpos.le (beta o)

/-- `m_acc_sum − m_acc_neg` is the accumulator of the right side -/
theorem sub_fullMom (items sorted : List (Item α)) (hperm : sorted.Perm items) (t : α) :
    (fullMom items).sub (fullMom (leftOf t sorted)) = fullMom (rightOf t sorted) := by
  have hp : ∀ F : Item α → α, lsum (items.map F) - lsum ((leftOf t sorted).map F) = lsum ((rightOf t sorted).map F) :=
    fun F => sub_eq_of_eq_add' (lsum_items_partition items sorted hperm t F)
  apply Mom.eq_of_fields
  · simp only [Mom.sub, fullMom_n]; exact length_items_partition items sorted hperm t
  · simp only [Mom.sub, fullMom_x0]; exact hp fun _ => 1
  · simp only [Mom.sub, fullMom_x1]; exact hp _
  · simp only [Mom.sub, fullMom_x2]; exact hp _
  · intro o; simp only [Mom.sub, fullMom_r1]; exact hp _
  · intro o; simp only [Mom.sub, fullMom_rx]; exact hp _
  · intro o; simp only [Mom.sub, fullMom_r2]; exact hp _

/-! ### the RSS of a hinge -/

theorem hingePred_some (t : α) (beta : Vec α) (x : α) :
    hingePred t true beta (some x) = (if x < t then (fun o => beta o * (x - t)) else fun o => zeroV o * (x - t)) ∧
    hingePred t false beta (some x) = (if x < t then (fun o => zeroV o * (x - t)) else fun o => beta o * (x - t)) := by
  have hz : (fun o => zeroV o * (x - t)) = (zeroV : Vec α) := funext fun o => zero_mul _
  by_cases h : x < t <;> simp [hingePred, h, hz]

theorem hinge_rss (T : Nat) (rows : List (Row α)) (sorted : List (Item α)) (hperm : sorted.Perm (present rows)) (t : α)
    (pred : Option α → Vec α) (βl βr : Vec α) (h0 : pred none = zeroV)
    (hp : ∀ x, pred (some x) = if x < t then (fun o => βl o * (x - t)) else fun o => βr o * (x - t)) :
    hingeSide T (fullMom (leftOf t sorted)) t βl + hingeSide T (fullMom (rightOf t sorted)) t βr + missRss T rows
      = rssOf T rows pred := by
  rw [hingeSide_eq, hingeSide_eq, missRss_eq, rssOf_thr T rows t pred _ _ h0 hp, lsum_leftOf_perm _ _ hperm,
    lsum_rightOf_perm _ _ hperm]
  ring

/-! ### the candidates of one feature -/

structure HingeCandSpec (T : Nat) (K : α) (f : Nat) (rows : List (Row α)) (c : Cand α) : Prop where
  feature : c.feature = f
  /-- `fit_predict_reproduces_rss` -/
  rss_eq : c.rss = rssOf T rows (hingePred c.thr (c.dir == 0) (tab c.tables 0))
  coeff_opt : ∀ beta : Vec α, c.rss ≤ rssOf T rows (hingePred c.thr (c.dir == 0) beta)
  /-- `tables[1] = −threshold · tables[0]`: `w·x + b = β·(x − t)` -/
  offset : ∀ o, tab c.tables 1 o = -c.thr * tab c.tables 0 o
  score : c.score = cmax c.rss K

theorem hingeCands_spec [Log α] (sort : List (Item α) → List (Item α)) (hsort : SortSpec sort)
    (T : Nat) (K : α) (f : Nat) (rows : List (Row α)) (c : Cand α)
    (hc : c ∈ hingeFeatureCands sort T K Crit.rss f rows) : HingeCandSpec T K f rows c := by
  unfold hingeFeatureCands at hc
  obtain ⟨sc, hsc, hc⟩ := List.mem_flatMap.mp hc
  have hperm := hsort.perm (present rows)
  obtain ⟨hacc, _, hlne, hrne, _, hnethr⟩ :=
    sweep_spec Item.upd Mom.zero (sort (present rows)) (hsort.sorted (present rows)) sc hsc
  have hLpos := devSq_pos sc.1 _ hlne fun it hit => hnethr it (List.mem_of_mem_filter hit)
  have hRpos := devSq_pos sc.1 _ hrne fun it hit => hnethr it (List.mem_of_mem_filter hit)
  have hrss := hinge_rss T rows (sort (present rows)) hperm sc.1
  -- the candidate in terms of the accumulators of the two sides
  simp only [hingeCands, List.mem_cons, List.mem_nil_iff, or_false] at hc
  rw [show (present rows).foldl Item.upd Mom.zero = fullMom (present rows) from rfl,
    show sc.2 = fullMom (leftOf sc.1 (sort (present rows))) from hacc, sub_fullMom _ _ hperm] at hc
  rcases hc with rfl | rfl
  · refine ⟨rfl, (hrss _ _ _ rfl fun x => (hingePred_some sc.1 _ x).1), fun beta => ?_, fun o => rfl, rfl⟩
    exact (add_le_add (add_le_add (hingeSide_optimal T _ sc.1 hLpos beta) (le_refl _)) (le_refl _)).trans_eq
      (hrss _ beta zeroV rfl fun x => (hingePred_some sc.1 beta x).1)
  · refine ⟨rfl, (hrss _ _ _ rfl fun x => (hingePred_some sc.1 _ x).2), fun beta => ?_, fun o => rfl, rfl⟩
    exact (add_le_add (add_le_add (le_refl _) (hingeSide_optimal T _ sc.1 hRpos beta)) (le_refl _)).trans_eq
      (hrss _ zeroV beta rfl fun x => (hingePred_some sc.1 beta x).2)

/-- completeness: for every pair of consecutive distinct present values both hinges at their mid-point are candidates -/
theorem hingeCands_complete [Log α] (sort : List (Item α) → List (Item α)) (hsort : SortSpec sort)
    (T : Nat) (K : α) (crit : Crit) (f : Nat) (rows : List (Row α)) (a b : Item α)
    (ha : a ∈ present rows) (hb : b ∈ present rows) (hab : a.v < b.v)
    (hcons : ∀ z ∈ present rows, ¬ (a.v < z.v ∧ z.v < b.v)) (dir : Nat) (hdir : dir = 0 ∨ dir = 1) :
    ∃ c ∈ hingeFeatureCands sort T K crit f rows, c.thr = half * (a.v + b.v) ∧ c.dir = dir := by
  have hperm := hsort.perm (present rows)
  have hat := lt_mid hab
  have hbt := mid_lt hab
  obtain ⟨sc, hsc, _, x, y, hx, hy, hcm, hxt, hyt, hxmax, hymin⟩ :=
    sweep_complete Item.upd (half * (a.v + b.v)) (sort (present rows)) Mom.zero (hsort.sorted _)
      ⟨a, hperm.symm.subset ha, hat⟩ ⟨b, hperm.symm.subset hb, not_lt.mpr (le_of_lt hbt)⟩
  -- x is the largest value left of the mid-point: it is a; y is the smallest value right of it: it is b
  have hxa : x.v = a.v := by
    apply le_antisymm
    · by_contra hgt
      exact hcons x (hperm.subset hx) ⟨not_le.mp hgt, lt_trans hxt hbt⟩
    · exact hxmax a (hperm.symm.subset ha) hat
  have hyb : y.v = b.v := by
    apply le_antisymm
    · exact hymin b (hperm.symm.subset hb) (not_lt.mpr (le_of_lt hbt))
    · by_contra hlt
      have hylt : y.v < b.v := not_le.mp hlt
      have : a.v < y.v := lt_of_lt_of_le hat (not_lt.mp hyt)
      exact hcons y (hperm.subset hy) ⟨this, hylt⟩
  have hthr : sc.1 = half * (a.v + b.v) := by rw [hcm, hxa, hyb]
  rcases hdir with rfl | rfl
  · refine ⟨_, List.mem_flatMap.mpr ⟨sc, hsc, by simp only [hingeCands]; exact List.mem_cons_self⟩, hthr, rfl⟩
  · refine ⟨_, List.mem_flatMap.mpr ⟨sc, hsc, by simp only [hingeCands]; exact List.mem_cons_of_mem _ List.mem_cons_self⟩,
      hthr, rfl⟩

end NanoVerif.WLearner
