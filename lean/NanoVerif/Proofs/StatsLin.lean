import NanoVerif.Proofs.Stats
import NanoVerif.Model.StatsExp
import Mathlib.Tactic.FieldSimp
/-!
  C20 — `make_equidistant_ratios / make_equidistant_percentiles` through Eigen's `LinSpaced` as coded
  (`linspaced_op_impl<double, false>`: `m_size1`, `m_step`, the `m_flip` branch, the exact last element): in exact
  arithmetic element `i` is `T (i + 1) / bins` (`T = 1` resp. `100`), strictly inside `(0, T)` and strictly increasing —
  so the asserts of `make_from_ratios / make_from_percentiles` on the first and last element hold for every `bins > 1`.
-/
namespace NanoVerif.Stats

variable {α : Type} [Field α] [LinearOrder α] [IsStrictOrderedRing α] [FloorRing α]

/-- `std::fabs` / `numext::abs` in exact arithmetic -/
def FabsSpec [Libm α] : Prop := ∀ x : α, Libm.fabs x = |x|

/-- `LinSpaced(m + 1, d, (m + 1) d)` for a positive `d`: no flip, the step is `d`, element `i` is `(i + 1) d` -/
theorem linSpacedAt_step [Libm α] (hf : FabsSpec (α := α)) (d : α) (hd : 0 < d) (m i : ℕ) (hi : i < m + 1) :
    linSpacedAt (m + 1) d (((m + 1 : ℕ) : α) * d) i = ((i : α) + 1) * d := by
  have hge : d ≤ ((m + 1 : ℕ) : α) * d := le_mul_of_one_le_left hd.le (Nat.one_le_cast.mpr (Nat.le_add_left 1 m))
  have hflip : ¬ (Libm.fabs (((m + 1 : ℕ) : α) * d) < Libm.fabs d) := by
    rw [hf, hf, abs_of_pos hd, abs_of_pos (hd.trans_le hge)]
    exact not_lt.mpr hge
  unfold linSpacedAt
  rw [if_neg hflip]
  rcases Nat.eq_zero_or_pos m with rfl | hm
  · obtain rfl : i = 0 := by omega
    simp
  · have h1 : ¬ (m + 1 = 1) := by omega
    have hm' : (m : α) ≠ 0 := Nat.cast_ne_zero.mpr hm.ne'
    simp only [if_neg h1, Nat.add_sub_cancel]
    have hstep : (((m + 1 : ℕ) : α) * d - d) / FloorI.ofNat m = d := by
      show (((m + 1 : ℕ) : α) * d - d) / (m : α) = d
      rw [Nat.cast_succ, add_one_mul, add_sub_cancel_right, mul_div_cancel_left₀ d hm']
    rw [hstep]
    split
    · next him => rw [him, Nat.cast_succ]
    · exact (add_comm _ _).trans (add_one_mul (i : α) d).symm

theorem linSpacedAt_equidistant [Libm α] (hf : FabsSpec (α := α)) (T : α) (hT : 0 < T) (m i : ℕ) (hi : i < m + 1) :
    linSpacedAt (m + 1) (T / ((m + 2 : ℕ) : α)) (T - T / ((m + 2 : ℕ) : α)) i = T * ((i : α) + 1) / ((m + 2 : ℕ) : α) := by
  have hB : (0 : α) < ((m + 2 : ℕ) : α) := by exact_mod_cast Nat.succ_pos (m + 1)
  have hhi : T - T / ((m + 2 : ℕ) : α) = ((m + 1 : ℕ) : α) * (T / ((m + 2 : ℕ) : α)) :=
    sub_eq_of_eq_add (by rw [← add_one_mul, ← Nat.cast_succ, mul_div_cancel₀ T hB.ne'])
  rw [hhi, linSpacedAt_step hf _ (div_pos hT hB) m i hi, ← mul_div_assoc, mul_comm]

theorem linSpaced_equidistant [Libm α] (hf : FabsSpec (α := α)) (T : α) (hT : 0 < T) (m : ℕ) :
    linSpaced (m + 1) (T / ((m + 2 : ℕ) : α)) (T - T / ((m + 2 : ℕ) : α)) =
      (List.range (m + 1)).map (fun (i : ℕ) => T * ((i : α) + 1) / ((m + 2 : ℕ) : α)) := by
  unfold linSpaced
  apply List.map_congr_left
  intro i hi
  exact linSpacedAt_equidistant hf T hT m i (List.mem_range.mp hi)

/-- the properties the factories' asserts need: inside `(0, T)`, strictly increasing, `bins - 1` of them -/
theorem equidistant_list_props (T : α) (hT : 0 < T) (m : ℕ) :
    let L := (List.range (m + 1)).map (fun (i : ℕ) => T * ((i : α) + 1) / ((m + 2 : ℕ) : α))
    L.length = m + 1 ∧ (∀ x ∈ L, 0 < x ∧ x < T) ∧ L.Pairwise (· < ·) := by
  have hB : (0 : α) < ((m + 2 : ℕ) : α) := Nat.cast_pos.mpr (Nat.succ_pos (m + 1))
  refine ⟨by simp, ?_, ?_⟩
  · intro x hx
    obtain ⟨i, hi, rfl⟩ := List.mem_map.mp hx
    have hi' : i < m + 1 := List.mem_range.mp hi
    have hic : (i : α) + 1 < ((m + 2 : ℕ) : α) := by
      rw [← Nat.cast_succ]; exact Nat.cast_lt.mpr (Nat.succ_lt_succ hi')
    exact ⟨div_pos (mul_pos hT (Nat.cast_add_one_pos i)) hB,
      (div_lt_iff₀ hB).2 (mul_lt_mul_of_pos_left hic hT)⟩
  · rw [List.pairwise_map]
    refine (List.pairwise_lt_range (n := m + 1)).imp ?_
    intro a b hab
    have : (a : α) + 1 < (b : α) + 1 := add_lt_add_left (Nat.cast_lt.mpr hab) 1
    exact (div_lt_div_iff_of_pos_right hB).2 (mul_lt_mul_of_pos_left this hT)

/-- both factories are `lin_spaced(T / bins, T - T / bins)` of size `bins - 1` behind `assert(bins > 1)`, with `T = 1` resp.
    `T = 100`: the list is `T (i + 1) / bins`, strictly inside `(0, T)` and strictly increasing -/
theorem equidistant_spec [Libm α] (hf : FabsSpec (α := α)) (T : α) (hT : 0 < T) (bins : ℕ) :
    let E : Option (List α) :=
      if bins > 1 then some (linSpaced (bins - 1) (T / FloorI.ofNat bins) (T - T / FloorI.ofNat bins)) else none
    (bins ≤ 1 → E = none) ∧
    (1 < bins → ∃ L, E = some L ∧
      L = (List.range (bins - 1)).map (fun (i : ℕ) => T * ((i : α) + 1) / (bins : α)) ∧
      L.length = bins - 1 ∧ (∀ x ∈ L, 0 < x ∧ x < T) ∧ L.Pairwise (· < ·)) := by
  refine ⟨fun h => if_neg (Nat.not_lt.mpr h), fun h => ?_⟩
  obtain ⟨m, rfl⟩ : ∃ m, bins = m + 2 := ⟨bins - 2, by omega⟩
  exact ⟨_, (if_pos h).trans (congrArg some (linSpaced_equidistant hf T hT m)), rfl, equidistant_list_props T hT m⟩

/-- **make_equidistant_ratios**: `none` exactly on the assert `bins > 1`; otherwise the ratios `(i + 1) / bins`,
    `i = 0 … bins - 2`, all strictly inside `(0, 1)` and strictly increasing -/
theorem equidistantRatios_spec [Libm α] (hf : FabsSpec (α := α)) (bins : ℕ) :
    (bins ≤ 1 → equidistantRatios (α := α) bins = none) ∧
    (1 < bins → ∃ L, equidistantRatios (α := α) bins = some L ∧
      L = (List.range (bins - 1)).map (fun (i : ℕ) => ((i : α) + 1) / (bins : α)) ∧
      L.length = bins - 1 ∧ (∀ x ∈ L, 0 < x ∧ x < 1) ∧ L.Pairwise (· < ·)) := by
  have h := equidistant_spec hf (1 : α) zero_lt_one bins
  simp only [one_mul] at h
  exact h

/-- **make_equidistant_percentiles**: the percentages `100 (i + 1) / bins`, strictly inside `(0, 100)`, increasing -/
theorem equidistantPercentiles_spec [Libm α] (hf : FabsSpec (α := α)) (bins : ℕ) :
    (bins ≤ 1 → equidistantPercentiles (α := α) bins = none) ∧
    (1 < bins → ∃ L, equidistantPercentiles (α := α) bins = some L ∧
      L = (List.range (bins - 1)).map (fun (i : ℕ) => 100 * ((i : α) + 1) / (bins : α)) ∧
      L.length = bins - 1 ∧ (∀ x ∈ L, 0 < x ∧ x < 100) ∧ L.Pairwise (· < ·)) :=
  equidistant_spec hf (100 : α) (by norm_num) bins

end NanoVerif.Stats
