import NanoVerif.Proofs.WLearnerBasic
import Mathlib.Data.List.Nodup
/-!
  C10 — selecting the best candidate: one cache (`fitSeq`, `fitSeqLex`), per-thread caches + `min_reduce_feature`
  (`fitAssigned`, `fitAssignedLex`). The lexicographic caches of the table learners are a fold of an associative selection
  step, so their result is THE best candidate whatever the assignment and the order; the plain caches of the other
  learners make the same decisions as lexicographic ones when a worker sees its features in increasing index order.
-/
set_option linter.unusedSectionVars false

namespace NanoVerif.WLearner
variable {α : Type} [Field α] [LinearOrder α] [IsStrictOrderedRing α] [FinTest α]

theorem pick_cases (b c : Cand α) :
    (pick b c = c ∧ FinTest.isFin c.score = true ∧ c.score < b.score) ∨
    (pick b c = b ∧ ¬ (FinTest.isFin c.score = true ∧ c.score < b.score)) := by
  unfold pick
  split
  · rename_i h; exact Or.inl ⟨rfl, h.1, h.2⟩
  · rename_i h; exact Or.inr ⟨rfl, h⟩

theorem pick_le_left (b c : Cand α) : (pick b c).score ≤ b.score := by
  rcases pick_cases b c with ⟨h, _, hlt⟩ | ⟨h, _⟩
  · rw [h]; exact le_of_lt hlt
  · rw [h]

theorem pick_le_right (b c : Cand α) (hf : FinTest.isFin c.score = true) : (pick b c).score ≤ c.score := by
  rcases pick_cases b c with ⟨h, _, _⟩ | ⟨h, hn⟩
  · rw [h]
  · rw [h]; exact not_lt.mp (fun hlt => hn ⟨hf, hlt⟩)

theorem foldl_pick_spec (l : List (Cand α)) (b : Cand α) :
    (l.foldl pick b = b ∨ (l.foldl pick b ∈ l ∧ FinTest.isFin (l.foldl pick b).score = true ∧
        (l.foldl pick b).score < b.score)) ∧
    (l.foldl pick b).score ≤ b.score ∧
    (∀ c ∈ l, FinTest.isFin c.score = true → (l.foldl pick b).score ≤ c.score) := by
  induction l generalizing b with
  | nil => simp
  | cons c cs ih =>
    simp only [List.foldl_cons]
    obtain ⟨h1, h2, h3⟩ := ih (pick b c)
    refine ⟨?_, le_trans h2 (pick_le_left b c), ?_⟩
    · rcases h1 with h1 | ⟨hm, hf, hlt⟩
      · rw [h1]
        rcases pick_cases b c with ⟨h, hf, hlt⟩ | ⟨h, _⟩
        · right; rw [h]; exact ⟨by simp, hf, hlt⟩
        · left; exact h
      · right
        exact ⟨List.mem_cons_of_mem _ hm, hf, lt_of_lt_of_le hlt (pick_le_left b c)⟩
    · intro d hd hf
      rcases List.mem_cons.mp hd with rfl | hd
      · exact le_trans h2 (pick_le_right b d hf)
      · exact h3 d hd hf

/-! ### one cache -/

/-- a candidate a cache can store: `std::isfinite(score)` and below `no_fit_score()` -/
def Usable (big : α) (c : Cand α) : Prop := FinTest.isFin c.score = true ∧ c.score < big

instance (big : α) (c : Cand α) : Decidable (Usable big c) := by unfold Usable; exact inferInstance

theorem noFit_not_usable (big : α) : ¬ Usable big (noFit big : Cand α) := fun h => lt_irrefl _ h.2

theorem fitSeq_cache (big : α) (l : List (Cand α)) :
    (fitSeq big l = noFit big ∧ ∀ c ∈ l, ¬ Usable big c) ∨
    (fitSeq big l ∈ l ∧ Usable big (fitSeq big l) ∧ ∀ c ∈ l, Usable big c → (fitSeq big l).score ≤ c.score) := by
  unfold fitSeq
  obtain ⟨h1, h2, h3⟩ := foldl_pick_spec l (noFit big)
  rcases h1 with h1 | ⟨hm, hf, hlt⟩
  · left
    refine ⟨h1, fun c hc hu => ?_⟩
    have := h3 c hc hu.1
    rw [h1] at this
    exact absurd hu.2 (not_lt.mpr this)
  · right
    exact ⟨hm, ⟨hf, hlt⟩, fun c hc hu => h3 c hc hu.1⟩

def repsC (big : α) (w : List (FeatC α)) : List (Cand α) := w.map fun p => fitSeq big p.2

theorem rep_usable_mem (big : α) (p : FeatC α) (hu : Usable big (fitSeq big p.2)) : fitSeq big p.2 ∈ p.2 := by
  rcases fitSeq_cache big p.2 with ⟨hN, _⟩ | ⟨hm, _, _⟩
  · rw [hN] at hu; exact absurd hu (noFit_not_usable big)
  · exact hm

/-! ### the best of several caches: `min_reduce_feature` -/

def lexLtC (a b : Cand α) : Prop := a.score < b.score ∨ (a.score = b.score ∧ a.feature < b.feature)

theorem lexLtC_trans {a b c : Cand α} (h1 : lexLtC a b) (h2 : lexLtC b c) : lexLtC a c := by
  rcases h1 with h1 | ⟨e1, f1⟩ <;> rcases h2 with h2 | ⟨e2, f2⟩
  · exact Or.inl (lt_trans h1 h2)
  · exact Or.inl (e2 ▸ h1)
  · exact Or.inl (e1 ▸ h2)
  · exact Or.inr ⟨e1.trans e2, by omega⟩

theorem lexLtC_asymm {a b : Cand α} (h1 : lexLtC a b) (h2 : lexLtC b a) : False := by
  rcases h1 with h1 | ⟨e1, f1⟩ <;> rcases h2 with h2 | ⟨e2, f2⟩
  · exact lt_asymm h1 h2
  · exact absurd h1 (by rw [e2]; exact lt_irrefl _)
  · exact absurd h2 (by rw [e1]; exact lt_irrefl _)
  · omega

theorem lessSF_iff (a b : Cand α) : lessSF a b ↔ lexLtC a b := by
  unfold lessSF lexLtC
  constructor
  · rintro (h | ⟨h1, h2⟩)
    · exact Or.inl h
    · rcases lt_or_eq_of_le (not_lt.mp h1) with h | h
      · exact Or.inl h
      · exact Or.inr ⟨h, h2⟩
  · rintro (h | ⟨h1, h2⟩)
    · exact Or.inl h
    · exact Or.inr ⟨by rw [h1]; exact lt_irrefl _, h2⟩

/-- `r` is THE best of the caches `all`: the empty cache when none holds a candidate, otherwise the usable member that is
    lexicographically below every other usable member -/
def BestC (big : α) (all : List (Cand α)) (r : Cand α) : Prop :=
  (r = noFit big ∧ ∀ c ∈ all, ¬ Usable big c) ∨
  (r ∈ all ∧ Usable big r ∧ ∀ c ∈ all, Usable big c → c = r ∨ lexLtC r c)

theorem bestC_unique (big : α) (all : List (Cand α)) (r r' : Cand α) (h : BestC big all r) (h' : BestC big all r') :
    r = r' := by
  rcases h with ⟨e, hn⟩ | ⟨hm, hu, hmin⟩ <;> rcases h' with ⟨e', hn'⟩ | ⟨hm', hu', hmin'⟩
  · rw [e, e']
  · exact absurd hu' (hn r' hm')
  · exact absurd hu (hn' r hm)
  · rcases hmin r' hm' hu' with e | l
    · exact e.symm
    · rcases hmin' r hm hu with e | l'
      · exact e
      · exact absurd l' (fun l' => lexLtC_asymm l l')

theorem bestC_congr (big : α) (A B : List (Cand α)) (hAB : ∀ x, x ∈ A ↔ x ∈ B) (r : Cand α) (h : BestC big A r) :
    BestC big B r := by
  rcases h with ⟨e, hn⟩ | ⟨hm, hu, hmin⟩
  · exact Or.inl ⟨e, fun c hc => hn c ((hAB c).mpr hc)⟩
  · exact Or.inr ⟨(hAB r).mp hm, hu, fun c hc => hmin c ((hAB c).mpr hc)⟩

/-- two usable caches with the same feature index are the same cache (different workers hold different features) -/
def DistinctC (big : α) (all : List (Cand α)) : Prop :=
  ∀ a ∈ all, ∀ b ∈ all, Usable big a → Usable big b → a.feature = b.feature → a = b

/-! ### table learners: lexicographic caches (commit 5de0896) — no hypothesis on the order inside a worker -/

def IsCache (big : α) (c : Cand α) : Prop := c = noFit big ∨ Usable big c

theorem isCache_score_le (big : α) (c : Cand α) (h : IsCache big c) : c.score ≤ big := by
  rcases h with rfl | h
  · exact le_refl _
  · exact le_of_lt h.2

/-- the selection step of `std::min_element` with the comparison of `min_reduce_feature` -/
def selC (a b : Cand α) : Cand α := if lessSF b a then b else a

theorem not_lexLtC_trans {a b c : Cand α} (h1 : ¬ lexLtC b a) (h2 : ¬ lexLtC c b) : ¬ lexLtC c a := by
  simp only [lexLtC, not_or, not_and, not_lt] at *
  refine ⟨le_trans h1.1 h2.1, fun e => ?_⟩
  have eab : b.score = a.score := le_antisymm (e ▸ h2.1) h1.1
  exact le_trans (h1.2 eab) (h2.2 (e.trans eab.symm))

theorem selC_assoc (a b c : Cand α) : selC (selC a b) c = selC a (selC b c) := by
  unfold selC
  by_cases h1 : lessSF b a <;> by_cases h2 : lessSF c b
  · have h3 : lessSF c a := (lessSF_iff c a).mpr (lexLtC_trans ((lessSF_iff c b).mp h2) ((lessSF_iff b a).mp h1))
    simp [h1, h2, h3]
  · simp [h1, h2]
  · by_cases h3 : lessSF c a <;> simp [h1, h2, h3]
  · have h3 : ¬ lessSF c a := fun h => not_lexLtC_trans (fun hh => h1 ((lessSF_iff b a).mpr hh))
      (fun hh => h2 ((lessSF_iff c b).mpr hh)) ((lessSF_iff c a).mp h)
    simp [h1, h2, h3]

def normC (big : α) (c : Cand α) : Cand α := if Usable big c then c else noFit big

theorem lessSF_noFit_iff (big : α) (c : Cand α) : lessSF c (noFit big) ↔ c.score < big := by
  unfold lessSF
  constructor
  · rintro (h | ⟨_, h⟩)
    · exact h
    · exact absurd h (Nat.not_lt_zero _)
  · exact fun h => Or.inl h

theorem pickLex_noFit (big : α) (c : Cand α) : pickLex (noFit big) c = normC big c := by
  unfold pickLex normC
  by_cases hu : Usable big c
  · rw [if_pos hu, if_pos ⟨hu.1, (lessSF_noFit_iff big c).mpr hu.2⟩]
  · rw [if_neg hu, if_neg (fun h => hu ⟨h.1, (lessSF_noFit_iff big c).mp h.2⟩)]

theorem normC_isCache (big : α) (c : Cand α) : IsCache big (normC big c) := by
  unfold normC
  split
  · rename_i h; exact Or.inr h
  · exact Or.inl rfl

theorem not_lessSF_noFit_cache (big : α) (b : Cand α) (hb : IsCache big b) : ¬ lessSF (noFit big) b := by
  rcases hb with rfl | hb
  · rw [lessSF_iff]; exact fun h => lexLtC_asymm h h
  · rintro (h | ⟨h, _⟩)
    · exact absurd hb.2 (not_lt.mpr (le_of_lt h))
    · exact h hb.2

theorem pickLex_eq_selC (big : α) (b c : Cand α) (hb : IsCache big b) : pickLex b c = selC b (normC big c) := by
  unfold normC selC
  by_cases hu : Usable big c
  · rw [if_pos hu]
    unfold pickLex
    by_cases hl : lessSF c b
    · rw [if_pos ⟨hu.1, hl⟩, if_pos hl]
    · rw [if_neg (fun h => hl h.2), if_neg hl]
  · rw [if_neg hu, if_neg (not_lessSF_noFit_cache big b hb)]
    unfold pickLex
    rw [if_neg]
    rintro ⟨hf, hl⟩
    have hge : big ≤ c.score := not_lt.mp (fun h => hu ⟨hf, h⟩)
    rcases hl with hl | ⟨hl1, hl2⟩
    · exact absurd (lt_of_le_of_lt hge hl) (not_lt.mpr (isCache_score_le big b hb))
    · rcases hb with rfl | hb
      · exact absurd hl2 (Nat.not_lt_zero _)
      · exact hl1 (lt_of_lt_of_le hb.2 hge)

theorem selC_isCache (big : α) (a b : Cand α) (ha : IsCache big a) (hb : IsCache big b) : IsCache big (selC a b) := by
  unfold selC; split
  · exact hb
  · exact ha

theorem foldl_pickLex_isCache (big : α) (l : List (Cand α)) (b : Cand α) (hb : IsCache big b) :
    IsCache big (l.foldl pickLex b) := by
  induction l generalizing b with
  | nil => exact hb
  | cons c l ih =>
    rw [List.foldl_cons]
    apply ih
    rw [pickLex_eq_selC big b c hb]
    exact selC_isCache big _ _ hb (normC_isCache big c)

theorem selC_noFit_right (big : α) (b : Cand α) (hb : IsCache big b) : selC b (noFit big) = b := by
  unfold selC
  rw [if_neg (not_lessSF_noFit_cache big b hb)]

theorem selC_noFit_left (big : α) (b : Cand α) (hb : IsCache big b) : selC (noFit big) b = b := by
  unfold selC
  rcases hb with rfl | hb
  · split <;> rfl
  · rw [if_pos ((lessSF_noFit_iff big b).mpr hb.2)]

theorem foldl_pickLex_eq_selC (big : α) (l : List (Cand α)) (b : Cand α) (hb : IsCache big b) :
    l.foldl pickLex b = selC b (fitSeqLex big l) := by
  induction l generalizing b with
  | nil => exact (selC_noFit_right big b hb).symm
  | cons c l ih =>
    have hR : fitSeqLex big (c :: l) = selC (normC big c) (fitSeqLex big l) := by
      show (c :: l).foldl pickLex (noFit big) = _
      rw [List.foldl_cons, pickLex_noFit]
      exact ih _ (normC_isCache big c)
    rw [List.foldl_cons, hR, pickLex_eq_selC big b c hb, ← selC_assoc]
    exact ih _ (selC_isCache big _ _ hb (normC_isCache big c))

theorem fitSeqLex_append (big : α) (a b : List (Cand α)) :
    fitSeqLex big (a ++ b) = selC (fitSeqLex big a) (fitSeqLex big b) := by
  show (a ++ b).foldl pickLex (noFit big) = _
  rw [List.foldl_append]
  exact foldl_pickLex_eq_selC big b _ (foldl_pickLex_isCache big a _ (Or.inl rfl))

theorem fitSeqLex_cons (big : α) (x : Cand α) (l : List (Cand α)) :
    fitSeqLex big (x :: l) = selC (normC big x) (fitSeqLex big l) := by
  have := fitSeqLex_append big [x] l
  rw [List.singleton_append] at this
  rw [this]
  congr 1
  show pickLex (noFit big) x = _
  exact pickLex_noFit big x

theorem normC_of_isCache (big : α) (r : Cand α) (h : IsCache big r) : normC big r = r := by
  unfold normC
  rcases h with rfl | h
  · rw [if_neg (noFit_not_usable big)]
  · rw [if_pos h]

/-- Fed candidates in non-decreasing feature order, a plain cache (`score < m_score`) and a lexicographic cache make
    the same decisions: the second disjunct of the lexicographic test never fires. -/
theorem foldl_pickLex_eq_pick (big : α) (l : List (Cand α)) (hl : l.Pairwise fun a c => a.feature ≤ c.feature) (b : Cand α)
    (hb : b = noFit big ∨ (Usable big b ∧ ∀ c ∈ l, b.feature ≤ c.feature)) : l.foldl pickLex b = l.foldl pick b := by
  induction l generalizing b with
  | nil => rfl
  | cons c l ih =>
    obtain ⟨hcl, hl'⟩ := List.pairwise_cons.mp hl
    have hiff : lessSF c b ↔ c.score < b.score := by
      rcases hb with rfl | ⟨_, hbf⟩
      · exact lessSF_noFit_iff big c
      · exact ⟨fun h => h.elim id fun h' => absurd h'.2 (Nat.not_lt.mpr (hbf c List.mem_cons_self)), Or.inl⟩
    have hstep : pickLex b c = pick b c := by simp only [pickLex, pick, hiff]
    rw [List.foldl_cons, List.foldl_cons, hstep]
    apply ih hl'
    rcases pick_cases b c with ⟨h, hf, hlt⟩ | ⟨h, _⟩
    · rw [h]
      refine Or.inr ⟨⟨hf, lt_of_lt_of_le hlt ?_⟩, hcl⟩
      rcases hb with rfl | ⟨hu, _⟩
      · exact le_refl _
      · exact le_of_lt hu.2
    · rw [h]
      exact hb.imp_right fun hb' => ⟨hb'.1, fun d hd => hb'.2 d (List.mem_cons_of_mem _ hd)⟩

theorem fitSeqLex_feature (big : α) (p : FeatC α) (hidx : ∀ c ∈ p.2, c.feature = p.1) :
    fitSeqLex big p.2 = fitSeq big p.2 :=
  foldl_pickLex_eq_pick big p.2
    (List.pairwise_of_forall_mem_list fun a ha c hc => by rw [hidx a ha, hidx c hc]) _ (Or.inl rfl)

theorem fitSeqLex_sorted_stream (big : α) (w : List (FeatC α)) (hidx : ∀ p ∈ w, ∀ c ∈ p.2, c.feature = p.1)
    (h : (w.map Prod.fst).Pairwise (· < ·)) : fitSeqLex big (streamC w) = fitSeq big (streamC w) := by
  refine foldl_pickLex_eq_pick big _ ?_ _ (Or.inl rfl)
  unfold streamC
  rw [List.pairwise_map] at h
  refine List.pairwise_flatMap.mpr ⟨fun p hp => List.pairwise_of_forall_mem_list fun a ha c hc => ?_,
    h.imp_of_mem fun {p q} hp hq hpq a ha c hc => ?_⟩
  · rw [hidx p hp a ha, hidx p hp c hc]
  · rw [hidx p hp a ha, hidx q hq c hc]; exact le_of_lt hpq

theorem fitSeqLex_streamC (big : α) (w : List (FeatC α)) (hidx : ∀ p ∈ w, ∀ c ∈ p.2, c.feature = p.1) :
    fitSeqLex big (streamC w) = fitSeqLex big (repsC big w) := by
  induction w with
  | nil => rfl
  | cons p w ih =>
    have h1 : streamC (p :: w) = p.2 ++ streamC w := by simp [streamC]
    have h2 : repsC big (p :: w) = fitSeq big p.2 :: repsC big w := by simp [repsC]
    rw [h1, h2, fitSeqLex_append, fitSeqLex_cons, ih (fun q hq => hidx q (List.mem_cons_of_mem _ hq)),
      fitSeqLex_feature big p (hidx p (by simp))]
    congr 1
    refine (normC_of_isCache big _ ?_).symm
    rcases fitSeq_cache big p.2 with ⟨hN, _⟩ | ⟨_, hu, _⟩
    · exact Or.inl hN
    · exact Or.inr hu

theorem bestC_cons (big : α) (x : Cand α) (R : List (Cand α)) (y : Cand α) (hR : BestC big R y)
    (hd : DistinctC big (x :: R)) : BestC big (x :: R) (selC (normC big x) y) := by
  unfold normC
  by_cases hux : Usable big x
  · rw [if_pos hux]
    unfold selC
    rcases hR with ⟨rfl, hn⟩ | ⟨hm, hu, hmin⟩
    · rw [if_neg (not_lessSF_noFit_cache big x (Or.inr hux))]
      refine Or.inr ⟨List.mem_cons_self, hux, fun c hc huc => Or.inl ?_⟩
      rcases List.mem_cons.mp hc with e | hc
      · exact e
      · exact absurd huc (hn c hc)
    · by_cases hl : lessSF y x
      · rw [if_pos hl]
        refine Or.inr ⟨List.mem_cons_of_mem _ hm, hu, fun c hc huc => ?_⟩
        rcases List.mem_cons.mp hc with rfl | hc
        · exact Or.inr ((lessSF_iff y c).mp hl)
        · exact hmin c hc huc
      · rw [if_neg hl]
        -- `x` and `y` are comparable: equal when they are on the same feature, else `x` is strictly first
        have hxy : y = x ∨ lexLtC x y := by
          rw [lessSF_iff] at hl
          simp only [lexLtC, not_or, not_and, not_lt] at hl
          by_cases hf : x.feature = y.feature
          · exact Or.inl (hd x List.mem_cons_self y (List.mem_cons_of_mem _ hm) hux hu hf).symm
          · exact Or.inr ((lt_or_eq_of_le hl.1).imp_right fun e => ⟨e, lt_of_le_of_ne (hl.2 e.symm) hf⟩)
        refine Or.inr ⟨List.mem_cons_self, hux, fun c hc huc => ?_⟩
        rcases List.mem_cons.mp hc with e | hc
        · exact Or.inl e
        · rcases hmin c hc huc with e | l
          · rw [e]; exact hxy
          · exact Or.inr (hxy.elim (fun e => e ▸ l) fun l' => lexLtC_trans l' l)
  · rw [if_neg hux, selC_noFit_left big y (hR.elim (fun h => Or.inl h.1) fun h => Or.inr h.2.1)]
    rcases hR with ⟨e, hn⟩ | ⟨hm, hu, hmin⟩
    · refine Or.inl ⟨e, fun c hc => ?_⟩
      rcases List.mem_cons.mp hc with rfl | hc
      · exact hux
      · exact hn c hc
    · refine Or.inr ⟨List.mem_cons_of_mem _ hm, hu, fun c hc huc => ?_⟩
      rcases List.mem_cons.mp hc with rfl | hc
      · exact absurd huc hux
      · exact hmin c hc huc

theorem fitSeqLex_bestC (big : α) (R : List (Cand α)) (hd : DistinctC big R) : BestC big R (fitSeqLex big R) := by
  induction R with
  | nil => exact Or.inl ⟨rfl, fun c hc => absurd hc List.not_mem_nil⟩
  | cons x R ih =>
    rw [fitSeqLex_cons]
    exact bestC_cons big x R _ (ih fun a ha b hb => hd a (List.mem_cons_of_mem _ ha) b (List.mem_cons_of_mem _ hb)) hd

theorem repsC_distinct (big : α) (feats : List (FeatC α)) (hidx : ∀ p ∈ feats, ∀ c ∈ p.2, c.feature = p.1)
    (hnd : (feats.map Prod.fst).Nodup) : DistinctC big (repsC big feats) := by
  intro a ha b hb hua hub hab
  obtain ⟨p, hp, rfl⟩ := List.mem_map.mp ha
  obtain ⟨q, hq, rfl⟩ := List.mem_map.mp hb
  rw [List.inj_on_of_nodup_map hnd hp hq
    ((hidx p hp _ (rep_usable_mem big p hua)).symm.trans (hab.trans (hidx q hq _ (rep_usable_mem big q hub))))]

theorem fitSeqLex_any (big : α) (feats : List (FeatC α)) (hidx : ∀ p ∈ feats, ∀ c ∈ p.2, c.feature = p.1)
    (hnd : (feats.map Prod.fst).Nodup) : BestC big (repsC big feats) (fitSeqLex big (streamC feats)) := by
  rw [fitSeqLex_streamC big feats hidx]
  exact fitSeqLex_bestC big _ (repsC_distinct big feats hidx hnd)

/-- per-thread lexicographic caches followed by `min_reduce_feature` hold what ONE cache holds that sees the workers' streams
    one after the other: the selection step is associative -/
theorem fitAssignedLex_eq (big : α) (ws : List (List (Cand α))) : fitAssignedLex big ws = fitSeqLex big ws.flatten := by
  cases ws with
  | nil => rfl
  | cons w ws =>
    show minReduce (fitSeqLex big w) (ws.map (fitSeqLex big)) = _
    induction ws generalizing w with
    | nil => rw [List.flatten_cons, List.flatten_nil, List.append_nil]; rfl
    | cons v vs ih =>
      rw [List.flatten_cons, List.flatten_cons, ← List.append_assoc, ← List.flatten_cons, ← ih (w ++ v), fitSeqLex_append]
      rfl

theorem streamC_flatten (ws : List (List (FeatC α))) : (ws.map streamC).flatten = streamC ws.flatten := by
  induction ws with
  | nil => rfl
  | cons w ws ih => rw [List.map_cons, List.flatten_cons, List.flatten_cons, ih]; exact List.flatMap_append.symm

/-- **Table fits: the selected candidate does not depend on the assignment of features to workers NOR on the order in which a
    worker sees them** — see `table_fit_assignment_independent` in Props/C10.lean. -/
theorem fitAssignedLex_any (big : α) (feats : List (FeatC α)) (workers : List (List (FeatC α)))
    (hidx : ∀ p ∈ feats, ∀ c ∈ p.2, c.feature = p.1) (hnd : (feats.map Prod.fst).Nodup)
    (hperm : workers.flatten.Perm feats) :
    BestC big (repsC big feats) (fitAssignedLex big (workers.map streamC)) := by
  rw [fitAssignedLex_eq, streamC_flatten]
  exact bestC_congr big _ _ (fun a => (hperm.map fun p => fitSeq big p.2).mem_iff) _
    (fitSeqLex_any big workers.flatten (fun p hp => hidx p (hperm.subset hp)) ((hperm.map _).nodup_iff.mpr hnd))

/-! ### affine / stump / hinge fits: plain caches, every worker sees its features in increasing index order -/

/-- **The selected candidate does not depend on the assignment of features to workers** (no hypothesis on the scores:
    exact ties allowed) — see `fit_assignment_independent` in Props/C10.lean for the statement. In index order the plain
    caches are lexicographic caches, so this is the table case. -/
theorem fitAssigned_sorted (big : α) (feats : List (FeatC α)) (workers : List (List (FeatC α)))
    (hidx : ∀ p ∈ feats, ∀ c ∈ p.2, c.feature = p.1) (hinc : (feats.map Prod.fst).Pairwise (· < ·))
    (hperm : workers.flatten.Perm feats) (hsorted : ∀ w ∈ workers, (w.map Prod.fst).Pairwise (· < ·)) :
    BestC big (repsC big feats) (fitAssigned big (workers.map streamC)) := by
  have h := fitAssignedLex_any big feats workers hidx (hinc.imp Nat.ne_of_lt) hperm
  have e : (workers.map streamC).map (fitSeqLex big) = (workers.map streamC).map (fitSeq big) := by
    rw [List.map_map, List.map_map]
    refine List.map_congr_left fun w hw => fitSeqLex_sorted_stream big w (fun p hp => hidx p ?_) (hsorted w hw)
    exact hperm.subset (List.mem_flatten.mpr ⟨w, hw, hp⟩)
  unfold fitAssignedLex at h
  rw [e] at h
  exact h

theorem fitSeq_sorted (big : α) (feats : List (FeatC α)) (hidx : ∀ p ∈ feats, ∀ c ∈ p.2, c.feature = p.1)
    (hinc : (feats.map Prod.fst).Pairwise (· < ·)) : BestC big (repsC big feats) (fitSeq big (streamC feats)) := by
  rw [← fitSeqLex_sorted_stream big feats hidx hinc]
  exact fitSeqLex_any big feats hidx (hinc.imp Nat.ne_of_lt)

/-- `BestC` over the per-feature bests, spelled out over ALL candidates -/
theorem bestC_lexmin (big : α) (feats : List (FeatC α)) (hidx : ∀ p ∈ feats, ∀ c ∈ p.2, c.feature = p.1) (r : Cand α)
    (h : BestC big (repsC big feats) r) :
    (r = noFit big ∧ ∀ y ∈ streamC feats, ¬ Usable big y) ∨
    (r ∈ streamC feats ∧ Usable big r ∧ ∀ y ∈ streamC feats, Usable big y →
      r.score ≤ y.score ∧ (y.score = r.score → r.feature ≤ y.feature)) := by
  have hrep : ∀ y ∈ streamC feats, Usable big y → ∃ p ∈ feats, y ∈ p.2 ∧ Usable big (fitSeq big p.2) ∧
      (fitSeq big p.2).score ≤ y.score := by
    intro y hy huy
    unfold streamC at hy
    obtain ⟨p, hp, hyp⟩ := List.mem_flatMap.mp hy
    refine ⟨p, hp, hyp, ?_⟩
    rcases fitSeq_cache big p.2 with ⟨_, hn⟩ | ⟨_, hu, hmin⟩
    · exact absurd huy (hn y hyp)
    · exact ⟨hu, hmin y hyp huy⟩
  rcases h with ⟨e, hn⟩ | ⟨hm, hu, hmin⟩
  · refine Or.inl ⟨e, fun y hy huy => ?_⟩
    obtain ⟨p, hp, _, hup, _⟩ := hrep y hy huy
    exact hn _ (List.mem_map.mpr ⟨p, hp, rfl⟩) hup
  · right
    obtain ⟨p0, hp0, hr0⟩ := List.mem_map.mp hm
    have hr0' : fitSeq big p0.2 = r := hr0
    have hrin : r ∈ streamC feats := by
      unfold streamC
      refine List.mem_flatMap.mpr ⟨p0, hp0, ?_⟩
      rw [← hr0']
      exact rep_usable_mem big p0 (by rw [hr0']; exact hu)
    refine ⟨hrin, hu, fun y hy huy => ?_⟩
    obtain ⟨p, hp, hyp, hup, hle⟩ := hrep y hy huy
    have hbf : (fitSeq big p.2).feature = y.feature := by
      rw [hidx p hp _ (rep_usable_mem big p hup), hidx p hp y hyp]
    rcases hmin _ (List.mem_map.mpr ⟨p, hp, rfl⟩) hup with e | l
    · rw [← e]
      exact ⟨hle, fun _ => by omega⟩
    · rcases l with l | ⟨e, l⟩
      · exact ⟨le_trans (le_of_lt l) hle, fun hya => absurd (lt_of_lt_of_le l hle) (by rw [hya]; exact lt_irrefl _)⟩
      · exact ⟨e ▸ hle, fun _ => by omega⟩

end NanoVerif.WLearner
