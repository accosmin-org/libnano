import NanoVerif.Proofs.Split
import NanoVerif.Proofs.SplitSampler
import NanoVerif.Gen.SplitKFold
import NanoVerif.Gen.SplitRandom
import NanoVerif.Gen.SplitSampling
import NanoVerif.Gen.SplitGboost
/-!
  C12 — the hand-written model of the splitters and samplers (`Model/Split.lean`, `Model/SplitSampler.lean`) IS the text
  regenerated on every run by `tools/props/c12_translate.py`:

  * `Gen/SplitKFold.lean`, `Gen/SplitRandom.lean` from `src/splitter/kfold.cpp`, `src/splitter/random.cpp`. The generated definitions
    live in `Int` (`tensor_size_t`, `/` = `Int.tdiv`); the model counts in `Nat`: the theorems state the equality through the casts,
    for every size / fold count / fold index;
  * `Gen/SplitSampling.lean` from `src/core/sampling.cpp`, `src/core/random.cpp`, `include/nano/core/random.h` (`sampleWithout`,
    `sampleWith`, `withoutG`, `withG`, `wwithG`);
  * `Gen/SplitGboost.lean` from `src/gboost/sampler.cpp`: per mode the routine called and the rule that fills `m_weights`
    (`errors_losses(1, m_samples(i))` — the SAMPLE index, not the position —, `gradients.vector(m_samples(i)).lpNorm<2>()`), the
    count formula, the constructor's weight buffer.
-/
namespace NanoVerif.Split
open NanoVerif

/-! ### k-fold -/

theorem gen_validBegin_cast (n folds f : Nat) :
    (f : Int) * Int.tdiv (n : Int) (folds : Int) = ((validBegin n folds f : Nat) : Int) := by
  simp [validBegin, chunk]

theorem gen_validEnd_cast (n folds f : Nat) :
    (if (f : Int) + 1 < (folds : Int) then ((validBegin n folds f : Nat) : Int) + Int.tdiv (n : Int) (folds : Int) else (n : Int))
      = ((validEnd n folds f : Nat) : Int) := by
  unfold validEnd
  by_cases h : f + 1 < folds
  · rw [if_pos h, if_pos (by omega), Int.natCast_tdiv_eq_ediv]
    rfl
  · rw [if_neg h, if_neg (by omega)]

/-- `kfold.cpp`: the one piece of the validation part is `world.segment(valid_begin, valid_end - valid_begin)` with the model's
    `validBegin` / `validEnd` (the arithmetic `fold * (size / folds)`, `(fold + 1 < folds) ? … : size` is the generated one) -/
theorem model_kfold_validPieces_is_generated (n folds f : Nat) :
    Gen.SplitKFold.validPieces n folds f =
      [(0, (validEnd n folds f : Int) - validBegin n folds f, (validBegin n folds f : Int),
        (validEnd n folds f : Int) - validBegin n folds f)] := by
  simp only [Gen.SplitKFold.validPieces, gen_validBegin_cast, gen_validEnd_cast]

/-- `kfold.cpp`: the training part is written in two pieces, `world.segment(0, valid_begin)` to offset 0 and
    `world.segment(valid_end, size - valid_end)` to offset `valid_begin` -/
theorem model_kfold_trainPieces_is_generated (n folds f : Nat) :
    Gen.SplitKFold.trainPieces n folds f =
      [(0, (validBegin n folds f : Int), 0, (validBegin n folds f : Int)),
       ((validBegin n folds f : Int), ((n : Int) - ((validEnd n folds f : Int) - validBegin n folds f)) - validBegin n folds f,
        (validEnd n folds f : Int), (n : Int) - validEnd n folds f)] := by
  simp only [Gen.SplitKFold.trainPieces, gen_validBegin_cast, gen_validEnd_cast]

/-- declared sizes: `indices_t valid(valid_end - valid_begin)`, `indices_t train(samples.size() - valid.size())` -/
theorem model_kfold_sizes_is_generated (n folds f : Nat) :
    Gen.SplitKFold.validSize n folds f = (validEnd n folds f : Int) - validBegin n folds f ∧
    Gen.SplitKFold.trainSize n folds f = (n : Int) - ((validEnd n folds f : Int) - validBegin n folds f) := by
  simp only [Gen.SplitKFold.validSize, Gen.SplitKFold.trainSize, gen_validBegin_cast, gen_validEnd_cast, and_self]

/-- the pieces of `kfold.cpp` tile their destination vectors (what Eigen's compiled-out size assertions would check): every piece
    has equal destination and source length, no length is negative, the first piece starts at 0, each next one where the previous
    ended, the last one ends at the declared size, and every source range lies inside `world` -/
theorem gen_kfold_pieces_tile (n folds f : Nat) (hf : f < folds) :
    (∀ p ∈ Gen.SplitKFold.trainPieces n folds f ++ Gen.SplitKFold.validPieces n folds f,
        p.2.1 = p.2.2.2 ∧ 0 ≤ p.2.1 ∧ 0 ≤ p.2.2.1 ∧ p.2.2.1 + p.2.2.2 ≤ (n : Int)) ∧
    (∃ a b, Gen.SplitKFold.trainPieces n folds f = [a, b] ∧ a.1 = 0 ∧ b.1 = a.1 + a.2.1 ∧
        b.1 + b.2.1 = Gen.SplitKFold.trainSize n folds f) ∧
    (∃ a, Gen.SplitKFold.validPieces n folds f = [a] ∧ a.1 = 0 ∧ a.2.1 = Gen.SplitKFold.validSize n folds f) := by
  have h1 := validBegin_le_validEnd n folds f hf
  have h2 := validEnd_le n folds f hf
  rw [model_kfold_trainPieces_is_generated, model_kfold_validPieces_is_generated, (model_kfold_sizes_is_generated n folds f).1,
    (model_kfold_sizes_is_generated n folds f).2]
  refine ⟨?_, ⟨_, _, rfl, rfl, (Int.zero_add _).symm, by simp only; omega⟩, ⟨_, rfl, rfl, rfl⟩⟩
  intro p hp
  simp only [List.cons_append, List.nil_append, List.mem_cons, List.not_mem_nil, or_false] at hp
  rcases hp with rfl | rfl | rfl <;> refine ⟨?_, ?_, ?_, ?_⟩ <;> simp only <;> omega

/-- the hypothesis of `gen_kfold_pieces_tile` is satisfiable, and the statement has content there (10 samples, 3 folds, last fold) -/
example : (2 : Nat) < 3 ∧ Gen.SplitKFold.trainPieces 10 3 2 = [(0, 6, 0, 6), (6, 0, 10, 0)] ∧
    Gen.SplitKFold.validPieces 10 3 2 = [(0, 4, 6, 4)] := by decide

theorem gen_segment_kfold (w : List Int) (off len : Nat) :
    Gen.SplitKFold.segment w (off : Int) ((len : Nat) : Int) = (w.drop off).take len := by
  simp [Gen.SplitKFold.segment]

/-- one iteration of the k-fold loop: which part is the validation one, in which order the two training pieces are
    concatenated, both parts sorted, the pair is `(train, valid)` -/
theorem model_foldSplit_is_generated (sort : List Int → List Int) (perm : List Int) (folds f : Nat) :
    foldSplit sort perm folds f = Gen.SplitKFold.foldPair sort perm (folds : Int) (f : Int) := by
  simp only [foldSplit, Gen.SplitKFold.foldPair, model_kfold_trainPieces_is_generated, model_kfold_validPieces_is_generated,
    Gen.SplitKFold.assemble, List.flatMap_cons, List.flatMap_nil, List.append_nil, Gen.SplitKFold.segment,
    Int.toNat_zero, Int.toNat_natCast, List.drop_zero]
  congr 2
  · simp only [trainSlice]
    congr 1
    rw [List.take_of_length_le]
    simp only [List.length_drop]; omega
  · simp only [validSlice]
    congr 1; omega

/-- `kfold_splitter_t::split`: ONE shuffle with `make_rng(seed)` before the loop, then one pair per fold -/
theorem model_kfold_is_generated {G : Type} (seedRng : Nat → G) (shuffle : G → List Int → List Int × G)
    (sort : List Int → List Int) (seed folds : Nat) (samples : List Int) :
    kfold sort (shuffle (seedRng seed) samples).1 folds =
      Gen.SplitKFold.split seedRng shuffle sort seed (folds : Int) samples := by
  simp only [kfold, Gen.SplitKFold.split, Int.toNat_natCast]
  exact List.map_congr_left (fun f _ => model_foldSplit_is_generated sort _ folds f)

/-! ### repeated random sub-sampling -/

/-- `train_size = idiv(train_perc * samples.size(), 100)` and `valid_size = samples.size() - train_size` -/
theorem model_random_sizes_is_generated (tp n : Nat) (folds : Int) :
    Gen.SplitRandom.outer0 n folds tp = ((trainSize tp n : Nat) : Int) ∧
    Gen.SplitRandom.outer1 n folds tp = (n : Int) - ((trainSize tp n : Nat) : Int) := by
  simp only [Gen.SplitRandom.outer0, Gen.SplitRandom.outer1, idiv_trainSize, and_self]

/-- one iteration: `train = segment(0, train_size)`, `valid = segment(train_size, valid_size)`, both sorted, pair `(train, valid)` -/
theorem model_randomFold_is_generated (sort : List Int → List Int) (perm : List Int) (ts : Nat) (folds tp fold : Int) :
    randomFold sort ts perm = Gen.SplitRandom.foldPair sort perm folds tp fold (ts : Int) ((perm.length : Int) - (ts : Int)) := by
  simp only [randomFold, Gen.SplitRandom.foldPair, Gen.SplitRandom.trainPieces, Gen.SplitRandom.validPieces,
    Gen.SplitRandom.assemble, List.flatMap_cons, List.flatMap_nil, List.append_nil, Gen.SplitRandom.segment]
  congr 2
  rw [Int.toNat_natCast, show ((perm.length : Int) - (ts : Int)).toNat = perm.length - ts by omega]

theorem gen_random_loop {G : Type} (shuffle : G → List Int → List Int × G) (sort : List Int → List Int)
    (hlen : ∀ g l, (shuffle g l).1.length = l.length) (folds tp : Int) (ts n : Nat) :
    ∀ (k : Nat) (g : G) (l : List Int) (fold : Nat), l.length = n →
      (randomPerms shuffle g l k).map (fun p => randomFold sort ts p) =
        Gen.SplitRandom.loop shuffle sort folds tp (ts : Int) ((n : Int) - (ts : Int)) g l fold k
  | 0, _, _, _, _ => rfl
  | k + 1, g, l, fold, hl => by
    have hl' : (shuffle g l).1.length = n := (hlen g l).trans hl
    simp only [randomPerms, Gen.SplitRandom.loop, List.map_cons]
    rw [gen_random_loop shuffle sort hlen folds tp ts n k _ _ (fold + 1) hl',
      model_randomFold_is_generated sort _ ts folds tp fold, hl']

/-- `random_splitter_t::split`: the sizes are computed once before the loop, ONE generator `make_rng(seed)` for the call, a shuffle
    in place at the start of every fold. (`hlen`: a shuffle keeps the number of samples — the model computes the training size
    from each shuffled list, the code once from the argument.) -/
theorem model_random_split_is_generated {G : Type} (seedRng : Nat → G) (shuffle : G → List Int → List Int × G)
    (sort : List Int → List Int) (hlen : ∀ g l, (shuffle g l).1.length = l.length) (seed folds tp : Nat) (samples : List Int) :
    randomSplit sort (randomPerms shuffle (seedRng seed) samples folds) tp =
      Gen.SplitRandom.split seedRng shuffle sort seed (folds : Int) (tp : Int) samples := by
  have hmem := randomPerms_forall shuffle (·.length = ·.length) .trans hlen
  simp only [randomSplit, Gen.SplitRandom.split, Int.toNat_natCast,
    (model_random_sizes_is_generated tp samples.length folds).1, (model_random_sizes_is_generated tp samples.length folds).2]
  rw [← gen_random_loop shuffle sort hlen folds tp (trainSize tp samples.length) samples.length folds _ _ 0 rfl]
  exact List.map_congr_left (fun p hp => by rw [hmem _ _ _ p hp])

/-- `hlen` is satisfiable (a reversal is a shuffle that keeps the length) -/
example : ∀ (g : Nat) (l : List Int), ((fun (g : Nat) (l : List Int) => (l.reverse, g + 1)) g l).1.length = l.length := by
  intro g l; simp

/-- the object level (`Splitter.split` of `Model/SplitSampler.lean`, run by the driver for the `hist` family) is the generated
    text of both `split` functions -/
theorem model_splitter_split_is_generated {G : Type} (seedRng : Nat → G) (shuffle : G → List Int → List Int × G)
    (sort : List Int → List Int) (hlen : ∀ g l, (shuffle g l).1.length = l.length) (s : Splitter) (samples : List Int) :
    s.split seedRng shuffle sort samples =
      match s.kind with
      | .kfold => Gen.SplitKFold.split seedRng shuffle sort s.seed (s.folds : Int) samples
      | .random => Gen.SplitRandom.split seedRng shuffle sort s.seed (s.folds : Int) (s.trainPer : Int) samples := by
  unfold Splitter.split
  cases s.kind
  · exact model_kfold_is_generated seedRng shuffle sort s.seed s.folds samples
  · exact model_random_split_is_generated seedRng shuffle sort hlen s.seed s.folds s.trainPer samples

/-! ### the sampling utilities (`core/sampling.cpp`, `core/random.cpp`, `core/random.h`) -/

section sampling
open NanoVerif.Gen.SplitSampling (generate pickAll slice)

theorem gen_generate_eq {G : Type} (draw : G → Nat × G) : ∀ (k : Nat) (g : G), generate draw k g = drawsG draw k g
  | 0, _ => rfl
  | k + 1, g => by simp only [generate, drawsG, gen_generate_eq draw k]

theorem gen_pickAll_eq (samples : List Int) : ∀ (draws : List Nat), pickAll samples draws = pick samples draws
  | [] => rfl
  | d :: ds => by
    simp only [pickAll, pick, gen_pickAll_eq samples ds]
    cases samples[d]? <;> cases pick samples ds <;> rfl

/-- `make_rng(seed)`: the engine is seeded from the argument exactly when the optional holds a value — for EVERY value, 0
    included — and with that value unchanged (`Splitter.split` / `Sampler.make` use `seedRng seed` for every seed) -/
theorem model_make_rng_is_generated :
    (∀ s : Nat, Gen.SplitSampling.makeRngSeeded (some s) = true) ∧ Gen.SplitSampling.makeRngSeeded none = false ∧
    (∀ s : Int, Gen.SplitSampling.makeRngSeedValue s = s) :=
  ⟨fun _ => rfl, rfl, fun _ => rfl⟩

/-- `make_udist(min, max)`: the assert is `min ≤ max`, the range is handed over unchanged; `sample_with_replacement` asks for
    `[0, size - 1]` (the model's `L.uniform g (samples.length - 1)`) -/
theorem model_udist_is_generated (n : Nat) (count lo hi : Int) :
    Gen.SplitSampling.udistGuard lo hi = decide (lo ≤ hi) ∧ Gen.SplitSampling.udistBounds lo hi = (lo, hi) ∧
    Gen.SplitSampling.withDist n count = .uniform 0 ((n : Int) - 1) ∧
    Gen.SplitSampling.weightedDist n count = .discrete ∧
    (Gen.SplitSampling.withGuards n count = [true] ↔ 0 < n) := by
  refine ⟨rfl, rfl, rfl, rfl, ?_⟩
  simp only [Gen.SplitSampling.withGuards, Gen.SplitSampling.udistGuard, List.cons.injEq, and_true, decide_eq_true_eq]
  omega

/-- `sample_without_replacement(samples, count, rng)`: the guard `count ≤ size`, then copy – shuffle – `slice(0, count)` – sort.
    (`hlen`: a shuffle keeps the number of samples — the model tests the guard on the shuffled copy.) -/
theorem model_withoutG_is_generated {G α : Type} (L : StdLib G α) (hlen : ∀ g l, (L.shuffle g l).1.length = l.length)
    (sort : List Int → List Int) (samples : List Int) (count : Nat) (g : G) :
    withoutG L sort samples count g =
      (if (Gen.SplitSampling.withoutGuards samples.length count).all id
        then some (Gen.SplitSampling.withoutBody L.shuffle sort samples count g).1 else none,
       (Gen.SplitSampling.withoutBody L.shuffle sort samples count g).2) := by
  simp only [withoutG, sampleWithout, Gen.SplitSampling.withoutGuards, Gen.SplitSampling.withoutBody, slice, hlen,
    List.all_cons, List.all_nil, Bool.and_true, id, decide_eq_true_eq, Int.toNat_zero, List.drop_zero, Int.sub_zero,
    Int.toNat_natCast, Int.ofNat_le]

theorem model_sampleWithout_is_generated (sort : List Int → List Int) (perm : List Int) (count : Nat) :
    sampleWithout sort perm count =
      if (Gen.SplitSampling.withoutGuards perm.length count).all id then some (sort (slice perm 0 count)) else none := by
  simp only [sampleWithout, Gen.SplitSampling.withoutGuards, slice, List.all_cons, List.all_nil, Bool.and_true, id,
    decide_eq_true_eq, Int.toNat_zero, List.drop_zero, Int.sub_zero, Int.toNat_natCast, Int.ofNat_le]

/-- `sample_with_replacement(samples, count, rng)`: `count` draws from `udist(0, size - 1)`, `selection[k] = samples(draw_k)`, sort -/
theorem model_withG_is_generated {G α : Type} (L : StdLib G α) (sort : List Int → List Int) (samples : List Int) (count : Nat) (g : G) :
    withG L sort samples count g =
      Gen.SplitSampling.withBody (fun g => L.uniform g (samples.length - 1)) sort samples count g := by
  simp only [withG, sampleWith, Gen.SplitSampling.withBody, Int.toNat_natCast, gen_generate_eq, gen_pickAll_eq, drawsG_length,
    if_true]

/-- `sample_with_replacement(samples, weights, count, rng)`: the same skeleton with the discrete distribution over `weights` -/
theorem model_wwithG_is_generated {G α : Type} [Add α] [Div α] [LT α] [DecidableLT α] [OfNat α 0] [OfNat α 1]
    (L : StdLib G α) (sort : List Int → List Int) (samples : List Int) (weights : List α) (count : Nat) (g : G) :
    wwithG L sort samples weights count g =
      Gen.SplitSampling.weightedBody (ddDrawG L (ddCp weights).toArray) sort samples count g := by
  simp only [wwithG, sampleWith, Gen.SplitSampling.weightedBody, Int.toNat_natCast, gen_generate_eq, gen_pickAll_eq,
    drawsG_length, if_true]

/-- `hlen` of `model_withoutG_is_generated` is satisfiable -/
example : ∀ (g : Nat) (l : List Int), ((fun (g : Nat) (l : List Int) => (l.reverse, g + 1)) g l).1.length = l.length := by
  intro g l; simp

/-- the three overloads without a generator are wrappers (`make_rng()` = the `std::random_device` branch) -/
theorem gen_unseeded_wrappers :
    Gen.SplitSampling.unseededWrappers =
      [("sample_with_replacement", 2), ("sample_with_replacement", 3), ("sample_without_replacement", 2)] := rfl

end sampling

/-! ### `gboost::sampler_t` (`gboost/sampler.cpp`) -/

section gboost
open NanoVerif.Gen.SplitGboost (Routine WeightRule)

/-- the model's modes are the enumerators of `gboost_subsample` -/
def modeToGen : Mode → Gen.SplitGboost.Mode
  | .off => .off
  | .subsample => .subsample
  | .bootstrap => .bootstrap
  | .weiLoss => .weiLossBootstrap
  | .weiGrad => .weiGradBootstrap

section
variable {G α : Type}

/-- what a generated weight rule means in the model's vocabulary: `loss` is row 1 of `errors_losses` and `grad` the gradient row,
    both as functions of the SAMPLE index, the norm is `lpNorm<2>`; any other rule has no counterpart in the model (`none`) -/
def weightsByRule (N : Num α) (s : Sampler G α) (loss : Int → α) (grad : Int → List α) : WeightRule → Option (List α)
  | .keep => some s.weights
  | .loss 1 .sample => some (s.samples.map loss)
  | .gradNorm 2 .sample => some (s.samples.map (fun i => N.norm2 (grad i)))
  | _ => none

variable [Mul α] [Add α] [Div α] [LT α] [DecidableLT α] [OfNat α 0] [OfNat α 1]

def sampleByRoute (N : Num α) (L : StdLib G α) (sort : List Int → List Int) (s : Sampler G α) (rt : Routine) (w : List α) :
    Option (List Int) × Sampler G α :=
  let count := Gen.SplitGboost.count N.trunc N.ofNat s.ratio s.samples.length
  match rt with
  | .identity => (some s.samples, s)
  | .without => let r := withoutG L sort s.samples count s.rng; (r.1, { s with rng := r.2 })
  | .withUniform => let r := withG L sort s.samples count s.rng; (r.1, { s with rng := r.2 })
  | .withWeights => let r := wwithG L sort s.samples w count s.rng; (r.1, { s with rng := r.2, weights := w })

/-- `sampler_t::sample`: the model follows the generated `switch (m_type)` in every mode -/
theorem model_sampler_sample_is_generated (N : Num α) (L : StdLib G α) (sort : List Int → List Int) (s : Sampler G α)
    (loss : Int → α) (grad : Int → List α) :
    (weightsByRule N s loss grad (Gen.SplitGboost.route (modeToGen s.mode)).2).map
        (sampleByRoute N L sort s (Gen.SplitGboost.route (modeToGen s.mode)).1) =
      some (s.sample N L sort loss grad) := by
  obtain ⟨samples, mode, rng, ratio, weights⟩ := s
  cases mode <;> rfl

omit [Add α] [Div α] [LT α] [DecidableLT α] [OfNat α 0] [OfNat α 1] in
/-- `count = static_cast<tensor_size_t>(m_ratio * static_cast<scalar_t>(m_samples.size()))` -/
theorem model_sampler_count_is_generated (N : Num α) (s : Sampler G α) :
    s.count N = Gen.SplitGboost.count N.trunc N.ofNat s.ratio s.samples.length := rfl

end

/-- the constructor: no weight buffer exactly in the modes the generated condition names -/
theorem model_sampler_make_is_generated {G α : Type} [OfNat α 0] (samples : List Int) (mode : Mode) (g : G) (ratio : α) :
    (Sampler.make samples mode g ratio).weights =
      if Gen.SplitGboost.weightsEmpty (modeToGen mode) = true then [] else List.replicate samples.length 0 := by
  cases mode <;> rfl

end gboost

end NanoVerif.Split
