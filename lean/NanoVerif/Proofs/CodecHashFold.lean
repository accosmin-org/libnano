import NanoVerif.Proofs.TensorHash
/-!
  C15 — how far the content hash of a tensor stream (`hash.h`: the `hash_combine` fold from 0) detects a changed
  element that is NOT the last one (core Lean only).

  `hash_combine(seed, ·)` is injective, `hash_combine(·, h)` is not (`hashCombine_not_injective_left`). What survives:
  write `seed = 4·u + r`; for fixed `r` the low 62 bits of `hash_combine(seed, h)` are a triangular (bit `i` of the
  result = bit `i` of `u` xor a function of the lower bits) function of `u`. Hence two running hashes whose lowest
  differing bit is `p ≥ 2` are mapped to running hashes whose lowest differing bit is `p - 2`: a difference survives
  `p / 2` further folds for sure. Differences in bit 0 or 1 can be cancelled by the next fold (the collisions).
-/
namespace NanoVerif.Codec
open NanoVerif.Gen.CodecConsts

def LowAgree (p : Nat) (x y : UInt64) : Prop := x.toNat % 2 ^ p = y.toNat % 2 ^ p

def LowDiff (p : Nat) (x y : UInt64) : Prop := LowAgree p x y ∧ ¬ LowAgree (p + 1) x y

instance (p : Nat) (x y : UInt64) : Decidable (LowDiff p x y) := by unfold LowDiff LowAgree; infer_instance

/-! ### arithmetic modulo powers of two -/

theorem mod_add_congr (Q a a' b b' : Nat) (ha : a % Q = a' % Q) (hb : b % Q = b' % Q) :
    (a + b) % Q = (a' + b') % Q := by
  rw [Nat.add_mod a b, Nat.add_mod a' b', ha, hb]

theorem mod_add_cancel (Q E E' u v : Nat) (hE : E % Q = E' % Q) (h : (E + u) % Q = (E' + v) % Q) :
    u % Q = v % Q := by
  rw [mod_add_congr Q E' E v v hE.symm rfl] at h
  have h' : ((E : Int) + u) % Q = ((E : Int) + v) % Q := by exact_mod_cast h
  exact_mod_cast Int.emod_add_cancel_left.mp h'

theorem mod_pow_le {p q : Nat} (h : q ≤ p) {a b : Nat} (hab : a % 2 ^ p = b % 2 ^ p) : a % 2 ^ q = b % 2 ^ q := by
  have hd : 2 ^ q ∣ 2 ^ p := Nat.pow_dvd_pow 2 h
  rw [← Nat.mod_mod_of_dvd a hd, ← Nat.mod_mod_of_dvd b hd, hab]

theorem div4_mod (a q : Nat) : a / 4 % 2 ^ q = a % 2 ^ (q + 2) / 4 := by
  have e : 2 ^ (q + 2) = 4 * 2 ^ q := by rw [Nat.pow_add]; omega
  rw [e, Nat.mod_mul_right_div_self]

theorem xor_cancel_nat (a x y : Nat) (h : a ^^^ x = a ^^^ y) : x = y := by
  have h' := congrArg (fun t => a ^^^ t) h
  simpa [← Nat.xor_assoc] using h'

/-! ### `hash_combine` on naturals -/

/-- the value `hash + 0x9e3779b9 + (seed << 6) + (seed >> 2)` before the reduction modulo `2^64` -/
def mixSum (s h : Nat) : Nat := h + 2654435769 + s * 64 + s / 4

theorem hashCombine_toNat (s h : UInt64) :
    (hashCombine s h).toNat = s.toNat ^^^ (mixSum s.toNat h.toNat % 2 ^ 64) := by
  unfold hashCombine mixSum
  simp only [UInt64.toNat_xor, UInt64.toNat_add, UInt64.toNat_shiftLeft, UInt64.toNat_shiftRight,
    Nat.shiftLeft_eq, Nat.shiftRight_eq_div_pow]
  have e6 : (6 : UInt64).toNat % 64 = 6 := by decide
  have e2 : (2 : UInt64).toNat % 64 = 2 := by decide
  have eC : (2654435769 : UInt64).toNat = 2654435769 := by decide
  rw [e6, e2, eC]
  -- the sum is reduced once at the end: the inner reductions drop out
  simp only [Nat.add_mod_mod, Nat.mod_add_mod, Nat.reducePow]

theorem low_of_hashCombine (q : Nat) (hq : q ≤ 64) (s h : UInt64) :
    (hashCombine s h).toNat % 2 ^ q = s.toNat % 2 ^ q ^^^ mixSum s.toNat h.toNat % 2 ^ q := by
  rw [hashCombine_toNat, Nat.xor_mod_two_pow, Nat.mod_mod_of_dvd _ (Nat.pow_dvd_pow 2 hq)]

theorem lowDiff_le (p : Nat) (x y : UInt64) (h : LowDiff p x y) : p + 1 ≤ 64 := by
  rcases Nat.lt_or_ge p 64 with c | c
  · omega
  · exfalso
    apply h.2
    have hx : x.toNat < 2 ^ 64 := x.toNat_lt
    have hy : y.toNat < 2 ^ 64 := y.toNat_lt
    have hp : 2 ^ 64 ≤ 2 ^ p := Nat.pow_le_pow_right (by decide) c
    have hp1 : 2 ^ 64 ≤ 2 ^ (p + 1) := Nat.pow_le_pow_right (by decide) (by omega)
    have := h.1
    unfold LowAgree at this ⊢
    rw [Nat.mod_eq_of_lt (by omega), Nat.mod_eq_of_lt (by omega)] at this
    rw [this]

theorem lowDiff_ne (p : Nat) (x y : UInt64) (h : LowDiff p x y) : x ≠ y := by
  intro e; subst e; exact h.2 rfl

theorem lowAgree_hashCombine {q : Nat} (hq : q ≤ 64) {s1 s2 : UInt64} (hs : LowAgree q s1 s2) (h1 h2 : UInt64) :
    LowAgree q (hashCombine s1 h1) (hashCombine s2 h2) ↔
      mixSum s1.toNat h1.toNat % 2 ^ q = mixSum s2.toNat h2.toNat % 2 ^ q := by
  unfold LowAgree at hs ⊢
  rw [low_of_hashCombine q hq, low_of_hashCombine q hq, hs]
  exact ⟨xor_cancel_nat _ _ _, fun h => by rw [h]⟩

theorem lowAgree_hashCombine_right {q : Nat} (hq : q ≤ 64) (s a b : UInt64) :
    LowAgree q (hashCombine s a) (hashCombine s b) ↔ LowAgree q a b := by
  have em : ∀ x : Nat, mixSum s.toNat x = (s.toNat * 64 + s.toNat / 4 + 2654435769) + x := by
    intro x; unfold mixSum; omega
  rw [lowAgree_hashCombine hq rfl, em, em]
  exact ⟨mod_add_cancel _ _ _ _ _ rfl, mod_add_congr _ _ _ _ _ rfl⟩

/-- in the running hash only `seed >> 2` can make a difference in the low bits that agree already -/
theorem lowAgree_hashCombine_left {q : Nat} (hq : q ≤ 64) {s1 s2 : UInt64} (hs : LowAgree q s1 s2) (h : UInt64) :
    LowAgree q (hashCombine s1 h) (hashCombine s2 h) ↔
      s1.toNat % 2 ^ (q + 2) / 4 = s2.toNat % 2 ^ (q + 2) / 4 := by
  have em : ∀ s : Nat, mixSum s h.toNat = (h.toNat + 2654435769 + s * 64) + s / 4 := by
    intro s; unfold mixSum; omega
  have h64 : (h.toNat + 2654435769 + s1.toNat * 64) % 2 ^ q = (h.toNat + 2654435769 + s2.toNat * 64) % 2 ^ q := by
    apply mod_add_congr _ _ _ _ _ rfl
    rw [Nat.mul_mod s1.toNat, Nat.mul_mod s2.toNat, show s1.toNat % 2 ^ q = s2.toNat % 2 ^ q from hs]
  rw [lowAgree_hashCombine hq hs, em, em, ← div4_mod, ← div4_mod]
  exact ⟨mod_add_cancel _ _ _ _ _ h64, mod_add_congr _ _ _ _ _ h64⟩

theorem hashCombine_lowDiff_right (p : Nat) (s a b : UInt64) (h : LowDiff p a b) :
    LowDiff p (hashCombine s a) (hashCombine s b) := by
  have hp := lowDiff_le p a b h
  exact ⟨(lowAgree_hashCombine_right (by omega) s a b).mpr h.1,
    fun hc => h.2 ((lowAgree_hashCombine_right (by omega) s a b).mp hc)⟩

theorem lowDiff_flip (x : UInt64) (q : Nat) (hq : q < 64) : LowDiff q x (x ^^^ UInt64.ofNat (2 ^ q)) := by
  have e : (UInt64.ofNat (2 ^ q)).toNat = 2 ^ q := by
    rw [UInt64.toNat_ofNat']
    exact Nat.mod_eq_of_lt (Nat.pow_lt_pow_right (by decide) hq)
  unfold LowDiff LowAgree
  rw [UInt64.toNat_xor, e]
  refine ⟨?_, ?_⟩
  · rw [Nat.xor_mod_two_pow, Nat.mod_self, Nat.xor_zero]
  · intro h
    rw [Nat.xor_mod_two_pow] at h
    have h2 : 2 ^ q % 2 ^ (q + 1) = 2 ^ q := Nat.mod_eq_of_lt (Nat.pow_lt_pow_right (by decide) (by omega))
    rw [h2] at h
    have h0 := xor_cancel_nat (x.toNat % 2 ^ (q + 1)) 0 (2 ^ q) (by rw [Nat.xor_zero]; exact h)
    have : 0 < 2 ^ q := Nat.pow_pos (by decide)
    omega

/-- distinct 64-bit values have a lowest bit in which they differ -/
theorem exists_lowDiff {x y : UInt64} (h : x ≠ y) : ∃ p, LowDiff p x y := by
  have h64 : ¬ LowAgree 64 x y := fun e => h (UInt64.toNat_inj.mp (by
    unfold LowAgree at e
    rwa [Nat.mod_eq_of_lt x.toNat_lt, Nat.mod_eq_of_lt y.toNat_lt] at e))
  -- the first length at which the low bits stop agreeing (they agree on none of them)
  have first : ∀ n, ¬ LowAgree n x y → ∃ p, LowDiff p x y := by
    intro n
    induction n with
    | zero => exact fun h0 => absurd (show LowAgree 0 x y by unfold LowAgree; rw [Nat.pow_zero, Nat.mod_one, Nat.mod_one]) h0
    | succ n ih => exact fun hs => (Decidable.em (x.toNat % 2 ^ n = y.toNat % 2 ^ n)).elim (fun hn => ⟨n, hn, hs⟩) ih
  exact first 64 h64

end NanoVerif.Codec
