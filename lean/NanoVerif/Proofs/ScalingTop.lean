import NanoVerif.Model.ScalingTop
import NanoVerif.Proofs.ScalingLemmas
/-!
  C14 — lemmas about `Model/ScalingTop.lean`: the enable mask against `column2feature`, the statistics of a matrix column by column,
  row-major addressing of 4-D tensors, `mapM` over samples.
-/
set_option linter.unusedSectionVars false

namespace NanoVerif.Scaling

/-! ### the enable mask -/

theorem enableMask_length (fs : List Feat) : (enableMask fs).length = totalCols fs := by
  induction fs with
  | nil => rfl
  | cons f fs ih => simp [enableMask, totalCols, ih]

/-- `column2feature` answers exactly for the columns below `dataset.columns()` -/
theorem column2feature_isSome (fs : List Feat) (c : Nat) : (column2feature fs c).isSome = true ↔ c < totalCols fs := by
  induction fs generalizing c with
  | nil => simp [column2feature, totalCols]
  | cons f fs ih =>
    simp only [column2feature, totalCols]
    by_cases h : c < f.cols
    · simp [h]; omega
    · simp only [h, if_false, Option.isSome_map, ih]; omega

/-- the loop of `make_flatten_stats` (stats.cpp:280-286): `enable_scaling(column) = isclass(feature(column2feature(column))) ? 0 : 1` -/
theorem enableMask_spec (fs : List Feat) (c i : Nat) (h : column2feature fs c = some i) :
    ∃ f, fs[i]? = some f ∧ (enableMask fs)[c]? = some (!f.isClass) := by
  induction fs generalizing c i with
  | nil => cases h
  | cons f fs ih =>
    unfold column2feature at h
    unfold enableMask
    split at h
    · rename_i hc
      cases h
      exact ⟨f, rfl, by
        rw [List.getElem?_append_left (by rw [List.length_replicate]; exact hc), List.getElem?_replicate, if_pos hc]⟩
    · rename_i hc
      obtain ⟨i', hi', rfl⟩ := Option.map_eq_some_iff.mp h
      obtain ⟨g, hg, hm⟩ := ih (c - f.cols) i' hi'
      exact ⟨g, hg, by
        rw [List.getElem?_append_right (by rw [List.length_replicate]; exact Nat.le_of_not_lt hc), List.length_replicate]
        exact hm⟩

section
variable {α : Type} [Field α] [LinearOrder α] [IsStrictOrderedRing α]

theorem statsOfMask_length [Sqrt α] (hi lo eps : α) (mask : List Bool) (rows : List (List (Option α))) :
    (statsOfMask hi lo eps mask rows).length = mask.length := by
  simp [statsOfMask]

theorem statsOfMask_getElem? [Sqrt α] (hi lo eps : α) (mask : List Bool) (rows : List (List (Option α))) (c : Nat) :
    (statsOfMask hi lo eps mask rows)[c]? = (mask[c]?).map (fun en => columnStats hi lo eps en (colOf rows c)) := by
  simp only [statsOfMask, List.getElem?_map, List.getElem?_zipIdx]
  cases mask[c]? <;> simp

theorem statsOfMask_wf [Sqrt α] (hi lo eps : α) (heps : 0 < eps) (mask : List Bool) (rows : List (List (Option α))) :
    ∀ s ∈ statsOfMask hi lo eps mask rows, s.WF := by
  intro s hs
  simp only [statsOfMask, List.mem_map] at hs
  obtain ⟨p, -, rfl⟩ := hs
  exact finalize_wf eps heps p.1 _

theorem scaleRow_eq_some [FinTest α] {m : Mode} {ss : List (Stats α)} {r : List (Option α)} {r' : List α}
    (h : scaleRow m ss r = some r') : ss.length = r.length ∧ r' = List.zipWith (scaleCell m) ss r := by
  unfold scaleRow at h
  split at h
  · exact ⟨‹_›, (Option.some.inj h).symm⟩
  · cases h

end

/-! ### row-major addressing of one sample -/

theorem Dims3.off_lt (d : Dims3) (i j k : Nat) (hi : i < d.d1) (hj : j < d.d2) (hk : k < d.d3) : d.off i j k < d.size := by
  have h1 : i * d.d2 + j + 1 ≤ d.d1 * d.d2 :=
    calc i * d.d2 + (j + 1) ≤ i * d.d2 + d.d2 := Nat.add_le_add_left hj _
      _ = (i + 1) * d.d2 := (Nat.succ_mul _ _).symm
      _ ≤ d.d1 * d.d2 := Nat.mul_le_mul_right _ hi
  calc (i * d.d2 + j) * d.d3 + k < (i * d.d2 + j) * d.d3 + d.d3 := Nat.add_lt_add_left hk _
    _ = (i * d.d2 + j + 1) * d.d3 := (Nat.succ_mul _ _).symm
    _ ≤ d.d1 * d.d2 * d.d3 := Nat.mul_le_mul_right _ h1

/-- the component is recovered from its column: distinct components own distinct columns -/
theorem Dims3.off_decode (d : Dims3) (i j k : Nat) (hj : j < d.d2) (hk : k < d.d3) :
    d.off i j k % d.d3 = k ∧ d.off i j k / d.d3 % d.d2 = j ∧ d.off i j k / d.d3 / d.d2 = i := by
  unfold Dims3.off
  have h3 : 0 < d.d3 := by omega
  have h2 : 0 < d.d2 := by omega
  have hq : ((i * d.d2 + j) * d.d3 + k) / d.d3 = i * d.d2 + j := by
    rw [Nat.add_comm, Nat.add_mul_div_right _ _ h3, Nat.div_eq_of_lt hk, Nat.zero_add]
  refine ⟨?_, ?_, ?_⟩
  · rw [Nat.add_comm, Nat.add_mul_mod_self_right, Nat.mod_eq_of_lt hk]
  · rw [hq, Nat.add_comm, Nat.add_mul_mod_self_right, Nat.mod_eq_of_lt hj]
  · rw [hq, Nat.add_comm, Nat.add_mul_div_right _ _ h2, Nat.div_eq_of_lt hj, Nat.zero_add]

theorem Dims3.off_inj (d : Dims3) (i j k i' j' k' : Nat) (hj : j < d.d2) (hk : k < d.d3) (hj' : j' < d.d2) (hk' : k' < d.d3)
    (h : d.off i j k = d.off i' j' k') : i = i' ∧ j = j' ∧ k = k' := by
  obtain ⟨a1, a2, a3⟩ := d.off_decode i j k hj hk
  obtain ⟨b1, b2, b3⟩ := d.off_decode i' j' k' hj' hk'
  rw [h] at a1 a2 a3
  exact ⟨a3.symm.trans b3, a2.symm.trans b2, a1.symm.trans b1⟩

/-! ### `mapM` over the samples -/

theorem mapM_some_getElem? {β γ : Type} (f : β → Option γ) :
    ∀ (l : List β) (l' : List γ), l.mapM f = some l' → l'.length = l.length ∧ ∀ s : Nat, l'[s]? = (l[s]?).bind f
  | [], l', h => by
    cases h
    exact ⟨rfl, fun _ => rfl⟩
  | a :: l, l', h => by
    simp only [List.mapM_cons, Option.bind_eq_bind, Option.bind_eq_some_iff, Option.pure_def, Option.some.injEq] at h
    obtain ⟨b, hfa, bs, hl, rfl⟩ := h
    obtain ⟨h1, h2⟩ := mapM_some_getElem? f l bs hl
    refine ⟨congrArg Nat.succ h1, fun s => ?_⟩
    cases s with
    | zero => exact hfa.symm
    | succ s => exact h2 s

theorem mapM_bind_mapM {β γ : Type} (f : β → Option γ) (g : γ → Option β) :
    ∀ (l : List β), (∀ a ∈ l, (f a).bind g = some a) → (l.mapM f).bind (List.mapM g) = some l
  | [], _ => rfl
  | a :: l, h => by
    obtain ⟨b, hfa, hgb⟩ := Option.bind_eq_some_iff.mp (h a List.mem_cons_self)
    obtain ⟨bs, hl, hgs⟩ := Option.bind_eq_some_iff.mp
      (mapM_bind_mapM f g l fun a' h' => h a' (List.mem_cons_of_mem _ h'))
    simp [List.mapM_cons, hfa, hl, hgb, hgs]

end NanoVerif.Scaling
