import NanoVerif.Proofs.LSearchQuad
/-!
  C07 — helper lemmas for Moré–Thuente on a convex quadratic `φ(t) = f0 + g0 t + h t²/2`: the contract on `cfg.cubic`, the loop of
  `morethuente` unrolled by one and by two iterations on an always-valid line function, and the convergence test as a condition on
  the step alone (`MtAccept`: Armijo `t ≤ 2 (1 - c1) t*` and strong Wolfe `|t - t*| ≤ c2 t*`).
-/
namespace NanoVerif.LSearch
open NanoVerif.Gen.LsPredicates


variable {α : Type} [Field α] [LinearOrder α] [IsStrictOrderedRing α]

/-- `cfg.cubic` is exact on every quadratic with curvature `h` (the real `lsearch_step_t::cubic` is: `cubic_exact`) -/
def CubicExact (cfg : Cfg α) (h : α) : Prop :=
  ∀ (f0 g0 : α) (u v : Step α), OnQuad f0 g0 h u → OnQuad f0 g0 h v → u.t ≠ v.t → cfg.cubic u v = tstar g0 h

/-- … on the one quadratic `f0 + g0 t + h t²/2` (what a single run needs; `CubicExact cfg h` is this for all `f0 g0`) -/
def CubicExactAt (cfg : Cfg α) (f0 g0 h : α) : Prop :=
  ∀ u v : Step α, OnQuad f0 g0 h u → OnQuad f0 g0 h v → u.t ≠ v.t → cfg.cubic u v = tstar g0 h

theorem tstar_scale (g0 h c : α) : tstar ((1 - c) * g0) h = (1 - c) * tstar g0 h := by
  unfold tstar; ring

omit [IsStrictOrderedRing α] in
theorem morethuente_exit_now (cfg : Cfg α) (φ : Oracle α) (s0 : Eval α) (n : Nat) (m : MT α) (ctx : Ctx α)
    (h : mtConverged cfg s0 m ctx.cur.f ctx.cur.g = true) :
    morethuente cfg φ s0 (n + 1) m ctx = ⟨true, m.dc.stp, ctx⟩ := by
  simp only [morethuente, h, if_true]

omit [IsStrictOrderedRing α] in
theorem morethuente_step (cfg : Cfg α) (ψ : α → Eval α) (hok : ∀ t, (ψ t).ok = true) (s0 : Eval α) (n : Nat) (m : MT α)
    (ctx : Ctx α) (h0 : mtConverged cfg s0 m ctx.cur.f ctx.cur.g = false) (h0' : mtGiveUp cfg s0 m ctx.cur.f ctx.cur.g = false) :
    morethuente cfg (fun _ => ψ) s0 (n + 1) m ctx =
      morethuente cfg (fun _ => ψ) s0 n (mtNext cfg s0 m ctx.cur.f ctx.cur.g)
        (ask (fun _ => ψ) ctx (mtNext cfg s0 m ctx.cur.f ctx.cur.g).dc.stp) := by
  have hok' : (ask (fun _ => ψ) ctx (mtNext cfg s0 m ctx.cur.f ctx.cur.g).dc.stp).cur.ok = true := hok _
  rw [morethuente, h0, h0']
  simp only [Bool.false_eq_true, if_false, hok', if_true]

omit [IsStrictOrderedRing α] in
theorem morethuente_two_steps (cfg : Cfg α) (ψ : α → Eval α) (hok : ∀ t, (ψ t).ok = true) (s0 : Eval α) (n : Nat) (m : MT α)
    (ctx : Ctx α) (h0 : mtConverged cfg s0 m ctx.cur.f ctx.cur.g = false) (h0' : mtGiveUp cfg s0 m ctx.cur.f ctx.cur.g = false)
    (h1 : mtConverged cfg s0 (mtNext cfg s0 m ctx.cur.f ctx.cur.g) (ψ (mtNext cfg s0 m ctx.cur.f ctx.cur.g).dc.stp).f
      (ψ (mtNext cfg s0 m ctx.cur.f ctx.cur.g).dc.stp).g = true) :
    morethuente cfg (fun _ => ψ) s0 (n + 2) m ctx =
      ⟨true, (mtNext cfg s0 m ctx.cur.f ctx.cur.g).dc.stp, ask (fun _ => ψ) ctx (mtNext cfg s0 m ctx.cur.f ctx.cur.g).dc.stp⟩ := by
  rw [morethuente_step cfg ψ hok s0 (n + 1) m ctx h0 h0']
  exact morethuente_exit_now cfg _ s0 n _ _ h1

/-- the step is acceptable for Moré–Thuente: Armijo and strong Wolfe as intervals of the step -/
def MtAccept (cfg : Cfg α) (g0 h t : α) : Prop := t ≤ 2 * (1 - cfg.c1) * tstar g0 h ∧ |t - tstar g0 h| ≤ cfg.c2 * tstar g0 h

theorem mtConverged_quad (cfg : Cfg α) (f0 : α) {g0 h : α} (hg : g0 < 0) (hh : 0 < h) (m : MT α) (ht0 : 0 < m.dc.stp) :
    mtConverged cfg ⟨f0, g0, true⟩ m (quadLine f0 g0 h m.dc.stp).f (quadLine f0 g0 h m.dc.stp).g = true ↔
      MtAccept cfg g0 h m.dc.stp := by
  have e : cfg.c2 * -g0 = cfg.c2 * |g0| := by rw [abs_of_neg hg]
  rw [mtConverged_iff, ← armijo_iff_ftest, armijo_quad_iff hh ht0, e, absv_eq_abs, ← strongWolfe_iff,
    strongWolfe_quad_iff hg hh, MtAccept]

end NanoVerif.LSearch
