import NanoVerif.Model.SolverStep
import NanoVerif.Proofs.SolverSkeleton
/-!
  C01 — the composed line search inside the solver loop, for EVERY scalar type (no field axioms, so also `Float`):

  * `lsearchGetM_contract`: `lsearch_t::get` modelled as `lsearch0 ∘ lsearchk` (any strategy, any of the five searches, any
    parameter values, any object state, success or failure) leaves a state that is an evaluation of `f` and does not touch the
    status — the contract `LsContract` that `converged_truthful` takes as a hypothesis;
  * `lsLoopS_eq_lsLoop`, `lsMinimizeS_eq_lsMinimize`: the loop with the line-search object threaded through IS the loop of
    `Model/Solver.lean` run with the oracle that answers its `k`-th call from the `k`-th object of the run;
  * `lsearchGetM_state_cases`: what state a call leaves (untouched up to the value counter, or the evaluation at the last trial).
-/
namespace NanoVerif.SolverStep
open NanoVerif.Gen.DoneLogic NanoVerif.Solver

section
variable {α : Type} [Add α] [Sub α] [Mul α] [Div α] [Neg α] [LT α] [LE α] [DecidableLT α] [DecidableLE α] [∀ n, OfNat α n]

/-- contract of a `get` function on line-search objects: whatever the object, the state left is an evaluation of `f`, the
    status is untouched -/
def GetContract (f : Objective α) (get : Obj α → State α → Vec α → GetOut α) : Prop :=
  ∀ o s d, (Consistent f s → Consistent f (get o s d).state) ∧ (get o s d).state.status = s.status

def SlotContract (f : Objective α) (lk : LkSlot α) : Prop :=
  ∀ s d t0, (Consistent f s → Consistent f (lk s d t0).state) ∧ (lk s d t0).state.status = s.status

theorem lkOfModel_state_cases (env : Env α) (m : LSearch.Method) (cfg : LSearch.Cfg α) (f : Objective α) (c : State α)
    (d : Vec α) (t0 : α) :
    (lkOfModel env m cfg f c d t0).state = c ∨
    ∃ t k, (lkOfModel env m cfg f c d t0).state = evalAt f c k (axpy c.x t d) := by
  unfold lkOfModel
  simp only
  split
  · exact Or.inl rfl
  · exact Or.inr ⟨_, _, rfl⟩

theorem lkOfModel_contract (env : Env α) (m : LSearch.Method) (cfg : LSearch.Cfg α) (f : Objective α) :
    SlotContract f (lkOfModel env m cfg f) := by
  intro c d t0
  rcases lkOfModel_state_cases env m cfg f c d t0 with h | ⟨t, k, h⟩
  · rw [h]; exact ⟨id, rfl⟩
  · rw [h]; exact ⟨fun _ => ⟨rfl, rfl⟩, rfl⟩

/-- the glue preserves the contract of its slot (the strategy's own evaluation only moves the value counter) -/
theorem lsearchGet_contract (st : Strategy) (P : Params α) (fval : Vec α → α) (f : Objective α) (lk : LkSlot α)
    (h : SlotContract f lk) : GetContract f (lsearchGet st P fval lk) := by
  intro o c d
  exact ⟨fun hc => (h _ d _).1 hc, (h _ d _).2⟩

theorem lsearchGetM_contract (env : Env α) (st : Strategy) (P : Params α) (m : LSearch.Method) (cfg : LSearch.Cfg α)
    (f : Objective α) : GetContract f (lsearchGetM env st P m cfg f) :=
  lsearchGet_contract st P _ f _ (lkOfModel_contract env m cfg f)

/-- after ANY call (success or failure): `m_last_step_size` is the step `lsearchk_t::get` handed back, the strategy's members
    are those `lsearch0_t::get` left, and the state is the entry state with the value counter moved by the strategy's own
    evaluation, or the evaluation of `f` at the last trial point `x + t d` -/
theorem lsearchGetM_state_cases (env : Env α) (st : Strategy) (P : Params α) (m : LSearch.Method) (cfg : LSearch.Cfg α)
    (f : Objective α) (o : Obj α) (c : State α) (d : Vec α) :
    let r0 := l0get st P (fun x => (f x).1) o.mem c d o.last
    let c' : State α := { c with fcalls := c.fcalls + r0.extra }
    let out := lsearchGetM env st P m cfg f o c d
    out.t0 = r0.t0 ∧ out.obj.mem = r0.mem ∧ out.obj.last = (lkOfModel env m cfg f c' d r0.t0).t ∧
    (out.state = c' ∨ ∃ t k, out.state = evalAt f c' k (axpy c.x t d)) := by
  intro r0 c' out
  exact ⟨rfl, rfl, rfl, lkOfModel_state_cases env m cfg f c' d r0.t0⟩

/-- the oracle that answers the `i`-th call of a run from the `i`-th object of that run -/
def oracleOfObjs (get : Obj α → State α → Vec α → GetOut α) (objs : List (Obj α)) : Ls α := fun i s d =>
  match objs[i]? with
  | some ob => ((get ob s d).state, (get ob s d).ok)
  | none => (s, false)

omit [Add α] [Sub α] [Mul α] [Div α] [Neg α] [LT α] [LE α] [DecidableLT α] [DecidableLE α] [(n : Nat) → OfNat α n] in
theorem oracleOfObjs_contract (f : Objective α) (get : Obj α → State α → Vec α → GetOut α) (h : GetContract f get)
    (objs : List (Obj α)) : LsContract f (oracleOfObjs get objs) := by
  intro k s d
  unfold oracleOfObjs
  split
  · exact h _ s d
  · exact ⟨id, rfl⟩

set_option linter.unusedSectionVars false
theorem lsLoopS_eq_lsLoop {M : Type} (env : Env α) (rule : Rule α M) (get : Obj α → State α → Vec α → GetOut α) (eps : α)
    (maxEvals : Nat) : ∀ (fuel k : Nat) (m : M) (o : Obj α) (p c : State α) (ls : Ls α),
    (∀ (j : Nat) (ob : Obj α), (lsLoopS env rule get eps maxEvals fuel m o p c).2[j]? = some ob →
      ∀ s d, ls (k + j) s d = ((get ob s d).state, (get ob s d).ok)) →
    lsLoop env rule ls eps maxEvals fuel k m p c = (lsLoopS env rule get eps maxEvals fuel m o p c).1 := by
  intro fuel
  induction fuel with
  | zero => intro k m o p c ls _; rfl
  | succ fuel ih =>
    intro k m o p c ls h
    by_cases hg : rule.guard c.fcalls c.gcalls maxEvals = true
    · by_cases hstop : (done env (get o c (rule.direction m p c).1).state (get o c (rule.direction m p c).1).ok
          (rule.conv (gradientTestS (get o c (rule.direction m p c).1).state) eps)).2 = true
      · simp only [lsLoopS, hg, if_true, hstop] at h
        have h0 := h 0 o (by simp) c (rule.direction m p c).1
        simp only [Nat.add_zero] at h0
        simp only [lsLoop, lsLoopS, hg, if_true, h0, hstop]
      · have hstop' := eq_false_of_ne_true hstop
        simp only [lsLoopS, hg, if_true, hstop', Bool.false_eq_true, if_false] at h
        have h0 := h 0 o (by simp) c (rule.direction m p c).1
        simp only [Nat.add_zero] at h0
        have hrec := ih (k + 1) _ _ c _ ls
          (fun j ob hj s d => by
            have := h (j + 1) ob (by simpa using hj) s d
            have e : k + 1 + j = k + (j + 1) := by omega
            rw [e]; exact this)
        simp only [lsLoop, lsLoopS, hg, if_true, h0, hstop', Bool.false_eq_true, if_false, hrec]
    · simp only [lsLoop, lsLoopS, hg]
      rfl
set_option linter.unusedSectionVars true

theorem lsRunS_eq_lsRun {M : Type} (env : Env α) (rule : Rule α M) (get : Obj α → State α → Vec α → GetOut α) (eps : α)
    (maxEvals fuel : Nat) (c0 : State α) :
    ∃ objs : List (Obj α), lsRunS env rule get eps maxEvals fuel c0 = (lsRun env rule (oracleOfObjs get objs) eps maxEvals fuel c0).1 := by
  refine ⟨(lsLoopS env rule get eps maxEvals fuel rule.init Obj.init
    (done env c0 true (rule.convInit (gradientTestS c0) eps)).1 (done env c0 true (rule.convInit (gradientTestS c0) eps)).1).2, ?_⟩
  unfold lsRunS lsRun
  simp only
  split
  · rfl
  · rw [lsLoopS_eq_lsLoop env rule get eps maxEvals fuel 0 rule.init Obj.init _ _ _
      (fun j ob hj s d => by simp only [oracleOfObjs, Nat.zero_add, hj])]

/-- `solver_t::minimize` with the whole line search modelled is `solver_t::minimize` of `Model/Solver.lean` with a line-search
    oracle that meets the contract -/
theorem lsMinimizeS_eq_lsMinimize {M : Type} (env : Env α) (rule : Rule α M) (st : Strategy) (P : Params α)
    (m : LSearch.Method) (cfg : LSearch.Cfg α) (f : Objective α) (eps : α) (maxEvals fuel : Nat) (x0 : Vec α) :
    ∃ ls : Ls α, LsContract f ls ∧
      lsMinimizeS env rule st P m cfg f eps maxEvals fuel x0 = lsMinimize env rule ls f eps maxEvals fuel x0 := by
  obtain ⟨objs, h⟩ := lsRunS_eq_lsRun env rule (lsearchGetM env st P m cfg f) eps maxEvals fuel (initState f x0)
  exact ⟨oracleOfObjs (lsearchGetM env st P m cfg f) objs,
    oracleOfObjs_contract f _ (lsearchGetM_contract env st P m cfg f) objs, h⟩

end
end NanoVerif.SolverStep
