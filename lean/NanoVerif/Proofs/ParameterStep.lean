import NanoVerif.Model.Parameter
/-!
  C19 — what one assignment does, said once (core Lean only).

  Every assignment of `Model/Parameter.lean` is: convert the argument to the kind of the stored alternative (`requested`),
  put it in the place of the stored value (`Storage.withValue`: the candidate), and keep the candidate iff it lies in its
  declared domain — the generated `update` functions are exactly that test (`Guards`, `updateRange_guards`, …). `Assigns` lists the
  four outcomes of an assignment and `Reads` the two of a typed read; `step_assigns` and `step_reads` show that `step` has no
  other, and the property theorems read their cases off them.
-/
set_option linter.unusedSectionVars false

namespace NanoVerif.Param
open NanoVerif.Gen.ParamCheck

theorem check_iff {β : Type} [LT β] [LE β] [DecidableLT β] [DecidableLE β] (c : Cmp) (a b : β) :
    check c a b = true ↔ c.Rel a b := by
  cases c <;> simp [check, Cmp.isLE, Cmp.Rel]

/-! ### the generated guards: the candidate is stored iff it is inside its domain -/

/-- `u` is what a guarded update of `p` returns: the candidate `q` and `false` when the test `D` holds, `p` as it was and
    `true` (it throws) otherwise -/
def Guards {σ : Type} (D : Prop) (p q : σ) (u : σ × Bool) : Prop := (D ∧ u = (q, false)) ∨ (¬ D ∧ u = (p, true))

/-- the shape of every generated `update`: `if guard then (param, true) else (candidate, false)` -/
theorem Guards.of_ite {σ : Type} {D : Prop} {g : Bool} (hg : g = false ↔ D) (p q : σ) :
    Guards D p q (if g = true then (p, true) else (q, false)) := by
  cases g
  · exact Or.inl ⟨hg.1 rfl, rfl⟩
  · exact Or.inr ⟨fun h => Bool.noConfusion (hg.2 h), rfl⟩

/-- what the three property theorems about the generated functions say, for any guarded update -/
theorem Guards.accepts_iff {σ : Type} {D : Prop} {p q : σ} {u : σ × Bool} (h : Guards D p q u) :
    (u.2 = false ↔ D) ∧ (u.2 = false → u.1 = q) ∧ (u.2 = true → u.1 = p) := by
  rcases h with ⟨hd, rfl⟩ | ⟨hd, rfl⟩
  · exact ⟨⟨fun _ => hd, fun _ => rfl⟩, fun _ => rfl, fun h => Bool.noConfusion h⟩
  · exact ⟨⟨fun h => Bool.noConfusion h, fun h => absurd h hd⟩, fun h => Bool.noConfusion h, fun _ => rfl⟩

theorem Guards.of_not {σ : Type} {D : Prop} {p q : σ} {u : σ × Bool} (h : Guards D p q u) (hd : ¬ D) : u = (p, true) :=
  h.elim (fun a => absurd a.1 hd) And.right

section guards
variable {β γ : Type} [LT β] [LE β] [DecidableLT β] [DecidableLE β] [IsFinite β]

/-- `update(range_t)` is the guarded update whose test is the declared domain of the candidate -/
theorem updateRange_guards (cast : γ → β) (p : Range β) (v : γ) :
    Guards ({ p with value := cast v } : Range β).InDomain p { p with value := cast v } (updateRange cast p v) :=
  .of_ite (by
    simp only [Bool.or_eq_false_iff, Bool.not_eq_eq_eq_not, Bool.not_false, check_iff]
    exact ⟨fun h => ⟨h.1.1, h.1.2, h.2⟩, fun h => ⟨⟨h.1, h.2.1⟩, h.2.2⟩⟩) p _

theorem updatePair_guards (cast : γ → β) (p : PRange β) (v1 v2 : γ) :
    Guards ({ p with value1 := cast v1, value2 := cast v2 } : PRange β).InDomain p
      { p with value1 := cast v1, value2 := cast v2 } (updatePair cast p v1 v2) :=
  .of_ite (by
    simp only [Bool.or_eq_false_iff, Bool.not_eq_eq_eq_not, Bool.not_false, check_iff]
    exact ⟨fun h => ⟨h.1.1.1.1, h.1.1.1.2, h.1.1.2, h.1.2, h.2⟩,
      fun h => ⟨⟨⟨⟨h.1, h.2.1⟩, h.2.2.1⟩, h.2.2.2.1⟩, h.2.2.2.2⟩⟩) p _

end guards

theorem updateEnum_guards (p : EnumP) (v : String) :
    Guards ({ p with value := v } : EnumP).InDomain p { p with value := v } (updateEnum p v) :=
  .of_ite (by
    simp only [Bool.not_eq_eq_eq_not, Bool.not_false, List.elem_eq_mem, decide_eq_true_eq]
    exact Iff.rfl) p _

/-! ### one assignment -/

section
variable {α : Type}

/-- the stored alternative with a typed value of its own kind in the place of its value -/
def Storage.withValue : Storage α → Res α → Option (Storage α)
  | .irange p, .int v => some (.irange { p with value := v })
  | .frange p, .float v => some (.frange { p with value := v })
  | .iprange p, .pairInt v1 v2 => some (.iprange { p with value1 := v1, value2 := v2 })
  | .fprange p, .pairFloat v1 v2 => some (.fprange { p with value1 := v1, value2 := v2 })
  | .enum p, .enumv v => some (.enum { p with value := v })
  | .str _, .string v => some (.str v)
  | _, _ => none

variable [LT α] [LE α] [DecidableLT α] [DecidableLE α] [FOps α]

/-- what an assignment `op` to `s` can answer: the stored alternative cannot take this kind of assignment; or the text is
    no number; or the candidate `c` is outside its declared domain and nothing is stored; or `c` is inside and is stored -/
inductive Assigns (s : Storage α) (op : Op α) (out : Storage α × Res α) : Prop
  | mismatch (hk : op.assignable s = false) (ho : out = (s, .throw .critical))
  | malformed (e : Err) (hk : op.assignable s = true) (hreq : requested s op = none) (ho : out = (s, .throw e))
  | rejected (r : Res α) (c : Storage α) (hk : op.assignable s = true) (hreq : requested s op = some r)
      (hc : s.withValue r = some c) (hd : ¬ c.InDomain) (ho : out = (s, .throw .critical))
  | accepted (r : Res α) (c : Storage α) (hk : op.assignable s = true) (hreq : requested s op = some r)
      (hc : s.withValue r = some c) (hd : c.InDomain) (ho : out = (c, .ok))

/-- what a read `op` of `s` can answer; nothing is stored either way -/
inductive Reads (s : Storage α) (op : Op α) (out : Storage α × Res α) : Prop
  | mismatch (hk : op.readable s = false) (ho : out = (s, .throw .critical))
  | answers (r : Res α) (hk : op.readable s = true) (hr : r.isThrow = false) (ho : out = (s, r))

/-- a generated `update` behind `ofUpd`: the last two outcomes -/
theorem Assigns.ofUpd {σ : Type} {s : Storage α} {op : Op α} {wrap : σ → Storage α} {u : σ × Bool} {p q : σ} {r : Res α}
    {D : Prop} (hu : Guards D p q u) (hD : D ↔ (wrap q).InDomain) (hs : s = wrap p) (hk : op.assignable s = true)
    (hreq : requested s op = some r) (hc : s.withValue r = some (wrap q)) : Assigns s op (ofUpd wrap u) := by
  rcases hu with ⟨hd, rfl⟩ | ⟨hd, rfl⟩
  · exact .accepted r _ hk hreq hc (hD.1 hd) rfl
  · exact .rejected r _ hk hreq hc (fun h => hd (hD.2 h)) (hs ▸ rfl)

/-- a constructor goes through the same guard: what is constructed is the candidate, inside its domain -/
theorem madeBy_ok {σ : Type} {wrap : σ → Storage α} {u : σ × Bool} {p q : σ} {D : Prop} {s : Storage α}
    (hu : Guards D p q u) (h : madeBy wrap u = .ok s) : D ∧ s = wrap q := by
  rcases hu with ⟨hd, rfl⟩ | ⟨hd, rfl⟩
  · exact ⟨hd, (Except.ok.inj h).symm⟩
  · cases h

/-- what the matching typed read returns for a candidate is the value that was put in -/
theorem Storage.withValue_reads_back {s c : Storage α} {r : Res α} (h : s.withValue r = some c) :
    step c c.readOp = (c, r) := by
  unfold Storage.withValue at h
  split at h <;> cases h <;> rfl

theorem setString_assigns (s : Storage α) (v : String) : Assigns s (.setString v) (setString s v) := by
  cases s with
  | mono => exact .mismatch rfl rfl
  | str _ => exact .accepted (.string v) (.str v) rfl rfl rfl trivial rfl
  | enum p => exact .ofUpd (updateEnum_guards p v) Iff.rfl rfl rfl rfl rfl
  | irange p =>
    unfold setString
    cases hx : stoll v with
    | error e => exact .malformed e rfl (by simp only [requested, hx]; rfl) rfl
    | ok x => exact .ofUpd (updateRange_guards _ p x) Iff.rfl rfl rfl (by simp only [requested, hx]; rfl) rfl
  | frange p =>
    unfold setString
    cases hx : (FOps.stod v : Except Err α) with
    | error e => exact .malformed e rfl (by simp only [requested, hx]; rfl) rfl
    | ok x => exact .ofUpd (updateRange_guards _ p x) Iff.rfl rfl rfl (by simp only [requested, hx]; rfl) rfl
  | iprange p =>
    unfold setString
    cases h2 : stoll (splitPair v).2 with
    | error e => exact .malformed e rfl (by simp only [requested, h2]; cases stoll (splitPair v).1 <;> rfl) rfl
    | ok x2 =>
      cases h1 : stoll (splitPair v).1 with
      | error e => exact .malformed e rfl (by simp only [requested, h1, h2]; rfl) rfl
      | ok x1 => exact .ofUpd (updatePair_guards _ p x1 x2) Iff.rfl rfl rfl (by simp only [requested, h1, h2]; rfl) rfl
  | fprange p =>
    unfold setString
    cases h2 : (FOps.stod (splitPair v).2 : Except Err α) with
    | error e => exact .malformed e rfl (by simp only [requested, h2]; cases (FOps.stod (splitPair v).1 : Except Err α) <;> rfl) rfl
    | ok x2 =>
      cases h1 : (FOps.stod (splitPair v).1 : Except Err α) with
      | error e => exact .malformed e rfl (by simp only [requested, h1, h2]; rfl) rfl
      | ok x1 => exact .ofUpd (updatePair_guards _ p x1 x2) Iff.rfl rfl rfl (by simp only [requested, h1, h2]; rfl) rfl

/-- `step` on an assignment has no other outcome -/
theorem step_assigns (s : Storage α) (op : Op α) (hop : op.isAssign = true) : Assigns s op (step s op) := by
  cases op with
  | setInt v | setFloat v =>
    cases s with
    | irange p | frange p => exact .ofUpd (updateRange_guards _ p v) Iff.rfl rfl rfl rfl rfl
    | _ => exact .mismatch rfl rfl
  | setPairInt v1 v2 | setPairFloat v1 v2 =>
    cases s with
    | iprange p | fprange p => exact .ofUpd (updatePair_guards _ p v1 v2) Iff.rfl rfl rfl rfl rfl
    | _ => exact .mismatch rfl rfl
  | setString v => exact setString_assigns s v
  | setEnum name =>
    cases s with
    | enum p => exact .ofUpd (updateEnum_guards p name) Iff.rfl rfl rfl rfl rfl
    | _ => exact .mismatch rfl rfl
  | _ => exact Bool.noConfusion hop

/-- `step` on a read has no other outcome -/
theorem step_reads (s : Storage α) (op : Op α) (hop : op.isAssign = false) : Reads s op (step s op) := by
  cases op with
  | readInt | readFloat =>
    cases s with
    | irange p | frange p => exact .answers _ rfl rfl rfl
    | _ => exact .mismatch rfl rfl
  | readPairInt | readPairFloat =>
    cases s with
    | iprange p | fprange p => exact .answers _ rfl rfl rfl
    | _ => exact .mismatch rfl rfl
  | readString =>
    cases s with
    | str v => exact .answers _ rfl rfl rfl
    | _ => exact .mismatch rfl rfl
  | readEnum =>
    cases s with
    | enum p => exact .answers _ rfl rfl rfl
    | _ => exact .mismatch rfl rfl
  | writeRead => exact .answers _ rfl rfl rfl
  | _ => exact Bool.noConfusion hop

end

/-- the constructor's guards accept a stored value again exactly when it is inside its declared domain -/
theorem constructible_iff (s : Storage XF) : constructible s = true ↔ s.InDomain := by
  cases s with
  | mono | str _ => exact ⟨fun _ => trivial, fun _ => rfl⟩
  | enum p => rw [constructible, Bool.not_eq_true']; exact (updateEnum_guards p p.value).accepts_iff.1
  | irange p | frange p => rw [constructible, Bool.not_eq_true']; exact (updateRange_guards _ p p.value).accepts_iff.1
  | iprange p | fprange p => rw [constructible, Bool.not_eq_true']; exact (updatePair_guards _ p p.value1 p.value2).accepts_iff.1

end NanoVerif.Param
