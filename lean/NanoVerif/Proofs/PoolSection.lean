import NanoVerif.Model.PoolSection
import NanoVerif.Proofs.PoolAll
/-!
  C17 — `section_t` modelled explicitly (`Model/PoolSection.lean`): the client leaves `map` — normally or by
  an exception — only after every future of its section was waited. Core Lean only.
-/
namespace NanoVerif.Pool

/-! ### stability of ready futures and of a waiting client under the base events -/

theorem ready_stable (s s' : St) (e : Ev) (hi : Inv s) (h : step s e = some s') (t : Nat)
    (hr : ready? (s.ts t) = true) : s'.ts t = s.ts t ∧ s'.threw t = s.threw t := by
  -- the events that write `ts t0` find `t0` queued, running or fresh
  have hne : ∀ t0, ready? (s.ts t0) = false → t ≠ t0 := fun t0 h0 heq => by rw [heq, h0] at hr; cases hr
  cases e with
  | wTake w =>
    obtain ⟨_, _, _, t0, q, hq, rfl⟩ := step_wTake h
    have h0 : s.ts t0 = .queued := (hi.q_iff t0).mp (by rw [hq]; simp)
    exact ⟨upd_other _ _ _ _ (hne t0 (by rw [h0]; rfl)), rfl⟩
  | wRunEnd w b =>
    obtain ⟨hw, t0, hpc, rfl⟩ := step_wRunEnd h
    have h0 : s.ts t0 = .running w := (hi.run_iff t0 w).mpr ⟨hw, hpc⟩
    have := hne t0 (by rw [h0]; rfl)
    exact ⟨upd_other _ _ _ _ this, upd_other _ _ _ _ this⟩
  | wExit w =>
    obtain ⟨_, _, _, rfl⟩ := step_wExit h
    refine ⟨?_, rfl⟩
    show drop (s.ts t) = s.ts t
    cases hts : s.ts t <;> simp [hts, ready?, drop] at hr ⊢
  | cPush c ts all =>
    obtain ⟨_, hfresh, _, _, rfl⟩ := step_cPush h
    exact ⟨if_neg fun hm => hne t (by rw [hfresh t hm]; rfl) rfl, rfl⟩
  | wSleep w => obtain ⟨_, _, _, _, rfl⟩ := step_wSleep h; exact ⟨rfl, rfl⟩
  | wWake w => obtain ⟨_, _, rfl⟩ := step_wWake h; exact ⟨rfl, rfl⟩
  | cNotify c w =>
    rcases step_cNotify h with ⟨ts, _, rfl⟩ | ⟨ts, v, _, _, _, _, rfl⟩ | ⟨ts, _, _, _, rfl⟩ | ⟨_, rfl⟩ <;> exact ⟨rfl, rfl⟩
  | dStop c => obtain ⟨_, rfl⟩ := step_dStop h; exact ⟨rfl, rfl⟩
  | _ => obtain ⟨c, x, sx, st, rfl, _⟩ := step_clientOnly rfl h; exact ⟨rfl, rfl⟩

theorem upd_waiting_other {s : St} {c c' : Nat} {x : CPc} {ts : List Nat} (hw : s.cpc c = .waiting ts)
    (hne : s.cpc c' ≠ .waiting ts) : upd s.cpc c' x c = .waiting ts := by
  have : c ≠ c' := by rintro rfl; exact hne hw
  rw [upd_other _ _ _ _ this]; exact hw

theorem waiting_stable (s s' : St) (e : Ev) (h : step s e = some s') (c : Nat) (ts : List Nat)
    (hw : s.cpc c = .waiting ts) (hne : returnClient e ≠ some c) : s'.cpc c = .waiting ts := by
  cases e with
  | wTake w => obtain ⟨_, _, _, t0, q, _, rfl⟩ := step_wTake h; exact hw
  | wSleep w => obtain ⟨_, _, _, _, rfl⟩ := step_wSleep h; exact hw
  | wExit w => obtain ⟨_, _, _, rfl⟩ := step_wExit h; exact hw
  | wRunEnd w b => obtain ⟨_, t0, _, rfl⟩ := step_wRunEnd h; exact hw
  | wWake w => obtain ⟨_, _, rfl⟩ := step_wWake h; exact hw
  | cPush c' ts' all => obtain ⟨hpc, _, _, _, rfl⟩ := step_cPush h; exact upd_waiting_other hw (by rw [hpc]; nofun)
  | cNotify c' w =>
    rcases step_cNotify h with ⟨ts', hpc, rfl⟩ | ⟨ts', v, hpc, _, _, _, rfl⟩ | ⟨ts', hpc, _, _, rfl⟩ | ⟨hpc, rfl⟩ <;>
      exact upd_waiting_other hw (by rw [hpc]; nofun)
  | cReturn c' =>
    obtain ⟨ts', _, _, rfl⟩ := step_cReturn h
    exact (upd_other _ _ _ _ fun heq => hne (congrArg some heq.symm)).trans hw
  | dStop c' => obtain ⟨hpc, rfl⟩ := step_dStop h; exact upd_waiting_other hw (by rw [hpc]; nofun)
  | dJoined c' => obtain ⟨hpc, _, rfl⟩ := step_dJoined h; exact upd_waiting_other hw (by rw [hpc]; nofun)
  | sStart c' n => obtain ⟨hpc, rfl⟩ := step_sStart h; exact upd_waiting_other hw (by rw [hpc]; nofun)
  | sOpBegin c' => obtain ⟨n, i, err, hpc, _, rfl⟩ := step_sOpBegin h; exact upd_waiting_other hw (by rw [hpc]; nofun)
  | sOpEnd c' b => obtain ⟨n, i, err, hpc, rfl⟩ := step_sOpEnd h; exact upd_waiting_other hw (by rw [hpc]; nofun)
  | sReturn c' => obtain ⟨n, err, hpc, rfl⟩ := step_sReturn h; exact upd_waiting_other hw (by rw [hpc]; nofun)

/-! ### the invariant of a section -/

def Waited (b : St) (ts : List Nat) (i : Nat) : Prop := ∀ j t, j < i → ts[j]? = some t → ready? (b.ts t) = true

def NoExc (b : St) (ts : List Nat) (i : Nat) : Prop := ∀ j t, j < i → ts[j]? = some t → holdsExc b t = false

/-- what is known about the exception in flight while the destructor runs -/
def Res (b : St) (ts : List Nat) (raise : Bool) : Option Nat → Prop
  | some t => raise = true ∧ ∃ k, ts[k]? = some t ∧ ready? (b.ts t) = true ∧ holdsExc b t = true ∧ Waited b ts k ∧ NoExc b ts k
  | none => raise = true → Waited b ts ts.length ∧ NoExc b ts ts.length

/-- what the section of client `c` has established when it stands at `p`: the client is blocked on the futures `ts`, the
    first `i` of them have been waited, and (with `raise`) none of these holds an exception -/
def SecOK (b : St) (c : Nat) : SPc → Prop
  | .block ts raise i => b.cpc c = .waiting ts ∧ i ≤ ts.length ∧ Waited b ts i ∧ (raise = true → NoExc b ts i)
  | .dtor ts raise i exc => b.cpc c = .waiting ts ∧ i ≤ ts.length ∧ Waited b ts i ∧ Res b ts raise exc
  | _ => True

def SecInv (s : St2) : Prop := ∀ c, SecOK s.base c (s.spc c)

theorem SecInv.at {s : St2} (hs : SecInv s) {c : Nat} {p : SPc} (h : s.spc c = p) : SecOK s.base c p := h ▸ hs c

/-- `b'` keeps the state and the outcome of every future that is ready in `b` (`ready_stable`: every event does) -/
def KeepsReady (b b' : St) : Prop := ∀ t, ready? (b.ts t) = true → b'.ts t = b.ts t ∧ b'.threw t = b.threw t

theorem holdsExc_keep {b b' : St} (hk : KeepsReady b b') {t : Nat} (hr : ready? (b.ts t) = true) :
    holdsExc b' t = holdsExc b t := by
  simp only [holdsExc, (hk t hr).1, (hk t hr).2]

theorem waited_keep {b b' : St} (hk : KeepsReady b b') {ts : List Nat} {i : Nat} (hw : Waited b ts i) : Waited b' ts i :=
  fun j t hj ht => (hk t (hw j t hj ht)).1 ▸ hw j t hj ht

theorem noexc_keep {b b' : St} (hk : KeepsReady b b') {ts : List Nat} {i : Nat} (hw : Waited b ts i) (hn : NoExc b ts i) :
    NoExc b' ts i :=
  fun j t hj ht => (holdsExc_keep hk (hw j t hj ht)).trans (hn j t hj ht)

theorem res_keep {b b' : St} (hk : KeepsReady b b') {ts : List Nat} {raise : Bool} {exc : Option Nat}
    (hres : Res b ts raise exc) : Res b' ts raise exc := by
  cases exc with
  | none => exact fun hr => ⟨waited_keep hk (hres hr).1, noexc_keep hk (hres hr).1 (hres hr).2⟩
  | some t =>
    obtain ⟨hr, k, hk', hrd, hex, hw, hn⟩ := hres
    exact ⟨hr, k, hk', (hk t hrd).1 ▸ hrd, (holdsExc_keep hk hrd).trans hex, waited_keep hk hw, noexc_keep hk hw hn⟩

theorem secOK_keep {b b' : St} {c : Nat} {p : SPc} (hk : KeepsReady b b')
    (hc : ∀ ts, b.cpc c = .waiting ts → b'.cpc c = .waiting ts) (h : SecOK b c p) : SecOK b' c p := by
  cases p with
  | block ts raise i => exact ⟨hc ts h.1, h.2.1, waited_keep hk h.2.2.1, fun hr => noexc_keep hk h.2.2.1 (h.2.2.2 hr)⟩
  | dtor ts raise i exc => exact ⟨hc ts h.1, h.2.1, waited_keep hk h.2.2.1, res_keep hk h.2.2.2⟩
  | _ => trivial

theorem prefix_succ {P : Nat → Prop} {ts : List Nat} {i t : Nat} (h : ∀ j t, j < i → ts[j]? = some t → P t)
    (hi : ts[i]? = some t) (hp : P t) : ∀ j t, j < i + 1 → ts[j]? = some t → P t := by
  intro j t' hj ht'
  by_cases hji : j = i
  · subst hji; rw [hi] at ht'; cases ht'; exact hp
  · exact h j t' (by omega) ht'

theorem waited_all {b : St} {ts : List Nat} (hw : Waited b ts ts.length) : ∀ t ∈ ts, ready? (b.ts t) = true := by
  intro t ht
  obtain ⟨j, hj, hjt⟩ := List.getElem_of_mem ht
  exact hw j t hj (by rw [List.getElem?_eq_getElem hj, hjt])

/-! ### inversion of the section events (`swapped = false`: the code as it is) -/

theorem step2_base {s s' : St2} {e : Ev} (h : step2 false s (.base e) = some s') :
    ∃ b, step s.base e = some b ∧ s' = { s with base := b } ∧ (∀ c, returnClient e = some c → s.spc c = .none) := by
  simp only [step2] at h
  split at h
  · rename_i c hc
    obtain ⟨hnone, h⟩ := of_ite h
    split at h
    · exact ⟨_, ‹_›, (Option.some.inj h).symm, fun c' hc' => by rw [hc] at hc'; cases hc'; exact hnone⟩
    · cases h
  · rename_i hc
    split at h
    · exact ⟨_, ‹_›, (Option.some.inj h).symm, fun c' hc' => by rw [hc] at hc'; cases hc'⟩
    · cases h

theorem step2_bBegin {s s' : St2} {c : Nat} {raise : Bool} (h : step2 false s (.bBegin c raise) = some s') :
    ∃ ts, s.base.cpc c = .waiting ts ∧ s.spc c = .none ∧ s' = { s with spc := upd s.spc c (.block ts raise 0) } := by
  simp only [step2] at h
  split at h
  · obtain ⟨hn, h⟩ := of_ite h
    exact ⟨_, ‹_›, hn, (Option.some.inj h).symm⟩
  · cases h

theorem step2_bWait {s s' : St2} {c : Nat} (h : step2 false s (.bWait c) = some s') :
    ∃ ts raise i t, s.spc c = .block ts raise i ∧ ts[i]? = some t ∧ ready? (s.base.ts t) = true ∧
      ((raise = true ∧ holdsExc s.base t = true ∧ s' = { s with spc := upd s.spc c (.dtor ts raise 0 (some t)) }) ∨
       ((raise = false ∨ holdsExc s.base t = false) ∧ s' = { s with spc := upd s.spc c (.block ts raise (i + 1)) })) := by
  simp only [step2] at h
  split at h
  · rename_i ts raise i hpc
    split at h
    · rename_i t ht
      obtain ⟨hr, h⟩ := of_ite h
      refine ⟨ts, raise, i, t, hpc, ht, hr, ?_⟩
      split at h
      · rename_i hx
        rw [Bool.and_eq_true] at hx
        exact Or.inl ⟨hx.1, hx.2, (Option.some.inj h).symm⟩
      · rename_i hx
        refine Or.inr ⟨?_, (Option.some.inj h).symm⟩
        cases raise <;> cases hh : holdsExc s.base t <;> simp_all
    · cases h
  · cases h

theorem step2_bDone {s s' : St2} {c : Nat} (h : step2 false s (.bDone c) = some s') :
    ∃ ts raise, s.spc c = .block ts raise ts.length ∧ s' = { s with spc := upd s.spc c (.dtor ts raise 0 none) } := by
  simp only [step2] at h
  split at h
  · rename_i ts raise i hpc
    obtain ⟨rfl, h'⟩ := of_ite h
    exact ⟨ts, raise, hpc, (Option.some.inj h').symm⟩
  · cases h

theorem step2_dWait {s s' : St2} {c : Nat} (h : step2 false s (.dWait c) = some s') :
    ∃ ts raise i exc t, s.spc c = .dtor ts raise i exc ∧ ts[i]? = some t ∧ ready? (s.base.ts t) = true ∧
      s' = { s with spc := upd s.spc c (.dtor ts raise (i + 1) exc) } := by
  simp only [step2] at h
  split at h
  · rename_i ts raise i exc hpc
    split at h
    · obtain ⟨hr, h⟩ := of_ite h
      exact ⟨ts, raise, i, exc, _, hpc, ‹_›, hr, (Option.some.inj h).symm⟩
    · cases h
  · cases h

theorem step2_exit {s s' : St2} {c : Nat} (h : step2 false s (.exit c) = some s') :
    ∃ ts raise exc, s.spc c = .dtor ts raise ts.length exc ∧
      s' = { base := { s.base with cpc := upd s.base.cpc c .finished }, spc := upd s.spc c (.out exc) } := by
  simp only [step2] at h
  split at h
  · rename_i ts raise i exc hpc
    obtain ⟨rfl, h'⟩ := of_ite h
    exact ⟨ts, raise, exc, hpc, (Option.some.inj h').symm⟩
  · cases h

/-! ### preservation -/

theorem secinv_spc_upd (s : St2) (c : Nat) (x : SPc) (hs : SecInv s) (hx : SecOK s.base c x) :
    SecInv { s with spc := upd s.spc c x } := by
  intro c'
  show SecOK s.base c' (upd s.spc c x c')
  by_cases hcc : c' = c
  · subst hcc; rw [upd_same]; exact hx
  · rw [upd_other _ _ _ _ hcc]; exact hs c'

/-- the unguarded exit of a section is a `cReturn` of the base model: the destructor has waited every future -/
theorem exit_is_cReturn {s s' : St2} {c : Nat} (hs : SecInv s) (h : step2 false s (.exit c) = some s') :
    step s.base (.cReturn c) = some s'.base := by
  obtain ⟨ts, raise, exc, hpc, rfl⟩ := step2_exit h
  obtain ⟨h1, _, h3, _⟩ := hs.at hpc
  simp only [step, h1]
  rw [if_pos (waited_all h3)]

theorem secinv_step (s s' : St2) (e : Ev2) (hi : Inv s.base) (hs : SecInv s) (h : step2 false s e = some s') :
    SecInv s' ∧ (s'.base = s.base ∨ ∃ e', step s.base e' = some s'.base) := by
  have hnil : ∀ ts, Waited s.base ts 0 := fun ts j t hj _ => absurd hj (Nat.not_lt_zero _)
  cases e with
  | base e =>
    obtain ⟨b, hb, rfl, hret⟩ := step2_base h
    refine ⟨fun c => ?_, Or.inr ⟨e, hb⟩⟩
    by_cases hn : s.spc c = .none
    · exact hn ▸ trivial
    · exact secOK_keep (ready_stable s.base b e hi hb)
        (fun ts hw => waiting_stable s.base b e hb c ts hw fun heq => hn (hret c heq)) (hs c)
  | bBegin c raise =>
    obtain ⟨ts, hpc, _, rfl⟩ := step2_bBegin h
    exact ⟨secinv_spc_upd s c _ hs ⟨hpc, Nat.zero_le _, hnil ts, fun _ j t hj _ => absurd hj (Nat.not_lt_zero _)⟩, Or.inl rfl⟩
  | bWait c =>
    obtain ⟨ts, raise, i, t, hpc, ht, hr, hcase⟩ := step2_bWait h
    obtain ⟨h1, h2, h3, h4⟩ := hs.at hpc
    rcases hcase with ⟨hraise, hex, rfl⟩ | ⟨hno, rfl⟩
    · exact ⟨secinv_spc_upd s c _ hs ⟨h1, Nat.zero_le _, hnil ts, hraise, i, ht, hr, hex, h3, h4 hraise⟩, Or.inl rfl⟩
    · refine ⟨secinv_spc_upd s c _ hs ⟨h1, (List.getElem?_eq_some_iff.mp ht).1, prefix_succ h3 ht hr, fun hraise => ?_⟩, Or.inl rfl⟩
      rcases hno with hno | hno
      · rw [hno] at hraise; cases hraise
      · exact prefix_succ (h4 hraise) ht hno
  | bDone c =>
    obtain ⟨ts, raise, hpc, rfl⟩ := step2_bDone h
    obtain ⟨h1, _, h3, h4⟩ := hs.at hpc
    exact ⟨secinv_spc_upd s c _ hs ⟨h1, Nat.zero_le _, hnil ts, fun hraise => ⟨h3, h4 hraise⟩⟩, Or.inl rfl⟩
  | dWait c =>
    obtain ⟨ts, raise, i, exc, t, hpc, ht, hr, rfl⟩ := step2_dWait h
    obtain ⟨h1, _, h3, h4⟩ := hs.at hpc
    exact ⟨secinv_spc_upd s c _ hs ⟨h1, (List.getElem?_eq_some_iff.mp ht).1, prefix_succ h3 ht hr, h4⟩, Or.inl rfl⟩
  | exit c =>
    refine ⟨fun c' => ?_, Or.inr ⟨.cReturn c, exit_is_cReturn hs h⟩⟩
    obtain ⟨ts, raise, exc, hpc, rfl⟩ := step2_exit h
    show SecOK _ c' (upd s.spc c (.out exc) c')
    by_cases hcc : c' = c
    · subst hcc; rw [upd_same]; trivial
    · rw [upd_other _ _ _ _ hcc]
      exact secOK_keep (b := s.base) (fun t _ => ⟨rfl, rfl⟩) (fun ts hw => (upd_other _ _ _ _ hcc).trans hw) (hs c')

theorem run2_induction (P : St2 → Prop) (hstep : ∀ s e s', P s → step2 false s e = some s' → P s') :
    ∀ (es : List Ev2) (s s' : St2), P s → run2 false s es = some s' → P s'
  | [], s, s', hp, h => by simp [run2] at h; subst h; exact hp
  | e :: es, s, s', hp, h => by
    simp only [run2] at h
    split at h
    · simp at h
    · rename_i s1 hs1
      exact run2_induction P hstep es s1 s' (hstep s e s1 hp hs1) h

/-- every reachable state of the refined model projects to a reachable state of the protocol model (so all its theorems
    hold of `s.base`) and satisfies the section invariant -/
theorem reachable2_invs (s : St2) (hr : Reachable2 s) : Reachable s.base ∧ SecInv s := by
  obtain ⟨nw, es, hrun⟩ := hr
  refine run2_induction (fun s => Reachable s.base ∧ SecInv s) ?_ es (init2 nw) s ⟨⟨nw, [], rfl⟩, fun _ => trivial⟩ hrun
  rintro s e s' ⟨hrb, hs⟩ h
  obtain ⟨hs', hb⟩ := secinv_step s s' e (reachable_invs s.base hrb).1 hs h
  refine ⟨?_, hs'⟩
  rcases hb with heq | ⟨e', he'⟩
  · rw [heq]; exact hrb
  · exact reachable_step hrb he'

theorem find?_of_first {p : Nat → Bool} (l : List Nat) (k t : Nat) (h : l[k]? = some t) (hp : p t = true)
    (hn : ∀ j t', j < k → l[j]? = some t' → p t' = false) : l.find? p = some t := by
  obtain ⟨hk, hkt⟩ := List.getElem?_eq_some_iff.mp h
  refine List.find?_eq_some_iff_getElem.mpr ⟨hp, k, hk, hkt, fun j hj => ?_⟩
  rw [hn j _ hj (List.getElem?_eq_getElem (Nat.lt_trans hj hk))]; rfl

theorem find?_none_of_all {p : Nat → Bool} (l : List Nat) (h : ∀ j t, j < l.length → l[j]? = some t → p t = false) :
    l.find? p = none := by
  rw [List.find?_eq_none]
  intro t ht
  obtain ⟨j, hj, hjt⟩ := List.getElem_of_mem ht
  have := h j t hj (by rw [List.getElem?_eq_getElem hj, hjt])
  simp [this]

theorem maxSize_pos (hc : Nat) : 1 ≤ maxSize hc := by
  unfold maxSize; split <;> omega

end NanoVerif.Pool
