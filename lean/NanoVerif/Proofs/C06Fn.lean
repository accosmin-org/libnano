import NanoVerif.Proofs.C06Loss
import NanoVerif.Proofs.C06Strong
/-!
  C06 — sub-gradient inequalities of the polynomial / piecewise-polynomial benchmark functions and of the constraint
  kinds over an arbitrary linear ordered field. Each reduces to the tangent inequality of a square or a fourth power
  (`sq_tangent`, `quartic_tangent`), or to "the piece attaining a maximum gives the slope"; the proofs stand under the
  theorems of `Props/C06.lean`.
-/
set_option linter.unusedSectionVars false

namespace NanoVerif.C06
open NanoVerif.Loss NanoVerif.Fn

variable {α : Type} [Field α] [LinearOrder α] [IsStrictOrderedRing α]

/-! ### scalar shapes -/

/-- `b² − a² − 2a(b − a) = (b − a)²` -/
theorem sq_tangent (a b : α) : b * b ≥ a * a + 2 * a * (b - a) := by
  linear_combination mul_self_nonneg (b - a)

/-- `b⁴ − a⁴ − 4a³(b − a) = (b − a)² ((b + a)² + 2a²)` -/
theorem quartic_tangent (a b : α) : b * b * (b * b) ≥ a * a * (a * a) + 4 * (a * a * a) * (b - a) := by
  linear_combination mul_nonneg (mul_self_nonneg (b - a))
    (add_nonneg (mul_self_nonneg (b + a)) (mul_nonneg zero_le_two (mul_self_nonneg a)))

/-! ### radial functions -/

theorem sq_norm_tangent (x z : List α) (hl : z.length = x.length) :
    dot z z ≥ dot x x + 2 * dot x (vsub z x) := by
  rw [sq_norm_gap x z hl]
  exact le_add_of_nonneg_right (dot_self_nonneg _)

/-- `c₁‖x‖² + c₂‖x‖⁴` with `c₁, c₂ ≥ 0`: a convex non-decreasing function of `‖x‖² ≥ 0` -/
theorem radial_quad (c1 c2 : α) (h1 : 0 ≤ c1) (h2 : 0 ≤ c2) (x z : List α) (hl : z.length = x.length) :
    c1 * dot z z + c2 * (dot z z * dot z z) ≥
      c1 * dot x x + c2 * (dot x x * dot x x) + (2 * c1 + 4 * c2 * dot x x) * dot x (vsub z x) := by
  -- chain rule: the outer function above its tangent, its slope `c₁ + 2c₂‖x‖²` non-negative, `‖·‖²` above its tangent
  have hx := dot_self_nonneg x
  linear_combination c2 * sq_tangent (dot x x) (dot z z) + (c1 + 2 * c2 * dot x x) * sq_norm_tangent x z hl

theorem zakBias_length (n : Nat) : (zakBias n : List α).length = n := by simp [zakBias]

/-! ### rotated ellipsoid: running sums -/

theorem rotG_length : ∀ (acc : α) (x : List α), (rotG acc x).length = x.length
  | _, [] => rfl
  | acc, x :: xs => by simp [rotG, rotG_length (acc + x) xs]

/-- with running sums `ax`, `az` in front: the head of the gradient is also the derivative in the running sum -/
theorem rot_aux (x z : List α) (ax az : α) (h : z.length = x.length) :
    rotF az z ≥ rotF ax x + (rotG ax x).headD 0 * (az - ax) + dot (rotG ax x) (vsub z x) := by
  induction x, z, h using length_eq_induction generalizing ax az with
  | nil => simp [rotF, rotG, vsub, dot]
  | cons x xs z zs h ih =>
    simp only [rotF, rotG, vsub, dot, List.headD_cons]
    linear_combination ih (ax + x) (az + z) + sq_tangent (ax + x) (az + z)

/-! ### functions of consecutive pairs -/

/-- `carry` is what an earlier pair added to the head entry of the gradient -/
theorem pair_aux (v : α → α → α) (c : α → α → α × α)
    (hv : ∀ a b a' b', v a' b' ≥ v a b + ((c a b).1 * (a' - a) + (c a b).2 * (b' - b)))
    (xs zs : List α) (a a' carry : α) (h : zs.length = xs.length) :
    pairSum v (a' :: zs) ≥ pairSum v (a :: xs) + dot (pairGrad c carry (a :: xs)) (vsub (a' :: zs) (a :: xs))
      - carry * (a' - a) := by
  induction xs, zs, h using length_eq_induction generalizing a a' carry with
  | nil => simp [pairSum, pairGrad, vsub, dot]
  | cons b xs b' zs h ih =>
    have ih := ih b b' (c a b).2
    simp only [pairSum, pairGrad, vsub, dot] at ih ⊢
    linear_combination ih + hv a b a' b'

theorem pair_subgrad (v : α → α → α) (c : α → α → α × α)
    (hv : ∀ a b a' b', v a' b' ≥ v a b + ((c a b).1 * (a' - a) + (c a b).2 * (b' - b)))
    (x z : List α) (hl : z.length = x.length) :
    pairSum v z ≥ pairSum v x + dot (pairGrad c 0 x) (vsub z x) := by
  induction x, z, hl using length_eq_induction with
  | nil => simp [pairSum, pairGrad, vsub, dot]
  | cons a xs a' zs h _ => simpa using pair_aux v c hv xs zs a a' 0 h

theorem pairGrad_length (c : α → α → α × α) : ∀ (x : List α) (carry : α), (pairGrad c carry x).length = x.length
  | [], _ => rfl
  | [_], _ => rfl
  | a :: b :: r, carry => by
    simp only [pairGrad, List.length_cons]
    rw [pairGrad_length c (b :: r) (c a b).2]; rfl

theorem pair_prod_aux (xs zs : List α) (a a' carry : α) (h : zs.length = xs.length) :
    adjSum (a' :: zs) = adjSum (a :: xs) - dot (pairGrad (fun a b => (-b, -a)) carry (a :: xs)) (vsub (a' :: zs) (a :: xs))
      + carry * (a' - a) + adjSum (vsub (a' :: zs) (a :: xs)) := by
  induction xs, zs, h using length_eq_induction generalizing a a' carry with
  | nil => simp [adjSum, pairGrad, vsub, dot]
  | cons b xs b' zs h ih =>
    have ih := ih b b' (-a)
    simp only [adjSum, pairGrad, vsub, dot] at ih ⊢
    rw [ih]; ring

theorem adjSum_le : ∀ (d : List α), adjSum d + (d.headD 0) * (d.headD 0) / 2 ≤ dot d d
  | [] => by simp [adjSum, dot]
  | [a] => by simp only [adjSum, dot, List.headD_cons]; linear_combination (1 / 2) * mul_self_nonneg a
  | a :: b :: r => by
    have ih := adjSum_le (b :: r)
    simp only [adjSum, dot, List.headD_cons] at ih ⊢
    linear_combination ih + (1 / 2) * mul_self_nonneg (a - b)

theorem adjSum_expand (x z : List α) (hl : z.length = x.length) :
    adjSum z = adjSum x - dot (pairGrad (fun a b => (-b, -a)) 0 x) (vsub z x) + adjSum (vsub z x) := by
  induction x, z, hl using length_eq_induction with
  | nil => simp [adjSum, pairGrad, vsub, dot]
  | cons a xs a' zs h _ => simpa using pair_prod_aux xs zs a a' 0 h

/-! ### maxima of lists: the entry `argmax` selects -/

theorem getD_mulVec (W : List (List α)) (l : List α) (j : Nat) : (mulVec W l).getD j 0 = dot (W.getD j []) l :=
  Lst.getD_map (fun r => dot r l) (dot_nil_left l) W j

theorem getD_abs_mulVec (W : List (List α)) (l : List α) (j : Nat) :
    ((mulVec W l).map abs').getD j 0 = abs' (dot (W.getD j []) l) := by
  rw [Lst.getD_map abs' (if_neg (lt_irrefl 0)), getD_mulVec]

theorem maxCoeff_eq_getD_argmax (o : List α) (hne : o ≠ []) : maxCoeff o = o.getD (argmax o) 0 :=
  (maxCoeff_eq_argmax o hne).trans (Lst.getD_of_lt (argmax_lt o hne) 0).symm

/-- the piece `argmax` selects attains the maximum at `x` and stays below it at `z` -/
theorem maxCoeff_subgrad {lx lz : List α} (hne : lx ≠ []) (hl : lz.length = lx.length) {g : α}
    (h : lz.getD (argmax lx) 0 ≥ lx.getD (argmax lx) 0 + g) : maxCoeff lz ≥ maxCoeff lx + g := by
  rw [maxCoeff_eq_getD_argmax lx hne]
  exact le_trans h (maxCoeff_ge lz _ (Lst.getD_mem (hl ▸ argmax_lt lx hne) 0))

/-! ### one-hot gradients -/

theorem onehot_dot_zero (γ : α → α) (idx : Nat) : ∀ (i0 : Nat) (x d : List α), idx < i0 →
    dot (mapIdx (fun i xi => if i = idx then γ xi else 0) i0 x) d = 0
  | _, [], d, _ => dot_nil_left d
  | _, _ :: _, [], _ => rfl
  | i0, x :: xs, d :: ds, h => by
    simp only [mapIdx, dot]
    rw [if_neg (by omega), zero_mul, zero_add]
    exact onehot_dot_zero γ idx (i0 + 1) xs ds (by omega)

theorem onehot_dot (γ : α → α) (k i0 : Nat) (x d : List α) (hl : d.length = x.length) :
    dot (mapIdx (fun i xi => if i = i0 + k then γ xi else 0) i0 x) d = γ (x.getD k 0) * d.getD k 0 := by
  induction x, d, hl using length_eq_induction generalizing k i0 with
  | nil => simp [mapIdx, dot]
  | cons x xs d ds hl ih =>
    cases k with
    | zero =>
      simp only [mapIdx, dot, Nat.add_zero, if_true, List.getD_cons_zero]
      rw [onehot_dot_zero γ i0 (i0 + 1) xs ds (Nat.lt_succ_self _), add_zero]
    | succ k =>
      have ih := ih k (i0 + 1)
      rw [show i0 + 1 + k = i0 + (k + 1) by omega] at ih
      simp only [mapIdx, dot, List.getD_cons_succ]
      rw [if_neg (by omega), zero_mul, zero_add, ih]

theorem onehot_dot_from_zero (γ : α → α) (k : Nat) (x d : List α) (hd : d.length = x.length) :
    dot (mapIdx (fun i xi => if i = k then γ xi else 0) 0 x) d = γ (x.getD k 0) * d.getD k 0 := by
  simpa only [Nat.zero_add] using onehot_dot γ k 0 x d hd

theorem vsub_getD (z x : List α) (k : Nat) (h : z.length = x.length) :
    (vsub z x).getD k 0 = z.getD k 0 - x.getD k 0 := by
  induction x, z, h using length_eq_induction generalizing k with
  | nil => simp only [vsub, List.getD_nil, sub_zero]
  | cons x xs z zs h ih =>
    cases k with
    | zero => simp only [vsub, List.getD_cons_zero]
    | succ k => simp only [vsub, List.getD_cons_succ]; exact ih k

theorem onehot_const_dot (c : α) (d : Nat) (x z : List α) (hl : z.length = x.length) :
    dot (mapIdx (fun i _ => if i = d then c else 0) 0 x) (vsub z x) = c * (z.getD d 0 - x.getD d 0) := by
  rw [onehot_dot_from_zero (fun _ => c) d x (vsub z x) (vsub_length z x hl), vsub_getD z x d hl]

/-! ### maxhilb -/

theorem maxabs_aux (W : List (List α)) (x z : List α) (hW : W ≠ []) (hl : z.length = x.length) :
    maxCoeff ((mulVec W z).map abs') ≥ maxCoeff ((mulVec W x).map abs') +
      dot (smul (if dot x (W.getD (argmax ((mulVec W x).map abs')) []) < 0 then -1 else 1)
        (W.getD (argmax ((mulVec W x).map abs')) [])) (vsub z x) := by
  refine maxCoeff_subgrad (by simpa [mulVec] using hW) (by simp [mulVec]) ?_
  rw [getD_abs_mulVec, getD_abs_mulVec, dot_smul_left, dot_vsub_right _ z x hl, dot_comm x]
  exact abs'_subgrad_signbit _ _

theorem hilbert_ne_nil (n : Nat) (hn : 0 < n) : (hilbert n : List (List α)) ≠ [] := by
  unfold hilbert
  intro h
  have := congrArg List.length h
  simp at this
  omega

/-! ### `max` as coded; chained_lq -/

theorem cmax_of_lt {a b : α} (h : a < b) : cmax a b = b := if_pos h
theorem cmax_of_not_lt {a b : α} (h : ¬ a < b) : cmax a b = a := if_neg h

theorem cmax_eq_max (a b : α) : cmax a b = max a b := Cxx.ite_max a b

theorem cmax_ge_left (a b : α) : a ≤ cmax a b := by rw [cmax_eq_max]; exact le_max_left a b

theorem cmax_ge_right (a b : α) : b ≤ cmax a b := by rw [cmax_eq_max]; exact le_max_right a b

theorem cmax3_ge (v1 v2 v3 : α) :
    v1 ≤ cmax (cmax v1 v2) v3 ∧ v2 ≤ cmax (cmax v1 v2) v3 ∧ v3 ≤ cmax (cmax v1 v2) v3 :=
  ⟨le_trans (cmax_ge_left v1 v2) (cmax_ge_left _ v3), le_trans (cmax_ge_right v1 v2) (cmax_ge_left _ v3),
    cmax_ge_right _ v3⟩

/-- the `>=` chain of chained_cb3 selects a piece that attains the maximum -/
theorem cb3_select (v1 v2 v3 : α) :
    (v1 ≥ cmax v2 v3 → cmax (cmax v1 v2) v3 = v1) ∧
    (¬ v1 ≥ cmax v2 v3 → v2 ≥ cmax v1 v3 → cmax (cmax v1 v2) v3 = v2) ∧
    (¬ v1 ≥ cmax v2 v3 → ¬ v2 ≥ cmax v1 v3 → cmax (cmax v1 v2) v3 = v3) := by
  simp only [cmax_eq_max]
  refine ⟨fun h => ?_, fun _ h => ?_, fun h1 h2 => ?_⟩
  · rw [max_assoc, max_eq_left h]
  · rw [max_comm v1 v2, max_assoc, max_eq_left h]
  · rw [ge_iff_le, max_le_iff, not_and_or, not_le, not_le] at h1 h2
    have a2 : v2 ≤ v3 :=
      h2.elim (fun h => h1.elim (fun h' => absurd h (lt_asymm h')) (fun h' => (h.trans h').le)) le_of_lt
    have a1 : v1 ≤ v3 := h1.elim (fun h => (lt_of_lt_of_le h a2).le) le_of_lt
    exact max_eq_right (max_le a1 a2)

/-- as `maxCoeff_subgrad`, for the three pieces and the `>=` chain of chained_cb3 -/
theorem cmax3_subgrad {v1 v2 v3 w1 w2 w3 g1 g2 g3 : α} (p1 : w1 ≥ v1 + g1) (p2 : w2 ≥ v2 + g2) (p3 : w3 ≥ v3 + g3) :
    cmax (cmax w1 w2) w3 ≥
      cmax (cmax v1 v2) v3 + (if v1 ≥ cmax v2 v3 then g1 else if v2 ≥ cmax v1 v3 then g2 else g3) := by
  obtain ⟨q1, q2, q3⟩ := cmax3_ge w1 w2 w3
  obtain ⟨s1, s2, s3⟩ := cb3_select v1 v2 v3
  by_cases h1 : v1 ≥ cmax v2 v3
  · rw [s1 h1, if_pos h1]; exact le_trans p1 q1
  · by_cases h2 : v2 ≥ cmax v1 v3
    · rw [s2 h1 h2, if_neg h1, if_pos h2]; exact le_trans p2 q2
    · rw [s3 h1 h2, if_neg h1, if_neg h2]; exact le_trans p3 q3

theorem lqPiece_aux (a b a' b' : α) :
    lqPiece a' b' ≥ lqPiece a b + ((lqPieceG a b).1 * (a' - a) + (lqPieceG a b).2 * (b' - b)) := by
  have h1 := cmax_ge_left (lqV1 a' b') (lqV2 a' b')
  have h2 := cmax_ge_right (lqV1 a' b') (lqV2 a' b')
  unfold lqPiece lqPieceG
  by_cases h : lqV1 a b < lqV2 a b
  · rw [cmax_of_lt h, if_pos h]
    unfold lqV2 lqV1 at h2 ⊢
    linear_combination h2 + sq_tangent a a' + sq_tangent b b'
  · rw [cmax_of_not_lt h, if_neg h]
    unfold lqV1 at h1 ⊢
    linear_combination h1

/-! ### maxquad: `max_k x·(A_k x − b_k)` -/

theorem mqVals_length (As : List (List (List α))) (bs : List (List α)) (x : List α) (hl : As.length = bs.length) :
    (mqVals As bs x).length = As.length := by
  induction bs, As, hl using length_eq_induction with
  | nil => rfl
  | cons b bs A As hl ih => rw [mqVals, List.length_cons, ih, List.length_cons]

theorem getD_mqVals (As : List (List (List α))) (bs : List (List α)) (x : List α) (j : Nat)
    (hl : As.length = bs.length) :
    (mqVals As bs x).getD j 0 = dot x (vsub (mulVec (As.getD j []) x) (bs.getD j [])) := by
  induction bs, As, hl using length_eq_induction generalizing j with
  | nil => rw [List.getD_nil]; exact (dot_nil_right x).symm
  | cons b bs A As hl ih =>
    cases j with
    | zero => rfl
    | succ j => exact ih j

theorem mq_piece_aux (A : List (List α)) (b x z : List α) (n : Nat)
    (hA : A.length = n) (hb : b.length = n) (hx : x.length = n) (hz : z.length = n)
    (hsym : ∀ u v : List α, u.length = n → v.length = n → dot u (mulVec A v) = dot v (mulVec A u))
    (hpsd : ∀ d : List α, d.length = n → 0 ≤ dot d (mulVec A d)) :
    dot z (vsub (mulVec A z) b) ≥ dot x (vsub (mulVec A x) b) + dot (vsub (smul 2 (mulVec A x)) b) (vsub z x) := by
  have hl : z.length = x.length := hz.trans hx.symm
  have hAb : ∀ y : List α, (mulVec A y).length = b.length := fun y => by rw [mulVec_length, hA, hb]
  -- the difference of the two sides is the quadratic form at `z − x`
  have hd := hpsd (vsub z x) (vsub_length_eq hz hx)
  rw [quad_vsub A x z hl, hsym x z hx hz] at hd
  rw [ge_iff_le, ← sub_nonneg, dot_vsub_right z _ _ (hAb z), dot_vsub_right x _ _ (hAb x),
    dot_vsub_left _ _ _ (by rw [smul_length, hAb]), dot_smul_left, dot_mulVec_vsub A x z hl, dot_vsub_right b z x hl,
    dot_comm b z, dot_comm b x]
  convert hd using 1
  ring

end NanoVerif.C06
