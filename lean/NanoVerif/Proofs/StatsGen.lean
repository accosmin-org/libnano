import NanoVerif.Model.StatsTyped
/-!
  C20 — the hand-written model text of `detail::percentile` IS the text regenerated from include/nano/core/stats.h
  (`Gen.Stats.percentileGuard`, `Gen.Stats.percentileBody`): for every scalar type, by unfolding. A source edit of the
  position formula, of the floor / ceil pair, of the `lpos == rpos` test or of the midpoint changes the generated
  definition and these theorems stop checking. (`Model/Stats.lean` keeps its own text because C11 / C13 import it.)
-/
namespace NanoVerif.Stats

variable {α : Type} [Add α] [Sub α] [Mul α] [Div α] [Neg α] [LT α] [LE α] [DecidableLT α] [DecidableLE α]
  [OfNat α 0] [OfNat α 1] [OfNat α 2] [OfNat α 50] [OfNat α 100] [FloorI α]

set_option linter.unusedSectionVars false
/-- `percentile_sorted` of the model = the generated body of `detail::percentile` with positional access -/
theorem model_percentile_is_generated (xs : List α) (p : α) :
    percentileSorted xs p =
      if xs.isEmpty then none
      else if ¬ Gen.Stats.percentileGuard p then none
      else Gen.Stats.percentileBody FloorI.ofNat FloorI.floor FloorI.ceil (getI xs) xs.length p := rfl

/-- the same for a container of another value type (conversion at the read) -/
theorem model_percentileC_is_generated {β : Type} (cast : β → α) (xs : List β) (p : α) :
    percentileSortedC cast xs p =
      if xs.isEmpty then none
      else if ¬ Gen.Stats.percentileGuard p then none
      else Gen.Stats.percentileBody FloorI.ofNat FloorI.floor FloorI.ceil (getC cast xs) xs.length p := rfl

theorem model_position_is_generated (n : Nat) (p : α) (fl cl : α → Int) (fp : Int → Option α) :
    Gen.Stats.percentileBody FloorI.ofNat fl cl fp n p =
      (if fl (position n p) = cl (position n p) then fp (fl (position n p))
       else match fp (fl (position n p)), fp (cl (position n p)) with
         | some a, some b => some ((a + b) / 2)
         | _, _ => none) := rfl

end NanoVerif.Stats
