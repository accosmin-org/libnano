import NanoVerif.Proofs.C06Vec
import NanoVerif.Proofs.CxxOrder
import NanoVerif.Proofs.ListIndex
/-!
  C06 — the piecewise-polynomial loss kernels (mae, mse, hinge, squared hinge, pinball) over an arbitrary linear ordered
  field: tangent inequalities of the scalar kernels, non-negativity, and the error measures of `error.h`.
-/
set_option linter.unusedSectionVars false

namespace NanoVerif.C06
open NanoVerif.Loss NanoVerif.Fn

variable {α : Type} [Field α] [LinearOrder α] [IsStrictOrderedRing α]

/-! ### scalar helpers -/

theorem abs'_eq (x : α) : abs' x = |x| := Cxx.ite_abs x

theorem abs'_nonneg (x : α) : 0 ≤ abs' x := by rw [abs'_eq]; exact abs_nonneg x

theorem max0_eq (x : α) : max0 x = max x 0 := by
  unfold max0; split
  · rename_i h; rw [max_eq_left (le_of_lt h)]
  · rename_i h; rw [max_eq_right (not_lt.mp h)]

theorem max0_nonneg (x : α) : 0 ≤ max0 x := by rw [max0_eq]; exact le_max_right _ _
theorem le_max0 (x : α) : x ≤ max0 x := by rw [max0_eq]; exact le_max_left _ _

theorem max0_of_pos {x : α} (h : 0 < x) : max0 x = x := if_pos h
theorem max0_of_nonpos {x : α} (h : x ≤ 0) : max0 x = 0 := if_neg (not_lt.2 h)

theorem sign'_of_pos {x : α} (h : 0 < x) : sign' x = 1 := if_pos h
theorem sign'_of_neg {x : α} (h : x < 0) : sign' x = -1 := by rw [sign', if_neg (lt_asymm h), if_pos h]
theorem sign'_zero : sign' (0 : α) = 0 := by rw [sign', if_neg (lt_irrefl _), if_neg (lt_irrefl _)]

theorem sign'_neg (x : α) : sign' (-x) = -sign' x := by
  rcases lt_trichotomy x 0 with h | rfl | h
  · rw [sign'_of_neg h, sign'_of_pos (neg_pos.2 h), neg_neg]
  · rw [neg_zero, sign'_zero, neg_zero]
  · rw [sign'_of_pos h, sign'_of_neg (neg_neg_of_pos h)]

/-! ### the convex scalar shapes the kernels are built from

  Each is a maximum of affine pieces; Eigen's `sign` picks a slope of an active piece, and the mean of the two slopes
  at a kink. -/

theorem abs'_subgrad (u v : α) : abs' v ≥ abs' u + sign' u * (v - u) := by
  rw [abs'_eq, abs'_eq]
  rcases lt_trichotomy u 0 with h | rfl | h
  · rw [sign'_of_neg h, abs_of_neg h]; linear_combination neg_le_abs v
  · rw [sign'_zero, abs_zero]; linear_combination abs_nonneg v
  · rw [sign'_of_pos h, abs_of_pos h]; linear_combination le_abs_self v

/-- the same with the slope chosen by `signbit` (`+1` at the kink) -/
theorem abs'_subgrad_signbit (u v : α) : abs' v ≥ abs' u + (if u < 0 then -1 else 1) * (v - u) := by
  rw [abs'_eq, abs'_eq]
  split
  · rename_i h; rw [abs_of_neg h]; linear_combination neg_le_abs v
  · rename_i h; rw [abs_of_nonneg (not_lt.1 h)]; linear_combination le_abs_self v

theorem max0_subgrad (u v : α) : max0 v ≥ max0 u + (sign' u + 1) * (1 / 2) * (v - u) := by
  have h0 := max0_nonneg v
  have h1 := le_max0 v
  rcases lt_trichotomy u 0 with h | rfl | h
  · rw [sign'_of_neg h, max0_of_nonpos h.le]; linear_combination h0
  · rw [sign'_zero, max0_of_nonpos le_rfl]; linear_combination (1 / 2) * h0 + (1 / 2) * h1
  · rw [sign'_of_pos h, max0_of_pos h]; linear_combination h1

/-! ### tangent inequalities of the scalar kernels -/

theorem maeK_subgrad (t x z : α) : maeV t z ≥ maeV t x + maeG t x * (z - x) := by
  have h := abs'_subgrad (x - t) (z - t)
  rwa [sub_sub_sub_cancel_right] at h

theorem mseK_subgrad (t x z : α) : 1 / 2 * mseV t z ≥ 1 / 2 * mseV t x + mseG t x * (z - x) := by
  unfold mseV mseG
  linear_combination (1 / 2) * mul_self_nonneg (z - x)

theorem hingeK_subgrad (t x z : α) : hingeV t z ≥ hingeV t x + hingeG t x * (z - x) := by
  unfold hingeV hingeG
  linear_combination max0_subgrad (1 - t * x) (1 - t * z)

theorem sqhingeK_subgrad (t x z : α) : sqhingeV t z ≥ sqhingeV t x + sqhingeG t x * (z - x) := by
  unfold sqhingeV sqhingeG
  rcases le_or_gt (1 - t * x) 0 with h | h
  · rw [max0_of_nonpos h]; linear_combination mul_self_nonneg (max0 (1 - t * z))
  · rw [max0_of_pos h]
    linear_combination mul_self_nonneg (max0 (1 - t * z) - (1 - t * x)) +
      2 * mul_nonneg h.le (sub_nonneg.2 (le_max0 (1 - t * z)))

/-- a mixture with weights `a`, `1 - a` of the hinges of `t - o` and `o - t` -/
theorem pinballK_subgrad (a : α) (h0 : 0 ≤ a) (h1 : a ≤ 1) (t x z : α) :
    pinballV a t z ≥ pinballV a t x + pinballG a t x * (z - x) := by
  have hr := max0_subgrad (x - t) (z - t)
  rw [show sign' (x - t) = -sign' (t - x) by rw [← sign'_neg, neg_sub]] at hr
  unfold pinballV pinballG
  linear_combination a * max0_subgrad (t - x) (t - z) + (1 - a) * hr

/-! ### non-negativity of the kernels -/

theorem maeV_nonneg (t o : α) : 0 ≤ maeV t o := abs'_nonneg _
theorem mseV_nonneg (t o : α) : 0 ≤ mseV t o := mul_self_nonneg _
theorem hingeV_nonneg (t o : α) : 0 ≤ hingeV t o := max0_nonneg _
theorem sqhingeV_nonneg (t o : α) : 0 ≤ sqhingeV t o := mul_self_nonneg _
theorem pinballV_nonneg (a : α) (h0 : 0 ≤ a) (h1 : a ≤ 1) (t o : α) : 0 ≤ pinballV a t o :=
  add_nonneg (mul_nonneg h0 (max0_nonneg _)) (mul_nonneg (sub_nonneg.2 h1) (max0_nonneg _))

/-! ### error measures -/

theorem absdiffE_nonneg (t o : List α) : 0 ≤ absdiffE t o :=
  sum2_nonneg _ (fun _ _ => abs'_nonneg _) t o

theorem mclassE_nonneg (eps : α) (t o : List α) : 0 ≤ mclassE eps t o := by
  unfold mclassE; exact Nat.cast_nonneg _

theorem sclassE_nonneg (eps : α) (t o : List α) : 0 ≤ sclassE eps t o := by
  unfold sclassE
  split
  · split
    · split <;> norm_num
    · norm_num
  · exact mclassE_nonneg eps t o

/-- the decision rule behind `target * output < eps` for a `±1` target: the label is predicted positive when
    `output ≥ eps`, negative when `output ≤ -eps`; an output inside `(-eps, eps)` is always counted as an error -/
theorem edge_lt_iff (eps t o : α) (ht : t = 1 ∨ t = -1) :
    t * o < eps ↔ ¬ ((t = 1 ∧ eps ≤ o) ∨ (t = -1 ∧ o ≤ -eps)) := by
  have h11 : (1 : α) ≠ -1 := (neg_lt_self one_pos).ne'
  rcases ht with rfl | rfl
  · rw [one_mul, ← not_le]
    simp only [true_and, h11, false_and, or_false]
  · rw [neg_one_mul, neg_lt, ← not_le]
    simp only [true_and, h11.symm, false_and, false_or]

/-- number of positions whose output does not decide for the target's label -/
def countWrong (eps : α) : List α → List α → Nat
  | t :: ts, o :: os =>
    (if (t = 1 ∧ eps ≤ o) ∨ (t = -1 ∧ o ≤ -eps) then 0 else 1) + countWrong eps ts os
  | _, _ => 0

theorem countEdges_eq_countWrong (eps : α) : ∀ (t o : List α), (∀ v ∈ t, v = 1 ∨ v = -1) →
    countEdges eps t o = countWrong eps t o
  | [], _, _ => by simp [countEdges, countWrong]
  | _ :: _, [], _ => by simp [countEdges, countWrong]
  | t :: ts, o :: os, h => by
    have ih := countEdges_eq_countWrong eps ts os (fun v hv => h v (by simp [hv]))
    have ht := h t (by simp)
    simp only [countEdges, countWrong, ih]
    congr 1
    by_cases hc : t * o < eps
    · have := (edge_lt_iff eps t o ht).1 hc
      simp [hc, this]
    · have : (t = 1 ∧ eps ≤ o) ∨ (t = -1 ∧ o ≤ -eps) := by
        by_contra h2; exact hc ((edge_lt_iff eps t o ht).2 h2)
      simp [hc, this]

/-! ### `maxCoeff` -/

/-- `maxCoeff` of a non-empty vector is the running maximum from its first entry -/
theorem maxCoeff_cons (x : α) (xs : List α) : maxCoeff (x :: xs) = xs.foldl max x :=
  congrArg (fun f => xs.foldl f x) (funext₂ Cxx.ite_max)

theorem maxCoeff_mem (o : List α) (hne : o ≠ []) : maxCoeff o ∈ o := by
  obtain ⟨x, xs, rfl⟩ := List.exists_cons_of_ne_nil hne
  rw [maxCoeff_cons]; exact Cxx.foldl_max_mem xs x

theorem maxCoeff_ge (o : List α) : ∀ v ∈ o, v ≤ maxCoeff o := by
  cases o with
  | nil => intro v hv; simp at hv
  | cons x xs => rw [maxCoeff_cons]; exact List.forall_mem_cons.mpr (Cxx.le_foldl_max xs x)

/-! ### arg-max -/

/-- `m` is the largest entry of `l`, and `i` the first index holding it -/
def FirstMax (l : List α) (i : Nat) (m : α) : Prop :=
  l[i]? = some m ∧ (∀ (j : Nat) (v : α), l[j]? = some v → v ≤ m) ∧
    (∀ (j : Nat), j < i → ∀ (v : α), l[j]? = some v → v < m)

theorem FirstMax.snoc_lt {pre : List α} {i : Nat} {m y : α} (h : FirstMax pre i m) (hy : m < y) :
    FirstMax (pre ++ [y]) pre.length y := by
  refine ⟨List.getElem?_concat_length, fun j v hv => ?_, fun j hj v hv => ?_⟩
  · rcases Lst.getElem?_concat_cases hv with ⟨_, hv⟩ | ⟨_, rfl⟩
    · exact ((h.2.1 j v hv).trans_lt hy).le
    · exact le_rfl
  · rw [List.getElem?_append_left hj] at hv
    exact (h.2.1 j v hv).trans_lt hy

theorem FirstMax.snoc_not_lt {pre : List α} {i : Nat} {m y : α} (h : FirstMax pre i m) (hy : ¬ m < y) :
    FirstMax (pre ++ [y]) i m := by
  have hi : i < pre.length := (List.getElem?_eq_some_iff.1 h.1).1
  refine ⟨by rw [List.getElem?_append_left hi]; exact h.1, fun j v hv => ?_, fun j hj v hv => ?_⟩
  · rcases Lst.getElem?_concat_cases hv with ⟨_, hv⟩ | ⟨_, rfl⟩
    · exact h.2.1 j v hv
    · exact not_lt.1 hy
  · rw [List.getElem?_append_left (hj.trans hi)] at hv
    exact h.2.2 j hj v hv

theorem argmaxAux_spec : ∀ (ys : List α) (m : α) (best : Nat) (pre : List α), FirstMax pre best m →
    ∃ mv, FirstMax (pre ++ ys) (argmaxAux ys m best pre.length) mv
  | [], m, best, pre, h => ⟨m, by rwa [List.append_nil]⟩
  | y :: ys, m, best, pre, h => by
    rw [List.append_cons, argmaxAux]
    split
    · rename_i hlt
      simpa only [List.length_append, List.length_singleton] using
        argmaxAux_spec ys y pre.length (pre ++ [y]) (h.snoc_lt hlt)
    · rename_i hnlt
      simpa only [List.length_append, List.length_singleton] using
        argmaxAux_spec ys m best (pre ++ [y]) (h.snoc_not_lt hnlt)

theorem argmax_firstMax (o : List α) (hne : o ≠ []) : ∃ mv, FirstMax o (argmax o) mv := by
  cases o with
  | nil => exact absurd rfl hne
  | cons x xs =>
    refine argmaxAux_spec xs x 0 [x] ⟨rfl, fun j v hv => ?_, fun j hj => absurd hj (Nat.not_lt_zero j)⟩
    cases j with
    | zero => exact (Option.some.inj hv).ge
    | succ j => cases hv

theorem argmax_lt (o : List α) (hne : o ≠ []) : argmax o < o.length := by
  obtain ⟨mv, hmv, -, -⟩ := argmax_firstMax o hne
  exact (List.getElem?_eq_some_iff.1 hmv).1

theorem maxCoeff_eq_argmax (o : List α) (hne : o ≠ []) : maxCoeff o = o[argmax o]'(argmax_lt o hne) := by
  obtain ⟨mv, hmv, hmax, -⟩ := argmax_firstMax o hne
  obtain ⟨h, rfl⟩ := List.getElem?_eq_some_iff.1 hmv
  obtain ⟨j, hj⟩ := List.getElem?_of_mem (maxCoeff_mem o hne)
  exact le_antisymm (hmax j _ hj) (maxCoeff_ge o _ (List.getElem_mem h))

end NanoVerif.C06
