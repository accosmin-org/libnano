import NanoVerif.Gen.Numeric
/-!
  The integer helpers of `numeric.h` (`Gen/Numeric.lean`) on natural arguments. Core Lean only.
-/
namespace NanoVerif.Gen

/-- `idiv` on natural numbers rounds `a / b` to the nearest, halves up: `⌊(a + ⌊b/2⌋) / b⌋` (C++ `/` truncates, which on
    non-negative arguments is the floor) -/
theorem idiv_natCast (a b : Nat) : idiv (a : Int) (b : Int) = (((a + b / 2) / b : Nat) : Int) := by
  unfold idiv
  rw [show (2 : Int) = ((2 : Nat) : Int) from rfl, ← Int.ofNat_tdiv, ← Int.natCast_add, ← Int.ofNat_tdiv]

end NanoVerif.Gen
