import NanoVerif.Model.MLResult
import NanoVerif.Model.LinearFit
import NanoVerif.Proofs.TunerClosestTrial
/-!
  C11 — `ml::result_t` filled by `ml::tune`: every slot holds the statistics of exactly the per-sample values the model
  callback returned for that (trial, fold), whatever the number of batches, their sizes and the execution order of the pool.
  Built on C13's batch lemmas (`Proofs/Tune.lean`).
-/
set_option linter.unusedSectionVars false

namespace NanoVerif.MLResult
open NanoVerif.Tune NanoVerif.Stats

variable {E α : Type} [Add α] [Sub α] [Mul α] [Div α] [LT α] [LE α] [DecidableLT α] [DecidableLE α]
  [OfNat α 0] [OfNat α 1] [OfNat α 2] [OfNat α 50] [OfNat α 100] [FloorI α] [HasSqrt α]

/-- the pool runs every index of a batch exactly once (C13 `tune_calls_once`; the order is the pool's business) -/
def Scheduled (folds : Nat) (bs : List (Batch E α)) : Prop := ∀ b ∈ bs, b.order.Perm (List.range (b.k * folds))

/-- number of trials before a batch -/
def trialsOf (bs : List (Batch E α)) : Nat := (bs.map (·.k)).sum

def stepB (sort : List α → List α) (r : Result (Payload E α)) (b : Batch E α) : Result (Payload E α) :=
  runBatch (cbOf sort b.fit) b.closest r b.k b.order

theorem runTune_eq (sort : List α → List α) (folds : Nat) (bs : List (Batch E α)) :
    runTune sort folds bs = bs.foldl (stepB sort) (Result.empty folds) := rfl

theorem trialsOf_cons (b : Batch E α) (bs : List (Batch E α)) : trialsOf (b :: bs) = b.k + trialsOf bs := rfl

theorem foldl_stepB_wf (sort : List α → List α) (bs : List (Batch E α)) :
    ∀ r : Result (Payload E α), r.wf →
      (bs.foldl (stepB sort) r).wf ∧ (bs.foldl (stepB sort) r).folds = r.folds ∧
      (bs.foldl (stepB sort) r).trials = r.trials + trialsOf bs := by
  induction bs with
  | nil => intro r hwf; exact ⟨hwf, rfl, rfl⟩
  | cons b rest ih =>
    intro r hwf
    obtain ⟨h1, h2, h3⟩ := runBatch_wf (cbOf sort b.fit) b.closest r hwf b.k b.order
    obtain ⟨i1, i2, i3⟩ := ih (stepB sort r b) h1
    exact ⟨i1, i2.trans h3, i3.trans (by rw [trialsOf_cons, ← Nat.add_assoc]; exact congrArg (· + _) h2)⟩

theorem runTune_wf (sort : List α → List α) (folds : Nat) (bs : List (Batch E α)) :
    (runTune sort folds bs).wf ∧ (runTune sort folds bs).folds = folds ∧ (runTune sort folds bs).trials = trialsOf bs := by
  have := foldl_stepB_wf sort bs (Result.empty folds) (by simp [Result.wf, Result.empty])
  refine ⟨this.1, this.2.1, ?_⟩
  rw [runTune_eq, this.2.2]; simp [Result.empty]

/-- later batches never touch the slots of earlier trials -/
theorem foldl_stepB_keeps (sort : List α → List α) (folds : Nat) (bs : List (Batch E α)) (hs : Scheduled folds bs) :
    ∀ r : Result (Payload E α), r.wf → r.folds = folds →
      ∀ t f, t < r.trials → (bs.foldl (stepB sort) r).get? t f = r.get? t f := by
  induction bs with
  | nil => intro r _ _ t f _; rfl
  | cons b rest ih =>
    intro r hwf hf t f ht
    obtain ⟨hb, hrest⟩ := List.forall_mem_cons.mp hs
    obtain ⟨h1, h2, h3⟩ := runBatch_wf (cbOf sort b.fit) b.closest r hwf b.k b.order
    rw [List.foldl_cons, ih hrest (stepB sort r b) h1 (h3.trans hf) t f (h2 ▸ Nat.lt_add_right _ ht)]
    exact batch_keeps_old (cbOf sort b.fit) b.closest r hwf b.k b.order (hf ▸ hb) t f ht

/-- **the slot of (trial, fold)** after the whole tuning run: what the model callback of the trial's batch returned for it,
    the callback having been handed the model data of `closest t` as the result stood right after the batch's `add` -/
theorem tune_slot (sort : List α → List α) (folds : Nat) (pre : List (Batch E α)) (b : Batch E α) (post : List (Batch E α))
    (hs : Scheduled folds (pre ++ b :: post)) (t f : Nat) (ht : t < b.k) (hf : f < folds) :
    (runTune sort folds (pre ++ b :: post)).get? (trialsOf pre + t) f =
      some (cbOf sort b.fit t f (((runTune sort folds pre).add b.k).get? (b.closest t) f)) := by
  obtain ⟨w1, w2, w3⟩ := runTune_wf sort folds pre
  obtain ⟨hb, hpost⟩ := List.forall_mem_cons.mp (List.forall_mem_append.mp hs).2
  obtain ⟨h1, h2, h3⟩ := runBatch_wf (cbOf sort b.fit) b.closest (runTune sort folds pre) w1 b.k b.order
  rw [runTune_eq, List.foldl_append, List.foldl_cons, ← runTune_eq,
    foldl_stepB_keeps sort folds post hpost (stepB sort (runTune sort folds pre) b) h1 (h3.trans w2) _ f (h2 ▸ w3 ▸ Nat.add_lt_add_left ht _), ← w3]
  exact batch_slots (cbOf sort b.fit) b.closest (runTune sort folds pre) w1 b.k b.order (w2.symm ▸ hb) t f ht (w2.symm ▸ hf)

/-- a global trial number is a trial of exactly one batch -/
theorem trial_decompose (bs : List (Batch E α)) :
    ∀ T, T < trialsOf bs → ∃ pre b post t, bs = pre ++ b :: post ∧ T = trialsOf pre + t ∧ t < b.k := by
  induction bs with
  | nil => intro T h; exact absurd h (Nat.not_lt_zero T)
  | cons b rest ih =>
    intro T h
    rw [trialsOf_cons] at h
    by_cases hT : T < b.k
    · exact ⟨[], b, rest, T, rfl, (Nat.zero_add T).symm, hT⟩
    · obtain ⟨pre, b', post, t, e, hT', ht⟩ := ih (T - b.k) (by omega)
      exact ⟨b :: pre, b', post, t, by rw [e]; rfl, by rw [trialsOf_cons]; omega, ht⟩

theorem all_slots_set (sort : List α → List α) (folds : Nat) (bs : List (Batch E α)) (hs : Scheduled folds bs)
    (T f : Nat) (hT : T < trialsOf bs) (hf : f < folds) : ∃ R, extraOf (runTune sort folds bs) T f = some R := by
  obtain ⟨pre, b, post, t, rfl, rfl, ht⟩ := trial_decompose bs T hT
  exact ⟨_, by unfold extraOf; rw [tune_slot sort folds pre b post hs t f ht hf]; rfl⟩

/-- the part of what a callback returned that `stats(·, ·, split, ·)` is about -/
def FoldFit.sel (r : FoldFit E α) : Split → List (α × α)
  | .train => r.trainValues
  | .valid => r.validValues

theorem storeCell_sel (sort : List α → List α) (tr vd : List (α × α)) (split : Split) (kind : Kind) :
    (storeCell sort tr vd).sel split kind =
      storeStats sort (column (match split with | .train => tr | .valid => vd) kind) := by
  cases split <;> cases kind <;> rfl

end NanoVerif.MLResult
