import NanoVerif.Proofs.PoolJ
import NanoVerif.Proofs.PoolSeq
/-!
  C17 — all invariants hold in every reachable state; the quiescence argument. Core Lean only.
-/
namespace NanoVerif.Pool

theorem reachable_invs (s : St) (hr : Reachable s) : Inv s ∧ J s ∧ Inv2 s ∧ SeqInv s := by
  refine reachable_induction (fun s => Inv s ∧ J s ∧ Inv2 s ∧ SeqInv s) ?_ ?_ s hr
  · intro nw; exact ⟨inv_init nw, J_init nw, inv2_init nw, seq_init nw⟩
  · rintro s e s' ⟨hi, hj, h2, hs⟩ h
    exact ⟨inv_step s s' e hi h, J_step s s' e hj h, inv2_step s s' e hi h2 h, seq_step s s' e hs h⟩

/-- events by which the environment starts a new client call (`enqueue`/`map` pushing its tasks, `~pool_t` setting
    stop, `map` entering its sequential path); every other event is the pool's own progress -/
def startsCall : Ev → Bool
  | .cPush _ _ _ => true
  | .dStop _ => true
  | .sStart _ _ => true
  | _ => false

def isWake : Ev → Bool
  | .wWake _ => true
  | _ => false

def Quiescent (s : St) : Prop := ∀ e, isWake e = false → startsCall e = false → step s e = none

theorem quiescent_workers (s : St) (hq : Quiescent s) (w : Nat) (hw : w < s.nw) :
    s.wpc w = .sleeping ∨ s.wpc w = .exited := by
  cases hpc : s.wpc w with
  | sleeping => exact Or.inl rfl
  | exited => exact Or.inr rfl
  | running t =>
    have := hq (.wRunEnd w false) rfl rfl
    simp [step, hw, hpc] at this
  | ready =>
    cases hstop : s.stop with
    | true =>
      have := hq (.wExit w) rfl rfl
      simp [step, hw, hpc, hstop] at this
    | false =>
      cases hqu : s.queue with
      | nil =>
        have := hq (.wSleep w) rfl rfl
        simp [step, hw, hpc, hstop, hqu] at this
      | cons t q =>
        have := hq (.wTake w) rfl rfl
        simp [step, hw, hpc, hstop, hqu] at this

theorem quiescent_no_debt (s : St) (hq : Quiescent s) (c : Nat) : owesNotify (s.cpc c) = false := by
  cases hpc : s.cpc c with
  | pushed ts all =>
    cases all with
    | true =>
      have := hq (.cNotify c none) rfl rfl
      simp [step, hpc] at this
    | false =>
      by_cases hs : ∀ v, v < s.nw → s.wpc v ≠ .sleeping
      · have := hq (.cNotify c none) rfl rfl
        simp only [step, hpc] at this
        simp at this
        obtain ⟨v, hv, hvs⟩ := this
        exact absurd hvs (hs v hv)
      · obtain ⟨v, hv⟩ := Classical.not_forall.mp hs
        obtain ⟨hvlt, hvs⟩ := Classical.not_imp.mp hv
        have hvs' : s.wpc v = .sleeping := Classical.not_not.mp hvs
        have := hq (.cNotify c (some v)) rfl rfl
        simp [step, hpc, hvlt, hvs'] at this
  | stopSet =>
    have := hq (.cNotify c none) rfl rfl
    simp [step, hpc] at this
  | idle => rfl
  | waiting ts => rfl
  | joining => rfl
  | finished => rfl
  | seq n i b err => rfl

/-- in a quiescent state J can only hold through its last alternative -/
theorem quiescent_all_exited (s : St) (hj : J s) (hq : Quiescent s) (hprem : s.queue ≠ [] ∨ s.stop = true) :
    ∀ w, w < s.nw → s.wpc w = .exited := by
  rcases hj hprem with ⟨w, hw, ha⟩ | ⟨c, hc⟩ | h
  · rcases quiescent_workers s hq w hw with h1 | h1 <;> rw [h1] at ha <;> simp [active] at ha
  · rw [quiescent_no_debt s hq c] at hc; cases hc
  · exact h

theorem quiescent_queue_empty (s : St) (hj : J s) (h2 : Inv2 s) (hnw : 0 < s.nw) (hq : Quiescent s) : s.queue = [] := by
  cases hqu : s.queue with
  | nil => rfl
  | cons t q =>
    have hall := quiescent_all_exited s hj hq (Or.inl (by rw [hqu]; simp))
    have := h2.Q ⟨0, hnw, hall 0 hnw⟩
    rw [hqu] at this; cases this

end NanoVerif.Pool
