import NanoVerif.Model.Tensor
/-!
  C16 — helper lemmas for `remove_if` (two-pointer loop of `Model/Tensor.lean` vs. the filter specification) and for a buffer
  split into rows of equal length and flattened back (`rows`, used by `remove_if` and by `integral`).
  Core Lean only.
-/
namespace NanoVerif.Tensor

theorem take_set_succ {α} (l : List α) (j : Nat) (x : α) (h : j < l.length) : (l.set j x).take (j + 1) = l.take j ++ [x] := by
  rw [List.take_succ_eq_append_getElem (by rw [List.length_set]; exact h), List.take_set_of_le (Nat.le_refl j),
    List.getElem_set_self]

/-- the first loop of `remove_if` is the second one run while `last = curr`: there it copies a row onto itself -/
theorem removeIfLoop_skip {α} : ∀ (ms : List Bool) (c : Nat) (rs : List (List α)),
    removeIfLoop (removeIfSkip ms c).2 (removeIfSkip ms c).1 (removeIfSkip ms c).1 rs = removeIfLoop ms c c rs
  | [], _, _ => rfl
  | true :: _, _, _ => rfl
  | false :: ms, c, rs => by
    rw [removeIfSkip, removeIfLoop_skip ms (c + 1) rs, removeIfLoop]
    simp only [Bool.false_eq_true, if_false]
    cases h : rs[c]? with
    | none => rfl
    | some r =>
      obtain ⟨hc, rfl⟩ := List.getElem?_eq_some_iff.mp h
      simp only
      rw [List.set_getElem_self]

theorem keptRows_nil_left {α} (xs : List (List α)) : keptRows [] xs = [] := by
  cases xs <;> rfl

/-- invariant of the second loop: rows `[0,last)` are final, rows `[curr, size)` are still the original ones -/
theorem removeIfLoop_spec {α} : ∀ (ms : List Bool) (curr last : Nat) (rs : List (List α)),
    last ≤ curr → curr + ms.length = rs.length →
    (removeIfLoop ms curr last rs).1 = last + (keptRows ms (rs.drop curr)).length ∧
    (removeIfLoop ms curr last rs).2.take (removeIfLoop ms curr last rs).1
      = rs.take last ++ keptRows ms (rs.drop curr) ∧
    (removeIfLoop ms curr last rs).2.length = rs.length
  | [], curr, last, rs, _, _ => by
    simp [removeIfLoop, keptRows_nil_left]
  | m :: ms, curr, last, rs, hle, hlen => by
    rw [List.length_cons] at hlen
    have hc : curr < rs.length := by omega
    rw [List.drop_eq_getElem_cons hc]
    cases m with
    | true => exact removeIfLoop_spec ms (curr + 1) last rs (by omega) (by omega)
    | false =>
      have ih := removeIfLoop_spec ms (curr + 1) (last + 1) (rs.set last rs[curr]) (by omega)
        (by rw [List.length_set]; omega)
      -- row `curr` has been copied to position `last`; the rows from `curr + 1` on are untouched
      rw [List.drop_set_of_lt (by omega), take_set_succ rs last _ (by omega), List.length_set] at ih
      have e : removeIfLoop (false :: ms) curr last rs = removeIfLoop ms (curr + 1) (last + 1) (rs.set last rs[curr]) := by
        rw [removeIfLoop]
        simp only [Bool.false_eq_true, if_false, List.getElem?_eq_getElem hc]
      obtain ⟨i1, i2, i3⟩ := ih
      rw [i1] at i2
      rw [e, i1, i2]
      exact ⟨by simp only [keptRows, Bool.false_eq_true, if_false, List.length_cons]; omega,
        by simp only [keptRows, Bool.false_eq_true, if_false, List.append_assoc, List.singleton_append], i3⟩

theorem removeIfLoop_mem {α} : ∀ (ms : List Bool) (curr last : Nat) (rs : List (List α)) (r : List α),
    r ∈ (removeIfLoop ms curr last rs).2 → r ∈ rs
  | [], _, _, _, _, h => by simpa [removeIfLoop] using h
  | true :: ms, curr, last, rs, r, h => by
    simp only [removeIfLoop, if_true] at h
    exact removeIfLoop_mem ms _ _ rs r h
  | false :: ms, curr, last, rs, r, h => by
    simp only [removeIfLoop, Bool.false_eq_true, if_false] at h
    cases hc : rs[curr]? with
    | none =>
      rw [hc] at h
      exact removeIfLoop_mem ms _ _ rs r h
    | some x =>
      rw [hc] at h
      have := removeIfLoop_mem ms _ _ _ r h
      rcases List.mem_or_eq_of_mem_set this with h1 | h1
      · exact h1
      · rw [h1]; exact List.mem_of_getElem? hc

/-! ### rows of a buffer -/

theorem rows_length {α} (n : Nat) : ∀ (k : Nat) (xs : List α), (rows n k xs).length = k
  | 0, _ => rfl
  | k + 1, xs => by simp [rows, rows_length n k]

theorem flatten_length_of_rows {α} (n : Nat) : ∀ (rs : List (List α)), (∀ r ∈ rs, r.length = n) →
    rs.flatten.length = rs.length * n
  | [], _ => by simp
  | r :: rs, h => by
    have ih := flatten_length_of_rows n rs (fun x hx => h x (by simp [hx]))
    have h0 := h r (by simp)
    simp only [List.flatten_cons, List.length_append, List.length_cons, ih, h0, Nat.add_mul, Nat.one_mul]
    omega

theorem take_flatten_of_rows {α} (n : Nat) : ∀ (rs : List (List α)) (k : Nat), (∀ r ∈ rs, r.length = n) →
    rs.flatten.take (k * n) = (rs.take k).flatten
  | [], k, _ => by simp
  | r :: rs, 0, _ => by simp
  | r :: rs, k + 1, h => by
    have ih := take_flatten_of_rows n rs k (fun x hx => h x (by simp [hx]))
    have h0 := h r (by simp)
    simp only [List.flatten_cons, List.take_succ_cons]
    rw [List.take_append, h0, ← ih]
    have hk : (k + 1) * n - n = k * n := by rw [Nat.add_mul, Nat.one_mul]; omega
    rw [hk, List.take_of_length_le (by rw [h0, Nat.add_mul, Nat.one_mul]; omega)]

theorem rows_get {α} (n : Nat) : ∀ (k : Nat) (xs : List α) (j : Nat), j < k →
    (rows n k xs)[j]? = some ((xs.drop (j * n)).take n)
  | 0, _, _, h => by omega
  | k + 1, xs, 0, _ => by simp [rows]
  | k + 1, xs, j + 1, h => by
    simp only [rows, List.getElem?_cons_succ]
    rw [rows_get n k (xs.drop n) j (by omega), List.drop_drop, Nat.add_mul, Nat.one_mul, Nat.add_comm]

theorem row_length {α} (src : List α) (d n i : Nat) (hl : src.length = d * n) (hi : i < d) :
    ((src.drop (i * n)).take n).length = n := by
  rw [List.length_take, List.length_drop, hl]
  exact Nat.min_eq_left (Nat.le_sub_of_add_le (by rw [Nat.add_comm, ← Nat.succ_mul]; exact Nat.mul_le_mul_right n hi))

theorem rows_row_length {α} (n k : Nat) (xs : List α) (hl : xs.length = k * n) : ∀ r ∈ rows n k xs, r.length = n := by
  intro r hr
  obtain ⟨j, hj⟩ := List.mem_iff_getElem?.1 hr
  have hjk : j < k := by rw [← rows_length n k xs]; exact (List.getElem?_eq_some_iff.1 hj).1
  rw [rows_get n k xs j hjk] at hj
  cases hj
  exact row_length xs k n j hl hjk

/-- where a block sits in the concatenation: element `i` of block `k` is at position (total length of the blocks before
    it) `+ i` -/
theorem getElem?_flatten_take {α} (l : List (List α)) (k : Nat) (blk : List α) (i : Nat) (hk : l[k]? = some blk)
    (hi : i < blk.length) : l.flatten[(l.take k).flatten.length + i]? = blk[i]? := by
  obtain ⟨hk', hg⟩ := List.getElem?_eq_some_iff.1 hk
  have hsplit : l = l.take k ++ blk :: l.drop (k + 1) := by
    rw [← hg, ← List.drop_eq_getElem_cons hk', List.take_append_drop]
  have hf : l.flatten = (l.take k).flatten ++ (blk ++ (l.drop (k + 1)).flatten) := by
    conv => lhs; rw [hsplit]
    simp
  rw [hf, List.getElem?_append_right (Nat.le_add_right _ _), Nat.add_sub_cancel_left, List.getElem?_append_left hi]

/-- rows of equal length `n`: row `i` starts at `i * n` -/
theorem flatten_get {α} (n : Nat) (rs : List (List α)) (i k : Nat) (row : List α)
    (hl : ∀ r ∈ rs, r.length = n) (h : rs[i]? = some row) (hk : k < n) : rs.flatten[i * n + k]? = row[k]? := by
  have hi : i ≤ rs.length := Nat.le_of_lt (List.getElem?_eq_some_iff.1 h).1
  rw [← getElem?_flatten_take rs i row k h (by rw [hl row (List.mem_of_getElem? h)]; exact hk),
    flatten_length_of_rows n _ (fun r hr => hl r (List.mem_of_mem_take hr)), List.length_take, Nat.min_eq_left hi]

theorem keptRows_rows_flatten {α} (n : Nat) (data : List α) : ∀ (mask : List Bool) (base : Nat),
    (keptRows mask (rows n mask.length (data.drop (base * n)))).flatten
      = (keptIdx mask base).flatMap (fun i => (data.drop (i * n)).take n)
  | [], _ => rfl
  | m :: ms, base => by
    have ih := keptRows_rows_flatten n data ms (base + 1)
    rw [Nat.succ_mul, ← List.drop_drop] at ih
    cases m
    · simp only [keptRows, keptIdx, rows, List.length_cons, Bool.false_eq_true, if_false, List.flatten_cons, List.flatMap_cons, ih]
    · simp only [keptRows, keptIdx, rows, List.length_cons, if_true, ih]

theorem keptIdx_lt : ∀ (mask : List Bool) (base : Nat), ∀ i ∈ keptIdx mask base, base ≤ i ∧ i < base + mask.length
  | [], _, i, h => by simp [keptIdx] at h
  | m :: ms, base, i, h => by
    have ih := keptIdx_lt ms (base + 1) i
    cases m
    · simp only [keptIdx, Bool.false_eq_true, if_false, List.mem_cons] at h
      rcases h with h | h
      · simp [h]
      · have := ih h; simp only [List.length_cons]; omega
    · simp only [keptIdx, if_true] at h
      have := ih h; simp only [List.length_cons]; omega

theorem keptRows_length {α} : ∀ (mask : List Bool) (base : Nat) (rs : List (List α)), mask.length = rs.length →
    (keptRows mask rs).length = (keptIdx mask base).length
  | [], _, [], _ => rfl
  | [], _, _ :: _, h => by cases h
  | _ :: _, _, [], h => by cases h
  | m :: ms, base, r :: rs, h => by
    have ih := keptRows_length ms (base + 1) rs (Nat.succ.inj h)
    cases m
    · simp only [keptRows, keptIdx, Bool.false_eq_true, if_false, List.length_cons, ih]
    · simp only [keptRows, keptIdx, if_true, ih]

end NanoVerif.Tensor
