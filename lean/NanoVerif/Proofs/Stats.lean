import NanoVerif.Model.Stats
import Mathlib.Algebra.Order.Floor.Ring
import Mathlib.Algebra.Order.Field.Basic
import Mathlib.Tactic.Linarith
import Mathlib.Tactic.Ring
import Mathlib.Tactic.NormNum
/-!
  C20 — helper lemmas for `Props/C20.lean`: the model of `Model/Stats.lean` instantiated at an arbitrary linear ordered
  field with a floor function (`ℚ`, `ℝ`, …), the specification-side definitions (`SortSpec`, `inBin`) and the lemmas
  the property theorems are assembled from.
-/
namespace NanoVerif.Stats

section order
variable {α : Type} [LinearOrder α]

/-! ### specification-side definitions -/

/-- the contract of `std::sort` (and of `std::nth_element` read position-wise): a sorted permutation -/
def SortSpec (sort : List α → List α) : Prop := ∀ xs, (sort xs).Perm xs ∧ (sort xs).Pairwise (· ≤ ·)

/-- the counting rule with `∓∞` sentinels: `v` belongs to bin `i` of the thresholds `ts` iff `ts[i-1] ≤ v < ts[i]` -/
def inBin (ts : List α) (i : ℕ) (v : α) : Bool :=
  (match i with
   | 0 => true
   | j + 1 => match ts[j]? with
     | some t => decide (t ≤ v)
     | none => true) &&
  (match ts[i]? with
   | some t => decide (v < t)
   | none => true)

theorem inBin_iff (ts : List α) (i : ℕ) (v : α) :
    inBin ts i v = true ↔
      (∀ t, 0 < i → ts[i - 1]? = some t → t ≤ v) ∧ (∀ t, ts[i]? = some t → v < t) := by
  unfold inBin
  rw [Bool.and_eq_true]
  refine and_congr ?_ ?_
  · cases i with
    | zero => simp
    | succ j => cases h : ts[j]? <;> simp [h]
  · cases ts[i]? <;> simp

/-! ### sorting -/

section
variable {β : Type} [LinearOrder β]

theorem msort_perm (xs : List β) : (msort xs).Perm xs := List.mergeSort_perm xs _

theorem msort_ne_nil {xs : List β} (h : xs ≠ []) : msort xs ≠ [] :=
  fun e => h (e ▸ msort_perm xs).symm.eq_nil

theorem msort_sorted (xs : List β) : (msort xs).Pairwise (· ≤ ·) := by
  have h := List.pairwise_mergeSort (le := fun (a b : β) => decide (a ≤ b))
    (fun a b c hab hbc => by simp only [decide_eq_true_eq] at *; exact le_trans hab hbc)
    (fun a b => by simp only [Bool.or_eq_true, decide_eq_true_eq]; exact le_total a b) xs
  exact h.imp (fun hab => by simpa using hab)

theorem sorted_perm_unique {l₁ l₂ : List β} (hp : l₁.Perm l₂) (h₁ : l₁.Pairwise (· ≤ ·))
    (h₂ : l₂.Pairwise (· ≤ ·)) : l₁ = l₂ :=
  List.Perm.eq_of_pairwise (le := (· ≤ ·)) (fun _ _ _ _ hab hba => le_antisymm hab hba) h₁ h₂ hp

theorem msort_congr {xs ys : List β} (h : xs.Perm ys) : msort xs = msort ys :=
  sorted_perm_unique ((msort_perm xs).trans (h.trans (msort_perm ys).symm)) (msort_sorted xs) (msort_sorted ys)

theorem sorted_getElem_le {l : List β} (hs : l.Pairwise (· ≤ ·)) {i j : ℕ} (hij : i ≤ j) (hj : j < l.length) :
    l[i]'(hij.trans_lt hj) ≤ l[j] := by
  rcases Nat.eq_or_lt_of_le hij with rfl | hlt
  · exact le_refl _
  · exact List.pairwise_iff_getElem.mp hs i j _ hj hlt

theorem sorted_head?_le {l : List β} (hs : l.Pairwise (· ≤ ·)) {a : β} (ha : l.head? = some a) : ∀ v ∈ l, a ≤ v := by
  obtain ⟨t, rfl⟩ := List.head?_eq_some_iff.mp ha
  intro v hv
  rcases List.mem_cons.mp hv with rfl | hv
  · exact le_refl _
  · exact (List.pairwise_cons.mp hs).1 v hv

theorem sorted_le_getLast? {l : List β} (hs : l.Pairwise (· ≤ ·)) {b : β} (hb : l.getLast? = some b) :
    ∀ v ∈ l, v ≤ b := by
  obtain ⟨t, rfl⟩ := List.getLast?_eq_some_iff.mp hb
  intro v hv
  rcases List.mem_append.mp hv with hv | hv
  · exact (List.pairwise_append.mp hs).2.2 v hv b (List.mem_singleton_self b)
  · exact (List.mem_singleton.mp hv).le

end

theorem sortSpec_sorted_id {sort : List α → List α} (hs : SortSpec sort) (xs : List α)
    (hx : xs.Pairwise (· ≤ ·)) : sort xs = xs :=
  sorted_perm_unique (hs xs).1 (hs xs).2 hx

/-! ### histogram: splitting the sorted values -/

theorem splitLt_append (thr : α) (vs : List α) : (splitLt thr vs).1 ++ (splitLt thr vs).2 = vs := by
  induction vs with
  | nil => simp [splitLt]
  | cons v vs ih =>
    simp only [splitLt]
    split
    · simp [ih]
    · simp

theorem splitLt_eq_filter (thr : α) (vs : List α) (hs : vs.Pairwise (· ≤ ·)) :
    splitLt thr vs = (vs.filter (fun v => decide (v < thr)), vs.filter (fun v => decide (thr ≤ v))) := by
  induction vs with
  | nil => simp [splitLt]
  | cons v vs ih =>
    have hs' := List.Pairwise.of_cons hs
    have hall := (List.pairwise_cons.mp hs).1
    simp only [splitLt]
    split
    · rename_i hlt
      have hnle : ¬ thr ≤ v := not_le.mpr hlt
      rw [ih hs']
      simp [hlt, hnle]
    · rename_i hlt
      have hle : thr ≤ v := not_lt.mp hlt
      have h1 : (v :: vs).filter (fun v => decide (v < thr)) = [] := by
        rw [List.filter_eq_nil_iff]
        intro u hu
        simp only [List.mem_cons] at hu
        rcases hu with rfl | hu
        · simpa using hle
        · simpa using le_trans hle (hall u hu)
      have h2 : (v :: vs).filter (fun v => decide (thr ≤ v)) = v :: vs := by
        rw [List.filter_eq_self]
        intro u hu
        simp only [List.mem_cons] at hu
        rcases hu with rfl | hu
        · simpa using hle
        · simpa using le_trans hle (hall u hu)
      rw [h1, h2]

/-! ### histogram: bin lookup -/

theorem upperBound_le (ts : List α) (v : α) : upperBound ts v ≤ ts.length := by
  induction ts with
  | nil => simp [upperBound]
  | cons t ts ih =>
    simp only [upperBound]
    split
    · exact Nat.zero_le _
    · simp only [List.length_cons]; omega

theorem binOf_eq_upperBound (ts : List α) (v : α) : binOf ts v = upperBound ts v := by
  unfold binOf
  simp only
  split
  · rename_i h; omega
  · rfl

/-- the update loop and the lookup agree: on sorted values bin `i` holds exactly the values that `bin(·)` sends to `i`
    (`bins` and `upperBound` recurse over the thresholds in the same way; no order of the thresholds is needed) -/
theorem bins_getElem?_eq_filter_binOf (ts vs : List α) (hvs : vs.Pairwise (· ≤ ·)) (i : ℕ) (hi : i ≤ ts.length) :
    (bins ts vs)[i]? = some (vs.filter (fun v => binOf ts v = i)) := by
  simp only [binOf_eq_upperBound]
  induction ts generalizing vs i with
  | nil =>
    obtain rfl : i = 0 := Nat.le_zero.mp hi
    simp [bins, upperBound]
  | cons t ts ih =>
    rw [bins, splitLt_eq_filter t vs hvs]
    cases i with
    | zero => exact congrArg some (List.filter_congr fun v _ => by simp [upperBound])
    | succ j =>
      rw [List.getElem?_cons_succ, ih _ (hvs.sublist List.filter_sublist) j (Nat.le_of_succ_le_succ hi), List.filter_filter]
      refine congrArg some (List.filter_congr fun v _ => ?_)
      -- `upperBound (t :: ts) v = j + 1` says `t ≤ v` and `upperBound ts v = j`
      by_cases h : v < t <;> simp [upperBound, h, not_le.mpr, not_lt.mp]

theorem upperBound_before (ts : List α) (v : α) (j : ℕ) (hj : j < upperBound ts v) (t : α)
    (ht : ts[j]? = some t) : t ≤ v := by
  induction ts generalizing j with
  | nil => simp [upperBound] at hj
  | cons s ts ih =>
    simp only [upperBound] at hj
    split at hj
    · omega
    · rename_i hlt
      cases j with
      | zero =>
        simp only [List.getElem?_cons_zero, Option.some.injEq] at ht
        subst ht
        exact not_lt.mp hlt
      | succ k =>
        simp only [List.getElem?_cons_succ] at ht
        exact ih k (by omega) ht

theorem upperBound_at (ts : List α) (v : α) (t : α) (ht : ts[upperBound ts v]? = some t) : v < t := by
  induction ts with
  | nil => simp at ht
  | cons s ts ih =>
    simp only [upperBound] at ht
    split at ht
    · rename_i hlt
      simp only [List.getElem?_cons_zero, Option.some.injEq] at ht
      subst ht
      exact hlt
    · simp only [List.getElem?_cons_succ] at ht
      exact ih ht

/-- `v < ts[i] ≤ ts[j - 1] ≤ v` is impossible for `i < j` -/
theorem bins_disjoint {ts : List α} (hts : ts.Pairwise (· ≤ ·)) {v : α} {i j : ℕ} (hij : i < j) (hj : j ≤ ts.length)
    (hi : ∀ t, ts[i]? = some t → v < t) (hlo : ∀ t, 0 < j → ts[j - 1]? = some t → t ≤ v) : False := by
  have hj1 : j - 1 < ts.length := by omega
  have hil : i < ts.length := by omega
  have h1 := hi ts[i] (List.getElem?_eq_getElem hil)
  have h2 := hlo ts[j - 1] (by omega) (List.getElem?_eq_getElem hj1)
  exact lt_irrefl v (h1.trans_le ((sorted_getElem_le hts (show i ≤ j - 1 by omega) hj1).trans h2))

end order

variable {α : Type} [Field α] [LinearOrder α] [IsStrictOrderedRing α] [FloorRing α]

/-- the model's conversions in exact arithmetic: `Nat.cast`, `⌊·⌋`, `⌈·⌉` -/
scoped instance floorIOfFloorRing : FloorI α := ⟨Nat.cast, Int.floor, Int.ceil⟩

/-! ### percentiles -/

omit [IsStrictOrderedRing α] in
theorem position_eq (n : ℕ) (p : α) : position n p = p * ((n - 1 : ℕ) : α) / 100 := rfl

omit [Field α] [LinearOrder α] [IsStrictOrderedRing α] [FloorRing α] in
theorem getI_natCast (xs : List α) (l : ℕ) (hl : l < xs.length) : getI xs (l : ℤ) = some xs[l] := by
  unfold getI
  have : ¬ ((l : ℤ) < 0) := by omega
  simp [this, hl]

omit [IsStrictOrderedRing α] in
theorem percentileSorted_eq (xs : List α) (p : α) (hne : xs ≠ []) (h0 : 0 ≤ p) (h100 : p ≤ 100)
    (l r : ℕ) (hfl : ⌊position xs.length p⌋ = (l : ℤ)) (hcl : ⌈position xs.length p⌉ = (r : ℤ))
    (hl : l < xs.length) (hr : r < xs.length) :
    percentileSorted xs p = some (if l = r then xs[l] else (xs[l] + xs[r]) / 2) := by
  unfold percentileSorted
  have he : xs.isEmpty = false := by cases xs <;> simp_all
  have hp : ¬¬(0 ≤ p ∧ p ≤ 100) := by simp [h0, h100]
  simp only [he, Bool.false_eq_true, if_false, hp]
  show (if ⌊position xs.length p⌋ = ⌈position xs.length p⌉ then getI xs ⌊position xs.length p⌋
    else match getI xs ⌊position xs.length p⌋, getI xs ⌈position xs.length p⌉ with
      | some a, some b => some ((a + b) / 2)
      | _, _ => none) = _
  rw [hfl, hcl, getI_natCast xs l hl, getI_natCast xs r hr]
  by_cases hlr : l = r
  · subst hlr; simp
  · have : ¬ ((l : ℤ) = (r : ℤ)) := by omega
    simp [hlr, this]

theorem le_midpoint_le {a b : α} (h : a ≤ b) : a ≤ (a + b) / 2 ∧ (a + b) / 2 ≤ b := by
  rcases h.eq_or_lt with rfl | h
  · rw [add_self_div_two]; exact ⟨le_rfl, le_rfl⟩
  · exact ⟨(left_lt_add_div_two.mpr h).le, (add_div_two_lt_right.mpr h).le⟩

theorem percentileSorted_natPos (xs : List α) (p : α) (h0 : 0 ≤ p) (h100 : p ≤ 100) (k : ℕ) (hk : k < xs.length)
    (hpos : position xs.length p = k) : percentileSorted xs p = some xs[k] := by
  have := percentileSorted_eq xs p (List.ne_nil_of_length_pos (Nat.zero_lt_of_lt hk)) h0 h100 k k
    (by rw [hpos, Int.floor_natCast]) (by rw [hpos, Int.ceil_natCast]) hk hk
  rwa [if_pos rfl] at this

theorem position_indices (n : ℕ) (p : α) (hn : 0 < n) (h0 : 0 ≤ p) (h100 : p ≤ 100) :
    ∃ l r : ℕ, ⌊position n p⌋ = (l : ℤ) ∧ ⌈position n p⌉ = (r : ℤ) ∧ l < n ∧ r < n ∧ l ≤ r ∧ r ≤ l + 1 := by
  have hq0 : 0 ≤ position n p := div_nonneg (mul_nonneg h0 (Nat.cast_nonneg _)) (by norm_num)
  have hqn : position n p ≤ ((n - 1 : ℕ) : α) := by
    rw [position_eq, div_le_iff₀ (by norm_num : (0 : α) < 100), mul_comm]
    exact mul_le_mul_of_nonneg_left h100 (Nat.cast_nonneg _)
  have hf0 : 0 ≤ ⌊position n p⌋ := Int.floor_nonneg.2 hq0
  have hcn : ⌈position n p⌉ ≤ ((n - 1 : ℕ) : ℤ) := Int.ceil_le.2 (by exact_mod_cast hqn)
  have hfc := Int.floor_le_ceil (position n p)
  have hcf := Int.ceil_le_floor_add_one (position n p)
  obtain ⟨l, hl⟩ := Int.eq_ofNat_of_zero_le hf0
  obtain ⟨r, hr⟩ := Int.eq_ofNat_of_zero_le (hf0.trans hfc)
  refine ⟨l, r, hl, hr, ?_⟩
  omega

/-! ### sums, `mapOpt` -/

omit [IsStrictOrderedRing α] in
theorem mean_eq (b : List α) : mean b = b.sum / (b.length : α) := by
  unfold mean
  rw [← List.sum_eq_foldl]
  rfl

omit [IsStrictOrderedRing α] in
theorem binStat_count (b : List α) : (binStat b).count = b.length := by
  unfold binStat
  split
  · rename_i h; simp [List.isEmpty_iff.mp h]
  · rfl

theorem mapOpt_forall₂ {β γ : Type} (f : β → Option γ) :
    ∀ (xs : List β) (ys : List γ), mapOpt f xs = some ys → List.Forall₂ (fun x y => f x = some y) xs ys
  | [], ys, h => by
    simp only [mapOpt, Option.some.injEq] at h
    subst h
    exact List.Forall₂.nil
  | x :: xs, ys, h => by
    simp only [mapOpt] at h
    cases hx : f x with
    | none => simp [hx] at h
    | some y =>
      cases hxs : mapOpt f xs with
      | none => simp [hx, hxs] at h
      | some ys' =>
        simp only [hx, hxs, Option.some.injEq] at h
        subst h
        exact List.Forall₂.cons hx (mapOpt_forall₂ f xs ys' hxs)

theorem mapOpt_eq_some_map {β γ : Type} (f : β → Option γ) (g : β → γ) :
    ∀ (xs : List β), (∀ x ∈ xs, f x = some (g x)) → mapOpt f xs = some (xs.map g)
  | [], _ => rfl
  | x :: xs, h => by
    rw [mapOpt, h x List.mem_cons_self, mapOpt_eq_some_map f g xs (fun y hy => h y (List.mem_cons_of_mem _ hy))]
    rfl

theorem mapOpt_isSome {β γ : Type} (f : β → Option γ) :
    ∀ (xs : List β), (∀ x ∈ xs, ∃ y, f x = some y) → ∃ ys, mapOpt f xs = some ys
  | [], _ => ⟨[], rfl⟩
  | x :: xs, h => by
    obtain ⟨y, hy⟩ := h x List.mem_cons_self
    obtain ⟨ys, hys⟩ := mapOpt_isSome f xs (fun x' hx' => h x' (List.mem_cons_of_mem _ hx'))
    exact ⟨y :: ys, by simp [mapOpt, hy, hys]⟩

end NanoVerif.Stats
