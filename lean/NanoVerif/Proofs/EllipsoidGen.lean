import NanoVerif.Model.Ellipsoid
import NanoVerif.Gen.EllipsoidStep
/-!
  C03 — the hand-written model of the ellipsoid method (Model/Ellipsoid.lean) uses exactly the formulas
  re-translated from src/solver/ellipsoid.cpp on every check (Gen/EllipsoidStep.lean). Every theorem is `rfl` (or an unfolding
  followed by `rfl`): an edit of a C++ formula changes the generated text and breaks the theorem. No Mathlib.
-/
set_option linter.unusedSectionVars false
namespace NanoVerif.Ellipsoid
open NanoVerif.Bundle
open NanoVerif.Gen

section
variable {α : Type} [Add α] [Sub α] [Mul α] [Div α] [Neg α] [LT α] [LE α] [DecidableLT α] [DecidableLE α]
  [OfNat α 0] [OfNat α 1] [OfNat α 2] [NatCast α]

/-- ellipsoid.cpp:36-37: the start matrix is `initScale · I` with the generated scale (`R` for n = 1, `R²` otherwise) -/
theorem model_initH_is_generated (n : Nat) (R : α) :
    initH n R = (List.range n).map (fun i => (List.range n).map (fun j => if i = j then EllipsoidStep.initScale n R else 0)) := rfl

/-- ellipsoid.cpp:47: the early-exit test -/
theorem model_earlyStop_is_generated : (earlyStop : α → α → Bool) = EllipsoidStep.earlyStop := rfl

/-- ellipsoid.cpp:58-59: the 1-D step -/
theorem model_step1d_is_generated (x h g : α) : step1d x h g = (EllipsoidStep.step1dX x h g, EllipsoidStep.step1dH h) := rfl

variable [Sqrt α]

/-- ellipsoid.cpp:64: the deep-cut parameter -/
theorem model_alphaCut_is_generated : (alphaCut : α → α → α → α) = EllipsoidStep.alphaCut Sqrt.sqrt := rfl

/-- ellipsoid.cpp:66: the centre step, element-wise over `x` and `H g` -/
theorem model_stepX_is_generated (n : α) (x Hg : List α) (a gHg : α) :
    stepX n x Hg a gHg = List.zipWith (fun xi hgi => EllipsoidStep.stepXElem Sqrt.sqrt n a gHg xi hgi) x Hg := rfl

/-- ellipsoid.cpp:67-68: the update of the shape matrix, element-wise over `H`, `H g` and `gᵀ H` -/
theorem model_stepH_is_generated (n : α) (H : List (List α)) (Hg gH : List α) (a gHg : α) :
    stepH n H Hg gH a gHg =
      List.zipWith (fun row hgi => List.zipWith (fun hij ghj => EllipsoidStep.stepHElem n a gHg hij hgi ghj) row gH) H Hg := rfl

/-- ellipsoid.cpp:75: the stopping test -/
theorem model_converged_is_generated : (converged : α → α → Bool) = EllipsoidStep.converged Sqrt.sqrt := rfl

/-- ellipsoid.cpp:47-53: on the early exit the model hands to `done` the flags the code hands over (`iter_ok = true`,
    `converged = true`) and leaves the state alone -/
theorem model_iterND_early_is_generated (dim : Nat) (eps epsM : α) (fin : α → Bool) (valid : SN α → Bool)
    (oracle : List α → α × List α) (s : SN α) (h : EllipsoidStep.earlyStop epsM (quad s.H s.g) = true) :
    iterND dim eps epsM fin valid oracle s = (doneE EllipsoidStep.earlyIterOk EllipsoidStep.earlyConverged (valid s), s) := by
  have h' : quad s.H s.g < epsM := of_decide_eq_true h
  simp only [iterND, h', if_true]; rfl

/-- ellipsoid.cpp:55-79: on a regular pass of the n-D loop the flags handed to `done` are the generated `iterOk` and
    `converged` of the point that was just left -/
theorem model_iterND_regular_is_generated (dim : Nat) (eps epsM : α) (fin : α → Bool) (valid : SN α → Bool)
    (oracle : List α → α × List α) (s : SN α) (h : EllipsoidStep.earlyStop epsM (quad s.H s.g) = false) :
    (iterND dim eps epsM fin valid oracle s).1 =
      doneE (EllipsoidStep.iterOk fin (oracle (stepND dim s.x s.g s.H s.f s.best).1).1)
        (EllipsoidStep.converged Sqrt.sqrt eps (quad s.H s.g)) (valid (iterND dim eps epsM fin valid oracle s).2) := by
  have h' : ¬ quad s.H s.g < epsM := of_decide_eq_false h
  simp only [iterND, h', if_false]; rfl

end

/-- the flags of the early exit, as generated -/
example : EllipsoidStep.earlyIterOk = true ∧ EllipsoidStep.earlyConverged = true := ⟨rfl, rfl⟩

/-- the hypotheses of `model_iterND_early_is_generated` / `model_iterND_regular_is_generated` are satisfiable (scalar `Int`, the empty
    state: `gHg = 0`, with `epsM = 1` resp. `epsM = 0`) -/
example : EllipsoidStep.earlyStop (1 : Int) (quad (⟨[], [], 0, [], 0, []⟩ : SN Int).H (⟨[], [], 0, [], 0, []⟩ : SN Int).g) = true ∧
    EllipsoidStep.earlyStop (0 : Int) (quad (⟨[], [], 0, [], 0, []⟩ : SN Int).H (⟨[], [], 0, [], 0, []⟩ : SN Int).g) = false :=
  ⟨by decide, by decide⟩

end NanoVerif.Ellipsoid
