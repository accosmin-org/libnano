import NanoVerif.Model.IteratorSelect
import NanoVerif.Proofs.Iterator
import NanoVerif.Proofs.Numeric
/-!
  C09 — `select_iterator_t` (`Model/IteratorSelect.lean`): the chunk size is always `≥ 1`, the loop over a feature list calls
  the callback for every feature of the list exactly once (in list order when the chunks are read in queue order), each by the
  scheduled worker; `make_features` lists exactly the features of the kind, increasing. Core Lean only.
-/

namespace NanoVerif.Iterator
open NanoVerif.Objective

/-- `features_per_thread ≥ 1` for every number of features (0 included) and every pool size: `map` never sees a zero chunk -/
theorem featuresPerThread_pos (n c : Nat) : 0 < featuresPerThread n c := by
  unfold featuresPerThread
  have : (1 : Int) ≤ max 1 (NanoVerif.Gen.idiv (n : Int) (c : Int)) := Int.le_max_left ..
  omega

set_option linter.unusedVariables false
/-- `round(n / c)` (halves up) clamped below by 1; for `c = 0` too (both divisions are then 0) -/
theorem featuresPerThread_eq (n c : Nat) (hc : 0 < c) : featuresPerThread n c = max 1 ((n + c / 2) / c) := by
  unfold featuresPerThread
  rw [NanoVerif.Gen.idiv_natCast]
  omega

set_option linter.unusedVariables true

theorem makeFeatures_mem (kinds : List FKind) (k : FKind) (i : Nat) : i ∈ makeFeatures kinds k ↔ kinds[i]? = some k := by
  unfold makeFeatures
  simp only [List.mem_filter, List.mem_range, beq_iff_eq]
  constructor
  · exact fun h => h.2
  · intro h
    refine ⟨?_, h⟩
    by_cases hl : i < kinds.length
    · exact hl
    · rw [List.getElem?_eq_none (by omega)] at h
      cases h

theorem makeFeatures_sorted (kinds : List FKind) (k : FKind) : (makeFeatures kinds k).Pairwise (· < ·) := by
  unfold makeFeatures
  exact List.Pairwise.filter _ List.pairwise_lt_range

theorem selectLoop_eq (features : List Nat) (workers : Nat) : ∀ (cs : List (Nat × Nat)) (ws : List Nat) (b n : Nat),
    Tiles b n cs → ws.length = cs.length → (∀ w ∈ ws, w < workers) →
    ∃ calls, selectLoop features workers cs ws = some calls ∧
      calls.map Call.ifeature = sliceOf features b n ∧ ∀ c ∈ calls, c.tnum < workers := by
  intro cs ws b n ht
  revert ws
  refine Tiles.induction ?_ ?_ cs b ht
  · intro ws hws _
    cases ws with
    | nil => exact ⟨[], rfl, (sliceOf_self features n).symm, fun _ h => nomatch h⟩
    | cons _ _ => cases hws
  · intro cb ce cs h2 h3 _ ih ws hws hall
    cases ws with
    | nil => cases hws
    | cons w ws =>
      have hw : w < workers := hall w (List.mem_cons_self ..)
      obtain ⟨rest, hrest, hmap, htn⟩ := ih ws (Nat.succ.inj hws) (fun w' hw' => hall w' (List.mem_cons_of_mem _ hw'))
      refine ⟨(sliceOf features cb ce).map (fun f => (⟨f, w⟩ : Call)) ++ rest, ?_, ?_, ?_⟩
      · simp [selectLoop, hw, hrest]
      · rw [List.map_append, List.map_map, hmap, ← sliceOf_append features cb ce n h2 h3]
        exact congrArg (· ++ _) (List.map_id _)
      · intro c hc
        rcases List.mem_append.1 hc with hc | hc
        · obtain ⟨f, _, rfl⟩ := List.mem_map.1 hc
          exact hw
        · exact htn c hc

/-- **`select_iterator_t::loop(samples, features, callback)`**: for every feature list (any order, repetitions, empty), every
    pool size `≥ 1` and every schedule naming one existing worker per chunk, the callback is called for exactly the features of
    the list, each position once (`calls.map ifeature = features`), always with an existing buffer index -/
theorem loopList_visits (features : List Nat) (workers : Nat) (asg : List Nat)
    (hasg : ValidAsg workers features.length (featuresPerThread features.length workers) asg) :
    ∃ calls, loopList features workers asg = some calls ∧ calls.map Call.ifeature = features ∧
      ∀ c ∈ calls, c.tnum < workers := by
  obtain ⟨calls, h1, h2, h3⟩ := selectLoop_eq features workers _ asg 0 features.length
    (chunks_tiles features.length _ (featuresPerThread_pos features.length workers)) hasg.1 hasg.2
  exact ⟨calls, h1, by rw [h2, sliceOf_full], h3⟩

/-- `loop(samples, callback)`: exactly the dataset's features of the callback's kind, each once -/
theorem loopKind_visits (kinds : List FKind) (k : FKind) (workers : Nat) (asg : List Nat)
    (hasg : ValidAsg workers (makeFeatures kinds k).length (featuresPerThread (makeFeatures kinds k).length workers) asg) :
    ∃ calls, loopKind kinds k workers asg = some calls ∧
      (∀ i, i ∈ calls.map Call.ifeature ↔ kinds[i]? = some k) ∧ (calls.map Call.ifeature).Pairwise (· < ·) := by
  obtain ⟨calls, h1, h2, _⟩ := loopList_visits (makeFeatures kinds k) workers asg hasg
  refine ⟨calls, h1, ?_, ?_⟩
  · intro i; rw [h2]; exact makeFeatures_mem kinds k i
  · rw [h2]; exact makeFeatures_sorted kinds k

-- 5 features on a pool of 2: chunks of round(5/2) = 3; 1 feature on a pool of 16: one chunk of 1; no feature: no call
example : featuresPerThread 5 2 = 3 ∧ featuresPerThread 1 16 = 1 ∧ featuresPerThread 0 4 = 1 := by decide
example : loopList [7, 3, 3, 9, 1] 2 [1, 0] = some [⟨7, 1⟩, ⟨3, 1⟩, ⟨3, 1⟩, ⟨9, 0⟩, ⟨1, 0⟩] := by decide
example : ValidAsg 2 5 (featuresPerThread 5 2) [1, 0] := by decide
example : loopList [] 4 [] = some [] := by decide
example : loopList [7, 3] 1 [1] = none := by decide
example : makeFeatures [.scalar, .sclass, .scalar, .struct] .scalar = [0, 2] := by decide

end NanoVerif.Iterator
