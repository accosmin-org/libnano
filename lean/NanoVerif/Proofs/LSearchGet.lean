import NanoVerif.Proofs.LSearchMT
import NanoVerif.Proofs.LSearchCG
/-!
  C07 — helper lemmas: the request counts of CG_DESCENT (`CgPost`: every helper pays each unit of the shared budget with one
  request, plus a constant), the five `do_get` behind the preamble of `lsearchk_t::get` (`get_cases`: `get` fails early or is
  `do_get` entered at a positive, evaluated step along a descent direction), and Moré–Thuente's step never turning negative.
-/
namespace NanoVerif.LSearch
open NanoVerif.Gen.LsPredicates


variable {α : Type} [Field α] [LinearOrder α] [IsStrictOrderedRing α]

set_option linter.unusedSectionVars false
theorem post_weaken {φ : Oracle α} {Q Q' : Res α → Prop} {ctx : Ctx α} {t : α} {n : Nat} {r : Res α}
    (h : Post φ Q ctx t n r) (hq : ∀ r, Q r → Q' r) : Post φ Q' ctx t n r :=
  ⟨h.1, fun hok => ⟨hq r (h.2 hok).1, (h.2 hok).2⟩⟩
set_option linter.unusedSectionVars true

/-! ### CG_DESCENT -/

/-- outcome `s` of a helper entered with budget `m`, interval `iv`, state `ctx`: the budget does not grow, at most
    `(m - s.m) + extra` requests were made, and the state belongs to the interval's step -/
def CgPost (φ : Oracle α) (m : Nat) (iv : CG α) (ctx : Ctx α) (extra : Nat) (s : CGS α) : Prop :=
  s.m ≤ m ∧ s.ctx.trace.length + s.m ≤ ctx.trace.length + m + extra ∧ SameOrCons φ ctx iv.t s.ctx s.iv.t

omit [Field α] [LinearOrder α] [IsStrictOrderedRing α] in
theorem cgPost_refl {φ : Oracle α} {m : Nat} {iv iv' : CG α} {ctx : Ctx α} {extra : Nat} (h : iv'.t = iv.t) :
    CgPost φ m iv ctx extra ⟨m, iv', ctx⟩ :=
  ⟨le_refl _, by simp, Or.inl ⟨rfl, h⟩⟩

theorem cgPost_after_move {φ : Oracle α} {m m' : Nat} {iv iv' : CG α} {ctx : Ctx α} {t' : α} {e e' : Nat} {s : CGS α}
    (h : CgPost φ m' iv' (ask φ ctx t') e s) (ht : iv'.t = t') (hm : m' ≤ m) (he : e + 1 ≤ e' + (m - m')) :
    CgPost φ m iv ctx e' s := by
  obtain ⟨h1, h2, h3⟩ := h
  exact ⟨by omega, by simp only [ask_trace_length] at h2; omega, Or.inr (h3.cons (ht ▸ cons_ask φ ctx t'))⟩

section
variable (cfg : Cfg α) (φ : Oracle α) (s0 : Eval α) (epsk : α)

theorem cgUpdateU_spec : ∀ (m : Nat) (iv : CG α) (ctx : Ctx α),
    CgPost φ m iv ctx 1 (cgUpdateU cfg φ s0 epsk m iv ctx) := by
  intro m
  induction m with
  | zero => intro iv ctx; exact cgPost_refl rfl
  | succ m ih =>
    intro iv ctx
    simp only [cgUpdateU, cgMove]
    refine ite_post (fun _ => ite_post (fun _ => ?_) (fun _ => ite_post (fun _ => ?_)
      (fun _ => ite_post (fun _ => ?_) (fun _ => ?_)))) (fun _ => cgPost_refl rfl)
    · exact ⟨le_refl _, by simp only [ask_trace_length]; omega, Or.inr (cons_ask φ ctx _)⟩
    · exact ⟨le_refl _, by simp only [ask_trace_length]; omega, Or.inr (cons_ask φ ctx _)⟩
    · exact cgPost_after_move (ih _ _) rfl (by omega) (by omega)
    · exact cgPost_after_move (ih _ _) rfl (by omega) (by omega)

theorem cgUpdate_spec (m : Nat) (iv : CG α) (ctx : Ctx α) :
    CgPost φ m iv ctx 1 (cgUpdate cfg φ s0 epsk m iv ctx) := by
  simp only [cgUpdate]
  refine ite_post (fun _ => cgPost_refl rfl) (fun _ => ite_post (fun _ => cgPost_refl rfl)
    (fun _ => ite_post (fun _ => cgPost_refl rfl) (fun _ => ?_)))
  exact cgUpdateU_spec cfg φ s0 epsk m { iv with b := stepOf ctx iv.t } ctx

theorem cgBracket_spec :
    ∀ (m : Nat) (lastA : Step α) (iv : CG α) (ctx : Ctx α),
    CgPost φ m iv ctx 1 (cgBracket cfg φ s0 epsk m lastA iv ctx) := by
  intro m
  induction m with
  | zero => intro lastA iv ctx; exact cgPost_refl rfl
  | succ m ih =>
    intro lastA iv ctx
    simp only [cgBracket, cgMove]
    refine ite_post (fun _ => ite_post (fun _ => cgPost_refl rfl) (fun _ => ite_post (fun _ => ?_) (fun _ => ?_)))
      (fun _ => cgPost_refl rfl)
    · exact cgUpdateU_spec cfg φ s0 epsk (m + 1) { iv with a := ⟨0, s0.f, s0.g⟩, b := stepOf ctx iv.t } ctx
    · exact cgPost_after_move (ih _ _ _) rfl (by omega) (by omega)

theorem cgTry_spec (m : Nat) (iv : CG α) (ctx : Ctx α) (t : α) :
    CgPost φ m iv ctx 2 (cgTry cfg φ s0 epsk m iv ctx t).2 := by
  simp only [cgTry, cgMove]
  refine ite_post (P := fun r : Bool × CGS α => CgPost φ m iv ctx 2 r.2) (fun _ => cgPost_refl rfl)
    (fun _ => ite_post (P := fun r : Bool × CGS α => CgPost φ m iv ctx 2 r.2) (fun _ => ?_) (fun _ => ?_))
  · exact ⟨le_refl _, by simp only [ask_trace_length]; omega, Or.inr (cons_ask φ ctx _)⟩
  · exact cgPost_after_move (m' := m) (cgUpdate_spec cfg φ s0 epsk m _ _) rfl (le_refl _) (by omega)

theorem cgPost_trans {φ : Oracle α} {m : Nat} {iv : CG α} {ctx : Ctx α} {e e' : Nat} {s s' : CGS α}
    (h1 : CgPost φ m iv ctx e s) (h2 : CgPost φ s.m s.iv s.ctx e' s') : CgPost φ m iv ctx (e + e') s' := by
  obtain ⟨a1, a2, a3⟩ := h1
  obtain ⟨b1, b2, b3⟩ := h2
  exact ⟨by omega, by omega, sameOrCons_trans a3 b3⟩

theorem cgSecond_spec (a0 b0 : Step α) (tc : α) (s : CGS α) :
    CgPost φ s.m s.iv s.ctx 2 (cgSecond cfg φ s0 epsk a0 b0 tc s).2 := by
  simp only [cgSecond]
  exact ite_post (P := fun r : Bool × CGS α => CgPost φ s.m s.iv s.ctx 2 r.2) (fun _ => cgTry_spec ..)
    (fun _ => ite_post (P := fun r : Bool × CGS α => CgPost φ s.m s.iv s.ctx 2 r.2) (fun _ => cgTry_spec ..)
      (fun _ => cgPost_refl rfl))

omit [Field α] [LinearOrder α] [IsStrictOrderedRing α] in
theorem post_of_cgPost {φ : Oracle α} {m : Nat} {iv : CG α} {ctx : Ctx α} {e n : Nat} {s : CGS α}
    (h : CgPost φ m iv ctx e s) (hn : m + e ≤ n) : Post φ (fun _ => True) ctx iv.t n (cgResult s) := by
  obtain ⟨a1, a2, a3⟩ := h
  exact ⟨by simp only [cgResult]; omega, fun _ => ⟨trivial, a3⟩⟩

theorem post_after_cgPost {φ : Oracle α} {m : Nat} {iv : CG α} {ctx : Ctx α} {e n k : Nat} {s : CGS α} {r : Res α}
    (h : CgPost φ m iv ctx e s) (hr : Post φ (fun _ => True) s.ctx s.iv.t k r) (hn : (m - s.m) + e + k ≤ n) :
    Post φ (fun _ => True) ctx iv.t n r := by
  obtain ⟨a1, a2, a3⟩ := h
  obtain ⟨b1, b2⟩ := hr
  exact ⟨by omega, fun hok => ⟨trivial, sameOrCons_trans a3 (b2 hok).2⟩⟩

theorem cgLoop_spec :
    ∀ (fuel i m : Nat) (iv : CG α) (ctx : Ctx α),
    Post φ (fun _ => True) ctx iv.t (6 * fuel + m) (cgLoop cfg φ s0 epsk fuel i m iv ctx) := by
  intro fuel
  induction fuel with
  | zero => intro i m iv ctx; exact post_fail (by simp)
  | succ fuel ih =>
    intro i m iv ctx
    simp only [cgLoop]
    refine ite_post (fun _ => ?_) (fun _ => post_fail (by simp))
    have h1 := cgTry_spec cfg φ s0 epsk m iv ctx (secant iv.a iv.b)
    generalize cgTry cfg φ s0 epsk m iv ctx (secant iv.a iv.b) = r1 at h1 ⊢
    refine ite_post (fun _ => post_of_cgPost h1 (by omega)) (fun _ => ?_)
    have h2 := cgPost_trans h1 (cgSecond_spec cfg φ s0 epsk iv.a iv.b (secant iv.a iv.b) r1.2)
    generalize cgSecond cfg φ s0 epsk iv.a iv.b (secant iv.a iv.b) r1.2 = r2 at h2 ⊢
    refine ite_post (fun _ => post_of_cgPost h2 (by omega)) (fun _ => ite_post (fun _ => ?_) (fun _ => ?_))
    · have h3 := cgPost_trans h2 (cgTry_spec cfg φ s0 epsk r2.2.m r2.2.iv r2.2.ctx ((r2.2.iv.a.t + r2.2.iv.b.t) / 2))
      generalize cgTry cfg φ s0 epsk r2.2.m r2.2.iv r2.2.ctx ((r2.2.iv.a.t + r2.2.iv.b.t) / 2) = r3 at h3 ⊢
      refine ite_post (fun _ => post_of_cgPost h3 (by omega)) (fun _ => ?_)
      have := h3.1
      exact post_after_cgPost h3 (ih (i + 1) r3.2.m r3.2.iv r3.2.ctx) (by omega)
    · have := h2.1
      exact post_after_cgPost h2 (ih (i + 1) r2.2.m r2.2.iv r2.2.ctx) (by omega)

theorem cgdescent_spec (t : α) (ctx : Ctx α) :
    Post φ (fun _ => True) ctx t (7 * cfg.maxIter + 1) (cgdescent cfg φ s0 t ctx) := by
  simp only [cgdescent]
  refine ite_post (fun _ => ⟨by simp, fun _ => ⟨trivial, sameOrCons_refl⟩⟩) (fun _ => ?_)
  have hb := cgBracket_spec cfg φ s0 (cfg.cgEpsilon * absv s0.f) cfg.maxIter ⟨0, s0.f, s0.g⟩
    ⟨⟨0, s0.f, s0.g⟩, stepOf ctx t, t⟩ ctx
  generalize cgBracket cfg φ s0 (cfg.cgEpsilon * absv s0.f) cfg.maxIter ⟨0, s0.f, s0.g⟩
    ⟨⟨0, s0.f, s0.g⟩, stepOf ctx t, t⟩ ctx = s at hb ⊢
  have hm := hb.1
  refine ite_post (fun _ => post_of_cgPost hb (by omega)) (fun _ => ?_)
  exact post_after_cgPost hb (cgLoop_spec cfg φ s0 _ s.m 0 s.m s.iv s.ctx) (by omega)

end

/-! ### `do_get` of the five methods and `lsearchk_t::get` -/

def doGetBound : Method → Nat → Nat
  | .backtrack, M => M
  | .lemarechal, M => M - 1
  | .fletcher, M => (M - 1) + M
  | .morethuente, M => M
  | .cgdescent, M => 7 * M + 1

theorem doGet_spec (m : Method) (cfg : Cfg α) (φ : Oracle α) (s0 : Eval α) (t : α) (ctx : Ctx α) (hg : s0.g < 0) :
    Post φ (Advertised m cfg s0) ctx t (doGetBound m cfg.maxIter) (doGet m cfg φ s0 t ctx) := by
  cases m with
  | backtrack => exact backtrack_spec cfg φ s0 _ t ctx
  | lemarechal => exact lemarechal_spec cfg φ s0 _ _ _ t ctx
  | fletcher => exact fletcher_spec cfg φ s0 _ _ _ t ctx
  | morethuente => exact morethuente_spec cfg φ s0 hg _ (morethuenteInit cfg s0 t) ctx
  | cgdescent => exact cgdescent_spec cfg φ s0 t ctx

omit [IsStrictOrderedRing α] in
theorem get_nondescent (m : Method) (cfg : Cfg α) (φ : Oracle α) (s0 : Eval α) (t0 : α) (h : ¬ s0.g < 0) :
    get m cfg φ s0 t0 = ⟨false, t0, ⟨s0, []⟩⟩ := by
  simp [get, hasDescent, h]

omit [IsStrictOrderedRing α] in
theorem descent_of_get_ok {m : Method} {cfg : Cfg α} {φ : Oracle α} {s0 : Eval α} {t0 : α}
    (h : (get m cfg φ s0 t0).ok = true) : s0.g < 0 := by
  by_contra hn
  rw [get_nondescent m cfg φ s0 t0 hn] at h; cases h

/-- `get` fails early, or it is `do_get` entered along a descent direction at a positive step; the validity guard between the two
    loops of the preamble is what makes the state the oracle's answer at that step -/
theorem get_cases (m : Method) (cfg : Cfg α) (φ : Oracle α) (s0 : Eval α) (t0 : α) :
    ((get m cfg φ s0 t0).ok = false ∧ (get m cfg φ s0 t0).ctx.trace.length ≤ 2 * cfg.maxIter) ∨
    ∃ t ctx, s0.g < 0 ∧ (0 < cfg.maxIter → Cons φ ctx t) ∧ (0 < cfg.macheps → 0 < t) ∧
      ctx.trace.length ≤ 2 * cfg.maxIter ∧ get m cfg φ s0 t0 = doGet m cfg φ s0 t ctx := by
  by_cases hd : hasDescent s0.g = true
  · obtain ⟨h1, h2, h3⟩ := shrink_spec φ cfg.maxIter (initialStep cfg t0) ⟨s0, []⟩
    simp only [List.length_nil, Nat.zero_add] at h1
    simp only [get, hd, if_true]
    generalize shrink φ cfg.maxIter (initialStep cfg t0) ⟨s0, []⟩ = p at h1 h2 h3 ⊢
    by_cases hok : p.2.cur.ok = true
    · simp only [hok, if_true]
      have hg := grow_spec φ cfg.eps1 s0.f cfg.maxIter p.1 p.2
      generalize grow φ cfg.eps1 s0.f cfg.maxIter p.1 p.2 = g at hg ⊢
      cases g with
      | inl q => exact Or.inl ⟨rfl, by simp only [GrowPost] at hg ⊢; omega⟩
      | inr q =>
        obtain ⟨g1, g2, g3⟩ := hg
        exact Or.inr ⟨q.1, q.2, (descent_iff _).1 hd, fun hM => g3.cons (h3 hM hok),
          fun he => g2 (h2 (initialStep_pos cfg t0 he)), by omega, rfl⟩
    · simp only [hok]
      exact Or.inl ⟨rfl, by simp only [Bool.false_eq_true, if_false]; omega⟩
  · simp only [get, hd]
    exact Or.inl ⟨rfl, by simp⟩

theorem get_spec (m : Method) (cfg : Cfg α) (φ : Oracle α) (s0 : Eval α) (t0 : α) (hM : 0 < cfg.maxIter) :
    (get m cfg φ s0 t0).ctx.trace.length ≤ 2 * cfg.maxIter + doGetBound m cfg.maxIter ∧
    ((get m cfg φ s0 t0).ok = true →
      Advertised m cfg s0 (get m cfg φ s0 t0) ∧ Cons φ (get m cfg φ s0 t0).ctx (get m cfg φ s0 t0).t) := by
  rcases get_cases m cfg φ s0 t0 with ⟨hf, hl⟩ | ⟨t, ctx, hg, hc, _, hl, e⟩
  · exact ⟨by omega, fun h => by rw [hf] at h; cases h⟩
  · rw [e]
    obtain ⟨d1, d2⟩ := doGet_spec m cfg φ s0 t ctx hg
    exact ⟨by omega, fun h => ⟨(d2 h).1, (d2 h).2.cons (hc hM)⟩⟩

/-- `K = max_iterations + 1`: the preamble made at least one request -/
theorem get_cgdescent_cases (cfg : Cfg α) (φ : Oracle α) (s0 : Eval α) (t0 : α) (hd : CgDom cfg) (he : 0 < cfg.macheps)
    (hM : 0 < cfg.maxIter) (h : (get .cgdescent cfg φ s0 t0).ok = true) :
    CgQ cfg φ s0 (cfg.maxIter + 1) (get .cgdescent cfg φ s0 t0) := by
  rcases get_cases .cgdescent cfg φ s0 t0 with ⟨hf, _⟩ | ⟨t, ctx, hg, hc, ht, _, e⟩
  · rw [hf] at h; cases h
  · rw [e] at h ⊢
    refine (cgdescent_cases cfg φ s0 t ctx hd hg (ht he) (hc hM) h).mono ?_
    obtain ⟨rest, hr, _⟩ := hc hM
    rw [hr, List.length_cons]; omega

theorem get_step_prop (P : α → Prop) (m : Method) (cfg : Cfg α) (φ : Oracle α) (s0 : Eval α) (t0 : α)
    (he : 0 < cfg.macheps)
    (hdo : ∀ t ctx, 0 < t → (doGet m cfg φ s0 t ctx).ok = true → P (doGet m cfg φ s0 t ctx).t) :
    (get m cfg φ s0 t0).ok = true → P (get m cfg φ s0 t0).t := by
  rcases get_cases m cfg φ s0 t0 with ⟨hf, _⟩ | ⟨t, ctx, _, _, ht, _, e⟩
  · intro h; rw [hf] at h; cases h
  · rw [e]; exact hdo t ctx (ht he)

/-! ### Moré–Thuente: the trial step never becomes negative (it can become 0 through the `stp = stx` fallback, and such a
  step is accepted only if the oracle's answer at 0 passes the convergence test) -/

omit [IsStrictOrderedRing α] in
theorem dcstep_stx_nonneg (cfg : Cfg α) (s : DC α) (fp dp lo hi : α) (h1 : 0 ≤ s.stx) (h2 : 0 ≤ s.stp) :
    0 ≤ (dcstep cfg s fp dp lo hi).stx := by
  unfold dcstep
  exact ite_post (P := fun d : DC α => 0 ≤ d.stx) (fun _ => h1)
    (fun _ => ite_post (P := fun d : DC α => 0 ≤ d.stx) (fun _ => h2) (fun _ => h2))

omit [IsStrictOrderedRing α] in
theorem mtDcstep_stx_nonneg (cfg : Cfg α) (s0 : Eval α) (m : MT α) (f g : α) (b : Bool) (h1 : 0 ≤ m.dc.stx)
    (h2 : 0 ≤ m.dc.stp) : 0 ≤ (mtDcstep cfg s0 m f g b).stx := by
  unfold mtDcstep
  exact ite_post (P := fun d : DC α => 0 ≤ d.stx) (fun _ => dcstep_stx_nonneg cfg _ _ _ _ _ h1 h2)
    (fun _ => dcstep_stx_nonneg cfg _ _ _ _ _ h1 h2)

theorem mtBounds_nonneg (cfg : Cfg α) (m : MT α) (b : Bool) (dc : DC α) (he : 0 < cfg.macheps) (h1 : 0 ≤ dc.stx) :
    0 ≤ (mtBounds cfg m b dc).dc.stx ∧ 0 ≤ (mtBounds cfg m b dc).dc.stp := by
  unfold mtBounds
  refine ⟨h1, ?_⟩
  have hmin : 0 < stpmin cfg.macheps := stpmin_pos _ he
  have hmax : 0 < stpmax cfg.macheps := by unfold stpmax; exact div_pos one_pos hmin
  exact ite_post (P := fun x : α => 0 ≤ x) (fun _ => h1) (fun _ => le_of_lt (Cxx.lt_clamp _ hmin hmax))

theorem mtNext_nonneg (cfg : Cfg α) (s0 : Eval α) (m : MT α) (f g : α) (he : 0 < cfg.macheps) (h1 : 0 ≤ m.dc.stx)
    (h2 : 0 ≤ m.dc.stp) : 0 ≤ (mtNext cfg s0 m f g).dc.stx ∧ 0 ≤ (mtNext cfg s0 m f g).dc.stp :=
  mtBounds_nonneg cfg m _ _ he (mtDcstep_stx_nonneg cfg s0 m f g _ h1 h2)

theorem morethuente_nonneg (cfg : Cfg α) (φ : Oracle α) (s0 : Eval α) (he : 0 < cfg.macheps) :
    ∀ (n : Nat) (m : MT α) (ctx : Ctx α), 0 ≤ m.dc.stx → 0 ≤ m.dc.stp → 0 ≤ (morethuente cfg φ s0 n m ctx).t := by
  intro n
  induction n with
  | zero => intro m ctx _ h; exact h
  | succ n ih =>
    intro m ctx h1 h2
    have hn := mtNext_nonneg cfg s0 m ctx.cur.f ctx.cur.g he h1 h2
    rw [morethuente]
    exact ite_post (P := fun r : Res α => 0 ≤ r.t) (fun _ => h2)
      (fun _ => ite_post (P := fun r : Res α => 0 ≤ r.t) (fun _ => h2)
        (fun _ => ite_post (P := fun r : Res α => 0 ≤ r.t) (fun _ => ih _ _ hn.1 hn.2) (fun _ => hn.2)))

end NanoVerif.LSearch
