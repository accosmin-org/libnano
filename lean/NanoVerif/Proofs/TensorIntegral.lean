import NanoVerif.Model.Tensor
/-!
  C16 — helper lemmas for `integral` (list level: running sums, row accumulation).
  Core Lean only.
-/
namespace NanoVerif.Tensor

theorem sumTo_succ_shift (g : Nat → Int) : ∀ i, sumTo (i + 1) g = g 0 + sumTo i (fun j => g (j + 1))
  | 0 => by simp [sumTo]
  | i + 1 => by
    have ih := sumTo_succ_shift g i
    rw [sumTo, ih]
    simp only [sumTo]
    omega

theorem sumTo_congr {g h : Nat → Int} : ∀ i, (∀ j, j ≤ i → g j = h j) → sumTo i g = sumTo i h
  | 0, e => by simp [sumTo, e 0 (Nat.le_refl _)]
  | i + 1, e => by
    simp only [sumTo]
    rw [sumTo_congr i (fun j hj => e j (by omega)), e (i + 1) (Nat.le_refl _)]

/-- `integral_t<1>::get`: `otensor(i0) = otensor(i0 - 1) + itensor(i0)` -/
theorem prefixSums_get : ∀ (xs : List Int) (acc : Int) (g : Nat → Int),
    (∀ j, j < xs.length → xs[j]? = some (g j)) →
    ∀ i, i < xs.length → (prefixSums acc xs)[i]? = some (acc + sumTo i g)
  | [], _, _, _, i, hi => by cases hi
  | x :: xs, acc, g, hg, 0, _ => by
    have h0 : x = g 0 := Option.some.inj (hg 0 (Nat.zero_lt_succ _))
    rw [prefixSums, h0]
    rfl
  | x :: xs, acc, g, hg, i + 1, hi => by
    have h0 : x = g 0 := Option.some.inj (hg 0 (Nat.zero_lt_succ _))
    rw [prefixSums, List.getElem?_cons_succ, prefixSums_get xs (acc + x) (fun j => g (j + 1))
      (fun j hj => hg (j + 1) (Nat.succ_lt_succ hj)) i (Nat.lt_of_succ_lt_succ hi), sumTo_succ_shift g i, h0, Int.add_assoc]

theorem prefixSums_length : ∀ (xs : List Int) (acc : Int), (prefixSums acc xs).length = xs.length
  | [], _ => rfl
  | x :: xs, acc => by rw [prefixSums, List.length_cons, List.length_cons, prefixSums_length xs]

/-- the first element starts the running sum: over the integers that is a running sum started at 0 -/
theorem prefixSums1_eq (xs : List Int) : prefixSums1 xs = prefixSums 0 xs := by
  cases xs with
  | nil => rfl
  | cons x xs => rw [prefixSums1, prefixSums, Int.zero_add]

theorem prefixSums1_length (xs : List Int) : (prefixSums1 xs).length = xs.length := by
  rw [prefixSums1_eq, prefixSums_length]

theorem prefixSums1_get (xs : List Int) (g : Nat → Int) (hg : ∀ j, j < xs.length → xs[j]? = some (g j))
    (i : Nat) (hi : i < xs.length) : (prefixSums1 xs)[i]? = some (sumTo i g) := by
  rw [prefixSums1_eq, prefixSums_get xs 0 g hg i hi, Int.zero_add]

/-! ### rows -/

def IsRow (n : Nat) (g : Nat → Int) (r : List Int) : Prop :=
  r.length = n ∧ ∀ k, k < n → r[k]? = some (g k)

theorem IsRow.congr {n : Nat} {g h : Nat → Int} {r : List Int} (hr : IsRow n g r)
    (e : ∀ k, k < n → g k = h k) : IsRow n h r :=
  ⟨hr.1, fun k hk => by rw [hr.2 k hk, e k hk]⟩

theorem zipAdd_length : ∀ (xs ys : List Int), (zipAdd xs ys).length = min xs.length ys.length
  | [], _ => (Nat.zero_min _).symm
  | _ :: _, [] => rfl
  | x :: xs, y :: ys => by
    rw [zipAdd, List.length_cons, List.length_cons, List.length_cons, zipAdd_length xs ys, Nat.succ_min_succ]

theorem zipAdd_get : ∀ (xs ys : List Int) (k : Nat) (a b : Int), xs[k]? = some a → ys[k]? = some b →
    (zipAdd xs ys)[k]? = some (a + b)
  | [], _, _, _, _, h, _ => by cases h
  | _ :: _, [], _, _, _, _, h => by cases h
  | x :: xs, y :: ys, 0, a, b, ha, hb => by cases ha; cases hb; rfl
  | x :: xs, y :: ys, k + 1, a, b, ha, hb => zipAdd_get xs ys k a b ha hb

theorem zipAdd_isRow {n : Nat} {g p : Nat → Int} {r q : List Int} (hr : IsRow n g r) (hq : IsRow n p q) :
    IsRow n (fun k => g k + p k) (zipAdd r q) :=
  ⟨by rw [zipAdd_length, hr.1, hq.1]; omega, fun k hk => zipAdd_get r q k _ _ (hr.2 k hk) (hq.2 k hk)⟩

theorem accRows_length : ∀ (rs : List (List Int)) (prev : List Int), (accRows prev rs).length = rs.length
  | [], _ => rfl
  | r :: rs, prev => by simp [accRows, accRows_length rs]

theorem accRows1_length (rs : List (List Int)) : (accRows1 rs).length = rs.length := by
  cases rs <;> simp [accRows1, accRows_length]

/-- `otensor.vector(i0) += otensor.vector(i0 - 1)`: row `i` of the result is `Σ_{j ≤ i} row j` + the row before -/
theorem accRows_spec (n : Nat) : ∀ (rs : List (List Int)) (prev : List Int) (G : Nat → Nat → Int) (P : Nat → Int),
    IsRow n P prev → (∀ j r, rs[j]? = some r → IsRow n (G j) r) →
    ∀ i row, (accRows prev rs)[i]? = some row → IsRow n (fun k => sumTo i (fun j => G j k) + P k) row
  | [], _, _, _, _, _, i, row, h => by simp [accRows] at h
  | r :: rs, prev, G, P, hp, hG, 0, row, h => by
    simp only [accRows, List.getElem?_cons_zero, Option.some.injEq] at h
    subst h
    have hr := hG 0 r (by simp)
    exact (zipAdd_isRow hr hp).congr (fun k _ => by simp [sumTo])
  | r :: rs, prev, G, P, hp, hG, i + 1, row, h => by
    simp only [accRows, List.getElem?_cons_succ] at h
    have hr := hG 0 r (by simp)
    have ih := accRows_spec n rs (zipAdd r prev) (fun j => G (j + 1)) (fun k => G 0 k + P k)
      (zipAdd_isRow hr hp) (fun j r' hj => hG (j + 1) r' (by simpa using hj)) i row h
    exact ih.congr (fun k _ => by rw [sumTo_succ_shift (fun j => G j k) i]; omega)

theorem accRows1_spec (n : Nat) (rs : List (List Int)) (G : Nat → Nat → Int)
    (hG : ∀ j r, rs[j]? = some r → IsRow n (G j) r) (i : Nat) (row : List Int)
    (h : (accRows1 rs)[i]? = some row) : IsRow n (fun k => sumTo i (fun j => G j k)) row := by
  cases rs with
  | nil => simp [accRows1] at h
  | cons r rs =>
    have hr := hG 0 r (by simp)
    cases i with
    | zero =>
      simp only [accRows1, List.getElem?_cons_zero, Option.some.injEq] at h
      subst h
      exact hr.congr (fun k _ => by simp [sumTo])
    | succ i =>
      simp only [accRows1, List.getElem?_cons_succ] at h
      have := accRows_spec n rs r (fun j => G (j + 1)) (G 0) hr
        (fun j r' hj => hG (j + 1) r' (by simpa using hj)) i row h
      exact this.congr (fun k _ => by rw [sumTo_succ_shift (fun j => G j k) i]; omega)

end NanoVerif.Tensor
