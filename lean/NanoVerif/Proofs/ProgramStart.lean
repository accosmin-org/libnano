import NanoVerif.Proofs.ProgramRestate
import NanoVerif.Model.ProgramSolve
/-!
  C04 — what surrounds the loop: the contract of `program::reduce` (row-space equivalence of `[A|b]`) and what it
  implies, the starting point (`make_strictly_feasible`, `make_x0`, a user `x0`), the KKT optimality test `m_kkt`.
-/
set_option linter.unusedSectionVars false

namespace NanoVerif.Program
variable {α : Type} [Field α] [LinearOrder α] [IsStrictOrderedRing α]

/-! ### `program::reduce` -/

/-- every row of `[A'|b']` is a linear combination `Σ tᵢ (Aᵢ | bᵢ)` of the rows of `[A|b]` -/
def RowsFrom (n : Nat) (A : List (List α)) (b : List α) (A' : List (List α)) (b' : List α) : Prop :=
  b'.length = A'.length ∧ ∀ p ∈ A'.zip b', ∃ t : List α, p.1 = tmv n A t ∧ p.2 = dot t b

/-- the contract of `reduce`: `[A'|b']` and `[A|b]` have the same row space (checked at run time on every call by the
    python monitor: rank, residual of every original row against the returned rows and vice versa) -/
def RowEquiv (n : Nat) (A : List (List α)) (b : List α) (A' : List (List α)) (b' : List α) : Prop :=
  RowsFrom n A b A' b' ∧ RowsFrom n A' b' A b

theorem rowsFrom_solutions (n : Nat) (A : List (List α)) (b : List α) (A' : List (List α)) (b' x : List α)
    (hA : ∀ r ∈ A, r.length = n) (h : RowsFrom n A b A' b') (hs : mv A x = b) : mv A' x = b' := by
  rw [mv_eq_iff_zip x A' b' h.1]
  intro p hp
  obtain ⟨t, h1, h2⟩ := h.2 p hp
  rw [h1, h2, tmv_adjoint' n A t x hA, hs]

/-! ### the starting point -/

theorem msfEval_some (P : Prog α) (lsq : α → List α) (y : α) (x : List α) (h : msfEval P lsq y = some x) :
    ∀ a ∈ slack P x, a < 0 := by
  unfold msfEval at h
  dsimp only at h
  split at h
  · rename_i hc
    cases h
    exact (maxLt_iff _ _).1 hc
  · cases h

theorem msfLoop_some (P : Prog α) (gamma : α) (lsq : α → List α) : ∀ (k : Nat) (ym yM : α) (x : List α),
    msfLoop P gamma lsq k ym yM = some x → ∀ a ∈ slack P x, a < 0
  | 0, _, _, _, h => by simp [msfLoop] at h
  | k + 1, ym, yM, x, h => by
    simp only [msfLoop] at h
    split at h
    · rename_i x1 h1
      cases h
      exact msfEval_some P lsq ym _ h1
    · split at h
      · rename_i x2 h2
        cases h
        exact msfEval_some P lsq yM _ h2
      · exact msfLoop_some P gamma lsq k _ _ x h

/-- whatever the least-squares oracle answers, a point returned by `make_strictly_feasible` satisfies `G x < h` strictly -/
theorem makeStrictlyFeasible_some (P : Prog α) (gamma : α) (rounds : Nat) (lsq : α → List α) (x : List α)
    (h : makeStrictlyFeasible P gamma rounds lsq = some x) : (∀ a ∈ slack P x, a < 0) ∧ P.G ≠ [] := by
  unfold makeStrictlyFeasible at h
  split at h
  · cases h
  · rename_i hG
    exact ⟨msfLoop_some P gamma lsq rounds _ _ x h, by intro h0; simp [h0] at hG⟩

/-- `make_x0`: the strictly feasible point, or the origin when none was found -/
theorem makeX0_cases (P : Prog α) (gamma : α) (rounds : Nat) (lsq : α → List α) :
    (makeStrictlyFeasible P gamma rounds lsq = some (makeX0 P gamma rounds lsq)) ∨
    (makeStrictlyFeasible P gamma rounds lsq = none ∧ makeX0 P gamma rounds lsq = zeros P.n) := by
  unfold makeX0
  cases makeStrictlyFeasible P gamma rounds lsq <;> simp

theorem interior_normalize [Sqrt α] (minNorm : α) (hmin : 0 < minNorm) (P : Prog α) (x : List α) :
    (∀ a ∈ slack (normalize minNorm P).2 x, a < 0) ↔ ∀ a ∈ slack P x, a < 0 := by
  rw [slack_normalize, vdivs, List.forall_mem_map]
  exact forall_congr' fun a => imp_congr_right fun _ => by
    rw [div_lt_iff₀ (normDenom_pos minNorm hmin P.G P.h), zero_mul]

/-! ### the KKT optimality test -/

theorem cabs_eq_abs (a : α) : cabs a = |a| := Cxx.ite_abs a

/-- `lpNorm<Infinity>` is the running maximum of the absolute values, started at `0` -/
theorem normInf_eq (v : List α) : normInf v = (v.map (|·|)).foldl max 0 := by
  rw [List.foldl_map]
  exact congrArg (fun f => v.foldl f 0) (funext₂ fun acc a => by rw [cmax_eq_max, cabs_eq_abs])

theorem normInf_le_iff (v : List α) (c : α) : normInf v ≤ c ↔ 0 ≤ c ∧ ∀ a ∈ v, |a| ≤ c := by
  rw [normInf_eq, Cxx.foldl_max_le_iff, List.forall_mem_map]

theorem normInf_pospart_le (g : List α) (c : α) (hc : 0 ≤ c) :
    normInf (g.map (fun a => cmax a 0)) ≤ c ↔ ∀ a ∈ g, a ≤ c := by
  rw [normInf_le_iff, List.forall_mem_map, and_iff_right hc]
  refine forall_congr' fun a => imp_congr_right fun _ => ?_
  rw [cmax_eq_max, abs_of_nonneg (le_max_right a 0), max_le_iff, and_iff_left hc]

theorem normInf_nonneg (v : List α) : 0 ≤ normInf v :=
  ((normInf_le_iff v (normInf v)).1 (le_refl _)).1

/-- one link of the running maximum `m_kkt`: a guarded `max` is below `e` iff both operands are, the second only when the
    guard lets it in -/
theorem guard_cmax_le_iff (c : Prop) [Decidable c] (k n e : α) :
    (if c then k else cmax k n) ≤ e ↔ k ≤ e ∧ (¬ c → n ≤ e) := by
  split
  · rename_i h; exact ⟨fun hk => ⟨hk, fun hn => absurd h hn⟩, fun hk => hk.1⟩
  · rename_i h; rw [cmax_eq_max, max_le_iff]; exact and_congr_right fun _ => ⟨fun hn _ => hn, fun hn => hn h⟩

end NanoVerif.Program
