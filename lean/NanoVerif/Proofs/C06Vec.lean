import NanoVerif.Model.Functions
import NanoVerif.Proofs.ListVec
import Mathlib.Tactic.LinearCombination
import Mathlib.Tactic.Positivity
/-!
  C06 — list-vector algebra and the generic "sums preserve the sub-gradient inequality" lemmas over an arbitrary
  linear ordered field (exact arithmetic). The property theorems are in `Props/C06.lean`.
-/
set_option linter.unusedSectionVars false

namespace NanoVerif.C06
open NanoVerif.Loss NanoVerif.Fn

variable {α : Type} [Field α] [LinearOrder α] [IsStrictOrderedRing α]

/-- `induction x, d, h using length_eq_induction` for `h : d.length = x.length` -/
theorem length_eq_induction {α β : Type} {P : ∀ (x : List α) (d : List β), d.length = x.length → Prop}
    (nil : P [] [] rfl)
    (cons : ∀ x xs d ds (h : ds.length = xs.length), P xs ds h → P (x :: xs) (d :: ds) (congrArg Nat.succ h)) :
    ∀ x d h, P x d h
  | [], [], _ => nil
  | x :: xs, d :: ds, h => cons x xs d ds (Nat.succ.inj h) (length_eq_induction nil cons xs ds _)
  | [], _ :: _, h => (Nat.succ_ne_zero _ h).elim
  | _ :: _, [], h => (Nat.succ_ne_zero _ h.symm).elim

theorem length_eq_induction₃ {α β γ : Type}
    {P : ∀ (t : List α) (o : List β) (d : List γ), o.length = t.length → d.length = t.length → Prop}
    (nil : P [] [] [] rfl rfl)
    (cons : ∀ t ts o os d ds (ho : os.length = ts.length) (hd : ds.length = ts.length), P ts os ds ho hd →
      P (t :: ts) (o :: os) (d :: ds) (congrArg Nat.succ ho) (congrArg Nat.succ hd)) :
    ∀ t o d ho hd, P t o d ho hd
  | [], [], [], _, _ => nil
  | t :: ts, o :: os, d :: ds, ho, hd =>
    cons t ts o os d ds (Nat.succ.inj ho) (Nat.succ.inj hd) (length_eq_induction₃ nil cons ts os ds _ _)
  | [], _ :: _, _, h, _ => (Nat.succ_ne_zero _ h).elim
  | [], [], _ :: _, _, h => (Nat.succ_ne_zero _ h).elim
  | _ :: _, [], _, h, _ => (Nat.succ_ne_zero _ h.symm).elim
  | _ :: _, _ :: _, [], _, h => (Nat.succ_ne_zero _ h.symm).elim

/-! ### lengths -/

theorem ne_nil_of_length_eq {β γ : Type} {x : List β} {t : List γ} (hne : t ≠ []) (hx : x.length = t.length) : x ≠ [] :=
  List.ne_nil_of_length_pos (hx ▸ List.length_pos_of_ne_nil hne)

/-! ### the operations of `Proofs/ListVec.lean` -/

theorem dot_eq : (dot : List α → List α → α) = ListVec.dot := by
  funext a
  induction a with
  | nil => exact funext fun _ => rfl
  | cons x a ih => exact funext fun | [] => rfl | y :: b => congrArg (x * y + ·) (congrFun ih b)

theorem vsub_eq : ∀ (a b : List α), vsub a b = List.zipWith (· - ·) a b
  | [], _ => rfl
  | _ :: _, [] => rfl
  | _ :: a, _ :: b => congrArg (List.cons _) (vsub_eq a b)

theorem vadd_eq : ∀ (a b : List α), vadd a b = List.zipWith (· + ·) a b
  | [], _ => rfl
  | _ :: _, [] => rfl
  | _ :: a, _ :: b => congrArg (List.cons _) (vadd_eq a b)

theorem smul_eq (c : α) : ∀ (a : List α), smul c a = a.map (c * ·)
  | [] => rfl
  | _ :: a => congrArg (List.cons _) (smul_eq c a)

theorem mulVec_eq (A : List (List α)) (x : List α) : mulVec A x = ListVec.mv A x := by
  rw [mulVec, dot_eq]; rfl

theorem tmulVec_eq (n : Nat) : ∀ (A : List (List α)) (u : List α), tmulVec n A u = ListVec.tmv n A u
  | [], _ => rfl
  | _ :: _, [] => rfl
  | r :: A, u :: us => by rw [tmulVec, vadd_eq, smul_eq, List.zipWith_map_left, tmulVec_eq n A us]; rfl

@[simp] theorem vsub_length (a b : List α) (h : a.length = b.length) : (vsub a b).length = b.length := by
  rw [vsub_eq, ListVec.length_zipWith_of_eq _ h]

theorem vsub_length_eq {n : Nat} {z x : List α} (hz : z.length = n) (hx : x.length = n) : (vsub z x).length = n := by
  rw [vsub_length z x (hz.trans hx.symm), hx]

@[simp] theorem vadd_length (a b : List α) (h : a.length = b.length) : (vadd a b).length = b.length := by
  rw [vadd_eq, ListVec.length_zipWith_of_eq _ h]

@[simp] theorem smul_length (c : α) (a : List α) : (smul c a).length = a.length := by
  rw [smul_eq, List.length_map]

@[simp] theorem map2_length (k : α → α → α) (t o : List α) (h : t.length = o.length) :
    (map2 k t o).length = o.length := by
  induction o, t, h using length_eq_induction with
  | nil => rfl
  | cons _ _ _ _ _ ih => exact congrArg Nat.succ ih

@[simp] theorem mapIdx_length (γ : Nat → α → α) : ∀ (i : Nat) (x : List α), (mapIdx γ i x).length = x.length
  | _, [] => rfl
  | i, _ :: xs => by simp [mapIdx, mapIdx_length γ (i + 1) xs]

/-! ### dot product -/

theorem dot_nil_left (b : List α) : dot ([] : List α) b = 0 := rfl
theorem dot_nil_right (a : List α) : dot a ([] : List α) = 0 := by rw [dot_eq]; exact ListVec.dot_nil_right a

theorem dot_comm (a b : List α) : dot a b = dot b a := by
  rw [dot_eq]; exact ListVec.dot_comm a b

theorem dot_smul_left (c : α) (a b : List α) : dot (smul c a) b = c * dot a b := by
  rw [dot_eq, smul_eq]; exact ListVec.dot_map_left c (fun _ => rfl) a b

theorem dot_smul_right (c : α) (a b : List α) : dot a (smul c b) = c * dot a b := by
  rw [dot_comm, dot_smul_left, dot_comm]

theorem dot_vadd_left (a b d : List α) (h : a.length = b.length) : dot (vadd a b) d = dot a d + dot b d := by
  rw [dot_eq, vadd_eq, ListVec.dot_zipWith_left 1 1 (fun _ _ => by rw [one_mul, one_mul]) d h, one_mul, one_mul]

theorem dot_vsub_right (a z x : List α) (h : z.length = x.length) : dot a (vsub z x) = dot a z - dot a x := by
  rw [dot_eq, vsub_eq, ListVec.dot_zipWith_right 1 (-1) (fun _ _ => by ring) a h]; ring

theorem dot_vsub_left (a z x : List α) (h : z.length = x.length) :
    dot (vsub z x) a = dot z a - dot x a := by
  rw [dot_comm, dot_vsub_right a z x h, dot_comm a z, dot_comm a x]

theorem dot_self_nonneg (a : List α) : 0 ≤ dot a a := by
  rw [dot_eq]; exact ListVec.dot_self_nonneg a

theorem norm_vsub (z x : List α) (h : z.length = x.length) :
    dot (vsub z x) (vsub z x) = dot z z - 2 * dot x z + dot x x := by
  rw [dot_vsub_right _ z x h, dot_vsub_left z z x h, dot_vsub_left x z x h, dot_comm z x]; ring

/-- the squared norm is its tangent plane at `x` plus `‖z − x‖²`, exactly: what sphere, every ridge term and every
    function of `‖x‖²` rest on -/
theorem sq_norm_gap (x z : List α) (h : z.length = x.length) :
    dot z z = dot x x + 2 * dot x (vsub z x) + dot (vsub z x) (vsub z x) := by
  rw [norm_vsub z x h, dot_vsub_right x z x h]; ring

theorem sumL_nonneg : ∀ (a : List α), (∀ v ∈ a, 0 ≤ v) → 0 ≤ sumL a
  | [], _ => le_refl _
  | x :: as, h =>
    add_nonneg (h x List.mem_cons_self) (sumL_nonneg as (fun v hv => h v (List.mem_cons_of_mem x hv)))

/-! ### element-wise sums keep the sub-gradient inequality -/

theorem sum2_subgrad_scaled (c : α) (k g : α → α → α)
    (hk : ∀ t x z, c * k t z ≥ c * k t x + g t x * (z - x))
    (t x z : List α) (hx : x.length = t.length) (hz : z.length = t.length) :
    c * sum2 k t z ≥ c * sum2 k t x + dot (map2 g t x) (vsub z x) := by
  induction t, x, z, hx, hz using length_eq_induction₃ with
  | nil => simp [sum2, map2, vsub, dot]
  | cons t ts x xs z zs hx hz ih =>
    simp only [sum2, map2, vsub, dot]
    linear_combination hk t x z + ih

theorem sum2_subgrad (k g : α → α → α) (hk : ∀ t x z, k t z ≥ k t x + g t x * (z - x))
    (t x z : List α) (hx : x.length = t.length) (hz : z.length = t.length) :
    sum2 k t z ≥ sum2 k t x + dot (map2 g t x) (vsub z x) := by
  simpa only [one_mul] using sum2_subgrad_scaled 1 k g (by simpa only [one_mul] using hk) t x z hx hz

theorem sum2_nonneg (k : α → α → α) (hk : ∀ t o, 0 ≤ k t o) : ∀ (t o : List α), 0 ≤ sum2 k t o
  | [], _ => by simp [sum2]
  | _ :: _, [] => by simp [sum2]
  | t :: ts, o :: os => add_nonneg (hk t o) (sum2_nonneg k hk ts os)

theorem sumIdx_subgrad_mu (φ γ : Nat → α → α) (μ : α)
    (h : ∀ i x z, φ i z ≥ φ i x + γ i x * (z - x) + μ / 2 * ((z - x) * (z - x)))
    (i : Nat) (x z : List α) (hl : z.length = x.length) :
    sumIdx φ i z ≥ sumIdx φ i x + dot (mapIdx γ i x) (vsub z x) + μ / 2 * dot (vsub z x) (vsub z x) := by
  induction x, z, hl using length_eq_induction generalizing i with
  | nil => simp [sumIdx, mapIdx, vsub, dot]
  | cons x xs z zs hl ih =>
    simp only [sumIdx, mapIdx, vsub, dot]
    linear_combination h i x z + ih (i + 1)

/-! ### matrix-vector products -/

theorem dot_replicate_zero (n : Nat) (d : List α) : dot (List.replicate n (0 : α)) d = 0 := by
  rw [dot_eq]; exact ListVec.dot_replicate_zero_left n d

theorem tmulVec_length (n : Nat) (A : List (List α)) (u : List α) (h : ∀ r ∈ A, r.length = n) :
    (tmulVec n A u).length = n := by
  rw [tmulVec_eq]; exact ListVec.tmv_length n A u h

theorem tmulVec_adjoint (n : Nat) (A : List (List α)) (u d : List α) (h : ∀ r ∈ A, r.length = n)
    (_ : A.length = u.length) : dot (tmulVec n A u) d = dot u (mulVec A d) := by
  rw [dot_eq, tmulVec_eq, mulVec_eq]; exact ListVec.tmv_adjoint n A u d h

theorem mulVec_length (A : List (List α)) (x : List α) : (mulVec A x).length = A.length := by
  simp [mulVec]

theorem mulVec_vsub (A : List (List α)) (z x : List α) (h : z.length = x.length) :
    vsub (mulVec A z) (mulVec A x) = mulVec A (vsub z x) := by
  simp only [mulVec_eq, vsub_eq]
  exact (ListVec.mv_zipWith 1 (-1) (fun _ _ => by ring) A h).symm

theorem vsub_vadd_cancel (a u v : List α) (hu : u.length = a.length) (hv : v.length = a.length) :
    vsub (vadd a v) (vadd a u) = vsub v u := by
  induction a, u, v, hu, hv using length_eq_induction₃ with
  | nil => rfl
  | cons a as u us v vs hu hv ih =>
    simp only [vadd, vsub]
    rw [ih]
    congr 1; ring

end NanoVerif.C06
