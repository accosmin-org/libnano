import NanoVerif.Proofs.PoolInv
/-!
  C17 — the no-lost-wake-up invariant `J` and the auxiliary invariants used by `quiescent_complete`,
  `map_returns_after_all_done` and `raise_rethrows`, each preserved by all fourteen events. Core Lean only.
-/
namespace NanoVerif.Pool

def owesNotify : CPc → Bool
  | .pushed _ _ => true
  | .stopSet => true
  | _ => false

def active : WPc → Bool
  | .ready => true
  | .running _ => true
  | _ => false

/-- J: work pending or stop requested ⇒ somebody will react: a worker is on its way to the predicate, or a client still
    owes the notification, or every worker has already exited -/
def J (s : St) : Prop :=
  (s.queue ≠ [] ∨ s.stop = true) →
    (∃ w, w < s.nw ∧ active (s.wpc w) = true) ∨ (∃ c, owesNotify (s.cpc c) = true) ∨ (∀ w, w < s.nw → s.wpc w = .exited)

theorem J_of_active {s : St} {w : Nat} (hw : w < s.nw) (ha : active (s.wpc w) = true) : J s :=
  fun _ => Or.inl ⟨w, hw, ha⟩

theorem J_of_owes {s : St} {c : Nat} (hc : owesNotify (s.cpc c) = true) : J s :=
  fun _ => Or.inr (Or.inl ⟨c, hc⟩)

/-- right after a `notify_all`, or a `notify_one` that found nobody waiting: a worker that has not exited is active -/
theorem J_of_no_sleeper {s : St} (hns : ∀ v, v < s.nw → s.wpc v ≠ .sleeping) : J s := by
  intro _
  by_cases hall : ∀ w, w < s.nw → s.wpc w = .exited
  · exact Or.inr (Or.inr hall)
  · obtain ⟨w, hw⟩ := Classical.not_forall.mp hall
    obtain ⟨hwlt, hne⟩ := Classical.not_imp.mp hw
    refine Or.inl ⟨w, hwlt, ?_⟩
    cases hpcw : s.wpc w with
    | sleeping => exact absurd hpcw (hns w hwlt)
    | exited => exact absurd hpcw hne
    | _ => rfl

theorem J_frame (s : St) (c : Nat) (x : CPc) (sx : Nat → Nat → Nat) (st : Nat → Nat → Bool) (hj : J s)
    (hpre : s.cpc c = .idle ∨ s.cpc c = .joining ∨ (∃ ts, s.cpc c = .waiting ts) ∨ ∃ n i b err, s.cpc c = .seq n i b err) :
    J { s with cpc := upd s.cpc c x, sexec := sx, sthrew := st } := by
  intro hprem
  rcases hj hprem with h1 | ⟨c', hc'⟩ | h1
  · exact Or.inl h1
  · have hne : c' ≠ c := by
      rintro rfl
      rcases hpre with h1 | h1 | ⟨_, h1⟩ | ⟨_, _, _, _, h1⟩ <;> rw [h1] at hc' <;> cases hc'
    exact Or.inr (Or.inl ⟨c', by show owesNotify (upd s.cpc c x c') = true; rw [upd_other _ _ _ _ hne]; exact hc'⟩)
  · exact Or.inr (Or.inr h1)

theorem J_init (nw : Nat) : J (init nw) := by
  intro h; simp [init] at h

theorem J_step (s s' : St) (e : Ev) (hj : J s) (h : step s e = some s') : J s' := by
  cases e with
  | wTake w => obtain ⟨hw, _, _, t, q, _, rfl⟩ := step_wTake h; exact J_of_active hw (by simp [upd_same, active])
  | wRunEnd w b => obtain ⟨hw, t, _, rfl⟩ := step_wRunEnd h; exact J_of_active hw (by simp [upd_same, active])
  | wWake w => obtain ⟨hw, _, rfl⟩ := step_wWake h; exact J_of_active hw (by simp [upd_same, active])
  | wSleep w =>
    obtain ⟨_, _, hstop, hq, rfl⟩ := step_wSleep h
    rintro (h1 | h1)
    · exact absurd hq h1
    · rw [hstop] at h1; cases h1
  | wExit w =>
    obtain ⟨_, _, _, rfl⟩ := step_wExit h
    refine J_of_no_sleeper fun v _ => ?_
    show (if v = w then WPc.exited else wake (s.wpc v)) ≠ .sleeping
    split
    · simp
    · exact wake_ne_sleeping _
  | cPush c ts all => obtain ⟨_, _, _, _, rfl⟩ := step_cPush h; exact J_of_owes (c := c) (by simp [upd_same, owesNotify])
  | dStop c => obtain ⟨_, rfl⟩ := step_dStop h; exact J_of_owes (c := c) (by simp [upd_same, owesNotify])
  | cNotify c w =>
    rcases step_cNotify h with ⟨ts, _, rfl⟩ | ⟨ts, v, _, _, hv, _, rfl⟩ | ⟨ts, _, _, hns, rfl⟩ | ⟨_, rfl⟩
    · exact J_of_no_sleeper fun v _ => wake_ne_sleeping _
    · exact J_of_active hv (by simp [upd_same, active])
    · exact J_of_no_sleeper hns
    · exact J_of_no_sleeper fun v _ => wake_ne_sleeping _
  | _ =>
    obtain ⟨c, x, sx, st, rfl, hpre, _⟩ := step_clientOnly rfl h
    exact J_frame s c x sx st hj hpre

/-! ### auxiliary invariants -/

structure Inv2 (s : St) : Prop where
  /-- nobody exits before stop -/
  K : s.stop = false → ∀ w, w < s.nw → s.wpc w ≠ .exited
  /-- once a worker has exited the queue stays empty -/
  Q : (∃ w, w < s.nw ∧ s.wpc w = .exited) → s.queue = []
  /-- the tasks a client waits for have been pushed -/
  C : ∀ c ts, (s.cpc c = .waiting ts ∨ ∃ all, s.cpc c = .pushed ts all) → ∀ t ∈ ts, s.ts t ≠ .fresh
  /-- a destructor in progress has set stop -/
  S : ∀ c, (s.cpc c = .stopSet ∨ s.cpc c = .joining) → s.stop = true
  /-- no task is dropped before stop -/
  D : s.stop = false → ∀ t, s.ts t ≠ .dropped
  /-- an exception is stored only by a task that ran -/
  T : ∀ t, s.threw t = true → s.ts t = .done

theorem inv2_init (nw : Nat) : Inv2 (init nw) := by
  refine ⟨?_, ?_, ?_, ?_, ?_, ?_⟩ <;> simp [init]

/-- a property of the tasks of every waiting or notifying client, after client `c` moved to `x`: only the tasks of `x`
    have to be looked at -/
theorem waits_upd {cpc : Nat → CPc} {c : Nat} {x : CPc} {P : Nat → Prop}
    (hold : ∀ c ts, (cpc c = .waiting ts ∨ ∃ all, cpc c = .pushed ts all) → ∀ t ∈ ts, P t)
    (hx : ∀ ts, (x = .waiting ts ∨ ∃ all, x = .pushed ts all) → ∀ t ∈ ts, P t) :
    ∀ c' ts, (upd cpc c x c' = .waiting ts ∨ ∃ all, upd cpc c x c' = .pushed ts all) → ∀ t ∈ ts, P t := by
  intro c' ts hc'
  by_cases hcc : c' = c
  · subst hcc; rw [upd_same] at hc'; exact hx ts hc'
  · rw [upd_other _ _ _ _ hcc] at hc'; exact hold c' ts hc'

theorem inv2_S_upd {s : St} (h2 : Inv2 s) {c : Nat} {x : CPc} (hx : x = .stopSet ∨ x = .joining → s.stop = true) :
    ∀ c', (upd s.cpc c x c' = .stopSet ∨ upd s.cpc c x c' = .joining) → s.stop = true := by
  intro c' hc'
  by_cases hcc : c' = c
  · subst hcc; rw [upd_same] at hc'; exact hx hc'
  · rw [upd_other _ _ _ _ hcc] at hc'; exact h2.S c' hc'

theorem inv2_K_upd {s : St} (h2 : Inv2 s) {w : Nat} {p : WPc} (hp : p ≠ .exited) :
    s.stop = false → ∀ v, v < s.nw → upd s.wpc w p v ≠ .exited :=
  fun hs v hv => upd_ne hp (h2.K hs v hv)

theorem inv2_Q_upd {s : St} (h2 : Inv2 s) {w : Nat} {p : WPc} (hp : p ≠ .exited) :
    (∃ v, v < s.nw ∧ upd s.wpc w p v = .exited) → s.queue = [] :=
  fun ⟨v, hv, hve⟩ => h2.Q ⟨v, hv, (of_upd_eq hve hp).2⟩

theorem inv2_frame (s : St) (c : Nat) (x : CPc) (sx : Nat → Nat → Nat) (st : Nat → Nat → Bool) (h2 : Inv2 s)
    (hx : x = .finished ∨ ∃ n i b err, x = .seq n i b err) :
    Inv2 { s with cpc := upd s.cpc c x, sexec := sx, sthrew := st } := by
  refine ⟨h2.K, h2.Q, waits_upd h2.C ?_, inv2_S_upd h2 ?_, h2.D, h2.T⟩
  · rcases hx with rfl | ⟨_, _, _, _, rfl⟩ <;> nofun
  · rcases hx with rfl | ⟨_, _, _, _, rfl⟩ <;> nofun

theorem inv2_step (s s' : St) (e : Ev) (hi : Inv s) (h2 : Inv2 s) (h : step s e = some s') : Inv2 s' := by
  cases e with
  | wTake w =>
    obtain ⟨hw, hpc, hstop, t, q, hq, rfl⟩ := step_wTake h
    have htq : s.ts t = .queued := (hi.q_iff t).mp (by rw [hq]; simp)
    refine ⟨inv2_K_upd h2 nofun, fun ⟨v, hv, hve⟩ => absurd (of_upd_eq hve nofun).2 (h2.K hstop v hv),
      fun c ts hc u hu => upd_ne nofun (h2.C c ts hc u hu), h2.S, fun hs u => upd_ne nofun (h2.D hs u), fun u hu => ?_⟩
    have hd := h2.T u hu
    have hut : u ≠ t := by rintro rfl; rw [htq] at hd; cases hd
    exact (upd_other _ _ _ _ hut).trans hd
  | wSleep w =>
    obtain ⟨_, _, _, hq, rfl⟩ := step_wSleep h
    exact ⟨inv2_K_upd h2 nofun, fun _ => hq, h2.C, h2.S, h2.D, h2.T⟩
  | wWake w =>
    obtain ⟨_, _, rfl⟩ := step_wWake h
    exact ⟨inv2_K_upd h2 nofun, inv2_Q_upd h2 nofun, h2.C, h2.S, h2.D, h2.T⟩
  | wRunEnd w b =>
    obtain ⟨_, t, _, rfl⟩ := step_wRunEnd h
    refine ⟨inv2_K_upd h2 nofun, inv2_Q_upd h2 nofun, fun c ts hc u hu => upd_ne nofun (h2.C c ts hc u hu), h2.S,
      fun hs u => upd_ne nofun (h2.D hs u), fun u hu => ?_⟩
    show upd s.ts t .done u = .done
    by_cases hut : u = t
    · subst hut; exact upd_same _ _ _
    · rw [upd_other _ _ _ _ hut]; exact h2.T u (by rw [← hu]; exact (upd_other _ _ _ _ hut).symm)
  | wExit w =>
    obtain ⟨_, _, hstop, rfl⟩ := step_wExit h
    have hst : s.stop ≠ false := by simp [hstop]
    exact ⟨fun hs => absurd hs hst, fun _ => rfl, fun c ts hc u hu hf => h2.C c ts hc u hu ((drop_fresh _).mp hf), h2.S,
      fun hs => absurd hs hst, fun u hu => (drop_done _).mpr (h2.T u hu)⟩
  | cPush c ts all =>
    obtain ⟨_, hfresh, _, hstop, rfl⟩ := step_cPush h
    have hkeep : ∀ u (x : TS), x ≠ .queued → s.ts u ≠ x → (if u ∈ ts then TS.queued else s.ts u) ≠ x := by
      intro u x hx hu; split
      · exact hx.symm
      · exact hu
    refine ⟨h2.K, fun ⟨v, hv, hve⟩ => absurd hve (h2.K hstop v hv), ?_, inv2_S_upd h2 nofun,
      fun hs u => hkeep u _ nofun (h2.D hs u), fun u hu => ?_⟩
    · refine waits_upd (fun c' ts' hc' u hu => hkeep u _ nofun (h2.C c' ts' hc' u hu)) fun ts' hx u hu => ?_
      have : ts' = ts := by rcases hx with h1 | ⟨a, h1⟩ <;> cases h1; rfl
      show (if u ∈ ts then TS.queued else s.ts u) ≠ .fresh
      rw [if_pos (this ▸ hu)]; simp
    · show (if u ∈ ts then TS.queued else s.ts u) = .done
      have hd := h2.T u hu
      rw [if_neg fun hut => by rw [hfresh u hut] at hd; cases hd]; exact hd
  | cNotify c w =>
    have hK : s.stop = false → ∀ v, v < s.nw → wake (s.wpc v) ≠ .exited :=
      fun hs v hv hve => h2.K hs v hv ((wake_exited _).mp hve)
    have hQ : (∃ v, v < s.nw ∧ wake (s.wpc v) = .exited) → s.queue = [] :=
      fun ⟨v, hv, hve⟩ => h2.Q ⟨v, hv, (wake_exited _).mp hve⟩
    -- the notifying client goes on to wait for the tasks it pushed
    have hC : ∀ ts all, s.cpc c = .pushed ts all → ∀ c' ts', (upd s.cpc c (.waiting ts) c' = .waiting ts' ∨
        ∃ a, upd s.cpc c (.waiting ts) c' = .pushed ts' a) → ∀ t ∈ ts', s.ts t ≠ .fresh := by
      refine fun ts all hpc => waits_upd h2.C fun ts' hx => ?_
      have : ts' = ts := by rcases hx with h1 | ⟨a, h1⟩ <;> cases h1; rfl
      exact this ▸ h2.C c ts (Or.inr ⟨all, hpc⟩)
    rcases step_cNotify h with ⟨ts, hpc, rfl⟩ | ⟨ts, v, hpc, _, _, _, rfl⟩ | ⟨ts, hpc, _, _, rfl⟩ | ⟨hpc, rfl⟩
    · exact ⟨hK, hQ, hC ts _ hpc, inv2_S_upd h2 nofun, h2.D, h2.T⟩
    · exact ⟨inv2_K_upd h2 nofun, inv2_Q_upd h2 nofun, hC ts _ hpc, inv2_S_upd h2 nofun, h2.D, h2.T⟩
    · exact ⟨h2.K, h2.Q, hC ts _ hpc, inv2_S_upd h2 nofun, h2.D, h2.T⟩
    · exact ⟨hK, hQ, waits_upd h2.C nofun, inv2_S_upd h2 fun _ => h2.S c (Or.inl hpc), h2.D, h2.T⟩
  | dStop c =>
    obtain ⟨_, rfl⟩ := step_dStop h
    exact ⟨fun hs => Bool.noConfusion hs, h2.Q, waits_upd h2.C nofun, fun _ _ => rfl, fun hs => Bool.noConfusion hs, h2.T⟩
  | _ =>
    obtain ⟨c, x, sx, st, rfl, _, hx⟩ := step_clientOnly rfl h
    exact inv2_frame s c x sx st h2 hx

end NanoVerif.Pool
