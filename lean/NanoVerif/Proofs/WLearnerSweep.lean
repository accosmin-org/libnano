import NanoVerif.Proofs.WLearnerBasic
/-!
  C10 — the sorted sweep of the stump / hinge fits: every candidate carries the accumulator of exactly the samples
  left of its threshold (soundness), and every threshold that splits the samples is represented (completeness).
-/
set_option linter.unusedSectionVars false

namespace NanoVerif.WLearner
variable {α : Type} [Field α] [LinearOrder α] [IsStrictOrderedRing α]

theorem half_mul (a b : α) : (half : α) * (a + b) = (a + b) / 2 := by
  unfold half; rw [one_add_one_eq_two]; ring

theorem lt_mid {a b : α} (h : a < b) : a < half * (a + b) := by rw [half_mul]; exact left_lt_add_div_two.mpr h
theorem mid_lt {a b : α} (h : a < b) : half * (a + b) < b := by rw [half_mul]; exact add_div_two_lt_right.mpr h

def leftOf (t : α) (l : List (Item α)) : List (Item α) := l.filter fun it => decide (it.v < t)
def rightOf (t : α) (l : List (Item α)) : List (Item α) := l.filter fun it => !decide (it.v < t)

theorem leftOf_split (pre post : List (Item α)) (t : α)
    (hpre : ∀ p ∈ pre, p.v < t) (hpost : ∀ p ∈ post, ¬ p.v < t) :
    leftOf t (pre ++ post) = pre ∧ rightOf t (pre ++ post) = post := by
  unfold leftOf rightOf
  rw [List.filter_append, List.filter_append,
    List.filter_eq_self.mpr fun p hp => decide_eq_true (hpre p hp),
    List.filter_eq_nil_iff.mpr fun p hp h => hpost p hp (of_decide_eq_true h),
    List.filter_eq_nil_iff.mpr fun p hp h => by rw [decide_eq_true (hpre p hp)] at h; exact Bool.false_ne_true h,
    List.filter_eq_self.mpr fun p hp => by rw [decide_eq_false (hpost p hp)]; rfl]
  exact ⟨List.append_nil _, List.nil_append _⟩

structure SweepCand (upd : Mom α → Item α → Mom α) (m0 : Mom α) (all : List (Item α)) (c : α × Mom α) : Prop where
  acc : c.2 = (leftOf c.1 all).foldl upd m0
  mid : ∃ a b, a ∈ all ∧ b ∈ all ∧ a.v < b.v ∧ c.1 = half * (a.v + b.v)
  left_ne : leftOf c.1 all ≠ []
  right_ne : rightOf c.1 all ≠ []
  pfx : ∃ l1 l2, all = l1 ++ l2 ∧ l1 ≠ [] ∧ l2 ≠ [] ∧ c.2 = l1.foldl upd m0
  ne_thr : ∀ x ∈ all, x.v ≠ c.1

/-- soundness of the sweep (stump.cpp:137-159, hinge.cpp:201-245), for any accumulator update -/
theorem sweep_sound (upd : Mom α → Item α → Mom α) (m0 : Mom α) (pre : List (Item α)) :
    ∀ (post : List (Item α)), (pre ++ post).Pairwise (fun a b => a.v ≤ b.v) →
    ∀ c ∈ sweep upd (pre.foldl upd m0) post, SweepCand upd m0 (pre ++ post) c := by
  intro post
  induction post generalizing pre with
  | nil => intro _ c hc; exact absurd hc List.not_mem_nil
  | cons p1 rest ih =>
    intro hsorted c hc
    cases rest with
    | nil => exact absurd hc List.not_mem_nil
    | cons p2 rest =>
      have hneg : upd (pre.foldl upd m0) p1 = (pre ++ [p1]).foldl upd m0 := by
        rw [List.foldl_append]; rfl
      have hsplit : pre ++ p1 :: p2 :: rest = (pre ++ [p1]) ++ (p2 :: rest) := (List.append_cons pre p1 (p2 :: rest))
      have hsorted' : ((pre ++ [p1]) ++ (p2 :: rest)).Pairwise (fun a b => a.v ≤ b.v) := by
        rw [← hsplit]; exact hsorted
      have htail : ∀ c ∈ sweep upd ((pre ++ [p1]).foldl upd m0) (p2 :: rest),
          SweepCand upd m0 (pre ++ p1 :: p2 :: rest) c := by
        intro c hc'
        have := ih (pre ++ [p1]) hsorted' c hc'
        rw [← hsplit] at this
        exact this
      have hnew : p1.v < p2.v →
          SweepCand upd m0 (pre ++ p1 :: p2 :: rest) (half * (p1.v + p2.v), upd (pre.foldl upd m0) p1) := by
        intro hlt
        have hmid1 := lt_mid hlt
        have hmid2 := mid_lt hlt
        have hl : ∀ p ∈ pre ++ [p1], p.v < half * (p1.v + p2.v) := by
          intro p hp
          rcases List.mem_append.mp hp with hp | hp
          · have hle : p.v ≤ p1.v := (List.pairwise_append.mp hsorted).2.2 p hp p1 List.mem_cons_self
            exact lt_of_le_of_lt hle hmid1
          · rw [List.mem_singleton.mp hp]; exact hmid1
        have hr' : ∀ p ∈ p2 :: rest, half * (p1.v + p2.v) < p.v := by
          intro p hp
          have hge : p2.v ≤ p.v := by
            rcases List.mem_cons.mp hp with rfl | hp
            · exact le_refl _
            · have h1 := (List.pairwise_append.mp hsorted).2.1
              have h2 := (List.pairwise_cons.mp h1).2
              exact (List.pairwise_cons.mp h2).1 p hp
          exact lt_of_lt_of_le hmid2 hge
        have hr : ∀ p ∈ p2 :: rest, ¬ p.v < half * (p1.v + p2.v) :=
          fun p hp => not_lt.mpr (le_of_lt (hr' p hp))
        obtain ⟨hL, hR⟩ := leftOf_split (pre ++ [p1]) (p2 :: rest) _ hl hr
        refine ⟨?_, ⟨p1, p2, List.mem_append_right _ List.mem_cons_self,
          List.mem_append_right _ (List.mem_cons_of_mem _ List.mem_cons_self), hlt, rfl⟩, ?_, ?_,
          ⟨pre ++ [p1], p2 :: rest, hsplit, List.append_ne_nil_of_right_ne_nil _ (List.cons_ne_nil _ _), List.cons_ne_nil _ _, hneg⟩, ?_⟩
        · show upd (pre.foldl upd m0) p1 = _
          rw [hsplit, hL, hneg]
        · show leftOf _ _ ≠ []
          rw [hsplit, hL]; exact List.append_ne_nil_of_right_ne_nil _ (List.cons_ne_nil _ _)
        · show rightOf _ _ ≠ []
          rw [hsplit, hR]; exact List.cons_ne_nil _ _
        · intro x hx
          show x.v ≠ half * (p1.v + p2.v)
          rw [hsplit] at hx
          rcases List.mem_append.mp hx with hx | hx
          · exact ne_of_lt (hl x hx)
          · exact ne_of_gt (hr' x hx)
      simp only [sweep] at hc
      rw [hneg] at hc
      split at hc
      · rename_i hlt
        rcases List.mem_cons.mp hc with rfl | hc'
        · rw [← hneg]; exact hnew hlt
        · exact htail c hc'
      · exact htail c hc

theorem sweep_spec (upd : Mom α → Item α → Mom α) (m0 : Mom α) (sorted : List (Item α))
    (hs : sorted.Pairwise (fun a b => a.v ≤ b.v)) (c : α × Mom α) (hc : c ∈ sweep upd m0 sorted) :
    SweepCand upd m0 sorted c :=
  sweep_sound upd m0 [] sorted hs c hc

/-- the sweep never recomputes a sum -/
theorem running_moments_eq_prefix' (upd : Mom α → Item α → Mom α) (m0 : Mom α) (sorted : List (Item α))
    (hs : sorted.Pairwise (fun a b => a.v ≤ b.v)) (c : α × Mom α) (hc : c ∈ sweep upd m0 sorted) :
    ∃ l1 l2, sorted = l1 ++ l2 ∧ l1 ≠ [] ∧ l2 ≠ [] ∧ c.2 = l1.foldl upd m0 :=
  (sweep_spec upd m0 sorted hs c hc).pfx

/-- completeness: a threshold with items on both sides splits the sorted list like one of the candidates; that candidate
    is the mid-point of the largest value left of the threshold and the smallest value not left of it -/
theorem sweep_complete (upd : Mom α → Item α → Mom α) (t : α) :
    ∀ (l : List (Item α)) (neg : Mom α), l.Pairwise (fun a b => a.v ≤ b.v) →
    (∃ x ∈ l, x.v < t) → (∃ y ∈ l, ¬ y.v < t) →
    ∃ c ∈ sweep upd neg l, (∀ x ∈ l, (x.v < c.1 ↔ x.v < t)) ∧
      ∃ x y, x ∈ l ∧ y ∈ l ∧ c.1 = half * (x.v + y.v) ∧ x.v < t ∧ ¬ y.v < t ∧
        (∀ z ∈ l, z.v < t → z.v ≤ x.v) ∧ (∀ z ∈ l, ¬ z.v < t → y.v ≤ z.v) := by
  intro l
  induction l with
  | nil => intro _ _ h; obtain ⟨x, hx, _⟩ := h; simp at hx
  | cons a rest ih =>
    intro neg hs hx hy
    cases rest with
    | nil =>
      obtain ⟨x, hx, hxt⟩ := hx
      obtain ⟨y, hy, hyt⟩ := hy
      simp at hx hy; subst hx; subst hy; exact absurd hxt hyt
    | cons b rest =>
      have hab : ∀ z ∈ b :: rest, a.v ≤ z.v := (List.pairwise_cons.mp hs).1
      have hs' : (b :: rest).Pairwise (fun a b => a.v ≤ b.v) := (List.pairwise_cons.mp hs).2
      have hbz : ∀ z ∈ rest, b.v ≤ z.v := (List.pairwise_cons.mp hs').1
      have hat : a.v < t := by
        obtain ⟨x, hx, hxt⟩ := hx
        rcases List.mem_cons.mp hx with rfl | hx
        · exact hxt
        · exact lt_of_le_of_lt (hab x hx) hxt
      by_cases hbt : b.v < t
      · -- recurse
        have hy' : ∃ y ∈ b :: rest, ¬ y.v < t := by
          obtain ⟨y, hy, hyt⟩ := hy
          rcases List.mem_cons.mp hy with rfl | hy
          · exact absurd hat hyt
          · exact ⟨y, hy, hyt⟩
        obtain ⟨c, hc, hcs, x, y, hxm, hym, hcm, hxt, hyt, hxmax, hymin⟩ :=
          ih (upd neg a) hs' ⟨b, by simp, hbt⟩ hy'
        refine ⟨c, ?_, ?_, x, y, List.mem_cons_of_mem _ hxm, List.mem_cons_of_mem _ hym, hcm, hxt, hyt, ?_, ?_⟩
        · simp only [sweep]
          split
          · exact List.mem_cons_of_mem _ hc
          · exact hc
        · intro z hz
          rcases List.mem_cons.mp hz with rfl | hz
          · have hb : b.v < c.1 := (hcs b (by simp)).mpr hbt
            constructor
            · intro _; exact hat
            · intro _; exact lt_of_le_of_lt (hab b (by simp)) hb
          · exact hcs z hz
        · intro z hz hzt
          rcases List.mem_cons.mp hz with rfl | hz
          · exact le_trans (hab b (by simp)) (hxmax b (by simp) hbt)
          · exact hxmax z hz hzt
        · intro z hz hzt
          rcases List.mem_cons.mp hz with rfl | hz
          · exact absurd hat hzt
          · exact hymin z hz hzt
      · -- the candidate between a and b
        have hlt : a.v < b.v := lt_of_lt_of_le hat (not_lt.mp hbt)
        have hge : ∀ z ∈ b :: rest, b.v ≤ z.v := by
          intro z hz
          rcases List.mem_cons.mp hz with rfl | hz
          · exact le_refl _
          · exact hbz z hz
        refine ⟨(half * (a.v + b.v), upd neg a), ?_, ?_, a, b, by simp, by simp, rfl, hat, hbt, ?_, ?_⟩
        · simp only [sweep, hlt, if_true]; exact List.mem_cons_self
        · intro z hz
          rcases List.mem_cons.mp hz with rfl | hz
          · constructor
            · intro _; exact hat
            · intro _; exact lt_mid hlt
          · constructor
            · intro h; exact absurd (lt_of_le_of_lt (hge z hz) h) (not_lt.mpr (le_of_lt (mid_lt hlt)))
            · intro h; exact absurd (lt_of_le_of_lt (hge z hz) h) hbt
        · intro z hz hzt
          rcases List.mem_cons.mp hz with rfl | hz
          · exact le_refl _
          · exact absurd (lt_of_le_of_lt (hge z hz) hzt) hbt
        · intro z hz hzt
          rcases List.mem_cons.mp hz with rfl | hz
          · exact absurd hat hzt
          · exact hge z hz

end NanoVerif.WLearner
