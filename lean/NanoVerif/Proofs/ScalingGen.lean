import NanoVerif.Model.Scaling
import NanoVerif.Gen.ScalingGuards
/-!
  C14 — the hand-written text of `Model/Scaling.lean` IS the text regenerated from `src/dataset/stats.cpp`
  (`Gen/ScalingGuards.lean`, rewritten by `tools/props/c14_translate.py` on every check), for every scalar type with the core
  classes — `Float` (what the driver runs, what C09's iterator model builds on) and every ordered field (what the theorems are
  about). An edit of `::done`, `::update`, `scalar_stats_t::scale/upscale`, `::make_scaling`, `::nan2zero` or of the constructor's
  fill values changes the generated definitions and these theorems stop checking.

  No Mathlib import: the statements are definitional unfoldings plus case splits on the `if`s.
-/
namespace NanoVerif.Scaling
open NanoVerif.Gen

set_option linter.unusedSectionVars false

section
variable {α : Type} [Add α] [Sub α] [Mul α] [Div α] [Neg α] [LT α] [DecidableLT α] [NatCast α] [OfNat α 0] [OfNat α 1]

/-- the running sums of the model as one index of `scalar_stats_t` before `done` (`m_mean` holds Σx, `m_stdev` holds Σx²,
    the four (de)normalisers still have the constructor's 1.0) -/
def Acc.toCol (a : Acc α) : ScalingGuards.Col α := ⟨a.n, a.mn, a.mx, a.sum, a.sum2, 1, 1, 1, 1⟩

/-- the finalised statistics of the model as one index of `scalar_stats_t` -/
def Stats.toCol (s : Stats α) : ScalingGuards.Col α :=
  ⟨s.n, s.mn, s.mx, s.mean, s.sd, s.divRange, s.mulRange, s.divSd, s.mulSd⟩

def Stats.ofCol (c : ScalingGuards.Col α) : Stats α :=
  ⟨c.samples, c.min, c.max, c.mean, c.stdev, c.div_range, c.mul_range, c.div_stdev, c.mul_stdev⟩

/-- `Mode` ↔ the generated `enum class scaling_type` -/
def Mode.toGen : Mode → ScalingGuards.ScalingType
  | .none => .none
  | .mean => .mean
  | .minmax => .minmax
  | .standard => .standard

theorem Stats.ofCol_toCol (s : Stats α) : Stats.ofCol s.toCol = s := rfl

/-- `std::max` / `std::min` of the model are the generated ones -/
theorem model_cmax_is_generated (a b : α) : cmax a b = ScalingGuards.gmax a b ∧ cmin a b = ScalingGuards.gmin a b :=
  ⟨rfl, rfl⟩

/-- `Acc.init` = the constructor's fill values -/
theorem model_init_is_generated (hi lo : α) : (Acc.init hi lo).toCol = ScalingGuards.initColumn hi lo := rfl

/-- `Acc.push` = the body of `::update`: a value with `std::isfinite` is accumulated (`some v`), any other is skipped (`none`) -/
theorem model_push_is_generated (fin : α → Bool) (a : Acc α) (v : α) :
    (fin v = true → (a.push (some v)).toCol = ScalingGuards.updateColumn fin a.toCol v) ∧
    (fin v = false → (a.push none).toCol = ScalingGuards.updateColumn fin a.toCol v) := by
  constructor
  · intro h
    simp only [ScalingGuards.updateColumn, h, if_true]
    rfl
  · intro h
    simp only [ScalingGuards.updateColumn, h]
    rfl

/-- `finalize` = the body of the loop of `::done`, with `masked` = "the enable mask has a 0x00 at this index":
    the `N > 1` split, the four `std::max(…, epsilon)` guards, the `N == 0` reset and the mask reset are the source's -/
theorem model_finalize_is_generated [Sqrt α] (eps : α) (enabled : Bool) (a : Acc α) :
    finalize eps enabled a = Stats.ofCol (ScalingGuards.doneColumn Sqrt.sqrt eps (!enabled) a.toCol) := by
  -- in every branch both sides are the same record of the same nine expressions
  cases enabled <;> by_cases h1 : a.n > 1 <;> by_cases h0 : a.n = 0 <;>
    simp only [finalize, ScalingGuards.doneColumn, Bool.not_false, Bool.not_true, Bool.false_eq_true, if_true, if_false,
      h1, h0, Stats.ofCol, Acc.toCol] <;> rfl

theorem model_nan2zero_is_generated [FinTest α] (y : α) : nan2zero y = ScalingGuards.nan2zero FinTest.isFin y := by
  unfold nan2zero ScalingGuards.nan2zero
  cases FinTest.isFin y <;> rfl

/-- `scaleCell` on a present value = the `switch` of `scalar_stats_t::scale`, element-wise -/
theorem model_scale_is_generated [FinTest α] (m : Mode) (s : Stats α) (x : α) :
    scaleCell m s (some x) = ScalingGuards.scaleCell FinTest.isFin m.toGen s.toCol x := by
  cases m <;> simp only [scaleCell, ScalingGuards.scaleCell, Mode.toGen, model_nan2zero_is_generated] <;> rfl

/-- `upscaleCell` = the `switch` of `scalar_stats_t::upscale`, element-wise -/
theorem model_upscale_is_generated (m : Mode) (s : Stats α) (y : α) :
    upscaleCell m s y = ScalingGuards.upscaleCell m.toGen s.toCol y := by
  cases m <;> rfl

/-- `makeScaling` = the `switch` of `::make_scaling`, element-wise -/
theorem model_makeScaling_is_generated (m : Mode) (s : Stats α) :
    makeScaling m s = ScalingGuards.makeScaling m.toGen s.toCol := by
  cases m <;> rfl

end

end NanoVerif.Scaling
