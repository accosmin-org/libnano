import NanoVerif.Proofs.Stats
import NanoVerif.Proofs.CxxMoments
import NanoVerif.Model.StatsTyped
import Mathlib.Tactic.FieldSimp
import Mathlib.Data.Rat.Floor
/-!
  C20 — `ml::store_stats` / `ml::load_stats`: which "standard deviation" slot 1 holds, and the 12-slot round trip.

  `tensor::variance()` is the one-pass formula `Σx²/n − mean²`; it equals the two-pass POPULATION variance
  `Σ(x − mean)²/n`. `tensor::stdev()` is `sqrt(variance / (n − 1))` = `sqrt(s² / n)` with `s² = Σ(x − mean)²/(n − 1)` the
  sample variance: the STANDARD ERROR OF THE MEAN — neither the sample nor the population standard deviation
  (the doc comment of tensor.h says "sample standard deviation"; recorded in DESIGN.md §6 as an observation).
-/
namespace NanoVerif.Stats

variable {α : Type} [Field α] [LinearOrder α] [IsStrictOrderedRing α] [FloorRing α]

set_option linter.unusedSectionVars false
theorem sum_sq_dev (xs : List α) (m : α) :
    (xs.map (fun x => (x - m) * (x - m))).sum =
      (xs.map (fun x => x * x)).sum - 2 * m * xs.sum + (xs.length : α) * (m * m) :=
  Cxx.sum_sq_dev xs m

/-- **the variance `store_stats` relies on is the two-pass population variance** `Σ(x − mean)² / n` (for `n > 1`;
    the code returns 0 for `n ≤ 1`) -/
theorem tvariance_two_pass (vs : List α) (hn : 1 < vs.length) :
    tvariance vs = (vs.map (fun x => (x - vs.sum / (vs.length : α)) * (x - vs.sum / (vs.length : α)))).sum / (vs.length : α) := by
  have hn0 : (vs.length : α) ≠ 0 := Nat.cast_ne_zero.mpr (Nat.ne_of_gt (Nat.zero_lt_of_lt hn))
  unfold tvariance tmean
  rw [if_pos hn, ← List.sum_eq_foldl, ← List.sum_eq_foldl, sum_sq_dev]
  show (vs.map (fun v => v * v)).sum / (vs.length : α) - vs.sum / (vs.length : α) * (vs.sum / (vs.length : α)) = _
  field_simp
  ring

/-- **slot 1 of `store_stats`**: `stdev = sqrt(s² / n)` with `s² = Σ(x − mean)² / (n − 1)` the sample variance — the
    standard error of the mean (for `n > 1`) -/
theorem tstdev_is_standard_error [HasSqrt α] (vs : List α) (hn : 1 < vs.length) :
    tstdev vs = HasSqrt.sqrt
      ((vs.map (fun x => (x - vs.sum / (vs.length : α)) * (x - vs.sum / (vs.length : α)))).sum / ((vs.length : α) - 1)
        / (vs.length : α)) := by
  unfold tstdev
  rw [if_pos hn, tvariance_two_pass vs hn]
  congr 1
  show _ / (vs.length : α) / ((vs.length : α) - 1) = _
  rw [div_right_comm]

/-- one value (or none): variance and "stdev" are 0 by the guard `size() > 1` -/
theorem tstdev_small [HasSqrt α] (vs : List α) (hn : vs.length ≤ 1) : tvariance vs = 0 ∧ tstdev vs = 0 := by
  unfold tstdev tvariance
  rw [if_neg (by omega), if_neg (by omega)]
  exact ⟨rfl, rfl⟩

/-- the radicand for the two values 0, 2: the code takes the root of 1, the sample variance is 2, the population
    variance 1 — the reported number is `sqrt 1`, the sample standard deviation would be `sqrt 2` -/
theorem stdev_radicand_witness :
    tvariance ([0, 2] : List ℚ) / ((2 : ℚ) - 1) = 1 ∧
    (([0, 2] : List ℚ).map (fun x => (x - 1) * (x - 1))).sum / (2 - 1) = 2 := by
  constructor
  · norm_num [tvariance, tmean, FloorI.ofNat]
  · norm_num

/-- the generated tables agree: the NAMES of the fields `m_perNN` announce the percentages `store_stats` computes, in
    the same order; `load_stats` reads the slots in declaration order and asserts the size `store_stats` writes -/
theorem stats_fields_match :
    Gen.Stats.statsFieldPercents = Gen.Stats.storeStatsPercentiles ∧
    Gen.Stats.loadStatsOrder = List.range Gen.Stats.storeStatsSlots ∧
    Gen.Stats.loadStatsSize = Gen.Stats.storeStatsSlots ∧
    Gen.Stats.statsFields.length = Gen.Stats.storeStatsSlots ∧
    Gen.Stats.storeStatsPercentiles.length + 3 = Gen.Stats.storeStatsSlots := by decide

theorem tmean_eq (vs : List α) : tmean vs = vs.sum / (vs.length : α) := by
  unfold tmean; rw [← List.sum_eq_foldl]; rfl

end NanoVerif.Stats
