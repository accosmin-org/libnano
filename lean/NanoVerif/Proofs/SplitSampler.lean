import NanoVerif.Model.SplitSampler
import Mathlib.Algebra.Order.Field.Basic
import Mathlib.Algebra.BigOperators.Group.List.Basic
import Mathlib.Algebra.Order.BigOperators.Group.List
import Mathlib.Data.List.Sort
import Mathlib.Tactic.Ring
import Mathlib.Tactic.Linarith
import Mathlib.Tactic.FieldSimp
/-!
  C12 — lemmas about `Model/SplitSampler.lean`.

  The generator `minstd_rand`, `generate_canonical` and libstdc++'s `discrete_distribution`: the generator never leaves `[1, m)`,
  the canonical draw is in `(0, 1)`, `std::lower_bound` as coded returns the first position that is not less on a partitioned
  range, and — in exact arithmetic — the position drawn from non-negative weights with a positive sum has a POSITIVE weight
  (`ddDraw_positive`, `ddDrawG_positive`: the contract of the distribution is a theorem about the model of the code, not a
  hypothesis).

  The contracts of the remaining oracles (`StdLib.Ok`, `StdLib.CanonOk`, `Num.Ok`), consecutive draws with a threaded generator,
  uniqueness of the sorted arrangement, the sampler and splitter objects.
-/
namespace NanoVerif.Split

/-! ### `minstd_rand` -/

theorem lcgSeed_range (seed : Nat) : 1 ≤ lcgSeed seed ∧ lcgSeed seed < lcgM := by
  unfold lcgSeed
  split
  · decide
  · rename_i h
    exact ⟨Nat.pos_of_ne_zero h, Nat.mod_lt _ (by decide)⟩

theorem lcg_coprime : Nat.Coprime lcgA lcgM := by
  unfold Nat.Coprime lcgA lcgM; decide +kernel

/-- the state never becomes 0 (the multiplier is coprime to the modulus) and stays below the modulus -/
theorem lcgNext_range (x : Nat) (h1 : 1 ≤ x) (h2 : x < lcgM) : 1 ≤ lcgNext x ∧ lcgNext x < lcgM := by
  refine ⟨Nat.pos_of_ne_zero fun h => ?_, Nat.mod_lt _ (by decide)⟩
  have hx : lcgM ∣ x := lcg_coprime.symm.dvd_of_dvd_mul_left (Nat.dvd_of_mod_eq_zero h)
  exact absurd (Nat.le_of_dvd h1 hx) (Nat.not_le.mpr h2)

/-- the canonical draw is never 0: two consecutive outputs of the generator cannot both be its minimum 1 -/
theorem canonNum_pos (x : Nat) (h1 : 1 ≤ x) (h2 : x < lcgM) : 0 < canonNum x := by
  unfold canonNum
  obtain ⟨a1, a2⟩ := lcgNext_range x h1 h2
  by_cases h : lcgNext x = 1
  · rw [h]
    decide
  · omega

theorem two_digits_lt {a b R : Nat} (ha : a < R) (hb : b < R) : a + b * R < R * R :=
  calc a + b * R < R + b * R := Nat.add_lt_add_right ha _
    _ = (b + 1) * R := by rw [Nat.add_mul, Nat.one_mul, Nat.add_comm]
    _ ≤ R * R := Nat.mul_le_mul_right R hb

theorem canonNum_lt (x : Nat) (h1 : 1 ≤ x) (h2 : x < lcgM) : canonNum x < lcgRange * lcgRange := by
  obtain ⟨a1, a2⟩ := lcgNext_range x h1 h2
  obtain ⟨b1, b2⟩ := lcgNext_range _ a1 a2
  have hR : lcgRange = lcgM - 1 := rfl
  exact two_digits_lt (by omega) (by omega)

/-! ### `std::lower_bound` as coded -/

theorem lbGo_len_zero (lt : Nat → Bool) (fuel first : Nat) : lbGo lt fuel first 0 = first := by
  cases fuel <;> simp [lbGo]

theorem lbGo_boundary (lt : Nat → Bool) : ∀ (fuel first len : Nat), len ≤ fuel →
    first ≤ lbGo lt fuel first len ∧ lbGo lt fuel first len ≤ first + len ∧
    (∀ i, first ≤ i → i + 1 = lbGo lt fuel first len → lt i = true) ∧
    (lbGo lt fuel first len < first + len → lt (lbGo lt fuel first len) = false)
  | fuel, first, 0, _ => by
    rw [lbGo_len_zero]
    exact ⟨Nat.le_refl _, Nat.le_refl _, fun i hi h => by omega, fun h => by omega⟩
  | fuel + 1, first, len + 1, hf => by
    simp only [lbGo, if_neg (Nat.succ_ne_zero len)]
    have hhalf : (len + 1) / 2 ≤ len := Nat.le_of_lt_succ (Nat.div_lt_self (Nat.succ_pos len) (by decide))
    generalize (len + 1) / 2 = half at hhalf ⊢
    cases hm : lt (first + half)
    · obtain ⟨a, b, c, d⟩ := lbGo_boundary lt fuel first half (by omega)
      simp only [Bool.false_eq_true, if_false]
      refine ⟨a, by omega, c, fun _ => ?_⟩
      rcases Nat.lt_or_ge (lbGo lt fuel first half) (first + half) with h | h
      · exact d h
      · rw [Nat.le_antisymm b h]; exact hm
    · obtain ⟨a, b, c, d⟩ := lbGo_boundary lt fuel (first + half + 1) (len + 1 - half - 1) (by omega)
      simp only [if_true]
      refine ⟨by omega, by omega, fun i _ hi => ?_, fun h => d (by omega)⟩
      rcases Nat.lt_or_ge i (first + half + 1) with h | h
      · obtain rfl : i = first + half := by omega
        exact hm
      · exact c i h hi

/-- On a range partitioned by `· < u` (`lt` downward closed) `std::lower_bound` returns the first position that is not less:
    everything before it is less, it is not (when it is a position at all). -/
theorem lowerBound_spec (lt : Nat → Bool) (n : Nat) (hdown : ∀ i j, i ≤ j → j < n → lt j = true → lt i = true) :
    lowerBound lt n ≤ n ∧ (∀ i, i < lowerBound lt n → lt i = true) ∧ (lowerBound lt n < n → lt (lowerBound lt n) = false) := by
  obtain ⟨-, b, c, d⟩ := lbGo_boundary lt n 0 n (Nat.le_refl _)
  rw [Nat.zero_add] at b d
  refine ⟨b, fun i hi => ?_, d⟩
  obtain ⟨k, hk⟩ : ∃ k, k + 1 = lowerBound lt n := ⟨lowerBound lt n - 1, by omega⟩
  exact hdown i k (by omega) (by unfold lowerBound at hk; omega) (c k (Nat.zero_le _) hk)

/-- when no comparison succeeds (a table of NaNs closed by 1: all-zero or NaN weights) the answer is position 0 -/
theorem lowerBound_all_false (lt : Nat → Bool) (n : Nat) (h : ∀ i, i < n → lt i = false) : lowerBound lt n = 0 := by
  obtain ⟨h1, h2, _⟩ := lowerBound_spec lt n (by intro i j _ hj hlt; rw [h j hj] at hlt; cases hlt)
  by_contra hne
  have h0 := h2 0 (Nat.pos_of_ne_zero hne)
  rw [h 0 (by omega)] at h0
  cases h0

/-! ### the table of cumulative probabilities -/

theorem setLast_length {α : Type} (l : List α) (v : α) : (setLast l v).length = l.length := by
  induction l with
  | nil => rfl
  | cons x xs ih =>
    cases xs with
    | nil => rfl
    | cons y ys => simp only [setLast, List.length_cons] at ih ⊢; omega

theorem setLast_get {α : Type} (l : List α) (v : α) (i : Nat) (hi : i < l.length) :
    (setLast l v)[i]? = if i + 1 = l.length then some v else l[i]? := by
  induction l generalizing i with
  | nil => simp at hi
  | cons x xs ih =>
    cases xs with
    | nil =>
      obtain rfl : i = 0 := Nat.lt_one_iff.mp hi
      rfl
    | cons y ys =>
      cases i with
      | zero => simp [setLast]
      | succ i =>
        simp only [setLast, List.getElem?_cons_succ, ih i (Nat.succ_lt_succ_iff.mp hi), List.length_cons,
          Nat.add_right_cancel_iff]

section field
variable {α : Type} [Field α]

theorem accum_eq_sum (w : List α) : accum w = w.sum := by
  unfold accum
  rw [List.sum_eq_foldl]

theorem psGo_length (acc : α) (l : List α) : (psGo acc l).length = l.length := by
  induction l generalizing acc with
  | nil => rfl
  | cons x xs ih => simp [psGo, ih]

theorem psGo_get (acc : α) (l : List α) (i : Nat) (hi : i < l.length) :
    (psGo acc l)[i]? = some (acc + (l.take (i + 1)).sum) := by
  induction l generalizing acc i with
  | nil => simp at hi
  | cons x xs ih =>
    cases i with
    | zero =>
      simp only [psGo, List.getElem?_cons_zero, List.take_succ_cons, List.take_zero, List.sum_cons, List.sum_nil, add_zero]
    | succ i =>
      simp only [psGo, List.getElem?_cons_succ, ih (acc + x) i (Nat.succ_lt_succ_iff.mp hi), List.take_succ_cons,
        List.sum_cons]
      rw [add_assoc]

/-- `std::partial_sum` starts from the first element, not from 0: the same thing in a field -/
theorem partialSums_eq_psGo (l : List α) : partialSums l = psGo 0 l := by
  cases l <;> simp [partialSums, psGo]

theorem partialSums_length (l : List α) : (partialSums l).length = l.length := by
  rw [partialSums_eq_psGo, psGo_length]

theorem partialSums_get (l : List α) (i : Nat) (hi : i < l.length) :
    (partialSums l)[i]? = some ((l.take (i + 1)).sum) := by
  rw [partialSums_eq_psGo, psGo_get 0 l i hi, zero_add]

theorem sum_normalize (l : List α) (s : α) : (normalize l s).sum = l.sum / s := by
  unfold normalize
  induction l with
  | nil => simp
  | cons x xs ih => simp [ih, add_div]

theorem take_normalize (l : List α) (s : α) (k : Nat) : (normalize l s).take k = normalize (l.take k) s := by
  unfold normalize; rw [List.map_take]

theorem ddCp_length (w : List α) (hn : 2 ≤ w.length) : (ddCp w).length = w.length := by
  unfold ddCp
  rw [if_neg (by omega), setLast_length, partialSums_length]
  simp [normalize]

theorem ddCp_short (w : List α) (hn : w.length < 2) : ddCp w = [] := by
  unfold ddCp; rw [if_pos hn]

variable [LinearOrder α] [IsStrictOrderedRing α]

def prefixSum (w : List α) (i : Nat) : α := (w.take (i + 1)).sum

set_option linter.unusedSectionVars false
theorem ddCp_get (w : List α) (hn : 2 ≤ w.length) (i : Nat) (hi : i < w.length) :
    (ddCp w)[i]? = some (if i + 1 = w.length then 1 else prefixSum w i / w.sum) := by
  unfold ddCp
  rw [if_neg (by omega)]
  have hl : (partialSums (normalize w (accum w))).length = w.length := by
    rw [partialSums_length]; simp [normalize]
  rw [setLast_get _ _ i (by rw [hl]; exact hi), hl]
  split
  · rfl
  · rw [partialSums_get _ i (by simpa [normalize] using hi), take_normalize, sum_normalize, accum_eq_sum]
    rfl

/-- with a sum that is not 0 the last entry, forced to 1, is what the partial sum gives anyway: every entry is `Aᵢ / S` -/
theorem ddCp_getD (w : List α) (hn : 2 ≤ w.length) (hS : w.sum ≠ 0) (i : Nat) (hi : i < w.length) :
    (ddCp w).toArray.getD i 0 = (w.take (i + 1)).sum / w.sum := by
  simp only [Array.getD_eq_getD_getElem?, List.getElem?_toArray, ddCp_get w hn i hi, Option.getD_some, prefixSum]
  split
  · rename_i h
    rw [h, List.take_length, div_self hS]
  · rfl

/-- The weight at the position drawn is positive as soon as the SUM of the weights is: the bisection stops on a boundary of
    the comparison `cp[i] < u` whatever the table looks like (`lbGo_boundary`), there `A_{r-1} / S < u ≤ A_r / S`, and the
    difference of the two is the weight. No sign condition on the single weights is needed. -/
theorem ddDraw_positive_of_sum_pos (w : List α) (u : α) (hn : 2 ≤ w.length) (hS : 0 < w.sum)
    (hu0 : 0 < u) (hu1 : u ≤ 1) :
    ∃ (h : ddDraw (ddCp w).toArray u < w.length), 0 < w[ddDraw (ddCp w).toArray u] := by
  have hval := ddCp_getD w hn hS.ne'
  -- the bisection stops on a boundary of the comparison `cp[i] < u`, whether or not the table is monotone
  obtain ⟨-, h1, h2, h3⟩ :=
    lbGo_boundary (fun i => decide ((ddCp w).toArray.getD i 0 < u)) w.length 0 w.length (Nat.le_refl _)
  unfold ddDraw lowerBound
  rw [List.size_toArray, ddCp_length w hn]
  generalize lbGo _ w.length 0 w.length = r at h1 h2 h3 ⊢
  rw [Nat.zero_add] at h1 h3
  simp only [decide_eq_true_eq, decide_eq_false_iff_not, not_lt] at h2 h3
  -- the last entry is `S / S = 1 ≥ u`: the answer is a position
  have hrlt : r < w.length := by
    refine Nat.lt_of_le_of_ne h1 fun hr => ?_
    have := h2 (w.length - 1) (Nat.zero_le _) (by omega)
    rw [hval _ (by omega), Nat.sub_add_cancel (by omega), List.take_length, div_self hS.ne'] at this
    exact absurd this (not_lt.mpr hu1)
  refine ⟨hrlt, ?_⟩
  -- `A_{r-1} / S < u ≤ A_r / S`, with `A_{-1} = 0`
  have hlo : (w.take r).sum / w.sum < u := by
    cases r with
    | zero => rw [List.take_zero, List.sum_nil, zero_div]; exact hu0
    | succ k => rw [← hval k (by omega)]; exact h2 k (Nat.zero_le _) rfl
  have hhi : u ≤ (w.take (r + 1)).sum / w.sum := hval r hrlt ▸ h3 hrlt
  have := (div_lt_div_iff_of_pos_right hS).mp (hlo.trans_le hhi)
  rwa [List.sum_take_succ w r hrlt, lt_add_iff_pos_right] at this

/-- **The contract of `std::discrete_distribution`, proved for the model of the libstdc++ code in exact arithmetic.**
    Non-negative weights (at least two) with a positive sum and a canonical draw `0 < u ≤ 1`: the position returned is a
    position of the weight vector and its weight is positive. -/
theorem ddDraw_positive (w : List α) (u : α) (hn : 2 ≤ w.length) (hw : ∀ x ∈ w, 0 ≤ x) (hS : 0 < w.sum)
    (hu0 : 0 < u) (hu1 : u ≤ 1) :
    ∃ (h : ddDraw (ddCp w).toArray u < w.length), 0 < w[ddDraw (ddCp w).toArray u] := by
  clear hw
  exact ddDraw_positive_of_sum_pos w u hn hS hu0 hu1

end field

/-! ### contracts of the oracles -/

/-- `std::shuffle` returns a permutation, `uniform_int_distribution(0, hi)` a value in `[0, hi]` — whatever the generator -/
structure StdLib.Ok {G α : Type} (L : StdLib G α) : Prop where
  shuffle_perm : ∀ g l, (L.shuffle g l).1.Perm l
  uniform_le : ∀ g hi, (L.uniform g hi).1 ≤ hi

/-- `generate_canonical` returns a value in `(0, 1]` (`canonNum_pos`, `canonNum_lt` for `minstd_rand`: in fact in `(0, 1)`) -/
def StdLib.CanonOk {G α : Type} [LT α] [LE α] [OfNat α 0] [OfNat α 1] (L : StdLib G α) : Prop :=
  ∀ g, 0 < (L.canon g).1 ∧ (L.canon g).1 ≤ 1

/-- conversions: a count is non-negative as a scalar; truncating a scalar that is at most the integer `n` gives at most `n`;
    a 2-norm is non-negative -/
structure Num.Ok {α : Type} [LE α] [OfNat α 0] (N : Num α) : Prop where
  ofNat_nonneg : ∀ n, 0 ≤ N.ofNat n
  trunc_le : ∀ x n, x ≤ N.ofNat n → N.trunc x ≤ n
  norm2_nonneg : ∀ l, 0 ≤ N.norm2 l

/-! ### consecutive draws -/

theorem drawsG_length {G : Type} (draw : G → Nat × G) : ∀ (k : Nat) (g : G), (drawsG draw k g).1.length = k
  | 0, _ => rfl
  | k + 1, g => by simp [drawsG, drawsG_length draw k]

theorem drawsG_forall {G : Type} (draw : G → Nat × G) (P : Nat → Prop) (h : ∀ g, P (draw g).1) :
    ∀ (k : Nat) (g : G), ∀ d ∈ (drawsG draw k g).1, P d
  | 0, _ => by simp [drawsG]
  | k + 1, g => by
    intro d hd
    simp only [drawsG, List.mem_cons] at hd
    rcases hd with rfl | hd
    · exact h g
    · exact drawsG_forall draw P h k _ d hd

theorem drawsG_const {G : Type} (draw : G → Nat × G) (c : Nat) (h : ∀ g, (draw g).1 = c) (k : Nat) (g : G) :
    (drawsG draw k g).1 = List.replicate k c :=
  List.eq_replicate_iff.mpr ⟨drawsG_length draw k g, drawsG_forall draw (· = c) h k g⟩

/-- **The contract of `std::discrete_distribution` for any number of weights**: `ddDraw_positive` for two or more; a single
    weight has no table, the draw is position 0 and its weight is the positive sum. -/
theorem ddDrawG_positive {G α : Type} [Field α] [LinearOrder α] [IsStrictOrderedRing α] (L : StdLib G α) (hc : L.CanonOk)
    (weights : List α) (hw : ∀ x ∈ weights, 0 ≤ x) (hS : 0 < weights.sum) (g : G) :
    ∃ w, weights[(ddDrawG L (ddCp weights).toArray g).1]? = some w ∧ 0 < w := by
  unfold ddDrawG
  by_cases hn : 2 ≤ weights.length
  · obtain ⟨h1, h2⟩ := ddDraw_positive weights (L.canon g).1 hn hw hS (hc g).1 (hc g).2
    rw [if_neg (by rw [List.size_toArray, ddCp_length weights hn]; omega)]
    exact ⟨_, List.getElem?_eq_getElem h1, h2⟩
  · rw [ddCp_short weights (by omega), if_pos (show (#[] : Array α).size = 0 from rfl)]
    match weights, hn, hS with
    | [], _, hS => simp at hS
    | [w0], _, hS => exact ⟨w0, rfl, by simpa using hS⟩
    | _ :: _ :: _, hn, _ => simp at hn

/-! ### the sampler object -/

theorem Sampler.sample_fst {G α : Type} [Mul α] [Add α] [Div α] [LT α] [DecidableLT α] [OfNat α 0] [OfNat α 1]
    (N : Num α) (L : StdLib G α) (sort : List Int → List Int) (s : Sampler G α) (loss : Int → α) (grad : Int → List α) :
    ∃ draws, (s.sample N L sort loss grad).1 =
      gboostSample sort s.mode s.samples (s.count N) (L.shuffle s.rng s.samples).1 draws := by
  obtain ⟨samples, mode, rng, ratio, weights⟩ := s
  cases mode
  exacts [⟨[], rfl⟩, ⟨[], rfl⟩, ⟨_, rfl⟩, ⟨_, rfl⟩, ⟨_, rfl⟩]

/-! ### sorting -/

theorem sorted_perm_unique {a b : List Int} (hp : a.Perm b) (ha : a.Pairwise (· ≤ ·)) (hb : b.Pairwise (· ≤ ·)) : a = b :=
  List.Perm.eq_of_pairwise (fun _ _ _ _ h1 h2 => Int.le_antisymm h1 h2) ha hb hp

theorem SortSpec.eq_of_perm {s1 s2} (h1 : SortSpec s1) (h2 : SortSpec s2) {a b : List Int} (h : a.Perm b) : s1 a = s2 b :=
  sorted_perm_unique ((h1.perm a).trans (h.trans (h2.perm b).symm)) (h1.sorted a) (h2.sorted b)

theorem SortSpec.replicate {sort} (hs : SortSpec sort) (k : Nat) (x : Int) : sort (List.replicate k x) = List.replicate k x :=
  sorted_perm_unique (hs.perm _) (hs.sorted _) (by simp [List.pairwise_replicate])

theorem pick_replicate_zero (samples : List Int) (x : Int) (h : samples[0]? = some x) :
    ∀ k, pick samples (List.replicate k 0) = some (List.replicate k x)
  | 0 => rfl
  | k + 1 => by simp [List.replicate_succ, pick, h, pick_replicate_zero samples x h k]

/-! ### splitter objects -/

def Splitter.Ok (s : Splitter) : Prop := paramsOk s.folds s.seed = true ∧ trainPerOk s.trainPer = true

theorem Splitter.ok_iff (s : Splitter) : s.Ok ↔
    Gen.Splitter.foldsMin ≤ s.folds ∧ s.folds ≤ Gen.Splitter.foldsMax ∧ Gen.Splitter.seedMin ≤ s.seed ∧
    s.seed ≤ Gen.Splitter.seedMax ∧ Gen.Splitter.trainPerMin ≤ s.trainPer ∧ s.trainPer ≤ Gen.Splitter.trainPerMax := by
  simp only [Splitter.Ok, paramsOk, trainPerOk, Bool.and_eq_true, decide_eq_true_eq, and_assoc]

theorem toNat_mem_domain {lo hi : Nat} {v : Int} (h : Int.ofNat lo ≤ v ∧ v ≤ Int.ofNat hi) : lo ≤ v.toNat ∧ v.toNat ≤ hi := by
  simp only [Int.ofNat_eq_natCast] at h
  omega

theorem Splitter.fresh_ok (k : Kind) : (Splitter.fresh k).Ok := by
  cases k <;> exact ⟨by decide, by decide⟩

/-- `split` is const: the objects stay, whether or not the slot holds one -/
theorem hStep_split_snd {G : Type} (seedRng : Nat → G) (shuffle : G → List Int → List Int × G) (sort : List Int → List Int)
    (objs : List Splitter) (slot : Nat) (samples : List Int) :
    (hStep seedRng shuffle sort objs (.split slot samples)).2 = objs := by
  simp only [hStep]
  split <;> rfl

end NanoVerif.Split
