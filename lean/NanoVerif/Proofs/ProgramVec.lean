import NanoVerif.Model.Program
import NanoVerif.Proofs.ListVec
import NanoVerif.Proofs.CxxOrder
/-!
  C04 — list-vector algebra for `Model/Program.lean` over an arbitrary linear ordered field (exact arithmetic): the
  operations of the model are those of `Proofs/ListVec.lean` (`dot_eq`, `mv_eq`, `tmv_eq`; `vadd`, `vsub`, `axpy` are
  `List.zipWith`, `smul`, `vneg`, `vdivs` are `List.map` of linear functions), and bilinearity of `dot`, linearity of `mv`,
  the adjoint identity `(Aᵀu)·d = u·(A d)` and Cauchy–Schwarz are taken from there; Hölder on lists.
-/
set_option linter.unusedSectionVars false

namespace NanoVerif.Program
variable {α : Type} [Field α] [LinearOrder α] [IsStrictOrderedRing α]

/-! ### `std::max` / `std::min` -/

theorem cmax_eq_max (a b : α) : cmax a b = max a b := Cxx.ite_max a b

theorem cmin_eq_min (a b : α) : cmin a b = min a b := Cxx.ite_min a b

/-- for the folds of `cmax`: they are running maxima (`Cxx.foldl_max_*`) -/
theorem cmax_eq : (cmax : α → α → α) = max := funext₂ Cxx.ite_max

theorem cmax3_lt_iff (a b c e : α) : cmax3 a b c < e ↔ a < e ∧ b < e ∧ c < e := by
  unfold cmax3
  rw [cmax_eq_max, cmax_eq_max, max_lt_iff, max_lt_iff, and_assoc]

theorem le_cmax3_first (a b c : α) : a ≤ cmax3 a b c := by
  unfold cmax3
  rw [cmax_eq_max, cmax_eq_max]
  exact le_trans (le_max_left _ _) (le_max_left _ _)

/-! ### the operations of `Proofs/ListVec.lean` -/

theorem dot_eq : (dot : List α → List α → α) = ListVec.dot := by
  funext a
  induction a with
  | nil => exact funext fun _ => rfl
  | cons x a ih => exact funext fun | [] => rfl | y :: b => congrArg (x * y + ·) (congrFun ih b)

theorem mv_eq (A : List (List α)) (x : List α) : mv A x = ListVec.mv A x := by
  rw [mv, dot_eq]; rfl

theorem axpy_eq (c : α) : ∀ (x y : List α), axpy c x y = List.zipWith (fun a b => c * a + b) x y
  | [], _ => rfl
  | _ :: _, [] => rfl
  | _ :: x, _ :: y => congrArg (List.cons _) (axpy_eq c x y)

theorem tmv_eq (n : Nat) : ∀ (A : List (List α)) (u : List α), tmv n A u = ListVec.tmv n A u
  | [], _ => rfl
  | _ :: _, [] => rfl
  | r :: A, u :: us => by rw [tmv, axpy_eq, tmv_eq n A us]; rfl

/-! ### lengths -/

@[simp] theorem vadd_length (x y : List α) : (vadd x y).length = min x.length y.length := by simp [vadd]
@[simp] theorem vsub_length (x y : List α) : (vsub x y).length = min x.length y.length := by simp [vsub]
@[simp] theorem smul_length (s : α) (x : List α) : (smul s x).length = x.length := by simp [smul]
@[simp] theorem vdivs_length (x : List α) (d : α) : (vdivs x d).length = x.length := by simp [vdivs]
@[simp] theorem vneg_length (a : List α) : (vneg a).length = a.length := by simp [vneg]
@[simp] theorem mv_length (A : List (List α)) (x : List α) : (mv A x).length = A.length := by simp [mv]
@[simp] theorem zeros_length (n : Nat) : (zeros n : List α).length = n := by simp [zeros]

theorem move_length (x d : List α) (s : α) (h : x.length = d.length) : (move x s d).length = x.length := by
  simp [move, h]

theorem axpy_length (c : α) (x y : List α) (h : x.length = y.length) : (axpy c x y).length = y.length := by
  rw [axpy_eq, ListVec.length_zipWith_of_eq _ h]

theorem tmv_length (n : Nat) (A : List (List α)) (u : List α) (h : ∀ r ∈ A, r.length = n) : (tmv n A u).length = n := by
  rw [tmv_eq]; exact ListVec.tmv_length n A u h

/-! ### `dot` -/

@[simp] theorem dot_nil_left (x : List α) : dot ([] : List α) x = 0 := rfl
@[simp] theorem dot_nil_right (x : List α) : dot x ([] : List α) = 0 := by rw [dot_eq]; exact ListVec.dot_nil_right x
@[simp] theorem dot_cons (a b : α) (x y : List α) : dot (a :: x) (b :: y) = a * b + dot x y := rfl

theorem dot_comm (x y : List α) : dot x y = dot y x := by
  rw [dot_eq]; exact ListVec.dot_comm x y

theorem dot_zeros (n : Nat) (d : List α) : dot (zeros n : List α) d = 0 := by
  rw [dot_eq]; exact ListVec.dot_replicate_zero_left n d

theorem dot_smul_left (s : α) (r x : List α) : dot (smul s r) x = s * dot r x := by
  rw [dot_eq]; exact ListVec.dot_map_left s (fun _ => rfl) r x

theorem dot_vadd_left (a b c : List α) (h : a.length = b.length) : dot (vadd a b) c = dot a c + dot b c := by
  rw [dot_eq, vadd, ListVec.dot_zipWith_left 1 1 (fun _ _ => by rw [one_mul, one_mul]) c h, one_mul, one_mul]

theorem dot_smul_right (s : α) (x r : List α) : dot x (smul s r) = s * dot x r := by
  rw [dot_comm, dot_smul_left, dot_comm]

theorem dot_vadd_right (c a b : List α) (h : a.length = b.length) : dot c (vadd a b) = dot c a + dot c b := by
  rw [dot_comm, dot_vadd_left a b c h, dot_comm a, dot_comm b]

theorem dot_vneg_left (a b : List α) : dot (vneg a) b = -dot a b := by
  rw [dot_eq, vneg, ListVec.dot_map_left (-1) (fun x => (neg_one_mul x).symm), neg_one_mul]

theorem dot_vdivs_left (d : α) (r x : List α) : dot (vdivs r d) x = dot r x / d := by
  rw [dot_eq, vdivs, ListVec.dot_map_left d⁻¹ (fun a => div_eq_inv_mul a d), div_eq_inv_mul]

theorem dot_vdivs_right (d : α) (x r : List α) : dot x (vdivs r d) = dot x r / d := by
  rw [dot_comm, dot_vdivs_left, dot_comm]

theorem dot_vsub_left (a b c : List α) (h : a.length = b.length) : dot (vsub a b) c = dot a c - dot b c := by
  rw [dot_eq, vsub, ListVec.dot_zipWith_left 1 (-1) (fun _ _ => by ring) c h]; ring

theorem dot_vsub_right (c a b : List α) (h : a.length = b.length) : dot c (vsub a b) = dot c a - dot c b := by
  rw [dot_comm, dot_vsub_left a b c h, dot_comm a, dot_comm b]

theorem dot_move_left (a b d : List α) (s : α) (h : a.length = b.length) :
    dot (move a s b) d = dot a d + s * dot b d := by
  unfold move
  rw [dot_vadd_left _ _ _ (by rw [smul_length, h]), dot_smul_left]

theorem dot_move (r x d : List α) (s : α) (h : x.length = d.length) :
    dot r (move x s d) = dot r x + s * dot r d := by
  rw [dot_comm, dot_move_left x d r s h, dot_comm x, dot_comm d]

theorem dot_axpy_left (c : α) (x y r : List α) (h : x.length = y.length) :
    dot (axpy c x y) r = c * dot x r + dot y r := by
  rw [dot_eq, axpy_eq, ListVec.dot_zipWith_left c 1 (fun _ _ => by rw [one_mul]) r h, one_mul]

theorem dot_append (a b c d : List α) (h : a.length = c.length) : dot (a ++ b) (c ++ d) = dot a c + dot b d := by
  rw [dot_eq]; exact ListVec.dot_append b d h

theorem eq_of_dot_eq (n : Nat) (a b : List α) (ha : a.length = n) (hb : b.length = n)
    (h : ∀ d : List α, d.length = n → dot a d = dot b d) : a = b :=
  ListVec.eq_of_dot_eq n a b ha hb (dot_eq (α := α) ▸ h)

/-! ### `mv`, `tmv` -/

theorem mv_vsub (A : List (List α)) (x y : List α) (h : x.length = y.length) :
    mv A (vsub x y) = vsub (mv A x) (mv A y) := by
  simp only [mv_eq]
  exact ListVec.mv_zipWith 1 (-1) (fun _ _ => by ring) A h

theorem mv_move (A : List (List α)) (x d : List α) (s : α) (h : x.length = d.length) :
    mv A (move x s d) = move (mv A x) s (mv A d) := by
  simp only [mv_eq]
  exact (ListVec.mv_zipWith 1 1 (fun _ _ => by rw [one_mul, one_mul]) A (h.trans (smul_length s d).symm)).trans
    (congrArg _ (ListVec.mv_map s (fun _ => rfl) A d))

theorem mv_rows_smul (k : α) (A : List (List α)) (x : List α) : mv (A.map (smul k)) x = smul k (mv A x) := by
  simp only [mv_eq]
  exact ListVec.mv_map_rows k (fun _ => rfl) A x

theorem mv_rows_vdivs (d : α) (A : List (List α)) (x : List α) :
    mv (A.map (fun r => vdivs r d)) x = vdivs (mv A x) d := by
  simp only [mv_eq]
  exact ListVec.mv_map_rows d⁻¹ (fun a => div_eq_inv_mul a d) A x

/-- when `A` and `u` differ in length both sides truncate alike -/
theorem tmv_adjoint' (n : Nat) (A : List (List α)) (u d : List α) (h : ∀ r ∈ A, r.length = n) :
    dot (tmv n A u) d = dot u (mv A d) := by
  rw [dot_eq, tmv_eq, mv_eq]; exact ListVec.tmv_adjoint n A u d h

theorem tmv_adjoint (n : Nat) : ∀ (A : List (List α)) (u d : List α), (∀ r ∈ A, r.length = n) → d.length = n →
    A.length = u.length → dot (tmv n A u) d = dot u (mv A d) :=
  fun A u d h _ _ => tmv_adjoint' n A u d h

theorem vadd_zeros (n : Nat) : ∀ (x : List α), x.length = n → vadd x (zeros n) = x := by
  induction n with
  | zero => intro x h; simp [List.length_eq_zero_iff.mp h, vadd, zeros]
  | succ n ih =>
    intro x h
    cases x with
    | nil => simp at h
    | cons a x =>
      have := ih x (Nat.succ.inj h)
      unfold vadd zeros at this ⊢
      rw [List.replicate_succ, List.zipWith_cons_cons, this, add_zero]

/-! ### sums of squares, Cauchy–Schwarz, Hölder -/

theorem sumsq_cons (a : α) (x : List α) : sumsq (a :: x) = a * a + sumsq x := rfl

theorem sumsq_nonneg (x : List α) : 0 ≤ sumsq x := by
  rw [sumsq, dot_eq]; exact ListVec.dot_self_nonneg x

theorem sq_le_sumsq (x : List α) (a : α) (h : a ∈ x) : a * a ≤ sumsq x := by
  rw [sumsq, dot_eq]; exact ListVec.mul_self_le_dot_self x a h

theorem abs_le_of_mul_self_le (t c : α) (hc : 0 ≤ c) (h : t * t ≤ c * c) : |t| ≤ c := by
  rw [← abs_of_nonneg hc]
  exact abs_le_iff_mul_self_le.2 h

/-- Cauchy–Schwarz on lists (squared form) -/
theorem dot_sq_le (a b : List α) : dot a b * dot a b ≤ sumsq a * sumsq b := by
  rw [sumsq, sumsq, dot_eq]; exact ListVec.dot_sq_le a b

/-- `‖v‖₁` -/
def norm1 : List α → α
  | [] => 0
  | a :: x => |a| + norm1 x

theorem norm1_nonneg : ∀ (x : List α), 0 ≤ norm1 x
  | [] => le_refl _
  | a :: x => add_nonneg (abs_nonneg a) (norm1_nonneg x)

/-- Hölder 1/∞ on lists -/
theorem abs_dot_le_norm1 (M : α) (hM : 0 ≤ M) : ∀ (v r : List α), (∀ a ∈ r, |a| ≤ M) → |dot v r| ≤ norm1 v * M
  | [], r, _ => by simp [norm1]
  | a :: v, [], _ => by
    rw [dot_nil_right, abs_zero]
    exact mul_nonneg (norm1_nonneg _) hM
  | a :: v, b :: r, h => by
    have ih := abs_dot_le_norm1 M hM v r (fun c hc => h c (List.mem_cons_of_mem _ hc))
    rw [dot_cons, norm1, add_mul]
    calc |a * b + dot v r| ≤ |a * b| + |dot v r| := abs_add_le _ _
      _ = |a| * |b| + |dot v r| := by rw [abs_mul]
      _ ≤ |a| * M + norm1 v * M :=
        add_le_add (mul_le_mul_of_nonneg_left (h b List.mem_cons_self) (abs_nonneg a)) ih

end NanoVerif.Program
