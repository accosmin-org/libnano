import NanoVerif.Model.Split
import NanoVerif.Proofs.ListVec
/-!
  C12 — `sample_from_ball`: the exact point is at distance `r·z` of the centre (`distSq_ballPoint`); with rounding, if every
  coordinate of the answer differs from the exact point by `eₖ`, the answer is within `r + ‖e‖` of the centre (triangle inequality in the 2-norm, through Cauchy–Schwarz on lists, any ordered field).
  This is the shape of the allowance of the python oracle: `‖e‖ ≤ √(Σ (ulp(xₖ)/2)²)` comes from the final addition `x0ₖ + dₖ`
  and is of the size `ulp(‖x0‖)`, whatever the radius.
-/
namespace NanoVerif.Split

section
variable {α : Type} [Field α] [LinearOrder α] [IsStrictOrderedRing α]

omit [LinearOrder α] [IsStrictOrderedRing α] in
/-- the exact point: `x - x0 = (r·z/s)·u` coordinate by coordinate -/
theorem distSq_ballPoint (r z s : α) : ∀ (x0 u : List α), u.length = x0.length →
    distSq (ballPoint x0 u r z s) x0 = (r * z / s) * (r * z / s) * sumSq u
  | [], [], _ => (mul_zero _).symm
  | [], _ :: _, h => by cases h
  | _ :: _, [], h => by cases h
  | a :: x0, b :: u, h => by
    have ih := distSq_ballPoint r z s x0 u (Nat.succ.inj h)
    simp only [distSq, ballPoint, List.zipWith_cons_cons, sumSq] at ih ⊢
    rw [ih, add_sub_cancel_left, mul_div_right_comm, mul_mul_mul_comm, mul_add]

def dotL : List α → List α → α
  | a :: as, b :: bs => a * b + dotL as bs
  | _, _ => 0

theorem dotL_eq : (dotL : List α → List α → α) = ListVec.dot := by
  funext a
  induction a with
  | nil => exact funext fun _ => rfl
  | cons x a ih => exact funext fun | [] => rfl | y :: b => congrArg (x * y + ·) (congrFun ih b)

theorem sumSq_eq_dot : ∀ l : List α, sumSq l = ListVec.dot l l
  | [] => rfl
  | x :: xs => congrArg (x * x + ·) (sumSq_eq_dot xs)

theorem sumSq_nonneg' (l : List α) : 0 ≤ sumSq l := by
  rw [sumSq_eq_dot]; exact ListVec.dot_self_nonneg l

/-- Cauchy–Schwarz -/
theorem dotL_sq_le (a b : List α) : dotL a b * dotL a b ≤ sumSq a * sumSq b := by
  rw [dotL_eq, sumSq_eq_dot, sumSq_eq_dot]; exact ListVec.dot_sq_le a b

/-- triangle inequality in squared form: `‖d + e‖² = ‖d‖² + 2 d·e + ‖e‖²`, and `d·e ≤ ρ E` by Cauchy–Schwarz -/
theorem sumSq_add_le (d e : List α) (hlen : d.length = e.length) (ρ E : α) (hρ : 0 ≤ ρ) (hE : 0 ≤ E)
    (hd : sumSq d ≤ ρ * ρ) (he : sumSq e ≤ E * E) :
    sumSq (List.zipWith (fun a b => a + b) d e) ≤ (ρ + E) * (ρ + E) := by
  have h11 : ∀ x y : α, x + y = 1 * x + 1 * y := fun x y => by rw [one_mul, one_mul]
  rw [sumSq_eq_dot] at hd he ⊢
  rw [ListVec.dot_zipWith_left 1 1 h11 _ hlen, ListVec.dot_zipWith_right 1 1 h11 d hlen,
    ListVec.dot_zipWith_right 1 1 h11 e hlen, ListVec.dot_comm e d]
  have hdot : ListVec.dot d e ≤ ρ * E :=
    nonneg_le_nonneg_of_sq_le_sq (mul_nonneg hρ hE) <| (ListVec.dot_sq_le d e).trans <|
      (mul_le_mul hd he (ListVec.dot_self_nonneg e) (mul_self_nonneg ρ)).trans_eq (mul_mul_mul_comm ρ ρ E E)
  linarith only [hdot, hd, he]

omit [LinearOrder α] [IsStrictOrderedRing α] in
theorem distSq_add (x e x0 : List α) (h1 : x.length = x0.length) (h2 : e.length = x0.length) :
    distSq (List.zipWith (fun a b => a + b) x e) x0 =
      sumSq (List.zipWith (fun a b => a + b) (List.zipWith (fun a b => a - b) x x0) e) := by
  unfold distSq
  induction x generalizing e x0 with
  | nil => simp [sumSq]
  | cons a as ih =>
    cases e with
    | nil => simp [sumSq]
    | cons b bs =>
      cases x0 with
      | nil => simp at h1
      | cons c cs =>
        simp only [List.zipWith_cons_cons, sumSq]
        rw [ih bs cs (by simpa using h1) (by simpa using h2)]
        ring

end

end NanoVerif.Split
