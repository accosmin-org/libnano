import NanoVerif.Model.Objective
/-!
  C09 — lemmas about the map-reduce skeleton of `Model/Objective.lean` (core Lean only):
  * the ranges of `map(n, batch)` form a chain `0 = b₀ ≤ e₀ = b₁ ≤ … = n` (`Tiles`, `chunks_tiles`); whatever a pass
    contributes per range, as long as consecutive contributions concatenate, a loop over a chain contributes the whole
    (`tiles_concat`) and a loop that overwrites range after range rewrites the buffer (`tiles_splice`): hence the chunks
    tile `[0, n)` (`chunks_tile`) and the slice-writing loop of `grads_function_t` overwrites the whole buffer
    (`fillChunks_chunks`); the iterator lemmas of `Proofs/Iterator.lean` are further instances;
  * for every accumulator type with an associative, commutative addition with a neutral element, every assignment of the
    chunks to workers and every batch size, the reduced accumulator is the plain sum of the per-sample terms
    (`mapReduce_eq`).
-/
namespace NanoVerif.Iterator
open NanoVerif.Objective

/-! ### chains of ranges -/

/-- `cs` is a chain of consecutive ranges from `b` to `n` -/
def Tiles : Nat → Nat → List (Nat × Nat) → Prop
  | b, n, [] => b = n
  | b, n, c :: cs => c.1 = b ∧ b ≤ c.2 ∧ c.2 ≤ n ∧ Tiles c.2 n cs

@[elab_as_elim]
theorem Tiles.induction {n : Nat} {P : Nat → List (Nat × Nat) → Prop} (nil : P n [])
    (cons : ∀ b e cs, b ≤ e → e ≤ n → Tiles e n cs → P e cs → P b ((b, e) :: cs)) :
    ∀ cs b, Tiles b n cs → P b cs
  | [], _, h => h ▸ nil
  | (_, e) :: cs, _, ⟨rfl, h2, h3, h4⟩ => cons _ e cs h2 h3 h4 (Tiles.induction nil cons cs e h4)

theorem chunksFrom_nil_of_ge (n c fuel b : Nat) (h : n ≤ b) : chunksFrom n c fuel b = [] := by
  cases fuel with
  | zero => rfl
  | succ f => exact if_neg (by omega)

theorem chunksFrom_tiles (n c fuel b : Nat) (h : n ≤ b + fuel * c) (hb : b ≤ n) :
    Tiles b n (chunksFrom n c fuel b) := by
  fun_induction chunksFrom n c fuel b with
  | case1 b => rw [Nat.zero_mul] at h; exact Nat.le_antisymm hb h
  | case2 fuel b hlt ih =>
    refine ⟨rfl, Nat.le_min.2 ⟨Nat.le_add_right b c, hb⟩, Nat.min_le_right _ _, ?_⟩
    by_cases hbc : b + c ≤ n
    · rw [Nat.min_eq_left hbc]
      rw [Nat.succ_mul, Nat.add_comm (fuel * c), ← Nat.add_assoc] at h
      exact ih h hbc
    · have hn : n ≤ b + c := Nat.le_of_lt (Nat.lt_of_not_le hbc)
      rw [Nat.min_eq_right hn, chunksFrom_nil_of_ge n c fuel (b + c) hn]
      rfl
  | case3 fuel b hlt => exact Nat.le_antisymm hb (Nat.le_of_not_lt hlt)

/-- the ranges handed out by `map(n, batch, op)`, `batch ≥ 1`, form a chain from `0` to `n` -/
theorem chunks_tiles (n c : Nat) (hc : 0 < c) : Tiles 0 n (chunks n c) :=
  chunksFrom_tiles n c n 0 (by simpa using Nat.le_mul_of_pos_right n hc) (Nat.zero_le _)

section segments
/- `seg a b`: what a pass over `[a, b)` contributes (`sliceOf xs a b`, `rangeList a b`, an image of these); all that is used
   is that consecutive segments concatenate. -/
variable {β : Type} (seg : Nat → Nat → List β) (hself : ∀ a, seg a a = [])
  (happ : ∀ a b c, a ≤ b → b ≤ c → seg a b ++ seg b c = seg a c)
include hself happ

theorem tiles_concat {n : Nat} : ∀ (cs : List (Nat × Nat)) (b : Nat), Tiles b n cs →
    (cs.map fun c => seg c.1 c.2).flatten = seg b n :=
  Tiles.induction (P := fun b cs => (cs.map fun c => seg c.1 c.2).flatten = seg b n) (hself n).symm
    fun b e cs h1 h2 _ ih => by rw [List.map_cons, List.flatten_cons, ih, happ b e n h1 h2]

/-- every range of a chain overwrites its own positions of a buffer of length `n`: the loop keeps the first `b` entries and
    writes the segment `[b, n)`, whatever the buffer held -/
theorem tiles_splice {n : Nat} (hlen : ∀ a b, a ≤ b → b ≤ n → (seg a b).length = b - a) :
    ∀ (cs : List (Nat × Nat)) (b : Nat), Tiles b n cs → ∀ buf : List β, buf.length = n →
      cs.foldl (fun buf c => buf.take c.1 ++ seg c.1 c.2 ++ buf.drop c.2) buf = buf.take b ++ seg b n :=
  Tiles.induction
    (fun buf hbuf => by rw [List.foldl_nil, hself, List.append_nil, List.take_of_length_le (Nat.le_of_eq hbuf)])
    fun b e cs h1 h2 _ ih buf hbuf => by
      have hl : (buf.take b ++ seg b e).length = e := by
        rw [List.length_append, List.length_take, hlen b e h1 h2, Nat.min_eq_left (hbuf ▸ Nat.le_trans h1 h2),
          Nat.add_sub_cancel' h1]
      show cs.foldl _ (buf.take b ++ seg b e ++ buf.drop e) = _
      rw [ih _ (by rw [List.length_append, hl, List.length_drop, hbuf, Nat.add_sub_cancel' h2]),
        List.take_append_of_le_length (Nat.le_of_eq hl.symm), List.take_of_length_le (Nat.le_of_eq hl),
        List.append_assoc, happ b e n h1 h2]

end segments
end NanoVerif.Iterator

namespace NanoVerif.Objective
open NanoVerif.Iterator

/-! ### chunks tile `[0, n)` -/

theorem rangeList_append (a b c : Nat) (h1 : a ≤ b) (h2 : b ≤ c) : rangeList a b ++ rangeList b c = rangeList a c := by
  unfold rangeList
  obtain ⟨k, rfl⟩ := Nat.exists_eq_add_of_le h1
  obtain ⟨m, rfl⟩ := Nat.exists_eq_add_of_le h2
  rw [Nat.add_sub_cancel_left, Nat.add_sub_cancel_left, Nat.add_assoc, Nat.add_sub_cancel_left, List.range_add,
    List.map_append, List.map_map]
  congr 1
  apply List.map_congr_left
  intro x _
  show x + (a + k) = k + x + a
  rw [Nat.add_comm k x, Nat.add_assoc, Nat.add_comm k a]

theorem rangeList_zero (n : Nat) : rangeList 0 n = List.range n := by simp [rangeList]

theorem rangeList_self (b : Nat) : rangeList b b = [] := by simp [rangeList]

theorem length_rangeList (b e : Nat) : (rangeList b e).length = e - b := by simp [rangeList]

/-- **the ranges handed out by `map(n, batch, op)` are consecutive, disjoint and cover `[0, n)` exactly once**
    (their concatenation is `0, 1, …, n-1`), for every `n` and every `batch ≥ 1` -/
theorem chunks_tile (n c : Nat) (hc : 0 < c) :
    ((chunks n c).map fun p => rangeList p.1 p.2).flatten = List.range n := by
  rw [tiles_concat rangeList rangeList_self rangeList_append _ 0 (chunks_tiles n c hc), rangeList_zero]

/-- **`grads_function_t::gradients`: after the loop every entry of the buffer has been overwritten with the value of
    its own sample**, whatever the buffer held before and whatever the batch size -/
theorem fillChunks_chunks {β : Type} (f : Nat → β) (buf : List β) (n c : Nat) (hc : 0 < c) (hlen : buf.length = n) :
    fillChunks f buf (chunks n c) = (List.range n).map f := by
  have h := tiles_splice (fun a b => (rangeList a b).map f) (fun a => by rw [rangeList_self]; rfl)
    (fun a b c h1 h2 => by rw [← List.map_append, rangeList_append a b c h1 h2])
    (fun a b _ _ => by rw [List.length_map, length_rangeList]) _ 0 (chunks_tiles n c hc) buf hlen
  rw [rangeList_zero] at h
  exact h

/-! ### sums in a commutative monoid given by explicit operations -/

/-- the laws of the accumulator addition used by the reduction -/
structure Laws {M : Type} (add : M → M → M) (zero : M) : Prop where
  assoc : ∀ a b c, add (add a b) c = add a (add b c)
  comm : ∀ a b, add a b = add b a
  add_zero : ∀ a, add a zero = a

section monoid
variable {M : Type} {add : M → M → M} {zero : M}

theorem Laws.zero_add (h : Laws add zero) (a : M) : add zero a = a := by rw [h.comm, h.add_zero]

theorem foldl_add_init (h : Laws add zero) (a : M) : ∀ (l : List M) (b : M),
    List.foldl add (add a b) l = add a (List.foldl add b l)
  | [], _ => rfl
  | x :: l, b => by
    simp only [List.foldl_cons]
    rw [h.assoc, foldl_add_init h a l (add b x)]

theorem msum_nil : msum add zero [] = zero := rfl

theorem msum_cons (h : Laws add zero) (x : M) (l : List M) : msum add zero (x :: l) = add x (msum add zero l) := by
  unfold msum
  rw [List.foldl_cons, h.zero_add]
  conv => lhs; rw [← h.add_zero x]
  exact foldl_add_init h x l zero

theorem msum_append (h : Laws add zero) : ∀ (l1 l2 : List M),
    msum add zero (l1 ++ l2) = add (msum add zero l1) (msum add zero l2)
  | [], l2 => by rw [List.nil_append, msum_nil, h.zero_add]
  | x :: l1, l2 => by
    rw [List.cons_append, msum_cons h, msum_cons h, msum_append h l1 l2, h.assoc]

theorem msum_flatten (h : Laws add zero) : ∀ (ls : List (List M)),
    msum add zero ls.flatten = msum add zero (ls.map (msum add zero))
  | [] => rfl
  | l :: ls => by
    rw [List.flatten_cons, msum_append h, List.map_cons, msum_cons h, msum_flatten h ls]

theorem msum_replicate_zero (h : Laws add zero) : ∀ k : Nat, msum add zero (List.replicate k zero) = zero
  | 0 => rfl
  | k + 1 => by rw [List.replicate_succ, msum_cons h, msum_replicate_zero h k, h.add_zero]

theorem msum_set (h : Laws add zero) : ∀ (accs : List M) (w : Nat) (a d : M), accs[w]? = some a →
    msum add zero (accs.set w (add a d)) = add (msum add zero accs) d
  | [], _, _, _, hw => by simp at hw
  | x :: accs, 0, a, d, hw => by
    simp only [List.getElem?_cons_zero, Option.some.injEq] at hw
    subst hw
    rw [List.set_cons_zero, msum_cons h, msum_cons h, h.assoc, h.assoc, h.comm d]
  | x :: accs, w + 1, a, d, hw => by
    simp only [List.getElem?_cons_succ] at hw
    rw [List.set_cons_succ, msum_cons h, msum_cons h, msum_set h accs w a d hw, h.assoc]

/-- `accumulator0 += accumulators[i]` for `i ≥ 1` yields the total -/
theorem foldl_tail_eq_msum (h : Laws add zero) (a0 : M) (rest : List M) :
    List.foldl add a0 rest = msum add zero (a0 :: rest) := by
  unfold msum
  rw [List.foldl_cons, h.zero_add]

variable {step : M → Nat → Nat → M} {contrib : Nat → Nat → M}

/-- with one existing worker per chunk the loop does not hit the `tnum < size` assert, keeps the number of accumulators and
    adds every chunk's contribution to their total (whichever worker's accumulator takes it) -/
theorem runChunks_spec (h : Laws add zero) (hstep : ∀ a b e, step a b e = add a (contrib b e)) :
    ∀ (cs : List (Nat × Nat)) (ws : List Nat) (accs : List M), ws.length = cs.length → (∀ w ∈ ws, w < accs.length) →
      ∃ accs', runChunks step accs cs ws = some accs' ∧ accs'.length = accs.length ∧
        msum add zero accs' = add (msum add zero accs) (msum add zero (cs.map fun p => contrib p.1 p.2))
  | [], [], accs, _, _ => ⟨accs, rfl, rfl, by rw [List.map_nil, msum_nil, h.add_zero]⟩
  | [], _ :: _, _, hl, _ => by cases hl
  | _ :: _, [], _, hl, _ => by cases hl
  | (b, e) :: cs, w :: ws, accs, hl, hw => by
    have hlt : w < accs.length := hw w (List.mem_cons_self ..)
    obtain ⟨accs', hr, hlen, htot⟩ := runChunks_spec h hstep cs ws (accs.set w (step accs[w] b e)) (Nat.succ.inj hl)
      fun v hv => by rw [List.length_set]; exact hw v (List.mem_cons_of_mem _ hv)
    refine ⟨accs', ?_, hlen.trans List.length_set, ?_⟩
    · rw [runChunks, List.getElem?_eq_getElem hlt]
      exact hr
    · rw [htot, hstep, msum_set h accs w _ _ (List.getElem?_eq_getElem hlt), List.map_cons, msum_cons h, h.assoc]

/-- … and it does hit it when a chunk is handed to a worker that has no accumulator -/
theorem runChunks_none_of_bad_worker (b e w : Nat) (cs : List (Nat × Nat)) (ws : List Nat) (accs : List M)
    (hw : accs.length ≤ w) : runChunks step accs ((b, e) :: cs) (w :: ws) = none := by
  simp [runChunks, List.getElem?_eq_none hw]

/-- **the skeleton**: with `workers ≥ 1` accumulators, `batch ≥ 1` and any assignment of the chunks to existing
    workers, clear + loop + `sum_reduce` returns `(Σ_{i < n} term i) / n` -/
theorem mapReduce_eq (h : Laws add zero) (divN : M → Nat → M) (term : Nat → M)
    (hstep : ∀ a b e, step a b e = add a (msum add zero ((rangeList b e).map term)))
    (workers n batch : Nat) (asg : List Nat) (hw : 0 < workers) (hb : 0 < batch)
    (hasg : ValidAsg workers n batch asg) :
    mapReduce add zero divN step workers n batch asg = some (divN (msum add zero ((List.range n).map term)) n) := by
  unfold mapReduce
  rw [if_neg (by omega)]
  obtain ⟨accs', hr, hlen, htot⟩ := runChunks_spec h hstep (chunks n batch) asg (List.replicate workers zero) hasg.1
    fun w hw' => by rw [List.length_replicate]; exact hasg.2 w hw'
  rw [hr]
  rw [List.length_replicate] at hlen
  cases accs' with
  | nil => simp at hlen; omega
  | cons a0 rest =>
    simp only [sumReduce]
    rw [foldl_tail_eq_msum h, htot, msum_replicate_zero h, h.zero_add, ← chunks_tile n batch hb, List.map_flatten,
      List.map_map, msum_flatten h, List.map_map]
    rfl

theorem mapReduce_none_of_batch_zero (divN : M → Nat → M) (workers n : Nat) (asg : List Nat) :
    mapReduce add zero divN step workers n 0 asg = none := by
  simp [mapReduce]

theorem mapReduce_none_of_no_worker (divN : M → Nat → M) (n batch : Nat) (asg : List Nat) :
    mapReduce add zero divN step 0 n batch asg = none := by
  unfold mapReduce
  split
  · rfl
  · cases hr : runChunks step (List.replicate 0 zero) (chunks n batch) asg with
    | none => rfl
    | some accs =>
      simp only
      have : accs = [] := by
        cases hc : chunks n batch with
        | nil =>
          cases asg with
          | nil => simp [hc, runChunks] at hr; exact hr
          | cons _ _ => simp [hc, runChunks] at hr
        | cons c cs =>
          cases asg with
          | nil => simp [hc, runChunks] at hr
          | cons w ws => obtain ⟨b, e⟩ := c; simp [hc, runChunks] at hr
      subst this
      rfl

theorem foldl_proj {α : Type} (addα : α → α → α) (φ : M → α) (hφ : ∀ a b, φ (add a b) = addα (φ a) (φ b)) :
    ∀ (l : List M) (a : M), φ (List.foldl add a l) = List.foldl addα (φ a) (l.map φ)
  | [], _ => rfl
  | x :: l, a => by
    simp only [List.foldl_cons, List.map_cons]
    rw [foldl_proj addα φ hφ l (add a x), hφ]

end monoid
end NanoVerif.Objective
