import NanoVerif.Gen.PoolScopes
/-!
  C17 — the LOCK SCOPES of the thread pool, regenerated from `src/core/parallel.cpp` / `include/nano/core/parallel.h`
  (`Gen/PoolScopes.lean`, by `tools/props/c17_translate.py`: hook statements and `NANO_VERIF` branches removed) and tied to the
  program order that `Model/Pool.lean` / `Model/PoolSection.lean` follow and to the critical-section membership that
  `Model/PoolMon.lean` demands of every recorded trace.

  The trace monitors see the code only THROUGH the hook statements (`lock_acquired … lock_release` pairs written next to the
  statements they report); this table is about the statements themselves: which block declares the lock object, and which
  accesses to `m_tasks` / `m_stop` / `m_condition` sit lexically inside it.
-/
namespace NanoVerif.Pool.Scopes
open NanoVerif.Gen.PoolScopes

/-- the program order of the model: `queue_t::enqueue` = `push` then `notify_one`; the worker = wait(pred: stop? ∨ ¬empty) then
    (stop: clear + notify_all + exit | front + pop) inside ONE critical section, the task outside; `~pool_t` = stop-set inside,
    notify_all + joins outside; `map` = all pushes inside one critical section, notify_all + block outside -/
def modelScopes : List (String × List (String × Bool)) := [
  ("queue_t::enqueue", [("lock", true), ("tasks.emplace_back", true), ("cond.notify_one", false)]),
  ("queue_t::enqueue_no_lock", [("tasks.emplace_back", false)]),
  ("worker_t::operator()", [("lock", true), ("cond.wait", true), ("stop?", true), ("tasks.empty", true), ("stop?", true), ("tasks.clear", true), ("cond.notify_all", true), ("tasks.front", true), ("tasks.pop_front", true), ("run task", false)]),
  ("pool_t::~pool_t", [("lock", true), ("stop:=", true), ("cond.notify_all", false), ("thread.join", false)]),
  ("pool_t::enqueue", [("queue.enqueue", false)]),
  ("pool_t::map(elements)", [("lock", true), ("enqueue_no_lock", true), ("cond.notify_all", false), ("section.block", false)]),
  ("pool_t::map(elements,chunksize)", [("lock", true), ("enqueue_no_lock", true), ("cond.notify_all", false), ("section.block", false)])]

/-- accesses that read or write the shared state (or atomically release the mutex: `wait`) -/
def needsLock : List String :=
  ["tasks.emplace_back", "tasks.empty", "tasks.clear", "tasks.front", "tasks.pop_front", "stop?", "stop:=", "cond.wait"]

/-- operations that block, run user code or take the mutex themselves -/
def mustNotHold : List String := ["run task", "section.block", "thread.join", "queue.enqueue"]

def known : List String :=
  needsLock ++ mustNotHold ++ ["lock", "enqueue_no_lock", "cond.notify_one", "cond.notify_all"]

theorem model_pool_scopes_is_generated : scopes = modelScopes := rfl

/-- every read / write of `m_tasks` and `m_stop`, and the `wait`, is under the mutex, except the push inside
    `enqueue_no_lock` … -/
theorem shared_state_only_under_lock :
    ∀ f ∈ scopes, ∀ a ∈ f.2, a.1 ∈ needsLock → a.2 = true ∨ f.1 = "queue_t::enqueue_no_lock" := by
  decide +kernel

/-- … every call of which is under the mutex -/
theorem enqueue_no_lock_called_under_lock :
    ∀ f ∈ scopes, ∀ a ∈ f.2, a.1 = "enqueue_no_lock" → a.2 = true := by
  decide +kernel

/-- running a task, `section.block`, `thread.join` and the self-locking `queue.enqueue` are never under the mutex (else:
    deadlock / serialised tasks) -/
theorem never_blocks_or_runs_under_lock :
    ∀ f ∈ scopes, ∀ a ∈ f.2, a.1 ∈ mustNotHold → a.2 = false := by
  decide +kernel

/-- a function that pushes a task (directly or through `enqueue_no_lock`) or sets the stop flag notifies AFTER doing so -/
def notifiesAfter (l : List (String × Bool)) : Bool :=
  let pub := l.findIdx (fun a => a.1 == "tasks.emplace_back" || a.1 == "enqueue_no_lock" || a.1 == "stop:=")
  if pub < l.length then
    ((l.drop (pub + 1)).any (fun a => a.1 == "cond.notify_one" || a.1 == "cond.notify_all"))
  else true

theorem wake_up_after_publication :
    ∀ f ∈ scopes, f.1 ≠ "queue_t::enqueue_no_lock" → notifiesAfter f.2 = true := by
  decide +kernel

/-- no access kind outside the ones the model knows (a new `m_tasks.…` call means re-reading the model) -/
theorem every_access_classified : ∀ f ∈ scopes, ∀ a ∈ f.2, a.1 ∈ known := by
  decide +kernel

end NanoVerif.Pool.Scopes
