import NanoVerif.Proofs.TunerGen
import NanoVerif.Proofs.TunerSpace
import Mathlib.Tactic.Ring
/-!
  C13 — the coefficient walk `m_model(k++)` of `quadratic_surrogate_t::do_vgrad` with the index `k` threaded explicitly
  (`Gen.TunerSpace.quadValueWalk`, `quadGradWalk2`: state `(accumulator, k)`, `m_model(k)` ↦ `m.getD k 0`, one `k + 1` per innermost
  body) computes what the model computes by zipping the coefficients with the index pairs — as long as the walk stays inside the
  coefficient vector (which the constructor's `assert(m_model.size() == (size() + 1) * (size() + 2) / 2)` is there to guarantee).
-/
namespace NanoVerif.Tuner
open NanoVerif.Gen

/-- a walk that reads coefficient `k`, `k + 1`, … is the fold over the coefficients zipped with the iteration space -/
theorem walk_eq_zip {α σ ι : Type} [OfNat α 0] (term : σ → α → ι → σ) (m : List α) :
    ∀ (idxs : List ι) (acc : σ) (k : Nat), k + idxs.length ≤ m.length →
      idxs.foldl (fun (st : σ × Nat) idx => (term st.1 (m.getD st.2 0) idx, st.2 + 1)) (acc, k) =
        ((List.zip (m.drop k) idxs).foldl (fun acc t => term acc t.1 t.2) acc, k + idxs.length) := by
  intro idxs
  induction idxs with
  | nil => intro acc k _; simp
  | cons idx rest ih =>
    intro acc k hk
    have hk' : k < m.length := by simp only [List.length_cons] at hk; omega
    have hd : m.drop k = m[k] :: m.drop (k + 1) := List.drop_eq_getElem_cons hk'
    have hg : m.getD k 0 = m[k] := by simp [List.getD_eq_getElem?_getD, hk']
    simp only [List.foldl_cons, hg]
    rw [ih _ (k + 1) (by simp only [List.length_cons] at hk; omega), hd]
    simp only [List.zip_cons_cons, List.foldl_cons, List.length_cons]
    congr 1
    omega

/-- a loop over the indices of `x` that only reads `x(i)` is the fold over the elements of `x` -/
theorem foldl_indices_eq_elems {α σ : Type} [OfNat α 0] (F : σ → α → σ) :
    ∀ (x pre : List α) (st : σ),
      (List.range' pre.length x.length).foldl (fun st i => F st ((pre ++ x).getD i 0)) st = x.foldl F st := by
  intro x
  induction x with
  | nil => intro pre st; simp
  | cons a xs ih =>
    intro pre st
    have h := ih (pre ++ [a]) (F st a)
    simp only [List.length_append, List.length_cons, List.length_nil, List.append_assoc, List.cons_append,
      List.nil_append] at h
    simp only [List.length_cons, List.range'_succ, List.foldl_cons]
    have hg : (pre ++ a :: xs).getD pre.length 0 = a := by simp [List.getD_eq_getElem?_getD]
    rw [hg]
    exact h

theorem zip_take_right {β γ : Type} : ∀ (l : List β) (x : List γ), List.zip (l.take x.length) x = List.zip l x := by
  intro l
  induction l with
  | nil => intro x; simp
  | cons a rest ih =>
    intro x
    cases x with
    | nil => simp
    | cons b xs => simp [ih xs]

/-! ### the loop nest visits `n (n + 1) / 2` index pairs -/

/-- row `i = 0` of the loop nest `for i < n + 1, for i ≤ j < n + 1` has `n + 1` pairs; the rows `i ≥ 1` are the nest for `n` -/
theorem pairIdx_length_succ (n : Nat) : (pairIdx (n + 1)).length = (n + 1) + (pairIdx n).length := by
  simp only [pairIdx, List.length_flatMap, List.length_map, List.length_range', List.range_succ_eq_map,
    List.map_cons, List.map_map, List.sum_cons, Function.comp_def, Nat.sub_zero, Nat.succ_eq_add_one,
    Nat.add_sub_add_right]

/-- the loop nest `for i < n, for i ≤ j < n` visits `n (n + 1) / 2` pairs -/
theorem two_mul_pairIdx_length (n : Nat) : 2 * (pairIdx n).length = n * (n + 1) := by
  induction n with
  | zero => rfl
  | succ n ih => rw [pairIdx_length_succ, Nat.mul_add, ih]; ring

/-- the `(n + 1) (n + 2) / 2` coefficients: the constant, the `n` linear ones, one per index pair -/
theorem quadLen_eq (n : Nat) : quadLen n = 1 + n + (pairIdx n).length :=
  Nat.eq_of_mul_eq_mul_left Nat.two_pos
    (by rw [two_mul_quadLen, Nat.mul_add 2, two_mul_pairIdx_length]; ring)

theorem walk_inside_of_assert {α : Type} (m x : List α) (h : m.length = quadLen x.length) :
    1 + x.length + (pairIdx x.length).length ≤ m.length :=
  (h.trans (quadLen_eq _)).ge

/-! ### the walks -/

section
variable {α : Type} [Add α] [Sub α] [Mul α] [Div α] [Neg α] [LT α] [DecidableLT α] [BEq α]
  [OfNat α 0] [OfNat α 1] [OfNat α 2] [Log10 α]

/-- the value of the fitted quadratic IS the generated walk with `k` threaded through both loops, for a coefficient vector that
    covers the walk -/
theorem model_quadValue_is_generated_walk (m x : List α)
    (hlen : 1 + x.length + (pairIdx x.length).length ≤ m.length) :
    quadValue m x = TunerSpace.quadValueWalk m x := by
  have hidx := foldl_indices_eq_elems
    (fun (st : α × Nat) xi => (TunerSpace.valueLin st.1 (m.getD st.2 0) xi, st.2 + 1)) x []
  simp only [List.length_nil, List.nil_append] at hidx
  rw [model_quadValue_is_generated, foldl_zipWith_zip, zip_take_right, TunerSpace.quadValueWalk]
  simp only [Nat.sub_zero]
  rw [hidx, walk_eq_zip (fun (fx : α) q (xi : α) => TunerSpace.valueLin fx q xi) m x _ _
      (by simp only [TunerSpace.valueK0]; omega),
    walk_eq_zip (fun (fx : α) q (ij : Nat × Nat) => TunerSpace.valueTerm x fx q ij.1 ij.2) m _ _ _
      (by rw [← model_valuePairIdx_is_generated]; simp only [TunerSpace.valueK0]; omega),
    ← model_valuePairIdx_is_generated]

/-- the second-order part of the gradient, likewise, starting from the vector the first-order loop leaves behind -/
theorem model_quadGrad_is_generated_walk (m x : List α)
    (hlen : 1 + x.length + (pairIdx x.length).length ≤ m.length) :
    quadGrad m x =
      TunerSpace.quadGradWalk2 addAt m x
        (List.zipWith (fun (_ : α) c => TunerSpace.gradLin 0 c) x ((m.drop TunerSpace.gradK0).take x.length)) := by
  rw [model_quadGrad_is_generated, foldl_zipWith_zip, TunerSpace.quadGradWalk2, ← model_gradPairIdx_is_generated,
    walk_eq_zip (fun (g : List α) q (ij : Nat × Nat) => TunerSpace.gradTerm addAt x g q ij.1 ij.2) m _ _ _
      (by simp only [TunerSpace.gradK0]; omega)]

/-- under the constructor's assert the value of the fitted quadratic IS the generated `k++` walk -/
theorem model_quadValue_walk_of_assert (m x : List α) (h : m.length = quadLen x.length) :
    quadValue m x = TunerSpace.quadValueWalk m x :=
  model_quadValue_is_generated_walk m x (walk_inside_of_assert m x h)

/-- … and the second-order part of its gradient -/
theorem model_quadGrad_walk_of_assert (m x : List α) (h : m.length = quadLen x.length) :
    quadGrad m x =
      TunerSpace.quadGradWalk2 addAt m x
        (List.zipWith (fun (_ : α) c => TunerSpace.gradLin 0 c) x ((m.drop TunerSpace.gradK0).take x.length)) :=
  model_quadGrad_is_generated_walk m x (walk_inside_of_assert m x h)

end

end NanoVerif.Tuner
