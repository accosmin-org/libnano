import NanoVerif.Gen.TensorIndex
import NanoVerif.Gen.TensorGuards
import NanoVerif.Gen.TensorIntegral
import NanoVerif.Gen.TensorAlgorithm
import NanoVerif.Model.TensorRange
import NanoVerif.Proofs.TensorRemoveIf
/-!
  C16 — the hand-written model of the tensor addressing (`Model/Tensor.lean`, `Model/TensorRange.lean`) IS the code that
  `tools/props/c16_translate.py` regenerates from `include/nano/tensor/{dims,range,tensor,integral,algorithm}.h` on every run
  (`Gen/TensorIndex.lean`, `Gen/TensorGuards.lean`, `Gen/TensorIntegral.lean`, `Gen/TensorAlgorithm.lean`): by induction where the
  recursion shapes differ (template recursion over `idim` against list recursion). Core Lean only. An edit of one of the
  translated C++ functions changes the generated text and breaks the corresponding theorem here.
-/
namespace NanoVerif.Tensor
open NanoVerif.Gen

/-! ### dims.h: `detail::product`, `size` -/

theorem model_size_is_generated : size = TensorIndex.product (α := Nat) := by
  funext dims
  induction dims with
  | nil => rfl
  | cons d ds ih => simp only [size, TensorIndex.product, ih]

theorem model_size_entry_is_generated : size = TensorIndex.size (α := Nat) := by
  funext dims; rw [model_size_is_generated]; rfl

example : TensorIndex.size (α := Nat) [3, 7, 5, 4] = 420 ∧ TensorIndex.size (α := Nat) [2, 0, 1] = 0 := by decide

/-! ### dims.h: `detail::get_index0`, `index0` -/

/-- the model's `index` on a prefix of indices is the translated recursion `detail::get_index0` (which compiles exactly when
    there are no more indices than dimensions: the `static_assert` of `index0`) -/
theorem model_index0_is_generated : ∀ (dims idx : List Nat), idx.length ≤ dims.length →
    TensorIndex.index0 dims idx = some (index dims idx)
  | dims, [], _ => by cases dims <;> simp [TensorIndex.index0, TensorIndex.getIndex0, index]
  | [], _ :: _, h => by simp at h
  | d :: ds, i :: is, h => by
    have ih := model_index0_is_generated ds is (by simpa using h)
    simp only [TensorIndex.index0] at ih ⊢
    simp only [TensorIndex.getIndex0, ih, index, model_size_is_generated, Option.map_some]

example : TensorIndex.index0 (α := Nat) [3, 7, 5, 4] [2, 6] = some 400 := by decide

/-- too many indices: the C++ call does not compile, the translation has no value -/
theorem generated_index0_none (dims idx : List Nat) (h : dims.length < idx.length) : TensorIndex.index0 dims idx = none := by
  induction dims generalizing idx with
  | nil => cases idx with
    | nil => simp at h
    | cons i is => simp [TensorIndex.index0, TensorIndex.getIndex0]
  | cons d ds ih => cases idx with
    | nil => simp at h
    | cons i is =>
      have := ih is (by simpa using h)
      simp only [TensorIndex.index0] at this ⊢
      simp [TensorIndex.getIndex0, this]

example : TensorIndex.index0 (α := Nat) [3] [1, 1] = none := by decide

theorem model_validPrefix_is_generated : ∀ (dims idx : List Nat),
    TensorIndex.getIndex0Assert dims idx = true ↔ ValidPrefix dims idx
  | dims, [] => by cases dims <;> simp [TensorIndex.getIndex0Assert, ValidPrefix]
  | [], _ :: _ => by simp [TensorIndex.getIndex0Assert, ValidPrefix]
  | d :: ds, i :: is => by
    simp [TensorIndex.getIndex0Assert, ValidPrefix, model_validPrefix_is_generated ds is]

example : TensorIndex.getIndex0Assert (α := Nat) [3, 7, 5, 4] [2, 6] = true ∧
    TensorIndex.getIndex0Assert (α := Nat) [3, 7, 5, 4] [2, 7] = false := by decide

/-! ### dims.h: `detail::get_index`, `index` -/

/-- the model's `index` on a full tuple is the translated recursion `detail::get_index` (whose base case is "one index left"
    and returns it unscaled; under the `static_assert`s of `index`: as many indices as dimensions, rank ≥ 1) -/
theorem model_index_is_generated : ∀ (dims idx : List Nat), idx.length = dims.length → dims ≠ [] →
    TensorIndex.index dims idx = some (index dims idx)
  | [], _, _, h => by simp at h
  | _ :: _, [], h, _ => by simp at h
  | [d], [i], _, _ => by simp [TensorIndex.index, TensorIndex.getIndex, index, size]
  | [_], _ :: _ :: _, h, _ => by simp at h
  | _ :: _ :: _, [_], h, _ => by simp at h
  | d :: d' :: ds, i :: j :: is, h, _ => by
    have ih := model_index_is_generated (d' :: ds) (j :: is) (by simpa using h) (List.cons_ne_nil _ _)
    simp only [TensorIndex.index] at ih ⊢
    rw [TensorIndex.getIndex, ih]
    · simp only [index, model_size_is_generated, Option.map_some]
    · simp

example : TensorIndex.index (α := Nat) [3, 7, 5, 4] [2, 6, 4, 3] = some 419 := by decide

theorem valid_passes_generated_asserts : ∀ (dims idx : List Nat), Valid dims idx → dims ≠ [] →
    TensorIndex.getIndexAssert dims idx = true
  | [], _, _, h => by simp at h
  | _ :: _, [], h, _ => by simp [Valid] at h
  | [d], [i], _, _ => by simp [TensorIndex.getIndexAssert]
  | [_], _ :: _ :: _, h, _ => by simp [Valid] at h
  | _ :: _ :: _, [_], h, _ => by simp [Valid] at h
  | d :: d' :: ds, i :: j :: is, h, _ => by
    have ih := valid_passes_generated_asserts (d' :: ds) (j :: is) h.2 (List.cons_ne_nil _ _)
    rw [TensorIndex.getIndexAssert, ih]
    · simp [h.1]
    · simp

example : Valid [3, 7, 5, 4] [2, 6, 4, 3] := by decide

/-- … but not conversely: `get_index`'s base case carries no `assert`, so the LAST index of a full tuple is not checked at
    this level even in a debug build (kernel-checked on the translated code; the model's `Valid` is stricter) -/
theorem generated_index_asserts_skip_last :
    TensorIndex.getIndexAssert (α := Nat) [3, 2] [1, 5] = true ∧ ¬ Valid [3, 2] [1, 5] := by decide

/-! ### dims.h: `detail::get_dims0`, `dims0` -/

private theorem drop_eq_getD_cons (l : List Nat) (i : Nat) (h : i < l.length) : l.drop i = l.getD i 0 :: l.drop (i + 1) := by
  rw [List.drop_eq_getElem_cons h]
  simp [List.getD_eq_getElem?_getD, h]

/-- loop invariant of the translated `get_dims0`: called at position `idim` (`k ≤ idim ≤ rank`) it keeps the `idim - k` entries of
    `dimsx` already written and writes the remaining dimensions behind them -/
theorem generated_getDims0_spec (dims : List Nat) (k : Nat) (hk : k ≤ dims.length) :
    ∀ (m idim : Nat) (dimsx : List Nat), m = dims.length - idim → k ≤ idim → idim ≤ dims.length →
      dimsx.length = dims.length - k →
      TensorIndex.getDims0 dims.length (dims.length - k) dims idim dimsx = dimsx.take (idim - k) ++ dims.drop idim := by
  intro m
  induction m with
  | zero =>
    intro idim dimsx hm _ hle hlen
    have : idim = dims.length := by omega
    subst this
    rw [TensorIndex.getDims0, if_neg (Nat.lt_irrefl _)]
    simp [← hlen]
  | succ m ih =>
    intro idim dimsx hm hki hle hlen
    have hlt : idim < dims.length := by omega
    rw [TensorIndex.getDims0, if_pos hlt,
      ih (idim + 1) _ (by omega) (by omega) (by omega) (by rw [List.length_set]; exact hlen)]
    have hj : idim + (dims.length - k) - dims.length = idim - k := by
      rw [← Nat.add_sub_assoc hk, Nat.sub_right_comm, Nat.add_sub_cancel]
    have h1 : idim + 1 - k = (idim - k) + 1 := Nat.sub_add_comm hki
    rw [hj, h1, take_set_succ _ _ _ (by omega), drop_eq_getD_cons dims idim hlt, List.append_assoc]
    rfl

/-- the model's `dims0` (drop the fixed leading dimensions) is the translated `dims0` with its position arithmetic
    (`idim + trankx - trank`, start at `trank - trankx`), for every number of indices the `static_assert`s admit -/
theorem model_dims0_is_generated (dims : List Nat) (k : Nat) (hk : k ≤ dims.length) :
    TensorIndex.dims0 dims k = dims0 dims k := by
  have h := generated_getDims0_spec dims k hk (dims.length - k) k (List.replicate (dims.length - k) 0) (by omega)
    (Nat.le_refl _) hk (by simp)
  simp only [TensorIndex.dims0, dims0]
  have hs : dims.length - (dims.length - k) = k := by omega
  rw [hs, h]
  simp

example : TensorIndex.dims0 (α := Nat) [3, 7, 5, 4] 2 = [5, 4] := by
  rw [model_dims0_is_generated _ _ (by decide)]; rfl

/-! ### tensor.h: `tvector` / `tmatrix` / `ttensor` (partial-index views) -/

theorem validPrefix_length : ∀ (dims idx : List Nat), ValidPrefix dims idx → idx.length ≤ dims.length
  | _, [], _ => Nat.zero_le _
  | [], _ :: _, h => by simp [ValidPrefix] at h
  | _ :: ds, _ :: is, h => by
    have := validPrefix_length ds is h.2
    simp only [List.length_cons]; omega

/-- the model's partial-index view `T.sub` is assembled from the translated pieces exactly as `ttensor` / `tvector` assemble it:
    defined where the `assert`s of `get_index0` hold, starting at `ptr + offset0(indices...)`, with the dimensions
    `dims0(dims, indices...)` and `size(dims0(dims, indices...))` elements -/
theorem model_sub_is_generated {α : Type} (t : T α) (pre : List Nat) :
    t.sub pre =
      if TensorIndex.getIndex0Assert t.dims pre then
        (TensorGuards.viewOffset t.dims pre).map fun off =>
          ⟨TensorGuards.ttensorDims t.dims pre.length, (t.data.drop off).take (TensorGuards.tvectorSize t.dims pre.length)⟩
      else none := by
  by_cases h : ValidPrefix t.dims pre
  · have hl := validPrefix_length _ _ h
    have hg := (model_validPrefix_is_generated t.dims pre).2 h
    simp only [T.sub, h, hg, if_true, TensorGuards.viewOffset, TensorGuards.ttensorDims, TensorGuards.tvectorSize,
      model_index0_is_generated _ _ hl, model_dims0_is_generated _ _ hl, Option.map_some, ← model_size_entry_is_generated]
  · have hg : ¬ TensorIndex.getIndex0Assert t.dims pre = true := fun hg => h ((model_validPrefix_is_generated t.dims pre).1 hg)
    simp [T.sub, h, hg]

example : TensorGuards.viewOffset (α := Nat) [3, 7, 5, 4] [2, 6] = some 400 ∧
    TensorIndex.getIndex0Assert (α := Nat) [3, 7, 5, 4] [2, 6] = true := by decide

/-! ### the same recursions at `Int` = `tensor_size_t` -/

theorem generated_product_int (dims : List Nat) :
    TensorIndex.product (dims.map Int.ofNat) = Int.ofNat (size dims) := by
  induction dims with
  | nil => rfl
  | cons d ds ih => simp only [List.map, TensorIndex.product, ih, size]; simp

theorem generated_index0_int : ∀ (dims idx : List Nat), idx.length ≤ dims.length →
    TensorIndex.index0 (dims.map Int.ofNat) (idx.map Int.ofNat) = some (Int.ofNat (index dims idx))
  | dims, [], _ => by cases dims <;> simp [TensorIndex.index0, TensorIndex.getIndex0, index]
  | [], _ :: _, h => by simp at h
  | d :: ds, i :: is, h => by
    have ih := generated_index0_int ds is (by simpa using h)
    simp only [TensorIndex.index0] at ih ⊢
    simp only [List.map, TensorIndex.getIndex0, ih, index, generated_product_int, Option.map_some]
    simp

example : TensorIndex.index0 (α := Int) [3, 7, 5, 4] [2, 6] = some 400 := by decide

/-! ### integral.h: the summed-area recurrence -/

theorem model_prefixSums_is_generated {α : Type} [Add α] : @prefixSums α _ = TensorIntegral.integral1Go := by
  funext acc xs
  induction xs generalizing acc with
  | nil => rfl
  | cons x xs ih => simp only [prefixSums, TensorIntegral.integral1Go, ih]

theorem model_prefixSums1_is_generated {α : Type} [Add α] : @prefixSums1 α _ = TensorIntegral.integral1 := by
  funext xs
  cases xs with
  | nil => rfl
  | cons x xs => simp only [prefixSums1, TensorIntegral.integral1, model_prefixSums_is_generated]

/-- from the second sub-tensor on (`i0 > 0`) the translated loop of `integral_t<trank>::get` is the model's row accumulation -/
theorem generated_integralRows_pos {α : Type} [Add α] (inner : List α → List α) :
    ∀ (rs : List (List α)) (i0 : Nat) (prev : List α), 0 < i0 →
      TensorIntegral.integralRows inner i0 prev rs = accRows prev (rs.map inner)
  | [], _, _, _ => rfl
  | r :: rs, i0, prev, h => by
    simp only [TensorIntegral.integralRows, List.map, accRows, h, decide_true, if_true,
      generated_integralRows_pos inner rs (i0 + 1) _ (Nat.succ_pos _)]

/-- … and started at `i0 = 0` (where the `if (i0 > 0)` keeps the first sub-tensor as it is) it is the model's `accRows1` -/
theorem model_accRows1_is_generated {α : Type} [Add α] (inner : List α → List α) (rs : List (List α)) :
    TensorIntegral.integralRows inner 0 [] rs = accRows1 (rs.map inner) := by
  cases rs with
  | nil => rfl
  | cons r rs =>
    simp [TensorIntegral.integralRows, accRows1, generated_integralRows_pos inner rs 1 _ (Nat.succ_pos _)]

theorem model_integralData_is_generated {α : Type} [Add α] :
    ∀ (dims : List Nat), @integralData α _ dims = TensorIntegral.integralData dims
  | [] => rfl
  | [_] => by funext xs; simp only [integralData, TensorIntegral.integralData, model_prefixSums1_is_generated]
  | d :: d2 :: ds => by
    funext xs
    simp only [integralData, TensorIntegral.integralData, model_accRows1_is_generated,
      model_integralData_is_generated (d2 :: ds)]

/-- `nano::integral` as modelled = the translated guard `size() > 0` around the translated recursion -/
theorem model_integral_is_generated {α : Type} [Add α] (t : T α) :
    t.integral = if TensorIntegral.integralGuard (size t.dims) then ⟨t.dims, TensorIntegral.integralData t.dims t.data⟩ else t := by
  simp only [T.integral, TensorIntegral.integralGuard, model_integralData_is_generated, decide_eq_true_eq]
  by_cases h : size t.dims = 0
  · simp [h]
  · have : size t.dims > 0 := Nat.pos_of_ne_zero h
    simp [h, this]

example : TensorIntegral.integralData (α := Int) [2, 3] [1, 2, 3, 4, 5, 6] = [1, 3, 6, 5, 12, 21] := by decide

/-! ### algorithm.h: `detail::copy`, `remove_if` -/

theorem model_copyRow_is_generated {α : Type} : @copyRowD α = TensorAlgorithm.copyRow := rfl

theorem model_removeIfSkip_is_generated : removeIfSkip = TensorAlgorithm.removeIfSkip := by
  funext mask last
  induction mask generalizing last with
  | nil => rfl
  | cons m ms ih => cases m <;> simp [removeIfSkip, TensorAlgorithm.removeIfSkip, ih]

theorem model_removeIfLoopN_is_generated {α : Type} : @removeIfLoopN α = TensorAlgorithm.removeIfLoop := by
  funext mask curr last ts
  induction mask generalizing curr last ts with
  | nil => rfl
  | cons m ms ih => cases m <;> simp [removeIfLoopN, TensorAlgorithm.removeIfLoop, ih, model_copyRow_is_generated]

theorem model_removeIfRowsN_is_generated {α : Type} : @removeIfRowsN α = TensorAlgorithm.removeIf := by
  funext mask ts
  simp only [removeIfRowsN, TensorAlgorithm.removeIf, model_removeIfSkip_is_generated, model_removeIfLoopN_is_generated]

example : TensorAlgorithm.removeIf [false, true, false, true, false] [[[0], [1], [2], [3], [4]]] =
    (3, [[[0], [2], [4], [3], [4]]]) := by decide

/-! ### range.h -/

theorem model_range_size_is_generated (r : Range) : r.size = TensorGuards.rangeSize (r.b, r.e) := rfl

theorem model_range_valid_is_generated (r : Range) (n : Int) : r.valid n = TensorGuards.rangeValid (r.b, r.e) n := by
  simp [Range.valid, TensorGuards.rangeValid, Bool.decide_and]

theorem model_makeRange_is_generated (b e : Int) :
    ((makeRange b e).b, (makeRange b e).e) = TensorGuards.makeRange b e := rfl

example : TensorGuards.rangeValid (TensorGuards.makeRange 1 3) 3 = true ∧
    TensorGuards.rangeValid (TensorGuards.makeRange 2 2) 3 = false := by decide

/-! ### tensor.h: `tslice`, `slice(range)` -/

theorem model_sliceAssert_is_generated : sliceAssert = TensorGuards.sliceAssert := by
  funext b e d
  simp [sliceAssert, TensorGuards.sliceAssert, Bool.decide_and]

theorem model_slice_guard_is_generated (b e d : Nat) :
    decide (b ≤ e ∧ e ≤ d) = TensorGuards.sliceAssert (Int.ofNat b) (Int.ofNat e) (Int.ofNat d) := by
  simp only [TensorGuards.sliceAssert, decide_eq_decide]
  constructor
  · intro h; simp only [Int.ofNat_eq_natCast]; omega
  · intro h; simp only [Int.ofNat_eq_natCast] at h; omega

theorem model_slice_dims_is_generated (b e : Nat) (h : b ≤ e) :
    Int.ofNat (e - b) = TensorGuards.sliceDim0 (Int.ofNat b) (Int.ofNat e) ∧
    TensorGuards.sliceOffsetIndex (Int.ofNat b) (Int.ofNat e) = Int.ofNat b := by
  constructor
  · simp only [TensorGuards.sliceDim0, Int.ofNat_eq_natCast]; omega
  · rfl

/-- `slice(range)` hands `begin()`, `end()` in this order to `tslice` — as the model's `T.sliceRange` does -/
theorem model_sliceRange_args_is_generated (r : Range) :
    TensorGuards.sliceRangeBegin (r.b, r.e) = r.b ∧ TensorGuards.sliceRangeEnd (r.b, r.e) = r.e := ⟨rfl, rfl⟩

example : TensorGuards.sliceAssert 1 3 3 = true ∧ TensorGuards.sliceAssert 2 2 3 = true ∧
    TensorGuards.sliceAssert 2 1 3 = false := by decide

/-! ### tensor.h: `treshape` -/

theorem model_iprod_is_generated : iprod = TensorGuards.iprod := by
  funext ds
  induction ds with
  | nil => rfl
  | cons d ds ih =>
    simp only [TensorGuards.iprod, TensorIndex.size] at ih
    simp only [iprod, TensorGuards.iprod, TensorIndex.size, TensorIndex.product, ih]

theorem model_reshapeInfer_is_generated : reshapeInfer = TensorGuards.reshapeLoop := by
  funext total pre sizes
  induction sizes generalizing pre with
  | nil => rfl
  | cons d rest ih =>
    rw [reshapeInfer, TensorGuards.reshapeLoop]
    simp only [TensorGuards.reshapeDimAssert, TensorGuards.reshapeIsWildcard, TensorGuards.reshapeInferred,
      model_iprod_is_generated, ih, decide_eq_true_eq]
    by_cases h1 : d = -1
    · simp [h1]
    · by_cases h2 : d ≥ 0
      · simp [h1, h2]
      · simp [h1, h2]

/-- `treshape` as modelled = the translated loop and final assert, followed by the model's own additional demand that no entry
    of the result is negative (see `generated_reshape_two_wildcards`) -/
theorem model_reshapeDims_is_generated (total : Nat) (sizes : List Int) :
    reshapeDims total sizes =
      (TensorGuards.reshape (Int.ofNat total) sizes).bind
        (fun ds => if ds.all (· ≥ 0) then some (ds.map Int.toNat) else none) := by
  simp only [reshapeDims, TensorGuards.reshape, model_reshapeInfer_is_generated, model_iprod_is_generated,
    TensorGuards.reshapeFinalAssert]
  cases TensorGuards.reshapeLoop (Int.ofNat total) [] sizes with
  | none => rfl
  | some ds =>
    by_cases h1 : TensorGuards.iprod ds = (total : Int) <;> simp [h1]

example : TensorGuards.reshape 420 [3, -1, 4] = some [3, 35, 4] ∧ TensorGuards.reshape 420 [3, -1, 8] = none := by decide

/-- with TWO wildcards the asserts of the C++ code let a result with negative dimensions through (outside the documented use:
    one `-1`); the model refuses it -/
theorem generated_reshape_two_wildcards :
    TensorGuards.reshape 4 [-1, -1] = some [-4, -1] ∧ reshapeDims 4 [-1, -1] = none := by decide

/-! ### tensor.h: `arange` -/

theorem model_arange_is_generated (lo hi : Int) :
    arange lo hi =
      if TensorGuards.arangeAssert lo hi then
        some ((List.range (TensorGuards.arangeSize lo hi).toNat).map fun i => TensorGuards.arangeFirst lo hi + Int.ofNat i)
      else none := by
  simp [arange, TensorGuards.arangeAssert, TensorGuards.arangeSize, TensorGuards.arangeFirst]

/-- `lin_spaced(min, max - 1)` over `max - min` entries: the last value is the first plus (length − 1), i.e. step 1 -/
theorem generated_arange_step (lo hi : Int) :
    TensorGuards.arangeLast lo hi = TensorGuards.arangeFirst lo hi + (TensorGuards.arangeSize lo hi - 1) := by
  simp only [TensorGuards.arangeLast, TensorGuards.arangeFirst, TensorGuards.arangeSize]; omega

example : TensorGuards.arangeAssert 2 5 = true ∧ TensorGuards.arangeSize 2 5 = 3 ∧ TensorGuards.arangeLast 2 5 = 4 := by decide

end NanoVerif.Tensor
