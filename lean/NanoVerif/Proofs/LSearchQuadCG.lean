import NanoVerif.Proofs.LSearchQuad
/-!
  C07 — helper lemmas: CG_DESCENT on a convex quadratic `φ(t) = f0 + g0 t + h t²/2`. Entered at a step `≥ t*` it accepts that step or
  the first secant step, which is `t*`. From EVERY positive first trial step: `bracket` multiplies the step by `ro` while the slope
  is negative (the value is then below `φ(0)`, so the approximate Armijo test passes), stops at the first step `≥ t*`, and the first
  secant step of the main loop is exactly `t*`.
-/
namespace NanoVerif.LSearch
open NanoVerif.Gen.LsPredicates


variable {α : Type} [Field α] [LinearOrder α] [IsStrictOrderedRing α]

theorem quad_below_tstar {f0 g0 h t : α} (hh : 0 < h) (ht0 : 0 ≤ t) (ht : t < tstar g0 h) :
    (quadLine f0 g0 h t).g < 0 ∧ (quadLine f0 g0 h t).f ≤ f0 := by
  refine ⟨quad_slope_neg hh ht, sub_nonpos.1 ?_⟩
  rw [quad_change hh, two_mul]
  exact mul_nonpos_of_nonneg_of_nonpos (mul_nonneg (half_pos hh).le ht0)
    (sub_nonpos.2 (ht.le.trans (le_add_of_nonneg_left (ht0.trans ht.le))))

structure CgBracketed (cfg : Cfg α) (f0 g0 h : α) (s : CGS α) : Prop where
  budget : 0 < s.m
  cur : s.ctx.cur = quadLine f0 g0 h s.iv.t
  b_eq : s.iv.b = stepOf s.ctx s.iv.t
  over : tstar g0 h ≤ s.iv.t
  a_on : OnQuad f0 g0 h s.iv.a
  a_t0 : 0 ≤ s.iv.a.t
  a_lt : s.iv.a.t < tstar g0 h
  width : stpmin cfg.macheps < s.iv.t - s.iv.a.t

/-- at a trial step `≥ t*` (no descent there) `bracket` returns at once -/
theorem cgBracket_over (cfg : Cfg α) {f0 g0 h : α} (hh : 0 < h) (epsk : α) {m : Nat} (hm : 0 < m) (lastA : Step α) (iv : CG α)
    (ctx : Ctx α) (hc : ctx.cur = quadLine f0 g0 h iv.t) (hover : tstar g0 h ≤ iv.t) :
    cgBracket cfg (fun _ => quadLine f0 g0 h) ⟨f0, g0, true⟩ epsk m lastA iv ctx =
      ⟨m, { iv with a := lastA, b := stepOf ctx iv.t }, ctx⟩ := by
  obtain ⟨m, rfl⟩ : ∃ m', m = m' + 1 := ⟨m - 1, by omega⟩
  have hok : ctx.cur.ok = true := by rw [hc]; rfl
  rw [cgBracket, if_pos hok, hc, if_pos ((descent_quad_iff hh).2 hover)]

theorem cgBracket_quad (cfg : Cfg α) (f0 g0 h : α) (hh : 0 < h) (hro : 1 < cfg.cgRo) (heps : 0 ≤ cfg.cgEpsilon)
    (hw : stpmin cfg.macheps * cfg.cgRo < (cfg.cgRo - 1) * tstar g0 h) :
    ∀ (m : Nat) (lastA : Step α) (iv : CG α) (ctx : Ctx α), (∃ k, k < m ∧ tstar g0 h ≤ cfg.cgRo ^ k * iv.t) → 0 < iv.t →
      ctx.cur = quadLine f0 g0 h iv.t → OnQuad f0 g0 h lastA → 0 ≤ lastA.t → lastA.t < tstar g0 h →
      (tstar g0 h ≤ iv.t → stpmin cfg.macheps < iv.t - lastA.t) →
      CgBracketed cfg f0 g0 h (cgBracket cfg (fun _ => quadLine f0 g0 h) ⟨f0, g0, true⟩ (cfg.cgEpsilon * absv f0) m lastA iv ctx) := by
  have hepsk : 0 ≤ cfg.cgEpsilon * absv f0 := mul_nonneg heps (absv_eq_abs f0 ▸ abs_nonneg f0)
  have hro0 : 0 < cfg.cgRo := zero_lt_one.trans hro
  intro m
  induction m with
  | zero => intro lastA iv ctx ⟨k, hk, _⟩; omega
  | succ m ih =>
    intro lastA iv ctx ⟨k, hk, hkt⟩ ht0 hc l1 l2 l3 l4
    by_cases hover : tstar g0 h ≤ iv.t
    · rw [cgBracket_over cfg hh _ (Nat.succ_pos m) lastA iv ctx hc hover]
      exact ⟨Nat.succ_pos m, hc, rfl, hover, l1, l2, l3, l4 hover⟩
    · have hok : ctx.cur.ok = true := by rw [hc]; rfl
      rw [cgBracket, if_pos hok]
      have hA : ¬ hasApproxArmijo f0 (quadLine f0 g0 h iv.t).f (cfg.cgEpsilon * absv f0) = false := by
        rw [Bool.not_eq_false, approxArmijo_iff]
        exact (quad_below_tstar hh ht0.le (not_le.1 hover)).2.trans (le_add_of_nonneg_right hepsk)
      rw [hc, if_neg (mt (descent_quad_iff hh).1 hover), if_neg hA]
      rcases k with _ | k'
      · rw [pow_zero, one_mul] at hkt; exact absurd hkt hover
      · refine ih (stepOf ctx iv.t) { iv with t := cfg.cgRo * iv.t } (ask (fun _ => quadLine f0 g0 h) ctx (cfg.cgRo * iv.t))
          ⟨k', by omega, by rw [← mul_assoc, ← pow_succ]; exact hkt⟩ (mul_pos hro0 ht0) rfl
          (onQuad_stepOf f0 g0 h ctx iv.t hc) ht0.le (not_le.1 hover) fun hge => ?_
        -- `ro t - t > stpmin` from `ro t ≥ t*` and `stpmin · ro < (ro - 1) t*`
        exact lt_of_mul_lt_mul_right (hw.trans_le ((mul_le_mul_of_nonneg_left hge (sub_pos.2 hro).le).trans_eq
          (by simp only [stepOf]; ring))) hro0.le

/-- `do_get` once `bracket` has handed over a bracketed state `s` (`a` below `t*`, `b` at the trial `s.iv.t ≥ t*`): the first
    trial or `s.iv.t` passes `done`, or the first secant step of the main loop is `t*`, and that is accepted -/
theorem cgdescent_quad_of_bracketed (cfg : Cfg α) (f0 g0 h : α) (hg : g0 < 0) (hh : 0 < h) (t : α) (ctx : Ctx α)
    (hc : ctx.cur = quadLine f0 g0 h t) (ht0 : 0 < t) (heps : 0 ≤ cfg.cgEpsilon) (hc1 : cfg.c1 ≤ 1 / 2) (hc2 : 0 ≤ cfg.c2)
    (hfin : cfg.fin (tstar g0 h) = true) (s : CGS α)
    (hs : cgBracket cfg (fun _ => quadLine f0 g0 h) ⟨f0, g0, true⟩ (cfg.cgEpsilon * absv f0) cfg.maxIter ⟨0, f0, g0⟩
      ⟨⟨0, f0, g0⟩, stepOf ctx t, t⟩ ctx = s) (B : CgBracketed cfg f0 g0 h s) :
    (cgdescent cfg (fun _ => quadLine f0 g0 h) ⟨f0, g0, true⟩ t ctx).ok = true ∧
    0 < (cgdescent cfg (fun _ => quadLine f0 g0 h) ⟨f0, g0, true⟩ t ctx).t ∧
    (cgdescent cfg (fun _ => quadLine f0 g0 h) ⟨f0, g0, true⟩ t ctx).ctx.cur =
      quadLine f0 g0 h (cgdescent cfg (fun _ => quadLine f0 g0 h) ⟨f0, g0, true⟩ t ctx).t ∧
    (CgWolfe cfg ⟨f0, g0, true⟩ (cgdescent cfg (fun _ => quadLine f0 g0 h) ⟨f0, g0, true⟩ t ctx) ∨
      CgApprox cfg ⟨f0, g0, true⟩ (cgdescent cfg (fun _ => quadLine f0 g0 h) ⟨f0, g0, true⟩ t ctx)) ∧
    ((cgdescent cfg (fun _ => quadLine f0 g0 h) ⟨f0, g0, true⟩ t ctx).t = t ∨
      (cgdescent cfg (fun _ => quadLine f0 g0 h) ⟨f0, g0, true⟩ t ctx).t = s.iv.t ∨
      (cgdescent cfg (fun _ => quadLine f0 g0 h) ⟨f0, g0, true⟩ t ctx).t = tstar g0 h) := by
  have hp := tstar_pos hg hh
  have hok : ctx.cur.ok = true := by rw [hc]; rfl
  obtain ⟨b1, b2, b3, b4, b5, b6, b7, b8⟩ := B
  simp only [cgdescent, hs]
  split
  · rename_i hdone
    exact ⟨hok, ht0, hc, (((cgDone_iff cfg ⟨f0, g0, true⟩ _ false ⟨⟨0, f0, g0⟩, stepOf ctx t, t⟩ ctx).1 hdone).resolve_left
      fun h => h.elim (fun h1 => Bool.noConfusion h1.1) (fun h1 => Bool.noConfusion (hok.symm.trans h1))).2, Or.inl rfl⟩
  · have hsok : s.ctx.cur.ok = true := by rw [b2]; rfl
    have haf : ¬ s.iv.a.f > f0 + cfg.cgEpsilon * absv f0 :=
      not_lt.2 ((b5.1.trans_le (quad_below_tstar (f0 := f0) hh b6 b7).2).trans
        (le_add_of_nonneg_right (mul_nonneg heps (absv_eq_abs f0 ▸ abs_nonneg f0))))
    have hbg : ¬ s.iv.b.g < 0 := by
      have := quad_slope_nonneg (f0 := f0) hh b4
      rw [← b2] at this
      rw [b3]; exact not_lt.2 this
    split
    · rename_i hdone
      exact ⟨hsok, hp.trans_le b4, b2, (((cgDone_iff cfg ⟨f0, g0, true⟩ _ true s.iv s.ctx).1 hdone).resolve_left
        fun h => h.elim (fun h1 => h1.2.elim haf hbg) (fun h1 => Bool.noConfusion (hsok.symm.trans h1))).2,
        Or.inr (Or.inl rfl)⟩
    · -- main loop: the secant step of `a` (below `t*`) and `b` (at `s.iv.t ≥ t*`) is `t*`, and it is accepted
      obtain ⟨m', hm'⟩ : ∃ m', s.m = m' + 1 := ⟨s.m - 1, by omega⟩
      have hbt : s.iv.b.t = s.iv.t := by rw [b3]; rfl
      have hbon : OnQuad f0 g0 h s.iv.b := by rw [b3]; exact onQuad_stepOf f0 g0 h s.ctx s.iv.t b2
      have hsec : secant s.iv.a s.iv.b = tstar g0 h :=
        secant_exact hh _ _ b5 hbon (hbt ▸ (b7.trans_le b4).ne)
      have hA := (armijo_at_tstar_iff (f0 := f0) hg hh).mpr hc1
      have hWf := (strongWolfe_at_tstar (f0 := f0) hg hh hc2).2
      have hacc := (cgDone_iff cfg ⟨f0, g0, true⟩ (cfg.cgEpsilon * absv f0) true ⟨s.iv.a, s.iv.b, tstar g0 h⟩
        (ask (fun _ => quadLine f0 g0 h) s.ctx (tstar g0 h))).2 (Or.inr ⟨⟨b7.le, b4.trans_eq hbt.symm⟩, Or.inl ⟨hA, hWf⟩⟩)
      have hcond : 0 < m' + 1 ∧ s.iv.b.t - s.iv.a.t > stpmin cfg.macheps := ⟨by omega, by rw [hbt]; exact b8⟩
      rw [hm', cgLoop, if_pos hcond]
      simp only [hsec, cgTry, hfin, cgMove, hacc, cgResult, Bool.true_eq_false, if_false, if_true]
      exact ⟨rfl, hp, rfl, Or.inl ⟨hA, hWf⟩, Or.inr (Or.inr trivial)⟩

theorem cgdescent_quad_succeeds (cfg : Cfg α) (f0 g0 h : α) (hg : g0 < 0) (hh : 0 < h) (t : α) (ctx : Ctx α)
    (hc : ctx.cur = quadLine f0 g0 h t) (ht0 : 0 < t) (k : Nat) (hk : k < cfg.maxIter) (hkt : tstar g0 h ≤ cfg.cgRo ^ k * t)
    (hro : 1 < cfg.cgRo) (heps : 0 ≤ cfg.cgEpsilon) (hw : stpmin cfg.macheps * cfg.cgRo < (cfg.cgRo - 1) * tstar g0 h)
    (hw0 : stpmin cfg.macheps < t) (hc1 : cfg.c1 ≤ 1 / 2) (hc2 : 0 ≤ cfg.c2) (hfin : cfg.fin (tstar g0 h) = true) :
    (cgdescent cfg (fun _ => quadLine f0 g0 h) ⟨f0, g0, true⟩ t ctx).ok = true ∧
    0 < (cgdescent cfg (fun _ => quadLine f0 g0 h) ⟨f0, g0, true⟩ t ctx).t ∧
    (cgdescent cfg (fun _ => quadLine f0 g0 h) ⟨f0, g0, true⟩ t ctx).ctx.cur =
      quadLine f0 g0 h (cgdescent cfg (fun _ => quadLine f0 g0 h) ⟨f0, g0, true⟩ t ctx).t ∧
    (CgWolfe cfg ⟨f0, g0, true⟩ (cgdescent cfg (fun _ => quadLine f0 g0 h) ⟨f0, g0, true⟩ t ctx) ∨
      CgApprox cfg ⟨f0, g0, true⟩ (cgdescent cfg (fun _ => quadLine f0 g0 h) ⟨f0, g0, true⟩ t ctx)) := by
  obtain ⟨r1, r2, r3, r4, -⟩ := cgdescent_quad_of_bracketed cfg f0 g0 h hg hh t ctx hc ht0 heps hc1 hc2 hfin _ rfl
    (cgBracket_quad cfg f0 g0 h hh hro heps hw cfg.maxIter ⟨0, f0, g0⟩ ⟨⟨0, f0, g0⟩, stepOf ctx t, t⟩ ctx ⟨k, hk, hkt⟩ ht0 hc
      (onQuad_origin f0 g0 h) (le_refl _) (tstar_pos hg hh) (fun _ => (sub_zero t).symm ▸ hw0))
  exact ⟨r1, r2, r3, r4⟩

end NanoVerif.LSearch
