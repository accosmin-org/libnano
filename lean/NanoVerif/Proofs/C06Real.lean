import NanoVerif.Proofs.C06Fn
import Mathlib.Analysis.SpecialFunctions.Log.Basic
import Mathlib.Analysis.SpecialFunctions.Trigonometric.Arctan
import Mathlib.Analysis.SpecialFunctions.Sqrt
/-!
  C06 — the kernels with exp / log over `ℝ`. Losses: exponential, logistic (as coded, with the `x < 1` switch), class
  negative log-likelihood (log-sum-exp with the max-shift and the `+ε` inside the logarithm as coded), and the
  non-negativity of the non-convex kernels. Benchmark functions: the pieces of chained_cb3I / chained_cb3II (after the
  `>=` tie fix) and the sum of exponentials of geometric-optimization. Everything comes from the tangent inequality
  `exp_tangent`. `Transc ℝ` reads `std::exp/log/log1p/atan/sqrt` as `Real.exp/log/log(1+·)/arctan/sqrt`.
-/

namespace NanoVerif.C06
open NanoVerif.Loss NanoVerif.Fn

noncomputable instance instTranscReal : Transc ℝ :=
  ⟨Real.exp, Real.log, fun y => Real.log (1 + y), Real.arctan, Real.sqrt⟩

@[simp] theorem texp_eq (x : ℝ) : Transc.exp x = Real.exp x := rfl
@[simp] theorem tlog_eq (x : ℝ) : Transc.log x = Real.log x := rfl
@[simp] theorem tlog1p_eq (x : ℝ) : Transc.log1p x = Real.log (1 + x) := rfl
@[simp] theorem tatan_eq (x : ℝ) : Transc.atan x = Real.arctan x := rfl
@[simp] theorem tsqrt_eq (x : ℝ) : Transc.sqrt x = Real.sqrt x := rfl

theorem exp_tangent (u v : ℝ) : Real.exp v ≥ Real.exp u * (1 + (v - u)) := by
  have h : v = u + (v - u) := by ring
  have h2 := Real.add_one_le_exp (v - u)
  have h3 : 0 < Real.exp u := Real.exp_pos _
  calc Real.exp v = Real.exp u * Real.exp (v - u) := by rw [← Real.exp_add]; congr 1
    _ ≥ Real.exp u * (1 + (v - u)) := by
      apply mul_le_mul_of_nonneg_left _ (le_of_lt h3); linarith

/-! ### exponential loss -/

theorem expK_subgrad (t x z : ℝ) : expV t z ≥ expV t x + expG t x * (z - x) := by
  unfold expV expG
  simp only [texp_eq]
  linear_combination exp_tangent (-t * x) (-t * z)

theorem expV_nonneg (t o : ℝ) : 0 ≤ expV t o := by
  unfold expV; simp only [texp_eq]; exact le_of_lt (Real.exp_pos _)

/-! ### the non-convex kernels are non-negative -/

theorem cauchyV_nonneg (t o : ℝ) : 0 ≤ cauchyV t o := by
  unfold cauchyV; simp only [tlog_eq]
  apply Real.log_nonneg; linarith [mul_self_nonneg (t - o)]

theorem savageV_nonneg (t o : ℝ) : 0 ≤ savageV t o := by
  unfold savageV; simp only [texp_eq]
  have := Real.exp_pos (t * o)
  positivity

theorem tangentV_nonneg (t o : ℝ) : 0 ≤ tangentV t o := by
  unfold tangentV; exact mul_self_nonneg _

/-! ### log-sum-exp -/

theorem expSum_pos (c : ℝ) : ∀ (o : List ℝ), o ≠ [] → 0 < expSum c o
  | [], h => absurd rfl h
  | [x], _ => by simp only [expSum, texp_eq]; have := Real.exp_pos (x - c); linarith
  | x :: y :: r, _ => by
    have ih := expSum_pos c (y :: r) (by simp)
    have := Real.exp_pos (x - c)
    simp only [expSum, texp_eq] at *
    linarith

theorem expSum_nonneg (c : ℝ) : ∀ (o : List ℝ), 0 ≤ expSum c o
  | [] => le_refl _
  | x :: r => by
    have := expSum_nonneg c r; have := Real.exp_pos (x - c)
    simp only [expSum, texp_eq]; linarith

theorem expSum_shift (c : ℝ) : ∀ (o : List ℝ), expSum c o = Real.exp (-c) * expSum 0 o
  | [] => by simp [expSum]
  | x :: r => by
    simp only [expSum, texp_eq]
    rw [expSum_shift c r, sub_zero, mul_add, ← Real.exp_add]
    congr 2; ring

/-- `Σ_i exp(x_i) (z_i − x_i)` -/
noncomputable def wsum : List ℝ → List ℝ → ℝ
  | x :: xs, z :: zs => Real.exp x * (z - x) + wsum xs zs
  | _, _ => 0

/-- tangents of `exp` at `x_i + m`, summed; `lse_tangent` chooses `m` -/
theorem expSum_tangent (m : ℝ) (x z : List ℝ) (h : z.length = x.length) :
    expSum 0 z ≥ Real.exp m * (expSum 0 x + wsum x z - m * expSum 0 x) := by
  induction x, z, h using length_eq_induction with
  | nil => simp [expSum, wsum]
  | cons x xs z zs h ih =>
    have t := exp_tangent (x + m) z
    simp only [expSum, wsum, texp_eq, sub_zero]
    rw [Real.exp_add] at t
    linear_combination ih + t

theorem classnllG_dot (c s : ℝ) (t x z : List ℝ) (hx : x.length = t.length) (hz : z.length = t.length) :
    dot (map2 (fun ti oi => if 0 < ti then Transc.exp (oi - c) / s - 1 else Transc.exp (oi - c) / s) t x) (vsub z x)
      = Real.exp (-c) * wsum x z / s - (posSum t z - posSum t x) := by
  induction t, x, z, hx, hz using length_eq_induction₃ with
  | nil => simp [map2, vsub, dot, wsum, posSum]
  | cons t ts x xs z zs hx hz ih =>
    simp only [map2, vsub, dot, wsum, posSum, texp_eq]
    simp only [texp_eq] at ih
    rw [ih, show Real.exp (x - c) = Real.exp (-c) * Real.exp x by rw [← Real.exp_add, neg_add_eq_sub]]
    split <;> ring

/-- the shift `c` of the exponents (the code takes the largest output) drops out of `log Σ exp(o_i − c) + c` -/
theorem log_expSum_shift (c : ℝ) (o : List ℝ) (hne : o ≠ []) :
    Real.log (expSum c o) + c = Real.log (expSum 0 o) := by
  rw [expSum_shift c o, Real.log_mul (Real.exp_pos _).ne' (expSum_pos 0 o hne).ne', Real.log_exp, neg_add_cancel_comm]

/-- log-sum-exp lies above its tangent whose slope is the soft-max; any shifts `cx`, `cz` -/
theorem lse_tangent (cx cz : ℝ) (x z : List ℝ) (hne : x ≠ []) (hl : z.length = x.length) :
    Real.log (expSum cz z) + cz ≥
      Real.log (expSum cx x) + cx + Real.exp (-cx) * wsum x z / expSum cx x := by
  have hz : z ≠ [] := ne_nil_of_length_eq hne hl
  have hEx := expSum_pos 0 x hne
  rw [log_expSum_shift cz z hz, log_expSum_shift cx x hne, expSum_shift cx x, mul_div_mul_left _ _ (Real.exp_pos _).ne']
  -- tangents of `exp` at `x_i + m`, with `m` the soft-max average of `z − x`
  have key := expSum_tangent (wsum x z / expSum 0 x) x z hl
  rw [div_mul_cancel₀ _ hEx.ne', add_sub_cancel_right] at key
  have := Real.log_le_log (mul_pos (Real.exp_pos _) hEx) key
  rw [Real.log_mul (Real.exp_pos _).ne' hEx.ne', Real.log_exp] at this
  linear_combination this

theorem expSum_ge_one (c : ℝ) : ∀ (o : List ℝ), c ∈ o → 1 ≤ expSum c o
  | [], h => by simp at h
  | x :: r, h => by
    simp only [expSum, texp_eq]
    rcases List.mem_cons.1 h with h1 | h1
    · rw [← h1, sub_self, Real.exp_zero]; have := expSum_nonneg c r; linarith
    · have := expSum_ge_one c r h1; have := Real.exp_pos (x - c); linarith

/-! ### logistic loss as coded -/

theorem softplus_eq (x : ℝ) : softplus x = Real.log (1 + Real.exp x) := by
  unfold softplus
  simp only [texp_eq, tlog1p_eq]
  split
  · rfl
  · have h1 : 0 < Real.exp x := Real.exp_pos _
    have h2 : 0 < 1 + Real.exp (-x) := by have := Real.exp_pos (-x); linarith
    have : 1 + Real.exp x = Real.exp x * (1 + Real.exp (-x)) := by
      rw [mul_add, mul_one, ← Real.exp_add]; simp; ring
    rw [this, Real.log_mul (ne_of_gt h1) (ne_of_gt h2), Real.log_exp]

theorem sigmoid_eq (x : ℝ) : sigmoid x = Real.exp x / (1 + Real.exp x) := by
  unfold sigmoid
  simp only [texp_eq]
  split
  · rfl
  · have h1 : 0 < Real.exp x := Real.exp_pos _
    rw [Real.exp_neg]
    field_simp
    ring

/-- log-sum-exp of the two entries `0, u` -/
theorem softplus_tangent (u v : ℝ) :
    Real.log (1 + Real.exp v) ≥ Real.log (1 + Real.exp u) + Real.exp u / (1 + Real.exp u) * (v - u) := by
  simpa [expSum, wsum, div_mul_eq_mul_div] using lse_tangent 0 0 [0, u] [0, v] (List.cons_ne_nil _ _) rfl

theorem logisticK_subgrad (t x z : ℝ) : logisticV t z ≥ logisticV t x + logisticG t x * (z - x) := by
  unfold logisticV logisticG
  rw [softplus_eq, softplus_eq, sigmoid_eq]
  have := softplus_tangent (-t * x) (-t * z)
  have h : Real.exp (-t * x) / (1 + Real.exp (-t * x)) * (-t * z - -t * x) =
      -t * (Real.exp (-t * x) / (1 + Real.exp (-t * x))) * (z - x) := by ring
  rw [h] at this
  exact this

theorem logisticV_nonneg (t o : ℝ) : 0 ≤ logisticV t o := by
  unfold logisticV; rw [softplus_eq]
  apply Real.log_nonneg
  have := Real.exp_pos (-t * o); linarith

/-! ### one-hot targets -/

theorem posSum_append (t1 o1 t2 o2 : List ℝ) (h : t1.length = o1.length) :
    posSum (t1 ++ t2) (o1 ++ o2) = posSum t1 o1 + posSum t2 o2 := by
  induction o1, t1, h using length_eq_induction with
  | nil => exact (zero_add _).symm
  | cons o os t ts h ih => simp only [List.cons_append, posSum]; rw [ih, add_assoc]

theorem posSum_nonpos_targets : ∀ (t o : List ℝ), (∀ v ∈ t, ¬ 0 < v) → posSum t o = 0
  | [], _, _ => by simp [posSum]
  | _ :: _, [], _ => by simp [posSum]
  | t :: ts, o :: os, h => by
    simp only [posSum]
    rw [posSum_nonpos_targets ts os (fun v hv => h v (by simp [hv]))]
    have := h t (by simp)
    simp [this]

theorem expSum_append (c : ℝ) : ∀ (o1 o2 : List ℝ), expSum c (o1 ++ o2) = expSum c o1 + expSum c o2
  | [], o2 => by simp [expSum]
  | x :: r, o2 => by simp only [List.cons_append, expSum]; rw [expSum_append c r o2]; ring

/-! ### the three pieces of chained_cb3 and their tangent planes -/

theorem cbV1_aux (a b a' b' : ℝ) :
    cbV1 a' b' ≥ cbV1 a b + ((cbG1 a b).1 * (a' - a) + (cbG1 a b).2 * (b' - b)) := by
  unfold cbV1 cbG1
  linear_combination quartic_tangent a a' + sq_tangent b b'

theorem cbV2_aux (a b a' b' : ℝ) :
    cbV2 a' b' ≥ cbV2 a b + ((cbG2 a b).1 * (a' - a) + (cbG2 a b).2 * (b' - b)) := by
  unfold cbV2 cbG2
  linear_combination sq_tangent (2 - a) (2 - a') + sq_tangent (2 - b) (2 - b')

theorem cbV3_aux (a b a' b' : ℝ) :
    cbV3 a' b' ≥ cbV3 a b + ((cbG3 a b).1 * (a' - a) + (cbG3 a b).2 * (b' - b)) := by
  unfold cbV3 cbG3
  simp only [texp_eq]
  rw [neg_add_eq_sub, neg_add_eq_sub]
  linear_combination 2 * exp_tangent (b - a) (b' - a')

theorem cb3Piece_aux (a b a' b' : ℝ) :
    cb3Piece a' b' ≥ cb3Piece a b + ((cb3PieceG a b).1 * (a' - a) + (cb3PieceG a b).2 * (b' - b)) := by
  have h := cmax3_subgrad (cbV1_aux a b a' b') (cbV2_aux a b a' b') (cbV3_aux a b a' b')
  unfold cb3Piece cb3PieceG
  split_ifs at h ⊢ <;> linear_combination h

/-! ### geometric optimization: `Σ_k exp(a_k + A_k·x)` -/

theorem sumexp_aux (u v : List ℝ) (h : v.length = u.length) :
    sumL (v.map Transc.exp) ≥ sumL (u.map Transc.exp) + dot (u.map Transc.exp) (vsub v u) := by
  induction u, v, h using length_eq_induction with
  | nil => simp [sumL, dot, vsub]
  | cons a u b v h ih =>
    simp only [List.map, sumL, vsub, dot, texp_eq] at ih ⊢
    linear_combination ih + exp_tangent a b

end NanoVerif.C06
