import NanoVerif.Model.Split
import NanoVerif.Proofs.Numeric
import Mathlib.Data.List.Nodup
/-!
  C12 — helper lemmas for `Props/C12.lean` (list slicing, the sorting contract, the arithmetic of the fold
  boundaries and of `idiv`).
-/
namespace NanoVerif.Split

/-! ### sorting contract -/

theorem SortSpec.mem {sort} (hs : SortSpec sort) {l : List Int} {x : Int} : x ∈ sort l ↔ x ∈ l :=
  (hs.perm l).mem_iff

theorem SortSpec.length {sort} (hs : SortSpec sort) (l : List Int) : (sort l).length = l.length :=
  (hs.perm l).length_eq

theorem SortSpec.strict {sort} (hs : SortSpec sort) {l : List Int} (hn : l.Nodup) : (sort l).Pairwise (· < ·) :=
  ((hs.sorted l).and ((hs.perm l).nodup_iff.mpr hn)).imp Int.lt_iff_le_and_ne.mpr

/-! ### slicing a list into `[0,b) ++ [b,e) ++ [e,n)` -/

theorem outside_inside_perm (l : List Int) (b e : Nat) (hbe : b ≤ e) :
    ((l.take b ++ l.drop e) ++ (l.drop b).take (e - b)).Perm l := by
  have h : l.take b ++ ((l.drop b).take (e - b) ++ (l.drop b).drop (e - b)) = l := by
    rw [List.take_append_drop, List.take_append_drop]
  rw [List.drop_drop, Nat.add_sub_cancel' hbe] at h
  rw [List.append_assoc]
  exact (List.Perm.append_left _ List.perm_append_comm).trans (.of_eq h)

theorem goodPair_of_pieces {sort} (hs : SortSpec sort) {samples perm a b : List Int} (hnd : samples.Nodup)
    (hp : perm.Perm samples) (hab : (a ++ b).Perm perm) : GoodPair samples (sort a, sort b) := by
  obtain ⟨hna, hnb, hdis⟩ := List.nodup_append.mp ((hab.trans hp).nodup_iff.mpr hnd)
  exact ⟨hs.strict hna, hs.strict hnb, fun x hx hx' => hdis x (hs.mem.mp hx) x (hs.mem.mp hx') rfl,
    ((hs.perm a).append (hs.perm b)).trans (hab.trans hp)⟩

/-! ### fold boundaries -/

theorem mul_chunk_le (n : Nat) {folds f : Nat} (hf : f ≤ folds) : f * chunk n folds ≤ n :=
  Nat.le_trans (Nat.mul_le_mul_right _ hf) (Nat.mul_div_le n folds)

theorem validBegin_le_validEnd (n folds f : Nat) (hf : f < folds) : validBegin n folds f ≤ validEnd n folds f := by
  unfold validEnd validBegin
  split
  · exact Nat.le_add_right _ _
  · exact mul_chunk_le n (Nat.le_of_lt hf)

theorem validEnd_le (n folds f : Nat) (_hf : f < folds) : validEnd n folds f ≤ n := by
  unfold validEnd validBegin
  split
  · rename_i h
    rw [← Nat.succ_mul]
    exact mul_chunk_le n (Nat.le_of_lt h)
  · exact Nat.le_refl _

theorem validSlice_length (perm : List Int) (folds f : Nat) (hf : f < folds) :
    (validSlice perm folds f).length = validEnd perm.length folds f - validBegin perm.length folds f := by
  have h2 := validEnd_le perm.length folds f hf
  simp only [validSlice, List.length_take, List.length_drop]
  omega

theorem validSlice_length_of_lt (perm : List Int) {folds f : Nat} (hf : f + 1 < folds) :
    (validSlice perm folds f).length = perm.length / folds := by
  rw [validSlice_length perm folds f (by omega), validEnd, if_pos hf, Nat.add_sub_cancel_left]
  rfl

theorem validSlice_length_last (perm : List Int) (folds : Nat) (hpos : 0 < folds) :
    (validSlice perm folds (folds - 1)).length = perm.length - (folds - 1) * (perm.length / folds) := by
  rw [validSlice_length perm folds _ (by omega), validEnd, if_neg (by omega)]
  rfl

theorem sub_pred_mul_div (n : Nat) {k : Nat} (hk : 0 < k) : n - (k - 1) * (n / k) = n / k + n % k := by
  have h : (k - 1) * (n / k) + n / k = k * (n / k) := by
    rw [← Nat.succ_mul, Nat.succ_eq_add_one, Nat.sub_add_cancel hk]
  have := Nat.div_add_mod n k
  rw [← h] at this
  generalize (k - 1) * (n / k) = x, n / k = c, n % k = m at this ⊢
  omega

theorem flatMap_validSlice_take (perm : List Int) (folds : Nat) :
    ∀ m, m + 1 ≤ folds →
      (List.range m).flatMap (validSlice perm folds) = perm.take (m * chunk perm.length folds)
  | 0, _ => by simp
  | m + 1, hm => by
    rw [List.range_succ, List.flatMap_append, flatMap_validSlice_take perm folds m (Nat.le_of_succ_le hm)]
    simp only [List.flatMap_cons, List.flatMap_nil, List.append_nil, validSlice, validEnd, validBegin,
      if_pos (show m + 1 < folds from hm)]
    rw [Nat.add_sub_cancel_left, Nat.add_mul, Nat.one_mul, List.take_add]

theorem flatMap_validSlice (perm : List Int) (folds : Nat) (hf : 0 < folds) :
    (List.range folds).flatMap (validSlice perm folds) = perm := by
  obtain ⟨k, rfl⟩ : ∃ k, folds = k + 1 := ⟨folds - 1, by omega⟩
  rw [List.range_succ, List.flatMap_append, flatMap_validSlice_take perm (k + 1) k (Nat.le_refl _)]
  simp only [List.flatMap_cons, List.flatMap_nil, List.append_nil, validSlice, validEnd, validBegin,
    if_neg (Nat.lt_irrefl (k + 1))]
  rw [List.take_of_length_le (Nat.le_of_eq List.length_drop), List.take_append_drop]

/-! ### the training size of the random splitter: `idiv(train_perc * size, 100)` (random.cpp) -/

theorem trainSize_eq (tp n : Nat) : trainSize tp n = (tp * n + 50) / 100 :=
  congrArg Int.toNat (Gen.idiv_natCast (tp * n) 100)

theorem idiv_trainSize (tp n : Nat) : Gen.idiv ((tp : Int) * (n : Int)) 100 = ((trainSize tp n : Nat) : Int) :=
  (Gen.idiv_natCast (tp * n) 100).trans (congrArg Nat.cast (trainSize_eq tp n).symm)

/-! ### the shuffles of the random splitter -/

theorem randomPerms_length {G : Type} (shuffle : G → List Int → List Int × G) :
    ∀ (k : Nat) (g : G) (l : List Int), (randomPerms shuffle g l k).length = k
  | 0, _, _ => rfl
  | k + 1, _, _ => congrArg (· + 1) (randomPerms_length shuffle k _ _)

theorem randomPerms_forall {G : Type} (shuffle : G → List Int → List Int × G) (R : List Int → List Int → Prop)
    (htrans : ∀ {a b c}, R a b → R b c → R a c) (hsh : ∀ g l, R (shuffle g l).1 l) :
    ∀ (k : Nat) (g : G) (l : List Int), ∀ q ∈ randomPerms shuffle g l k, R q l
  | 0, _, _, _, hq => nomatch hq
  | k + 1, g, l, q, hq => by
    rcases List.mem_cons.mp hq with rfl | hq
    · exact hsh g l
    · exact htrans (randomPerms_forall shuffle R htrans hsh k _ _ q hq) (hsh g l)

/-! ### the two core samplers, read off their answers -/

theorem sampleWithout_eq_some {sort : List Int → List Int} {perm : List Int} {count : Nat} {r : List Int} :
    sampleWithout sort perm count = some r ↔ count ≤ perm.length ∧ sort (perm.take count) = r :=
  Option.ite_some_none_eq_some

theorem sampleWith_eq_some {sort : List Int → List Int} {samples : List Int} {count : Nat} {draws : List Nat}
    {r : List Int} (h : sampleWith sort samples count draws = some r) :
    draws.length = count ∧ ∃ xs, pick samples draws = some xs ∧ sort xs = r := by
  unfold sampleWith at h
  split at h
  · exact ⟨‹_›, Option.map_eq_some_iff.mp h⟩
  · cases h

/-! ### picking samples by position -/

theorem pick_spec (samples : List Int) : ∀ (draws : List Nat) (r : List Int), pick samples draws = some r →
    r.length = draws.length ∧ (∀ x ∈ r, ∃ d ∈ draws, samples[d]? = some x)
  | [], r, h => by cases h; exact ⟨rfl, nofun⟩
  | d :: ds, r, h => by
    unfold pick at h
    split at h
    · rename_i x xs hx hr
      cases h
      obtain ⟨hl, hm⟩ := pick_spec samples ds xs hr
      exact ⟨congrArg (· + 1) hl, List.forall_mem_cons.mpr ⟨⟨d, List.mem_cons_self, hx⟩,
        fun y hy => (hm y hy).imp fun _ h => ⟨List.mem_cons_of_mem _ h.1, h.2⟩⟩⟩
    · cases h

theorem pick_isSome (samples : List Int) : ∀ (draws : List Nat),
    (pick samples draws).isSome ↔ ∀ d ∈ draws, d < samples.length
  | [] => by simp [pick]
  | d :: ds => by
    rw [List.forall_mem_cons, ← pick_isSome samples ds, ← isSome_getElem? samples d, pick]
    cases samples[d]? <;> cases pick samples ds <;> simp

end NanoVerif.Split
