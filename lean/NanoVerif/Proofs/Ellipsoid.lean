import NanoVerif.Model.Ellipsoid
import NanoVerif.Proofs.Bundle
/-!
  C03 — helper definitions and lemmas about `Model/Ellipsoid.lean` over an arbitrary linear ordered field.
  The property theorems are in `Props/C03.lean`.

  * `InE`: membership in the ellipsoid `E(x, H) = {z | (z − x)ᵀ H⁻¹ (z − x) ≤ 1}` in support-function form (inverse-free);
  * the adjoint identity `w·(L u) = (wᵀL)·u`;
  * the loop invariant of the 1-D branch (`Inv1`) and its preservation by `iter1d` / `run1d`.
-/

namespace NanoVerif.Ellipsoid
open NanoVerif.Bundle
variable {α : Type} [Field α] [LinearOrder α] [IsStrictOrderedRing α]

/-- `z ∈ E(x, H)`, support-function form: `(w·(z − x))² ≤ wᵀ H w` for every direction `w` -/
def InE (n : Nat) (x : List α) (H : List (List α)) (z : List α) : Prop :=
  ∀ w : List α, w.length = n → dot w (vsub z x) * dot w (vsub z x) ≤ quad H w

/-! ### adjoint identity -/

theorem mv_eq (H : List (List α)) (g : List α) : mv H g = ListVec.mv H g := by
  rw [mv, dot_eq]; rfl

theorem vm_eq (n : Nat) : ∀ (g : List α) (H : List (List α)), vm n g H = ListVec.tmv n H g
  | [], [] => rfl
  | [], _ :: _ => rfl
  | _ :: _, [] => rfl
  | gi :: g, r :: H => by rw [vm, vaxpy_eq, vm_eq n g H]; rfl

theorem vm_length (m : Nat) (w : List α) (L : List (List α)) (h : ∀ r ∈ L, r.length = m) : (vm m w L).length = m := by
  rw [vm_eq]; exact ListVec.tmv_length m L w h

/-- `w` and `L` may differ in length: both sides truncate alike -/
theorem vm_adjoint (m : Nat) (u w : List α) (L : List (List α)) (h : ∀ r ∈ L, r.length = m) :
    dot w (mv L u) = dot (vm m w L) u := by
  rw [dot_eq, mv_eq, vm_eq]; exact (ListVec.tmv_adjoint m L w u h).symm

/-! ### the 1-D branch -/

theorem abs_sub_half_le (d h : α) (h0 : 0 ≤ d) (h1 : d ≤ 2 * h) : |d - h| ≤ h :=
  abs_sub_le_iff.2 ⟨sub_le_iff_le_add.2 (by rwa [← two_mul]), sub_le_self h h0⟩

/-- containment after one 1-D step: the centre moves by the full `h` towards the minimiser, the half-width `2h` halves -/
theorem step1d_contains (f : α → α) (x h g z : α) (hh : 0 ≤ h) (hz : |z - x| ≤ 2 * h) (hg : g ≠ 0)
    (hsub : ∀ w, f x + g * (w - x) ≤ f w) (hmin : ∀ w, f z ≤ f w) :
    |z - (step1d x h g).1| ≤ 2 * (step1d x h g).2 ∧ 0 ≤ (step1d x h g).2 := by
  -- the minimiser lies on the side the derivative points away from
  have hgz : g * (z - x) ≤ 0 := by linarith only [hsub z, hmin x]
  obtain ⟨hl, hu⟩ := abs_le.mp hz
  refine ⟨?_, div_nonneg hh zero_le_two⟩
  show |z - (x + h * if g < 0 then 1 else -1)| ≤ 2 * (h / 2)
  rw [two_mul, add_halves]
  split_ifs with hneg
  · rw [mul_one, ← sub_sub]
    exact abs_sub_half_le _ _ (nonneg_of_mul_nonpos_right hgz hneg) hu
  · have hzx := nonpos_of_mul_nonpos_right hgz (lt_of_le_of_ne (not_lt.mp hneg) hg.symm)
    rw [mul_neg_one, ← sub_eq_add_neg, abs_sub_comm, sub_right_comm]
    exact abs_sub_half_le _ _ (sub_nonneg.2 (sub_nonpos.1 hzx)) (neg_sub z x ▸ neg_le.1 hl)

theorem gap1d (f : α → α) (x h g z : α) (hz : |z - x| ≤ 2 * h) (hsub : ∀ w, f x + g * (w - x) ≤ f w) :
    f x - f z ≤ 2 * |g| * h := by
  have h2 : -(g * (z - x)) ≤ |g| * |z - x| := by
    rw [← abs_mul]; exact neg_le_abs _
  have h3 : |g| * |z - x| ≤ |g| * (2 * h) := mul_le_mul_of_nonneg_left hz (abs_nonneg g)
  linarith only [hsub z, h2, h3]

theorem gap1d_sharp (f : α → α) (x h g z : α) (hh : 0 ≤ h) (hz : |z - x| ≤ 2 * h)
    (hsub : ∀ w, f x + g * (w - x) ≤ f w) (hg1 : 1 ≤ |g|) :
    f x - f z ≤ 2 * (g * (h * g)) :=
  calc f x - f z ≤ 2 * |g| * h := gap1d f x h g z hz hsub
    _ = 2 * (|g| * h) := mul_assoc _ _ _
    _ ≤ 2 * (|g| * (|g| * h)) :=
      mul_le_mul_of_nonneg_left (le_mul_of_one_le_left (mul_nonneg (abs_nonneg g) hh) hg1) zero_le_two
    _ = 2 * (g * (h * g)) := by rw [← mul_assoc |g|, abs_mul_abs_self, mul_assoc, mul_comm g h]

/-- the quantity the 1-D loop tests bounds the gap at the centre when the derivative is `0` or at least `1` in size -/
theorem gap1d_test (f : α → α) (x h g z : α) (hh : 0 ≤ h) (hz : |z - x| ≤ 2 * h)
    (hsub : ∀ w, f x + g * (w - x) ≤ f w) (hg : g = 0 ∨ 1 ≤ |g|) : f x - f z ≤ 2 * (g * (h * g)) := by
  rcases hg with rfl | hg1
  · have := hsub z
    rw [zero_mul, add_zero] at this
    rw [zero_mul, mul_zero]
    exact sub_nonpos.2 this
  · exact gap1d_sharp f x h g z hh hz hsub hg1

/-- loop invariant of the 1-D ellipsoid method for the minimiser `z`: `z ∈ [x − 2h, x + 2h]`, the cached value and
    derivative are those of the centre, and the best value is not above the value at the centre -/
def Inv1 (f g' : α → α) (z : α) (s : S1 α) : Prop :=
  |z - s.x| ≤ 2 * s.h ∧ 0 ≤ s.h ∧ s.f = f s.x ∧ s.g = g' s.x ∧ s.best ≤ f s.x

theorem better_le (best f : α) : better best f ≤ best ∧ better best f ≤ f := by
  unfold better
  split_ifs with h
  · exact ⟨(sub_pos.1 h).le, le_refl _⟩
  · exact ⟨le_refl _, sub_nonpos.1 (not_lt.mp h)⟩

def Cert1 (f : α → α) (z eps epsM : α) (s : S1 α) : Prop :=
  s.best - f z < 2 * (eps * eps) ∨ s.best - f z < 2 * epsM

theorem iter1d_spec [Sqrt α] (hsqrt : ∀ v : α, 0 ≤ v → 0 ≤ Sqrt.sqrt v ∧ Sqrt.sqrt v * Sqrt.sqrt v = v)
    (f g' : α → α) (z eps epsM : α) (hsub : ∀ x w, f x + g' x * (w - x) ≤ f w) (hmin : ∀ w, f z ≤ f w)
    (hsharp : ∀ x, g' x = 0 ∨ 1 ≤ |g' x|) (hepsM : 0 < epsM) (s : S1 α) (hinv : Inv1 f g' z s) :
    Inv1 f g' z (iter1d eps epsM (fun x => (f x, g' x)) s).2 ∧
      ((iter1d eps epsM (fun x => (f x, g' x)) s).1 = true →
        Cert1 f z eps epsM (iter1d eps epsM (fun x => (f x, g' x)) s).2) := by
  obtain ⟨hz, hh, hf, hg, hb⟩ := hinv
  have hsubx : ∀ w, f s.x + s.g * (w - s.x) ≤ f w := hg ▸ hsub s.x
  -- the best value is within twice the tested quantity of the minimum
  have hgap : s.best - f z ≤ 2 * (s.g * (s.h * s.g)) :=
    le_trans (sub_le_sub_right hb _) (gap1d_test f s.x s.h s.g z hh hz hsubx (hg ▸ hsharp s.x))
  unfold iter1d
  simp only
  by_cases hc : s.g * (s.h * s.g) < epsM
  · rw [if_pos hc]
    exact ⟨⟨hz, hh, hf, hg, hb⟩, fun _ => Or.inr (lt_of_le_of_lt hgap (mul_lt_mul_of_pos_left hc zero_lt_two))⟩
  · rw [if_neg hc]
    have hg0 : s.g ≠ 0 := fun h0 => hc (by rw [h0, zero_mul]; exact hepsM)
    obtain ⟨hc1, hc2⟩ := step1d_contains f s.x s.h s.g z hh hz hg0 hsubx hmin
    refine ⟨⟨hc1, hc2, rfl, rfl, (better_le _ _).2⟩, fun hconv => Or.inl ?_⟩
    have hlt : Sqrt.sqrt (s.g * (s.h * s.g)) < eps := of_decide_eq_true hconv
    obtain ⟨hr0, hr⟩ := hsqrt (s.g * (s.h * s.g))
      (by rw [mul_left_comm]; exact mul_nonneg hh (mul_self_nonneg s.g))
    have hsq : s.g * (s.h * s.g) < eps * eps := hr ▸ mul_self_lt_mul_self hr0 hlt
    exact lt_of_le_of_lt (le_trans (sub_le_sub_right (better_le _ _).1 _) hgap)
      (mul_lt_mul_of_pos_left hsq zero_lt_two)

theorem run1d_spec [Sqrt α] (hsqrt : ∀ v : α, 0 ≤ v → 0 ≤ Sqrt.sqrt v ∧ Sqrt.sqrt v * Sqrt.sqrt v = v)
    (f g' : α → α) (z eps epsM : α) (hsub : ∀ x w, f x + g' x * (w - x) ≤ f w) (hmin : ∀ w, f z ≤ f w)
    (hsharp : ∀ x, g' x = 0 ∨ 1 ≤ |g' x|) (hepsM : 0 < epsM) :
    ∀ (fuel : Nat) (s s' : S1 α), Inv1 f g' z s → run1d eps epsM (fun x => (f x, g' x)) fuel s = (true, s') →
      Cert1 f z eps epsM s'
  | 0, s, s', _, h => by simp [run1d] at h
  | k + 1, s, s', hinv, h => by
    obtain ⟨hi, hc⟩ := iter1d_spec hsqrt f g' z eps epsM hsub hmin hsharp hepsM s hinv
    simp only [run1d] at h
    split at h
    · rename_i hb
      have := hc hb
      rwa [h] at this
    · exact run1d_spec hsqrt f g' z eps epsM hsub hmin hsharp hepsM k _ s' hi h

end NanoVerif.Ellipsoid
