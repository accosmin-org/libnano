import NanoVerif.Props.C03
import NanoVerif.Model.BundleSolver
import NanoVerif.Proofs.CxxOrder
/-!
  C03 — theorems about the outer loops of RQB / FPBA1 / FPBA2 (`Model/BundleSolver.lean`), on top of the bundle theorems of
  `Props/C03.lean` (this file imports them, so it is listed separately in `LEAN_MODULES`).

  * the proximity parameter stays positive (`miuInit_pos`, `proxUpdate1_pos`, `proxUpdate2_pos`);
  * the point a curve search returns with a decision is an evaluation of the objective, and `converged` means both bundle
    tests hold for the multipliers of its last solve (`csearchLoop_spec`);
  * loop invariant `Inv` of the outer loops (bundle valid = every row a cutting plane, `miu > 0`, the returned state is a point
    with its value, not worse than the bundle centre) preserved by every pass of every solver (`pass_spec`);
  * `solver_run_certificate`: a run that reports `converged` returns a point satisfying the bound of the statement.
-/
set_option linter.unusedSectionVars false

namespace NanoVerif.BundleSolver
open NanoVerif.Bundle NanoVerif.Ellipsoid
variable {α : Type} [Field α] [LinearOrder α] [IsStrictOrderedRing α]

/-! ### the proximity parameter -/

/-- `proximity_t::proximity_t`: the initial parameter is positive for `0 < miu0_min ≤ miu0_max` (the parameter's domain) -/
theorem miuInit_pos (gx : List α) (fx eps0 lo hi : α) (hlo : 0 < lo) (hle : lo ≤ hi) : 0 < miuInit gx fx eps0 lo hi :=
  Cxx.lt_clamp _ hlo (hlo.trans_le hle)

theorem neq_self (a : α) : neq a a = false := by simp [neq]

/-- `make_miu` returns `max` or the quotient `nu·nu / nu·u` with `nu·u > min_dot_nuv > 0`, and then `nu ≠ 0` -/
theorem makeMiu_pos_or (fmax miu t : α) (nu xi : List α) (minDot : α) (hm : 0 < minDot) :
    makeMiu fmax miu t nu xi minDot = fmax ∨ 0 < makeMiu fmax miu t nu xi minDot := by
  unfold makeMiu
  dsimp only
  split_ifs with h
  · exact Or.inr (div_pos (dot_self_pos_of_dot_pos _ _ (hm.trans h)) (hm.trans h))
  · exact Or.inl rfl

theorem makeMiu_pos (fmax miu t : α) (nu xi : List α) (minDot : α) (hm : 0 < minDot) (hf : 0 < fmax) :
    0 < makeMiu fmax miu t nu xi minDot :=
  (makeMiu_pos_or fmax miu t nu xi minDot hm).elim (fun h => hf.trans_eq h.symm) id

theorem cmin_pos (a b : α) (ha : 0 < a) (hb : 0 < b) : 0 < cmin a b := by
  unfold cmin; split <;> assumption

theorem pos_ite (c : Bool) (a b : α) (ha : 0 < a) (hb : 0 < b) : 0 < (if c then a else b) := by
  cases c
  exacts [hb, ha]

/-- `proximity_t::update` (FPBA): the parameter stays positive (`min_dot_nuv > 0` is the parameter's domain) -/
theorem proxUpdate1_pos (fmax minDot miu t : α) (xn xn1 gn gn1 : List α) (hm : 0 < minDot) (hmiu : 0 < miu) :
    0 < proxUpdate1 fmax minDot miu t xn xn1 gn gn1 := by
  unfold proxUpdate1
  dsimp only
  split_ifs with h
  · -- a value different from `max` is the positive quotient
    refine (makeMiu_pos_or fmax miu t (vsub gn1 gn) (vsub xn1 xn) minDot hm).resolve_left fun h1 => ?_
    rw [h1, neq_self] at h
    cases h
  · exact hmiu

theorem foldl_pos {β : Type} (step : α → β → α) (h : ∀ m b, 0 < m → 0 < step m b) :
    ∀ (l : List β) (m : α), 0 < m → 0 < l.foldl step m
  | [], _, hm => hm
  | b :: l, m, hm => foldl_pos step h l _ (h m b hm)

/-- `proximity_t::update` (RQB, minimum over the nine combinations): the parameter stays positive -/
theorem proxUpdate2_pos (fmax minDot miu t : α) (xn xn1 gn gn1 Gn Gn1 : List α) (hm : 0 < minDot) (hf : 0 < fmax)
    (hmiu : 0 < miu) : 0 < proxUpdate2 fmax minDot miu t xn xn1 gn gn1 Gn Gn1 :=
  pos_ite _ _ _ (foldl_pos _ (fun _ _ hm' => foldl_pos _ (fun _ _ hm' =>
    cmin_pos _ _ hm' (makeMiu_pos _ _ _ _ _ _ hm hf)) _ _ hm') _ _ hf) hmiu

/-! ### contracts of the oracles -/

/-- the environment evaluates a convex `f` with sub-gradient oracle `g'`, every value is finite (exact arithmetic), the
    parameters are in their domains, and `bundle_t::solve` meets its contract: a simplex point of the right length, whose
    ACTIVE part (what `delete_inactive` keeps) is again a simplex point whenever the bundle is full (i.e. the dropped
    multipliers are exactly zero then: the hypothesis `hw` of `appendFull_valid`) -/
structure EnvOK (n : Nat) (f : List α → α) (g' : List α → List α) (E : Env α) : Prop where
  hn : E.n = n
  hF : ∀ x, E.F x = (f x, g' x)
  hsub : ∀ x : List α, x.length = n → SubGrad n f x (g' x)
  hfin : ∀ v, E.fin v = true
  hminDot : 0 < E.minDot
  hfmax : 0 < E.fmax
  hsolve : ∀ (miu : α) (b : State α), b.pairs ≠ [] →
    (solveB E miu b.pairs).length = b.pairs.length ∧ Simplex (solveB E miu b.pairs) ∧
      ((active E.P.eps0 b.pairs (solveB E miu b.pairs)).length + 1 = E.capacity →
        Simplex ((active E.P.eps0 b.pairs (solveB E miu b.pairs)).map (·.2)))

/-! ### the curve search -/

/-- what a point returned WITH a decision satisfies -/
def Good [Sqrt α] (n : Nat) (f : List α → α) (g' : List α → List α) (E : Env α) (b : State α) (pt : Point α) : Prop :=
  pt.y.length = n ∧ pt.fy = f pt.y ∧ pt.gy = g' pt.y ∧ (∃ m, pt.alphas = solveB E m b.pairs) ∧
    (pt.status = .converged → econverged n E.eps b.pairs pt.alphas = true ∧ sconverged n E.eps b.pairs pt.alphas = true)

theorem proximal_length (m : α) (x s : List α) : (proximal m x s).length = min x.length s.length := by
  simp [proximal]

theorem csearchLoop_spec [Sqrt α] (n : Nat) (f : List α → α) (g' : List α → List α) (E : Env α) (hE : EnvOK n f g' E)
    (b : State α) (hb : Valid n f b) (miu : α) :
    ∀ (rem : Nat) (c : CState α) (pt0 : Point α),
      (csearchLoop E b miu rem c pt0).1.status = pt0.status ∨ Good n f g' E b (csearchLoop E b miu rem c pt0).1
  | 0, c, pt0 => Or.inl rfl
  | rem + 1, c, pt0 => by
    unfold csearchLoop
    simp only
    have hy : (proximal (miu / c.t) b.x (smearedS E.n b.pairs (solveB E (miu / c.t) b.pairs))).length = n := by
      rw [proximal_length, hE.hn, smearedS_length n b.pairs _ (fun p hp => (hb.2.2 p hp).1), hb.1, min_self]
    split
    · rename_i st hst
      refine Or.inr ⟨hy, congrArg Prod.fst (hE.hF _), congrArg Prod.snd (hE.hF _), ⟨_, rfl⟩, fun hconv => ?_⟩
      cases hconv
      exact hE.hn ▸ ((csearch_converged_iff E.P c _ _ _ b.fx _ _ _ _ _).mp hst).2
    · rename_i c' hst
      exact csearchLoop_spec n f g' E hE b hb miu rem c' _

/-! ### the outer loops -/

def Inv (n : Nat) (f : List α → α) (s : SolverSt α) : Prop :=
  Valid n f s.b ∧ 0 < s.miu ∧ s.sfx = f s.sx ∧ s.sfx ≤ s.b.fx ∧ s.sx.length = n ∧ s.b.pairs ≠ [] ∧
    s.seq.x.length = n ∧ s.seq.y.length = n

/-- what a pass that stops with `converged` leaves behind: the bundle (unchanged) and multipliers in the simplex for which
    both tests hold -/
def Stopped [Sqrt α] (n : Nat) (E : Env α) (s : SolverSt α) : Prop :=
  ∃ ws : List α, ws.length = s.b.pairs.length ∧ Simplex ws ∧ econverged n E.eps s.b.pairs ws = true ∧
    sconverged n E.eps s.b.pairs ws = true

theorem appendFull_x_fx (capacity : Nat) (eps0 thres : α) (n : Nat) (serious : Bool) (b : State α) (alphas y gy : List α)
    (fy : α) :
    (appendFull capacity eps0 thres n serious b alphas y gy fy).x = (if serious then y else b.x) ∧
      (appendFull capacity eps0 thres n serious b alphas y gy fy).fx = (if serious then fy else b.fx) ∧
      (appendFull capacity eps0 thres n serious b alphas y gy fy).pairs ≠ [] := by
  unfold appendFull appendStep
  cases serious <;> simp

theorem appendFull_env [Sqrt α] {n : Nat} {f : List α → α} {g' : List α → List α} {E : Env α} (hE : EnvOK n f g' E)
    {b : State α} (hb : Valid n f b) (hne : b.pairs ≠ []) (m thres : α) (serious : Bool) {y : List α}
    (hy : y.length = n) :
    Valid n f (appendFull E.capacity E.P.eps0 thres E.n serious b (solveB E m b.pairs) y (g' y) (f y)) := by
  rw [hE.hn]
  exact appendFull_valid _ _ _ n f serious b _ y _ hb (hE.hsolve m b hne).2.2 hy (hE.hsub y hy)

theorem extrap_length (ak bk : α) : ∀ (z y x : List α), z.length = y.length → y.length = x.length →
    (extrap ak bk z y x).length = z.length
  | [], [], [], _, _ => rfl
  | _ :: z, _ :: y, _ :: x, h1, h2 => congrArg (· + 1) (extrap_length ak bk z y x (Nat.succ.inj h1) (Nat.succ.inj h2))
  | [], _ :: _, _, h, _ => nomatch h
  | _ :: _, [], _, h, _ => nomatch h
  | _, [], _ :: _, _, h => nomatch h
  | _, _ :: _, [], _, h => nomatch h

theorem seq_update_length [Sqrt α] {n : Nat} (two : Bool) (q : Seq α) (z : List α) (hx : q.x.length = n)
    (hy : q.y.length = n) (hz : z.length = n) :
    (q.update two z).x.length = n ∧ ∀ c : Bool, (if c then q.update two z else (q.update two z).reset).x.length = n ∧
      (if c then q.update two z else (q.update two z).reset).y.length = n := by
  have h : (q.update two z).x.length = n :=
    (extrap_length _ _ z q.y q.x (hz.trans hy.symm) (hy.trans hx.symm)).trans hz
  refine ⟨h, fun c => ?_⟩
  cases c
  exacts [⟨h, hz⟩, ⟨h, hz⟩]

theorem upBetter_spec (fin : α → Bool) (hfin : ∀ v, fin v = true) (P : List α → α → Prop) (sx x : List α) (sfx fx : α)
    (hold : P sx sfx) (hnew : P x fx) :
    P (upBetter fin sx sfx x fx).2.1 (upBetter fin sx sfx x fx).2.2 ∧ (upBetter fin sx sfx x fx).2.2 ≤ fx ∧
      (upBetter fin sx sfx x fx).2.2 ≤ sfx := by
  unfold upBetter
  rw [hfin, Bool.true_and]
  split_ifs with h
  · exact ⟨hnew, le_refl _, (sub_pos.mp (of_decide_eq_true h)).le⟩
  · exact ⟨hold, sub_nonpos.mp (not_lt.mp fun h' => h (decide_eq_true h')), le_refl _⟩

theorem seriousR_inv [Sqrt α] (n : Nat) (f : List α → α) (g' : List α → List α) (E : Env α) (hE : EnvOK n f g' E)
    (descent : Bool) (s : SolverSt α) (hinv : Inv n f s) (pt : Point α) (hpt : Good n f g' E s.b pt)
    (rem : Nat) : Inv n f (seriousR E descent s pt rem).1 := by
  obtain ⟨hb, hmiu, -, -, -, hne, hqx, hqy⟩ := hinv
  obtain ⟨hy, hfy, hgy, ⟨m, hal⟩, -⟩ := hpt
  simp only [seriousR]
  refine ⟨?_, pos_ite _ _ _ (proxUpdate2_pos _ _ _ _ _ _ _ _ _ _ hE.hminDot hE.hfmax hmiu) hmiu, hfy, le_refl pt.fy, hy,
    (appendFull_x_fx ..).2.2, hqx, hqy⟩
  rw [hfy, hgy, hal]
  exact appendFull_env hE hb hne m _ true hy

theorem seriousF_inv [Sqrt α] (n : Nat) (f : List α → α) (g' : List α → List α) (E : Env α) (hE : EnvOK n f g' E)
    (two descent : Bool) (s : SolverSt α) (hinv : Inv n f s) (pt : Point α) (hpt : Good n f g' E s.b pt)
    (rem : Nat) : Inv n f (seriousF E two descent s pt rem).1 := by
  obtain ⟨hb, hmiu, hsf, -, hsx, hne, hqx, hqy⟩ := hinv
  obtain ⟨hy, hfy, -, ⟨m, hal⟩, -⟩ := hpt
  simp only [seriousF, hE.hF, hfy, hal]
  -- the best point after looking at the trial point, then at the extrapolated point `sq.x` the bundle moves to
  have key := upBetter_spec E.fin hE.hfin fun p v => v = f p ∧ p.length = n
  have u1 := key s.sx pt.y s.sfx (f pt.y) ⟨hsf, hsx⟩ ⟨rfl, hy⟩
  have hq := seq_update_length two s.seq pt.y hqx hqy hy
  have u2 := key _ (s.seq.update two pt.y).x _ (f (s.seq.update two pt.y).x) u1.1 ⟨rfl, hq.1⟩
  exact ⟨appendFull_env hE hb hne m _ true hq.1, pos_ite _ _ _ (proxUpdate1_pos _ _ _ _ _ _ _ _ hE.hminDot hmiu) hmiu,
    u2.1.1, u2.2.1, u2.1.2, (appendFull_x_fx ..).2.2, (hq.2 _).1, (hq.2 _).2⟩

/-- one pass of any of the three solvers keeps the invariant; a pass that stops with `converged` leaves the bundle as it
    was, with simplex multipliers passing both tests -/
theorem pass_spec [Sqrt α] (n : Nat) (f : List α → α) (g' : List α → List α) (E : Env α) (hE : EnvOK n f g' E)
    (k : Kind) (rem : Nat) (s : SolverSt α) (hinv : Inv n f s) :
    Inv n f (pass E k rem s).2.1 ∧ ((pass E k rem s).1 = some EStatus.converged → Stopped n E (pass E k rem s).2.1) := by
  have hinv' := hinv
  obtain ⟨hb, hmiu, hsf, hle, hsx, hne, hqx, hqy⟩ := hinv
  have hcs := csearchLoop_spec n f g' E hE s.b hb s.miu rem CState.start { s.pt with t := 1, status := .maxIters }
  unfold pass
  simp only
  unfold csearch
  generalize csearchLoop E s.b s.miu rem CState.start { s.pt with t := 1, status := .maxIters } = r at hcs
  -- a point whose status is a decision (not `max_iters`, the status at entry) is an evaluation
  have hgood : r.1.status ≠ .maxIters → Good n f g' E s.b r.1 := hcs.resolve_left
  have hkeep : Inv n f { s with pt := r.1 } := hinv'
  have hser : ∀ descent, r.1.status ≠ .maxIters → Inv n f (serious E k descent s r.1 r.2).1 := fun descent h => by
    cases k
    exacts [seriousR_inv n f g' E hE descent s hinv' r.1 (hgood h) r.2,
      seriousF_inv n f g' E hE false descent s hinv' r.1 (hgood h) r.2,
      seriousF_inv n f g' E hE true descent s hinv' r.1 (hgood h) r.2]
  split
  · rename_i st hdone
    refine ⟨hkeep, fun hst => ?_⟩
    cases hst
    have hstat : r.1.status = .converged := eq_of_beq (doneE_converged _ _ _ hdone)
    obtain ⟨-, -, -, ⟨m, hal⟩, htests⟩ := hgood (hstat ▸ by decide)
    obtain ⟨hl, hsimp, -⟩ := hE.hsolve m s.b hne
    exact ⟨r.1.alphas, hal ▸ hl, hal ▸ hsimp, htests hstat⟩
  · split
    · rename_i hstat
      exact ⟨hser true (hstat ▸ by decide), nofun⟩
    · rename_i hstat
      exact ⟨hser false (hstat ▸ by decide), nofun⟩
    · rename_i hstat
      obtain ⟨hy, hfy, hgy, ⟨m, hal⟩, -⟩ := hgood (hstat ▸ by decide)
      refine ⟨⟨?_, hmiu, hsf, hle, hsx, (appendFull_x_fx ..).2.2, hqx, hqy⟩, nofun⟩
      rw [hfy, hgy, hal]
      exact appendFull_env hE hb hne m _ false hy
    · exact ⟨hkeep, nofun⟩

theorem run_spec [Sqrt α] (n : Nat) (f : List α → α) (g' : List α → List α) (E : Env α) (hE : EnvOK n f g' E) (k : Kind) :
    ∀ (passes rem : Nat) (s s' : SolverSt α), Inv n f s → run E k passes rem s = (EStatus.converged, s') →
      Inv n f s' ∧ Stopped n E s'
  | 0, _, s, s', _, h => by cases h
  | _ + 1, 0, s, s', _, h => by cases h
  | passes + 1, rem + 1, s, s', hinv, h => by
    obtain ⟨hi, hstop⟩ := pass_spec n f g' E hE k (rem + 1) s hinv
    unfold run at h
    generalize pass E k (rem + 1) s = r at h hi hstop
    obtain ⟨o, s1, rem1⟩ := r
    cases o with
    | none =>
      simp only at h
      exact run_spec n f g' E hE k passes rem1 s1 s' hi h
    | some st =>
      cases h
      exact ⟨hi, hstop rfl⟩

theorem start_inv (n : Nat) (f : List α → α) (g' : List α → List α) (E : Env α) (hE : EnvOK n f g' E) (x0 : List α)
    (hx0 : x0.length = n) (lo hi : α) (hlo : 0 < lo) (hle : lo ≤ hi) : Inv n f (start E x0 lo hi) := by
  simp only [start, hE.hF]
  exact ⟨(bundle_lower_bound_invariant n f x0 (g' x0) hx0 (hE.hsub x0 hx0) _ Reach.init).1,
    miuInit_pos _ _ _ _ _ hlo hle, rfl, le_refl (f x0), hx0, List.cons_ne_nil _ _, hx0, hx0⟩

/-- THE SOLVER-LEVEL CERTIFICATE (RQB, FPBA1, FPBA2; rqb.cpp:23-74, fpba.cpp:27-86 with csearch.cpp, bundle.cpp,
    proximity.cpp, nesterov.h inside): for a convex `f` with sub-gradient oracle, any starting point, any evaluation
    budget, any QP / `nth_element` oracle meeting its contract: if the run reports `solver_status::converged`, then the
    RETURNED point `sx` (value `sfx = f sx`) is not worse than the bundle centre `x̂`, and the centre satisfies
    `f(x̂) − f(z) ≤ ε√n (1 + ‖z − x̂‖₂)` for every `z`. -/
theorem solver_run_certificate [Sqrt α]
    (hsqrt : ∀ v : α, 0 ≤ v → 0 ≤ Sqrt.sqrt v ∧ Sqrt.sqrt v * Sqrt.sqrt v = v)
    (n : Nat) (f : List α → α) (g' : List α → List α) (E : Env α) (hE : EnvOK n f g' E) (heps : 0 ≤ E.eps) (k : Kind)
    (x0 : List α) (hx0 : x0.length = n) (lo hi : α) (hlo : 0 < lo) (hle : lo ≤ hi) (passes rem : Nat) (s : SolverSt α)
    (hrun : run E k passes rem (start E x0 lo hi) = (EStatus.converged, s)) (z : List α) (hz : z.length = n) :
    s.sfx = f s.sx ∧ f s.sx ≤ f s.b.x ∧ 0 < s.miu ∧
      f s.b.x - f z ≤ tol n E.eps * (1 + norm2 (vsub z s.b.x)) := by
  obtain ⟨hinv, ws, hl, hw, he, hs⟩ := run_spec n f g' E hE k passes rem _ s (start_inv n f g' E hE x0 hx0 lo hi hlo hle) hrun
  obtain ⟨hb, hmiu, hsf, hle', -⟩ := hinv
  refine ⟨hsf, ?_, hmiu, bundle_stop_certificate hsqrt n f s.b ws E.eps hb hl hw heps he hs z hz⟩
  rw [← hsf, ← hb.2.1]; exact hle'

/-- a sharp minimum turns the certificate into a bound that does not mention the distance: from `D ≤ G ≤ T (1 + D)` with
    `T ≤ 1/2` and `D ≥ 0`, `G ≤ 2 T` (`T D ≤ D / 2 ≤ G / 2`) -/
theorem gap_le_two_tol (G D T : α) (hD : 0 ≤ D) (hsharp : D ≤ G) (hcert : G ≤ T * (1 + D)) (hT : T ≤ 1 / 2) : G ≤ 2 * T := by
  linarith only [mul_le_mul_of_nonneg_right hT hD, hsharp, hcert]

/-- THE BOUND OF THE STATEMENT: if moreover the minimum at `z` is sharp (`‖z − x‖₂ ≤ f x − f z`, needed at the bundle centre
    only) and `ε√n ≤ 1/2`, the returned point satisfies `f(sx) − f(z) ≤ 2 ε √n ≤ 2 ε √n (1 + ‖sx − z‖₂)` — the factor 2 of the
    statement pays for the centre of FPBA's bundle being the extrapolated point, not the returned one. -/
theorem solver_run_statement_bound [Sqrt α]
    (hsqrt : ∀ v : α, 0 ≤ v → 0 ≤ Sqrt.sqrt v ∧ Sqrt.sqrt v * Sqrt.sqrt v = v)
    (n : Nat) (f : List α → α) (g' : List α → List α) (E : Env α) (hE : EnvOK n f g' E) (heps : 0 ≤ E.eps) (k : Kind)
    (x0 : List α) (hx0 : x0.length = n) (lo hi : α) (hlo : 0 < lo) (hle : lo ≤ hi) (passes rem : Nat) (s : SolverSt α)
    (hrun : run E k passes rem (start E x0 lo hi) = (EStatus.converged, s)) (z : List α) (hz : z.length = n)
    (hsharp : norm2 (vsub z s.b.x) ≤ f s.b.x - f z) (htol : tol n E.eps ≤ 1 / 2) :
    f s.sx - f z ≤ 2 * tol n E.eps * (1 + norm2 (vsub s.sx z)) := by
  obtain ⟨-, h2, -, h4⟩ := solver_run_certificate hsqrt n f g' E hE heps k x0 hx0 lo hi hlo hle passes rem s hrun z hz
  have hD : 0 ≤ norm2 (vsub z s.b.x) := (hsqrt _ (dot_self_nonneg' _)).1
  have hD' : 0 ≤ norm2 (vsub s.sx z) := (hsqrt _ (dot_self_nonneg' _)).1
  have hT : 0 ≤ tol n E.eps := mul_nonneg heps (hsqrt _ (Nat.cast_nonneg n)).1
  exact (sub_le_sub_right h2 _).trans ((gap_le_two_tol _ _ _ hD hsharp h4 htol).trans
    (le_mul_of_one_le_right (mul_nonneg zero_le_two hT) (le_add_of_nonneg_right hD')))

end NanoVerif.BundleSolver

/-! ### non-vacuity: an environment meeting `EnvOK`, and a run of each solver that reports `converged` -/
namespace NanoVerif.C03SolverExamples
open NanoVerif.Bundle NanoVerif.Ellipsoid NanoVerif.BundleSolver

noncomputable local instance : Sqrt ℝ := ⟨Real.sqrt⟩

/-- the constant objective in dimension 1; the QP oracle answers with the first vertex of the simplex -/
noncomputable def exE : Env ℝ :=
  { n := 1, capacity := 0, eps := 1 / 100, P := ⟨1 / 2, 9 / 10, 1, 1, 3 / 10, 5, 1 / 1000⟩, fmax := 1000, minDot := 1 / 1000,
    F := fun _ => (0, [0]), fin := fun _ => true, qp := fun _ ps => 1 :: List.replicate (ps.length - 1) 0,
    thr := fun _ _ => 0, valid := fun _ _ => true }

theorem vertex_simplex (k : Nat) : Simplex ((1 : ℝ) :: List.replicate k 0) := by
  refine ⟨?_, by simp⟩
  intro a ha
  simp only [List.mem_cons, List.mem_replicate] at ha
  rcases ha with rfl | ⟨-, rfl⟩ <;> norm_num

theorem exE_solve (miu : ℝ) : ∀ ps : List (Pair ℝ), ps ≠ [] →
    (solveB exE miu ps).length = ps.length ∧ Simplex (solveB exE miu ps)
  | [], h => absurd rfl h
  | [_], _ => ⟨rfl, solve1_simplex⟩
  | [_, _], _ => ⟨rfl, solve2_simplex _ _ _ _⟩
  | _ :: _ :: _ :: _, _ => ⟨by simp [solveB, exE], vertex_simplex _⟩

theorem exE_ok : EnvOK 1 (fun _ => (0 : ℝ)) (fun _ => [0]) exE where
  hn := rfl
  hF := fun _ => rfl
  hsub := fun x _ => subGrad_const 1 0 x
  hfin := fun _ => rfl
  hminDot := by norm_num [exE]
  hfmax := by norm_num [exE]
  hsolve := fun miu b hne =>
    ⟨(exE_solve miu _ hne).1, (exE_solve miu _ hne).2, fun h => absurd h (Nat.succ_ne_zero _)⟩

/-- every solver stops at once with `converged` on it (one evaluation of budget is enough) -/
example (k : Kind) : (run exE k 1 1 (start exE [0] 1 2)).1 = EStatus.converged := by
  cases k <;>
    simp [run, pass, csearch, csearchLoop, start, exE, solveB, solve1, Bundle.init, appendStep, smearedS, smearedE, vaxpy,
      zeros, proximal, econverged, sconverged, tol, norm2, dot, csearchStep, CState.start, doneE, solverConverged,
      Sqrt.sqrt]

/-- NECESSITY of the "active part is a simplex point" clause of `EnvOK.hsolve` (= hypothesis `hw` of `appendFull_valid`):
    `f = |·|`, centre `1`, the two valid rows `(1, 0)` and `(−1, 2)`, multipliers `(9/10, 1/10)` IN the simplex; with
    `eps0 = 1/5` `delete_inactive` drops the second row, `store_aggregate` then smears the first row with weight `9/10` only,
    and the stored pair `(9/10, 0)` is NOT a lower-bounding plane (at `z = 0`: `1/10 > 0`). In the code `eps0 = 1e-15`, so the
    aggregate can undercut `f` by at most `size · 1e-15 · (f(x̂) − inf f)`. -/
theorem hw_necessary :
    let ps : List (Pair ℚ) := [⟨[1], 0⟩, ⟨[-1], 2⟩]
    let as : List ℚ := [9 / 10, 1 / 10]
    let act := active (1 / 5 : ℚ) ps as
    Simplex as ∧ (∀ p ∈ ps, LB 1 C03Examples.exF [1] p.s p.e) ∧
      ¬ LB 1 C03Examples.exF [1] (aggregate 1 (act.map (·.1)) (act.map (·.2))).s (aggregate 1 (act.map (·.1)) (act.map (·.2))).e := by
  refine ⟨simplex_pair (by norm_num) (by norm_num) (by norm_num), List.forall_mem_cons.mpr
    ⟨C03Examples.abs_LB 1 1 0 (by norm_num) (by norm_num),
      List.forall_mem_singleton.mpr (C03Examples.abs_LB 1 (-1) 2 (by norm_num) (by norm_num))⟩,
    fun h => absurd (h [0] rfl) (by decide +kernel)⟩

end NanoVerif.C03SolverExamples

