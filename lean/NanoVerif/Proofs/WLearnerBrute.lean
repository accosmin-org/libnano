import NanoVerif.Proofs.WLearnerAffine
import NanoVerif.Proofs.WLearnerFind
import NanoVerif.Proofs.WLearnerSelect
import NanoVerif.Model.WLearnerKTable
/-!
  C10 — glue for the property theorems: the minimum of a list, the brute-force specifications of `Model/WLearner.lean`,
  what one cache returns when all scores are finite and below `no_fit_score()`, `List.mergeSort` as `std::sort`, and the
  fitted learners' predictions as the predictors of the hypothesis classes.
-/
set_option linter.unusedSectionVars false

namespace NanoVerif.WLearner
variable {α : Type} [Field α] [LinearOrder α] [IsStrictOrderedRing α]

/-! ### minimum of a list -/

theorem lmin?_spec (l : List α) :
    (l = [] → lmin? l = none) ∧ (l ≠ [] → ∃ m, lmin? l = some m ∧ m ∈ l ∧ ∀ x ∈ l, m ≤ x) := by
  induction l with
  | nil => simp [lmin?]
  | cons a as ih =>
    refine ⟨by simp, fun _ => ?_⟩
    simp only [lmin?]
    cases has : as with
    | nil => simp [lmin?]
    | cons b bs =>
      obtain ⟨m, hm, hmem, hmin⟩ := ih.2 (by rw [has]; simp)
      rw [has] at hm hmem hmin
      rw [hm]
      simp only
      split
      · rename_i hlt
        refine ⟨m, rfl, List.mem_cons_of_mem _ hmem, ?_⟩
        intro x hx
        rcases List.mem_cons.mp hx with rfl | hx
        · exact le_of_lt hlt
        · exact hmin x hx
      · rename_i hn
        refine ⟨a, rfl, by simp, ?_⟩
        intro x hx
        rcases List.mem_cons.mp hx with rfl | hx
        · exact le_refl _
        · exact le_trans (not_lt.mp hn) (hmin x hx)

/-! ### one cache, all scores finite and below `no_fit_score()` -/

theorem fitSeq_min [FinTest α] (hfin : ∀ y : α, FinTest.isFin y = true) (big : α) (cands : List (Cand α))
    (hbig : ∀ c ∈ cands, c.score < big) :
    (cands = [] → fitSeq big cands = noFit big) ∧
    (cands ≠ [] → fitSeq big cands ∈ cands ∧ ∀ c ∈ cands, (fitSeq big cands).score ≤ c.score) := by
  constructor
  · intro h; rw [h]; rfl
  · intro hne
    unfold fitSeq
    obtain ⟨h1, _, h3⟩ := foldl_pick_spec cands (noFit big)
    have hle : ∀ c ∈ cands, (cands.foldl pick (noFit big)).score ≤ c.score := fun c hc => h3 c hc (hfin _)
    refine ⟨?_, hle⟩
    rcases h1 with h1 | ⟨hm, _, _⟩
    · obtain ⟨c, hc⟩ := List.exists_mem_of_ne_nil cands hne
      have := hle c hc
      rw [h1] at this
      have hb : (noFit big : Cand α).score = big := rfl
      rw [hb] at this
      exact absurd (hbig c hc) (not_lt.mpr this)
    · exact hm

/-! ### `List.mergeSort` with the order of `std::pair<scalar, index>` is a `std::sort`

  `itemLe a b` is `pairLe (a.v, a.idx) (b.v, b.idx)` by definition, so the order facts are proved for `pairLe` only. -/

theorem pairLe_iff (a b : α × Nat) : pairLe a b = true ↔ a.1 < b.1 ∨ (¬ b.1 < a.1 ∧ a.2 ≤ b.2) := by
  unfold pairLe; simp

theorem pairLe_trans (a b c : α × Nat) (h1 : pairLe a b = true) (h2 : pairLe b c = true) : pairLe a c = true := by
  rw [pairLe_iff] at *
  rcases h1 with h1 | ⟨h1, h1'⟩ <;> rcases h2 with h2 | ⟨h2, h2'⟩
  · exact Or.inl (lt_trans h1 h2)
  · exact Or.inl (lt_of_lt_of_le h1 (not_lt.mp h2))
  · exact Or.inl (lt_of_le_of_lt (not_lt.mp h1) h2)
  · rcases (not_lt.mp h1).eq_or_lt with e1 | e1
    · exact Or.inr ⟨by rw [e1]; exact h2, le_trans h1' h2'⟩
    · exact Or.inl (lt_of_lt_of_le e1 (not_lt.mp h2))

theorem pairLe_total (a b : α × Nat) : (pairLe a b || pairLe b a) = true := by
  rw [Bool.or_eq_true, pairLe_iff, pairLe_iff]
  rcases lt_trichotomy a.1 b.1 with h | h | h
  · exact Or.inl (Or.inl h)
  · rcases Nat.le_total a.2 b.2 with hi | hi
    · exact Or.inl (Or.inr ⟨by rw [h]; exact lt_irrefl _, hi⟩)
    · exact Or.inr (Or.inr ⟨by rw [h]; exact lt_irrefl _, hi⟩)
  · exact Or.inr (Or.inl h)

theorem pairLe_le {a b : α × Nat} (h : pairLe a b = true) : a.1 ≤ b.1 := by
  rcases (pairLe_iff a b).mp h with h | ⟨h, _⟩
  · exact le_of_lt h
  · exact not_lt.mp h

theorem itemLe_eq (a b : Item α) : itemLe a b = pairLe (a.v, a.idx) (b.v, b.idx) := rfl

theorem mergeSort_sortSpec : SortSpec (α := α) (fun l => l.mergeSort itemLe) := by
  refine ⟨fun l => List.mergeSort_perm l itemLe, fun l => (List.pairwise_mergeSort ?_ ?_ l).imp ?_⟩
  · intro a b c
    rw [itemLe_eq, itemLe_eq, itemLe_eq]
    exact pairLe_trans _ _ _
  · intro a b
    rw [itemLe_eq, itemLe_eq]
    exact pairLe_total _ _
  · intro a b h
    rw [itemLe_eq] at h
    exact pairLe_le h

/-! ### the brute-force stump -/

theorem presentVals_eq (rows : List (Row α)) : presentVals rows = (present rows).map (·.v) := by
  unfold presentVals present
  induction rows with
  | nil => rfl
  | cons row rows ih =>
    cases hx : row.x with
    | none => simp [hx, ih]
    | some v => simp [hx, ih]

theorem mem_midpoints (vals : List α) (t : α) :
    t ∈ midpoints vals ↔ ∃ a ∈ vals, ∃ b ∈ vals, a < b ∧ t = half * (a + b) := by
  unfold midpoints
  simp only [List.mem_flatMap, List.mem_filterMap]
  constructor
  · rintro ⟨a, ha, b, hb, h⟩
    split at h
    · rename_i hlt; simp at h; exact ⟨a, ha, b, hb, hlt, h.symm⟩
    · simp at h
  · rintro ⟨a, ha, b, hb, hlt, rfl⟩
    exact ⟨a, ha, b, hb, by simp [hlt]⟩

theorem filter_present_map (p : α → Bool) (rows : List (Row α)) :
    (rows.filter fun row => row.x.any p).map (·.r) = ((present rows).filter fun it => p it.v).map (·.r) := by
  induction rows with
  | nil => rfl
  | cons row rows ih =>
    cases hx : row.x with
    | none => rw [present_cons_none row rows hx, List.filter_cons_of_neg (by simp [hx]), ih]
    | some v =>
      rw [present_cons_some row rows v hx]
      cases hp : p v
      · rw [List.filter_cons_of_neg (by simp [hx, hp]), List.filter_cons_of_neg (by simp [hp]), ih]
      · rw [List.filter_cons_of_pos (by simp [hx, hp]), List.filter_cons_of_pos (by simp [hp]), List.map_cons, List.map_cons, ih]

theorem leftRows_map (t : α) (rows : List (Row α)) :
    (leftRows t rows).map (·.r) = (leftOf t (present rows)).map (·.r) :=
  filter_present_map (fun x => decide (x < t)) rows

theorem rightRows_map (t : α) (rows : List (Row α)) :
    (rightRows t rows).map (·.r) = (rightOf t (present rows)).map (·.r) :=
  filter_present_map (fun x => !decide (x < t)) rows

theorem meanOf_eq (rs : List (Vec α)) (o : Nat) : meanOf rs o = binMean (momOf rs) o := by
  unfold meanOf binMean; rw [momOf_r1, momOf_x0]

theorem meanOf_perm {l l' : List (Vec α)} (h : l.Perm l') : meanOf l = meanOf l' := by
  funext o
  unfold meanOf countOf
  rw [lsum_perm (h.map _), lsum_perm (h.map _)]

theorem meanOf_fit_le (T : Nat) (rs : List (Vec α)) (h : rs ≠ []) (c : Vec α) :
    lsum (rs.map fun r => sqErr T r (meanOf rs)) ≤ lsum (rs.map fun r => sqErr T r c) := by
  obtain ⟨h1, h2⟩ := const_fit_vec T rs h c
  rw [h2] at h1
  rw [lsum_map_congr _ _ rs fun r _ => sqErr_congr T r _ _ (meanOf_eq rs)]
  exact h1

theorem stumpBruteAt_le (T : Nat) (rows : List (Row α)) (t : α)
    (hl : leftOf t (present rows) ≠ []) (hr : rightOf t (present rows) ≠ []) (lo hi : Vec α) :
    stumpBruteAt T rows t ≤ rssOf T rows (stumpPred t lo hi) := by
  have h1 := meanOf_fit_le T ((leftOf t (present rows)).map (·.r)) (mt List.map_eq_nil_iff.mp hl) lo
  have h2 := meanOf_fit_le T ((rightOf t (present rows)).map (·.r)) (mt List.map_eq_nil_iff.mp hr) hi
  rw [List.map_map, List.map_map] at h1 h2
  rw [stumpBruteAt, rssOf_stump, rssOf_stump, leftRows_map, rightRows_map]
  exact add_le_add (add_le_add (le_refl _) h1) h2

theorem sides_of_midpoint (items : List (Item α)) (a b : Item α) (ha : a ∈ items) (hb : b ∈ items) (hab : a.v < b.v) :
    leftOf (half * (a.v + b.v)) items ≠ [] ∧ rightOf (half * (a.v + b.v)) items ≠ [] := by
  constructor
  · intro h
    have : a ∈ leftOf (half * (a.v + b.v)) items := List.mem_filter.mpr ⟨ha, by simp [lt_mid hab]⟩
    rw [h] at this; simp at this
  · intro h
    have : b ∈ rightOf (half * (a.v + b.v)) items :=
      List.mem_filter.mpr ⟨hb, by simp [not_lt.mpr (le_of_lt (mid_lt hab))]⟩
    rw [h] at this; simp at this

/-! ### the fitted learners' predictions -/

/-- the value of a scalar feature as the learners see it -/
def numVal : Option α → FVal α
  | some x => FVal.num x
  | none => FVal.missing

theorem contrib_stump (f : Nat) (thr : α) (tables : List (Vec α)) (s : Nat → FVal α) (ox : Option α)
    (hs : s f = numVal ox) :
    contrib (Learner.stump f thr tables) s = stumpPred thr (tab tables 0) (tab tables 1) ox := by
  unfold contrib
  simp only [eval, hs]
  cases ox with
  | none => rfl
  | some x =>
    simp only [numVal, stumpPred]
    by_cases h : x < thr <;> simp [h]

theorem contrib_affine (f : Nat) (tables : List (Vec α)) (s : Nat → FVal α) (ox : Option α) (hs : s f = numVal ox) :
    contrib (Learner.affine f tables) s = affinePred (tab tables 0) (tab tables 1) ox := by
  unfold contrib
  simp only [eval, hs]
  cases ox with
  | none => rfl
  | some x => rfl

theorem contrib_hinge (f : Nat) (thr : α) (left : Bool) (tables : List (Vec α)) (s : Nat → FVal α) (ox : Option α)
    (hs : s f = numVal ox) (hoff : ∀ o, tab tables 1 o = -thr * tab tables 0 o) (o : Nat) :
    contrib (Learner.hinge f thr left tables) s o = hingePred thr left (tab tables 0) ox o := by
  unfold contrib
  simp only [eval, hs]
  cases ox with
  | none => rfl
  | some x =>
    simp only [numVal, hingePred]
    split
    · simp only [lin]; rw [hoff]; ring
    · rfl

theorem findHash_some {l : List Nat} {h i : Nat} (hf : findHash l h = some i) : l[i]? = some h := by
  unfold findHash at hf
  simp only at hf
  split at hf
  · rename_i he
    rw [← Option.some.inj hf]
    exact he
  · cases hf

theorem findHash_not_mem (l : List Nat) (h : Nat) (hm : h ∉ l) : findHash l h = none := by
  cases hf : findHash l h with
  | none => rfl
  | some i => exact absurd (List.mem_of_getElem? (findHash_some hf)) hm

/-- what a stored table learner predicts: row `hash2tables[i]` for the label set found at position `i` of its hashes -/
theorem contrib_table (f : Nat) (hs h2t : List Nat) (tables : List (Vec α)) (hlen : h2t.length = hs.length)
    (s : Nat → FVal α) (oh : Option Nat) (hsf : s f = clsVal oh) :
    contrib (Learner.table f hs h2t tables) s =
      tablePred (fun h => match findHash hs h with | some i => tab tables (h2t.getD i 0) | none => zeroV) oh := by
  unfold contrib
  simp only [eval, hsf]
  cases oh with
  | none => rfl
  | some h =>
    simp only [clsVal, tablePred]
    cases hf : findHash hs h with
    | none => rfl
    | some i =>
      have hi : i < h2t.length := hlen ▸ (List.getElem?_eq_some_iff.mp (findHash_some hf)).1
      simp only [List.getElem?_eq_getElem hi, List.getD_eq_getElem?_getD, Option.getD_some]

/-! ### whole fits: the candidates of all features, in the order one thread tries them -/

/-- a sample that has the value `v` for feature `f` (the other features do not matter to a single-feature learner) -/
def sampleOf (f : Nat) (v : FVal α) : Nat → FVal α := fun g => if g = f then v else FVal.missing

theorem sampleOf_self (f : Nat) (v : FVal α) : sampleOf f v f = v := by simp [sampleOf]

/-- the RSS of a fitted learner's predictions (`predict` from zero outputs) over the rows of feature `f` -/
def predRss (T : Nat) (l : Learner α) (f : Nat) (rows : List (Row α)) : α :=
  lsum (rows.map fun row => sqErr T row.r (predictOne l (sampleOf f (numVal row.x)) zeroV))

def predRssC (T : Nat) (l : Learner α) (f : Nat) (rows : List (CRow α)) : α :=
  lsum (rows.map fun row => sqErr T row.r (predictOne l (sampleOf f (clsVal row.h)) zeroV))

theorem predictOne_zero (l : Learner α) (s : Nat → FVal α) (o : Nat) : predictOne l s zeroV o = contrib l s o := by
  rw [predictOne_eq]; simp [zeroV]

theorem predRss_eq (T : Nat) (l : Learner α) (f : Nat) (rows : List (Row α)) (pred : Option α → Vec α)
    (h : ∀ ox o, contrib l (sampleOf f (numVal ox)) o = pred ox o) : predRss T l f rows = rssOf T rows pred :=
  lsum_map_congr _ _ rows fun row _ => sqErr_congr T _ _ _ fun o => (predictOne_zero l _ o).trans (h row.x o)

theorem predRssC_eq (T : Nat) (l : Learner α) (f : Nat) (rows : List (CRow α)) (pred : Option Nat → Vec α)
    (h : ∀ oh o, contrib l (sampleOf f (clsVal oh)) o = pred oh o) : predRssC T l f rows = rssOfC T rows pred :=
  lsum_map_congr _ _ rows fun row _ => sqErr_congr T _ _ _ fun o => (predictOne_zero l _ o).trans (h row.h o)

def stumpAll [Log α] (sort : List (Item α) → List (Item α)) (T : Nat) (K : α) (cols : List (Nat × List (Row α))) :
    List (Cand α) := cols.flatMap fun p => stumpCands sort T K Crit.rss p.1 p.2

def hingeAll [Log α] (sort : List (Item α) → List (Item α)) (T : Nat) (K : α) (cols : List (Nat × List (Row α))) :
    List (Cand α) := cols.flatMap fun p => hingeFeatureCands sort T K Crit.rss p.1 p.2

def affineAll [Log α] (eps1 : α) (T : Nat) (K : α) (cols : List (Nat × List (Row α))) : List (Cand α) :=
  cols.map fun p => affineCand eps1 T K Crit.rss p.1 p.2

def denseAll [Log α] (T : Nat) (K : α) (cols : List (Nat × List (CRow α))) : List (Cand α) :=
  cols.map fun p => denseCand T K Crit.rss p.1 p.2

def dstepAll [Log α] (T : Nat) (K : α) (cols : List (Nat × List (CRow α))) : List (Cand α) :=
  cols.flatMap fun p => (dstepCand T K Crit.rss p.1 p.2).toList

end NanoVerif.WLearner
