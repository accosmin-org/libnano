import NanoVerif.Model.Bundle
import NanoVerif.Proofs.ListVec
/-!
  C03 — helper definitions and lemmas about `Model/Bundle.lean` over an arbitrary linear ordered field (exact arithmetic).
  The property theorems are in `Props/C03.lean`.

  * list-vector algebra for `dot / vsub / vaxpy / zeros`;
  * the predicates of the property: `LB` (a pair is a global lower-bounding cutting plane relative to a centre), `SubGrad`,
    `Simplex`, `Valid` (bundle invariant), `Kept` (what may survive `delete_inactive; delete_largest`), `Step`, `Reach`;
  * the weighted lower bound behind `aggregate_valid`, the sub-list facts behind `reduce_kept`, the quadratic form behind
    Cauchy–Schwarz, and the Hölder pairing used by the stopping certificates.
-/
set_option linter.unusedSectionVars false

namespace NanoVerif.Bundle
variable {α : Type} [Field α] [LinearOrder α] [IsStrictOrderedRing α]

/-! ### list-vector algebra -/

theorem dot_eq : (dot : List α → List α → α) = ListVec.dot := by
  funext a
  induction a with
  | nil => exact funext fun _ => rfl
  | cons x a ih => exact funext fun | [] => rfl | y :: b => congrArg (x * y + ·) (congrFun ih b)

theorem vsub_eq : ∀ (a b : List α), vsub a b = List.zipWith (· - ·) a b
  | [], _ => rfl
  | _ :: _, [] => rfl
  | _ :: a, _ :: b => congrArg (List.cons _) (vsub_eq a b)

theorem vaxpy_eq (c : α) : ∀ (x y : List α), vaxpy c x y = List.zipWith (fun a b => c * a + b) x y
  | [], _ => rfl
  | _ :: _, [] => rfl
  | _ :: x, _ :: y => congrArg (List.cons _) (vaxpy_eq c x y)

theorem vsub_length (z x : List α) (h : z.length = x.length) : (vsub z x).length = x.length := by
  rw [vsub_eq, ListVec.length_zipWith_of_eq _ h]

theorem vaxpy_length (c : α) (x y : List α) (h : x.length = y.length) : (vaxpy c x y).length = y.length := by
  rw [vaxpy_eq, ListVec.length_zipWith_of_eq _ h]

theorem zeros_length (n : Nat) : (zeros n : List α).length = n := by simp [zeros]

theorem dot_nil_left (b : List α) : dot ([] : List α) b = 0 := rfl

theorem dot_nil_right (a : List α) : dot a ([] : List α) = 0 := by
  rw [dot_eq]; exact ListVec.dot_nil_right a

theorem dot_zeros (n : Nat) (d : List α) : dot (zeros n : List α) d = 0 := by
  rw [dot_eq]; exact ListVec.dot_replicate_zero_left n d

theorem dot_comm (a b : List α) : dot a b = dot b a := by
  rw [dot_eq]; exact ListVec.dot_comm a b

theorem dot_vsub_right (s : List α) {x y : List α} (h : x.length = y.length) : dot s (vsub x y) = dot s x - dot s y := by
  rw [dot_eq, vsub_eq, ListVec.dot_zipWith_right 1 (-1) (fun _ _ => by ring) s h]; ring

theorem dot_vsub_anti : ∀ (s x y : List α), s.length = x.length → x.length = y.length →
    dot s (vsub x y) = - dot s (vsub y x) := fun s x y _ h => by
  rw [dot_vsub_right s h, dot_vsub_right s h.symm, neg_sub]

theorem dot_vaxpy_left (c : α) {x y : List α} (r : List α) (h : x.length = y.length) :
    dot (vaxpy c x y) r = c * dot x r + dot y r := by
  rw [dot_eq, vaxpy_eq, ListVec.dot_zipWith_left c 1 (fun _ _ => by rw [one_mul]) r h, one_mul]

/-! ### Cauchy–Schwarz -/

theorem dot_self_nonneg' (a : List α) : 0 ≤ dot a a := by
  rw [dot_eq]; exact ListVec.dot_self_nonneg a

theorem dot_sq_le (a b : List α) : dot a b * dot a b ≤ dot a a * dot b b := by
  rw [dot_eq]; exact ListVec.dot_sq_le a b

theorem dot_self_pos_of_dot_pos (a b : List α) (h : 0 < dot a b) : 0 < dot a a := by
  refine (dot_self_nonneg' a).lt_of_ne fun h0 => ?_
  have := dot_sq_le a b
  rw [← h0, zero_mul] at this
  exact (mul_pos h h).not_ge this

theorem le_of_sq_le (t r : α) (hr : 0 ≤ r) (h : t * t ≤ r * r) : t ≤ r :=
  le_of_not_gt fun hlt => (mul_self_lt_mul_self hr hlt).not_ge h

theorem neg_le_of_sq_le (t r : α) (hr : 0 ≤ r) (h : t * t ≤ r * r) : -r ≤ t :=
  neg_le.mp (le_of_sq_le (-t) r hr (by rwa [neg_mul_neg]))

theorem neg_sqrt_le_of_sq_le [Sqrt α] (hsqrt : ∀ v : α, 0 ≤ v → 0 ≤ Sqrt.sqrt v ∧ Sqrt.sqrt v * Sqrt.sqrt v = v)
    {t q : α} (h : t * t ≤ q) : -Sqrt.sqrt q ≤ t := by
  obtain ⟨h0, hr⟩ := hsqrt q ((mul_self_nonneg t).trans h)
  exact neg_le_of_sq_le t _ h0 (hr.symm ▸ h)

theorem neg_norm_mul_le_dot [Sqrt α] (hsqrt : ∀ v : α, 0 ≤ v → 0 ≤ Sqrt.sqrt v ∧ Sqrt.sqrt v * Sqrt.sqrt v = v)
    (s d : List α) : -(norm2 s * norm2 d) ≤ dot s d := by
  obtain ⟨hS0, hS⟩ := hsqrt _ (dot_self_nonneg' s)
  obtain ⟨hD0, hD⟩ := hsqrt _ (dot_self_nonneg' d)
  refine neg_le_of_sq_le _ _ (mul_nonneg hS0 hD0) ((dot_sq_le s d).trans_eq ?_)
  unfold norm2
  rw [mul_mul_mul_comm, hS, hD]

/-! ### the predicates of the property -/

/-- the pair `(s, e)` is a cutting plane of `f` relative to the centre `x`: `f(x) + s·(z − x) − e ≤ f(z)` for all `z` -/
def LB (n : Nat) (f : List α → α) (x s : List α) (e : α) : Prop :=
  ∀ z : List α, z.length = n → f x + dot s (vsub z x) - e ≤ f z

/-- `gy` is a sub-gradient of `f` at `y` (what a convex `function_t::vgrad` returns) -/
def SubGrad (n : Nat) (f : List α → α) (y gy : List α) : Prop :=
  gy.length = n ∧ ∀ z : List α, z.length = n → f y + dot gy (vsub z y) ≤ f z

/-- a point of the unit simplex (contract of the quadratic sub-problem `bundle_t::solve`) -/
def Simplex (as : List α) : Prop := (∀ a ∈ as, 0 ≤ a) ∧ as.sum = 1

/-- the bundle invariant: centre of dimension `n`, cached value, every row a cutting plane relative to the centre -/
def Valid (n : Nat) (f : List α → α) (b : State α) : Prop :=
  b.x.length = n ∧ b.fx = f b.x ∧ ∀ p ∈ b.pairs, p.s.length = n ∧ LB n f b.x p.s p.e

/-- what may survive `delete_inactive; delete_largest`: ANY sub-collection of the old rows, plus possibly the aggregate
    of a sub-collection `ps` of the old rows with simplex weights `ws` -/
inductive Kept (n : Nat) (pairs : List (Pair α)) : List (Pair α) → Prop
  | sub (k : List (Pair α)) : k.Sublist pairs → Kept n pairs k
  | agg (k ps : List (Pair α)) (ws : List α) : k.Sublist pairs → ps.Sublist pairs → ws.length = ps.length →
      Simplex ws → Kept n pairs (k ++ [aggregate n ps ws])

/-- one `bundle_t::append` (null step) / `moveto` (serious step) with a sub-gradient of `f` at the trial point -/
inductive Step (n : Nat) (f : List α → α) : State α → State α → Prop
  | mk (b : State α) (serious : Bool) (kept : List (Pair α)) (y gy : List α) : Kept n b.pairs kept → y.length = n →
      SubGrad n f y gy → Step n f b (appendStep serious kept b.x b.fx y gy (f y))

/-- the states a bundle can be in: constructed at `x0`, then any sequence of appends -/
inductive Reach (n : Nat) (f : List α → α) (x0 g0 : List α) : State α → Prop
  | init : Reach n f x0 g0 (Bundle.init x0 g0 (f x0))
  | step {b b' : State α} : Reach n f x0 g0 b → Step n f b b' → Reach n f x0 g0 b'

theorem simplex_pair {a b : α} (ha : 0 ≤ a) (hb : 0 ≤ b) (hab : a + b = 1) : Simplex [a, b] :=
  ⟨List.forall_mem_cons.mpr ⟨ha, List.forall_mem_singleton.mpr hb⟩, by rw [List.sum_cons, List.sum_singleton, hab]⟩

theorem SubGrad.lb {n : Nat} {f : List α → α} {y gy : List α} (h : SubGrad n f y gy) : LB n f y gy 0 :=
  fun z hz => (sub_zero _).trans_le (h.2 z hz)

theorem subGrad_const (n : Nat) (c : α) (x : List α) : SubGrad n (fun _ => c) x (zeros n) :=
  ⟨zeros_length n, fun z _ => by rw [dot_zeros, add_zero]⟩

/-- a cutting plane relative to the centre `x` is one relative to any other centre `y`, with the error re-based by
    `f y − f x − s·(y − x)` (what a serious step does to every row, bundle.cpp:147; the new row of a null step is the plane
    `(gy, 0)` at the trial point re-based to the centre) -/
theorem LB.shift {n : Nat} {f : List α → α} {x y s : List α} {e : α} (h : LB n f x s e) (hx : x.length = n)
    (hy : y.length = n) : LB n f y s (e + ((f y - f x) - dot s (vsub y x))) := by
  intro z hz
  linarith only [h z hz, dot_vsub_right s (hz.trans hx.symm), dot_vsub_right s (hz.trans hy.symm),
    dot_vsub_right s (hy.trans hx.symm)]

/-! ### smeared pair -/

theorem smearedS_length (n : Nat) : ∀ (pairs : List (Pair α)) (ws : List α), (∀ p ∈ pairs, p.s.length = n) →
    (smearedS n pairs ws).length = n
  | [], _, _ => zeros_length n
  | _ :: _, [], _ => zeros_length n
  | p :: ps, a :: as, h =>
    have ih := smearedS_length n ps as fun q hq => h q (List.mem_cons_of_mem _ hq)
    (vaxpy_length a p.s _ ((h p List.mem_cons_self).trans ih.symm)).trans ih

theorem weighted_lb (n : Nat) (f : List α → α) (x z : List α) (hx : x.length = n) (hz : z.length = n) :
    ∀ (pairs : List (Pair α)) (ws : List α), (∀ p ∈ pairs, p.s.length = n ∧ LB n f x p.s p.e) →
      (∀ a ∈ ws, 0 ≤ a) → ws.length = pairs.length →
      ws.sum * f x + dot (smearedS n pairs ws) (vsub z x) - smearedE pairs ws ≤ ws.sum * f z
  | [], [], _, _, _ => by simp [smearedS, smearedE, dot_zeros]
  | p :: ps, a :: as, hp, ha, hl => by
    obtain ⟨⟨hs, hlb⟩, hp'⟩ := List.forall_mem_cons.mp hp
    obtain ⟨h0, ha'⟩ := List.forall_mem_cons.mp ha
    have hS := smearedS_length n ps as fun q hq => (hp' q hq).1
    simp only [smearedS, smearedE, List.sum_cons]
    rw [dot_vaxpy_left a _ (hs.trans hS.symm)]
    linarith only [mul_le_mul_of_nonneg_left (hlb z hz) h0, weighted_lb n f x z hx hz ps as hp' ha' (Nat.succ.inj hl)]
  | [], _ :: _, _, _, h => nomatch h
  | _ :: _, [], _, _, h => nomatch h

/-! ### `delete_inactive` / `delete_largest` keep sub-lists -/

theorem active_fst_sublist (eps0 : α) : ∀ (pairs : List (Pair α)) (alphas : List α),
    ((active eps0 pairs alphas).map (·.1)).Sublist pairs
  | [], _ => List.nil_sublist _
  | _ :: _, [] => List.nil_sublist _
  | p :: ps, a :: as => by
    unfold active
    split_ifs
    exacts [(active_fst_sublist eps0 ps as).cons _, (active_fst_sublist eps0 ps as).cons_cons _]

theorem deleteFrom_sublist (thres : α) (act : List (Pair α × α)) :
    (deleteFrom thres act).Sublist (act.map (·.1)) := by
  unfold deleteFrom
  exact List.filter_sublist.map _

end NanoVerif.Bundle
