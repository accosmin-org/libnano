import NanoVerif.Proofs.WLearnerKBest
/-!
  C10 — fit–predict consistency of the k-best table: the RSS handed to `make_score` for every candidate is the RSS of the
  predictions of the table learner stored for it (binary search on the kept hashes, zero for every other label set).
-/
set_option linter.unusedSectionVars false

namespace NanoVerif.WLearner
variable {α : Type} [Field α] [LinearOrder α] [IsStrictOrderedRing α]

/-! ### `std::sort(bins_kbest)` -/

theorem insertAsc_perm (a : Nat) (l : List Nat) : (insertAsc a l).Perm (a :: l) := by
  induction l with
  | nil => exact List.Perm.refl _
  | cons b l ih =>
    unfold insertAsc
    split
    · exact List.Perm.refl _
    · exact (List.Perm.cons b ih).trans (List.Perm.swap a b l)

theorem sortAsc_perm (l : List Nat) : (sortAsc l).Perm l := by
  unfold sortAsc
  induction l with
  | nil => exact List.Perm.refl _
  | cons a l ih => exact (insertAsc_perm a _).trans (List.Perm.cons a ih)

theorem sortAsc_length (l : List Nat) : (sortAsc l).length = l.length := (sortAsc_perm l).length_eq

theorem insertAsc_sorted (a : Nat) (l : List Nat) (h : l.Pairwise (· ≤ ·)) : (insertAsc a l).Pairwise (· ≤ ·) := by
  induction l with
  | nil => simp [insertAsc]
  | cons b l ih =>
    unfold insertAsc
    have hb := List.pairwise_cons.mp h
    split
    · rename_i hab
      exact List.pairwise_cons.mpr ⟨fun x hx => by
        rcases List.mem_cons.mp hx with rfl | hx
        · exact hab
        · exact le_trans hab (hb.1 x hx), h⟩
    · rename_i hab
      refine List.pairwise_cons.mpr ⟨fun x hx => ?_, ih hb.2⟩
      rcases List.mem_cons.mp ((insertAsc_perm a l).subset hx) with rfl | hx
      · omega
      · exact hb.1 x hx

theorem sortAsc_sorted (l : List Nat) : (sortAsc l).Pairwise (· ≤ ·) := by
  unfold sortAsc
  induction l with
  | nil => exact List.Pairwise.nil
  | cons a l ih => exact insertAsc_sorted a _ ih

theorem sortAsc_strict (l : List Nat) (hnd : l.Nodup) : (sortAsc l).Pairwise (· < ·) := by
  have hs := sortAsc_sorted l
  have hn : (sortAsc l).Nodup := (sortAsc_perm l).nodup_iff.mpr hnd
  exact (hs.and hn).imp (fun ⟨h1, h2⟩ => lt_of_le_of_ne h1 h2)

/-! ### the table that keeps the bins `B` -/

/-- the table of a k-best candidate as a function of the hash: the bin mean on the kept label sets, zero elsewhere -/
def subsetTable (rows : List (CRow α)) (B : List Nat) : Nat → Vec α := fun h =>
  if h ∈ B.map (fun b => (hashesOf rows).getD b 0) then binMean (binMom rows h) else zeroV

theorem kept_sorted (rows : List (CRow α)) (B : List Nat) (hB : B.Pairwise (· < ·)) (hv : ∀ b ∈ B, b < (hashesOf rows).length) :
    (B.map fun b => (hashesOf rows).getD b 0).Pairwise (· < ·) := by
  rw [List.pairwise_map]
  refine List.Pairwise.imp_of_mem ?_ hB
  intro a b ha hb hab
  have hal := hv a ha
  have hbl := hv b hb
  rw [List.getD_eq_getElem?_getD, List.getD_eq_getElem?_getD, List.getElem?_eq_getElem hal, List.getElem?_eq_getElem hbl]
  exact (sorted_lt_iff _ (hashesOf_sorted rows) a b hal hbl).mpr hab

/-- what the stored learner of a k-best candidate predicts -/
theorem kbest_contrib [Log α] (T : Nat) (K : α) (crit : Crit) (f : Nat) (rows : List (CRow α)) (rss : α) (B : List Nat)
    (hB : B.Pairwise (· < ·)) (hv : ∀ b ∈ B, b < (hashesOf rows).length) (s : Nat → FVal α) (oh : Option Nat)
    (hs : s f = clsVal oh) :
    contrib (kbestCandOf T K crit f rows rss B).toTable s = tablePred (subsetTable rows B) oh := by
  show contrib (Learner.table f (B.map fun b => (hashesOf rows).getD b 0) (List.range B.length)
    (B.map fun b => binMean (binMom rows ((hashesOf rows).getD b 0)))) s = _
  rw [contrib_table f _ _ _ (by rw [List.length_range, List.length_map]) s oh hs]
  congr 1
  funext h
  unfold subsetTable
  cases hf : findHash (B.map fun b => (hashesOf rows).getD b 0) h with
  | none =>
    -- the kept hashes are sorted: the search misses only what is not kept
    rw [if_neg fun hm => ?_]
    obtain ⟨j, hj⟩ := List.mem_iff_getElem?.mp hm
    obtain ⟨hjlt, rfl⟩ := List.getElem?_eq_some_iff.mp hj
    rw [findHash_sorted _ (kept_sorted rows B hB hv) j hjlt] at hf
    cases hf
  | some j =>
    have hj := findHash_some hf
    rw [if_pos (List.mem_of_getElem? hj)]
    rw [List.getElem?_map] at hj
    obtain ⟨b, hb, rfl⟩ := Option.map_eq_some_iff.mp hj
    have hjlt : j < B.length := (List.getElem?_eq_some_iff.mp hb).1
    simp only [tab, List.getD_eq_getElem?_getD, List.getElem?_range hjlt, List.getElem?_map, hb, Option.map_some,
      Option.getD_some]

theorem lsum_kept (hs : List Nat) (hnd : hs.Nodup) (F : Nat → α) : ∀ (B : List Nat), B.Nodup → (∀ b ∈ B, b < hs.length) →
    lsum (hs.map fun h => if h ∈ B.map (fun b => hs.getD b 0) then F h else 0) = lsum (B.map fun b => F (hs.getD b 0)) := by
  intro B
  induction B with
  | nil => intro _ _; simp only [List.map_nil, List.not_mem_nil, if_false]; exact lsum_map_zero hs
  | cons b B ih =>
    intro hB hv
    have hb := List.nodup_cons.mp hB
    have hbl : b < hs.length := hv b (by simp)
    have hgb : hs.getD b 0 = hs[b] := by rw [List.getD_eq_getElem?_getD, List.getElem?_eq_getElem hbl]; rfl
    have hnot : hs.getD b 0 ∉ B.map (fun b => hs.getD b 0) := by
      intro hm
      obtain ⟨b', hb', he⟩ := List.mem_map.mp hm
      have hb'l : b' < hs.length := hv b' (by simp [hb'])
      rw [hgb, List.getD_eq_getElem?_getD, List.getElem?_eq_getElem hb'l] at he
      have : b' = b := (List.Nodup.getElem_inj_iff hnd).mp (by simpa using he)
      exact hb.1 (this ▸ hb')
    have hsplit : (hs.map fun h => if h ∈ (b :: B).map (fun b => hs.getD b 0) then F h else 0)
        = hs.map fun h => (if h = hs.getD b 0 then F (hs.getD b 0) else 0)
          + (if h ∈ B.map (fun b => hs.getD b 0) then F h else 0) := by
      apply List.map_congr_left
      intro h _
      simp only [List.map_cons, List.mem_cons]
      by_cases h1 : h = hs.getD b 0
      · rw [if_pos (Or.inl h1), if_pos h1, if_neg (h1 ▸ hnot), add_zero, h1]
      · rw [if_neg h1, zero_add]
        by_cases h2 : h ∈ B.map (fun b => hs.getD b 0)
        · rw [if_pos (Or.inr h2), if_pos h2]
        · rw [if_neg (not_or.mpr ⟨h1, h2⟩), if_neg h2]
    rw [hsplit, lsum_map_add, lsum_ite_eq hs hnd _ (by rw [hgb]; exact List.getElem_mem _),
      ih hb.2 (fun b' hb' => hv b' (by simp [hb']))]
    rfl

/-- the RSS (from the definition) of the table that keeps the bins `B` -/
theorem rssOfC_subsetTable (T : Nat) (rows : List (CRow α)) (B : List Nat) (hB : B.Nodup)
    (hv : ∀ b ∈ B, b < (hashesOf rows).length) :
    rssOfC T rows (tablePred (subsetTable rows B))
      = dstepRss0 T rows + lsum (B.map fun b => binDelta T (binMom rows ((hashesOf rows).getD b 0))) := by
  rw [rssOfC_table, dstepRss0_eq, ← lsum_kept (hashesOf rows) (hashesOf_nodup rows) (fun h => binDelta T (binMom rows h)) B hB hv,
    add_assoc, ← lsum_map_add]
  congr 2
  apply List.map_congr_left
  intro h hm
  have hne : (binRows rows h).map (·.r) ≠ [] := by simpa using binRows_ne_nil rows h hm
  simp only [subsetTable]
  split
  · rw [binMom_eq, ← (const_fit_vec T _ hne zeroV).2, binScore_eq_delta]
  · rw [lsum_sqErr_zero, add_zero]

end NanoVerif.WLearner
