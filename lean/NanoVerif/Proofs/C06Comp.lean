import NanoVerif.Proofs.C06Loss
/-!
  C06 — what the composition theorems of `Props/C06.lean` rest on: the expansion of a ridge term,
  vectors split into blocks, sums over the rows of a matrix (`kinks`), and the pieces of the elastic-net prototypes
  `loss(inputs·x + b, targets)/N + α₁‖x‖₁ + ½‖√α₂ x‖²` (elastic_net.cpp: outputs as an affine map, the `ℓ₁` term, division
  by `N`). Ordered field.
-/
set_option linter.unusedSectionVars false

namespace NanoVerif.C06
open NanoVerif.Loss NanoVerif.Fn

variable {α : Type} [Field α] [LinearOrder α] [IsStrictOrderedRing α]

theorem ridge_expand (c : α) (x z : List α) (hl : z.length = x.length) :
    c / 2 * dot z z = c / 2 * dot x x + dot (smul c x) (vsub z x) + c / 2 * dot (vsub z x) (vsub z x) := by
  rw [dot_smul_left, sq_norm_gap x z hl]; ring

theorem dot_append (a1 b1 a2 b2 : List α) (h : a1.length = b1.length) :
    dot (a1 ++ a2) (b1 ++ b2) = dot a1 b1 + dot a2 b2 := by
  induction b1, a1, h using length_eq_induction with
  | nil => exact (zero_add _).symm
  | cons y b1 x a1 h ih => simp only [List.cons_append, dot]; rw [ih, add_assoc]

theorem vsub_append (z1 x1 z2 x2 : List α) (h : z1.length = x1.length) :
    vsub (z1 ++ z2) (x1 ++ x2) = vsub z1 x1 ++ vsub z2 x2 := by
  induction x1, z1, h using length_eq_induction with
  | nil => rfl
  | cons x x1 z z1 h ih => simp only [List.cons_append, vsub]; rw [ih]

theorem dot_map_div (c : α) : ∀ (v d : List α), dot (v.map (fun a => a / c)) d = dot v d / c
  | [], d => by simp [dot_nil_left]
  | _ :: _, [] => by simp [dot]
  | a :: v, e :: d => by
    simp only [List.map, dot]; rw [dot_map_div c v d]; ring

theorem dot_map_mul_div (a s : α) : ∀ x d : List α, dot (x.map fun v => a * v / s) d = a * dot x d / s
  | [], d => by rw [List.map_nil, dot_nil_left, mul_zero, zero_div]
  | _ :: _, [] => by rw [dot_nil_right, dot_nil_right, mul_zero, zero_div]
  | v :: x, e :: d => by simp only [List.map, dot]; rw [dot_map_mul_div a s x d]; ring

theorem dot_smul_smul (s : α) (x : List α) : dot (smul s x) (smul s x) = s * s * dot x x := by
  rw [dot_smul_left, dot_smul_right]; ring

/-! ### sums over the rows of a matrix -/

theorem foldl_vadd_dot (G : List α → List α) (n : Nat) (d : List α) : ∀ (K : List (List α)) (g0 : List α),
    g0.length = n → (∀ r ∈ K, (G r).length = n) →
    dot (K.foldl (fun g r => vadd g (G r)) g0) d = dot g0 d + sumL (K.map (fun r => dot (G r) d))
  | [], g0, _, _ => by simp [sumL]
  | r :: K, g0, h0, hG => by
    simp only [List.foldl, List.map, sumL]
    have hr := hG r (by simp)
    rw [foldl_vadd_dot G n d K (vadd g0 (G r)) (by rw [vadd_length _ _ (by rw [h0, hr]), hr])
      (fun r' hr' => hG r' (by simp [hr'])), dot_vadd_left _ _ _ (by rw [h0, hr])]
    ring

theorem sumL_map_ge (p q w : List α → α) : ∀ (K : List (List α)), (∀ r ∈ K, p r ≥ q r + w r) →
    sumL (K.map p) ≥ sumL (K.map q) + sumL (K.map w)
  | [], _ => by simp [sumL]
  | r :: K, h => by
    simp only [List.map, sumL]
    linear_combination h r List.mem_cons_self + sumL_map_ge p q w K (fun r' hr' => h r' (List.mem_cons_of_mem r hr'))

theorem kinksG_dot (K : List (List α)) (x d : List α) (hK : ∀ r ∈ K, r.length = x.length) :
    dot (kinksG K x) d = sumL (K.map fun r => dot (map2 (fun k xi => sign' (xi - k)) r x) d) := by
  unfold kinksG
  rw [foldl_vadd_dot (fun r => map2 (fun k xi => sign' (xi - k)) r x) x.length d K _ List.length_replicate
    (fun r hr => map2_length _ _ _ (hK r hr)), dot_replicate_zero, zero_add]

/-! ### the elastic-net prototypes -/

theorem enetOutputs_length (A : List (List α)) (b : α) (x : List α) : (enetOutputs A b x).length = A.length := by
  simp [enetOutputs, mulVec]

theorem enetOutputs_vsub : ∀ (A : List (List α)) (b : α) (z x : List α), z.length = x.length →
    vsub (enetOutputs A b z) (enetOutputs A b x) = mulVec A (vsub z x)
  | [], _, _, _, _ => by simp [enetOutputs, mulVec, vsub]
  | r :: A, b, z, x, h => by
    have ih := enetOutputs_vsub A b z x h
    simp only [enetOutputs, mulVec, List.map, vsub] at *
    rw [ih, dot_vsub_right r z x h]
    congr 1; ring

/-- what the returned gradient does to a direction `d` (`z − x` in the convexity inequality, the direction of the line in
    the derivative): the kernel's slopes at the outputs against `A d`, over `N`; the signs; the ridge term -/
theorem enetG_dot (kG : α → α → α) (a1 a2 : α) (A : List (List α)) (b : α) (t x d : List α)
    (hA : A.length = t.length) (hrows : ∀ r ∈ A, r.length = x.length) :
    dot (enetG kG a1 a2 A b t x) d =
      dot (map2 kG t (enetOutputs A b x)) (mulVec A d) / (t.length : α) + a1 * dot (x.map sign') d + a2 * dot x d := by
  have hox : (enetOutputs A b x).length = t.length := by rw [enetOutputs_length, hA]
  have hlen2 : (smul a1 (x.map sign')).length = (smul a2 x).length := by
    rw [smul_length, smul_length, List.length_map]
  rw [enetG, dot_vadd_left _ _ _ (by rw [List.length_map, vadd_length _ _ hlen2, smul_length, tmulVec_length _ _ _ hrows]),
    dot_vadd_left _ _ _ hlen2, dot_map_div, dot_smul_left, dot_smul_left,
    tmulVec_adjoint _ _ _ d hrows (by rw [hA, map2_length _ _ _ hox.symm, hox]), add_assoc]

theorem l1_subgrad (x z : List α) (h : z.length = x.length) :
    sumL (z.map abs') ≥ sumL (x.map abs') + dot (x.map sign') (vsub z x) := by
  induction x, z, h using length_eq_induction with
  | nil => simp [sumL, dot, vsub]
  | cons x xs z zs h ih =>
    simp only [List.map, sumL, vsub, dot]
    linear_combination ih + abs'_subgrad x z

end NanoVerif.C06
