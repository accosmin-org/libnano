import NanoVerif.Model.WireStream
import NanoVerif.Proofs.Wire
/-!
  C15 — the procedures of `Model/WireStream.lean` (the readers as coded: sticky failure state, loops, early returns)
  implement the codecs of `Model/Codec.lean` / `Model/Wire.lean` (core Lean only): the notion `Impl`, its closure under
  the ways readers are put together, the loops and the tensor header; `Props/C15.lean` states the result reader by reader.
-/
namespace NanoVerif.Codec.Stream
open NanoVerif.Codec NanoVerif.Gen.CodecConsts

/-- `R` implements `c`: started on a good stream over `bs`, it stores the decoded value and leaves exactly the rest,
    stream still good — or, exactly when the codec refuses `bs`, it ends with a failed stream or an exception;
    started on a failed stream it ends failed (nothing is ever "repaired") -/
def Impl {α : Type} (R : Reader α) (c : Codec α) : Prop :=
  (∀ bs, match c.dec bs with
    | some (v, r) => R ⟨bs, true⟩ = .val v ⟨r, true⟩
    | none => (R ⟨bs, true⟩).failed = true) ∧
  (∀ s, s.ok = false → (R s).failed = true)

theorem Impl.some {α : Type} {R : Reader α} {c : Codec α} (h : Impl R c) {bs : Bytes} {v : α} {r : Bytes}
    (hd : c.dec bs = some (v, r)) : R ⟨bs, true⟩ = .val v ⟨r, true⟩ := by
  have := h.1 bs; rw [hd] at this; exact this

theorem Impl.none {α : Type} {R : Reader α} {c : Codec α} (h : Impl R c) {bs : Bytes}
    (hd : c.dec bs = none) : (R ⟨bs, true⟩).failed = true := by
  have := h.1 bs; rw [hd] at this; exact this

theorem Impl.sticky {α : Type} {R : Reader α} {c : Codec α} (h : Impl R c) (buf : Bytes) :
    (R ⟨buf, false⟩).failed = true := h.2 ⟨buf, false⟩ rfl

/-! ### decoders and readers are put together the same way -/

/-- `Impl` concerns the decoder only: the same notion for a bare decoding function -/
def Runs {α : Type} (R : Reader α) (d : Dec α) : Prop := Impl R ⟨fun _ => [], d⟩

theorem Impl.runs {α : Type} {R : Reader α} {c : Codec α} (h : Impl R c) : Runs R c.dec := h

theorem Runs.impl {α : Type} {R : Reader α} {c : Codec α} (h : Runs R c.dec) : Impl R c := h

theorem Runs.congr {α : Type} {R : Reader α} {d d' : Dec α} (h : Runs R d)
    (e : ∀ bs, d' bs = d bs) : Runs R d' := funext e ▸ h

theorem Runs.ret {α : Type} (x : α) : Runs (ret x) (fun bs => some (x, bs)) :=
  ⟨fun _ => rfl, fun s hs => by simp [Stream.ret, Res.failed, hs]⟩

theorem Res.failed_val {α : Type} {x : α} {s : IStream} (h : ¬s.ok = true) : (Res.val x s).failed = true := by
  simp [Res.failed, h]

section
variable {α β : Type} {A : Reader α} {d : Dec α} {F : α → Reader β} {k : α → Dec β} {G : Reader β}

theorem Runs.of_run (hA : Runs A d)
    (hfail : ∀ s, (A s).failed = true → (G s).failed = true)
    (hok : ∀ bs x r, A ⟨bs, true⟩ = .val x ⟨r, true⟩ →
      match k x r with
      | some (v, r') => G ⟨bs, true⟩ = .val v ⟨r', true⟩
      | none => (G ⟨bs, true⟩).failed = true) :
    Runs G (dbind d k) := by
  refine ⟨fun bs => ?_, fun s hs => hfail s (hA.2 s hs)⟩
  have h1 := hA.1 bs
  dsimp only [dbind] at h1 ⊢
  cases hd : d bs with
  | none => rw [hd] at h1; exact hfail _ h1
  | some p => rw [hd] at h1; exact hok bs p.1 p.2 h1

/-- the step every reader is made of: run `A`; on a good stream go on with `F`, on a failed one end failed in whatever
    way (`bind` runs `F` on the failed stream, `bindOk` skips it, the vector loop returns, the factory reader looks the
    id up all the same) -/
theorem Runs.step (hA : Runs A d) (hF : ∀ x, Runs (F x) (k x))
    (hG : ∀ s, match A s with
      | .throw => G s = .throw
      | .val x s' => if s'.ok = true then G s = F x s' else (G s).failed = true) :
    Runs G (dbind d k) := by
  refine hA.of_run (fun s h => ?_) (fun bs x r hx => ?_)
  · have hg := hG s
    cases hr : A s with
    | throw => rw [hr] at hg; rw [hg]; rfl
    | val x s' =>
      rw [hr] at h hg
      have hs : s'.ok = false := by simpa [Res.failed] using h
      simpa [hs] using hg
  · have hg := hG ⟨bs, true⟩
    rw [hx] at hg
    rw [show G ⟨bs, true⟩ = F x ⟨r, true⟩ from hg]
    exact (hF x).1 r

/-- statement sequencing `x ← A; F x` -/
theorem Runs.bind (hA : Runs A d) (hF : ∀ x, Runs (F x) (k x)) : Runs (bind A F) (dbind d k) :=
  hA.step hF fun s => by
    unfold Stream.bind
    cases A s with
    | throw => rfl
    | val x s' =>
      dsimp only
      split
      · rfl
      · exact (hF x).2 s' (Bool.eq_false_iff.mpr ‹_›)

/-- the `||` chain `!A || !F x`: `F` is skipped once the stream has failed -/
theorem Runs.bindOk [Inhabited β] (hA : Runs A d) (hF : ∀ x, Runs (F x) (k x)) : Runs (bindOk A F) (dbind d k) :=
  hA.step hF fun s => by
    unfold Stream.bindOk
    cases A s with
    | throw => rfl
    | val x s' =>
      dsimp only
      split
      · rfl
      · exact Res.failed_val ‹_›

end

theorem dbind_pure {α : Type} (d : Dec α) (bs : Bytes) :
    dbind d (fun x r => some (x, r)) bs = d bs := by
  unfold dbind
  cases d bs <;> rfl

/-- `critical(<the stream failed>, …)` turns a failed stream into an exception: still an implementation -/
theorem Runs.critical {α : Type} {R : Reader α} {d : Dec α} (h : Runs R d) :
    Runs (critical R) d :=
  (h.step Runs.ret fun s => by
    unfold Stream.critical
    cases R s with
    | throw => rfl
    | val x s' => dsimp only; split <;> rfl).congr fun bs => (dbind_pure d bs).symm

theorem runs_criticalUnless {α β : Type} (f : α → Option β) (x : α) :
    Runs (criticalUnless f x) (fun bs => match f x with | none => none | some y => some (y, bs)) := by
  unfold criticalUnless
  cases f x with
  | none => exact ⟨fun _ => rfl, fun _ _ => rfl⟩
  | some y => exact Runs.ret y

/-! ### the combinators of `Model/Codec.lean` -/

theorem impl_raw (n : Nat) : Impl (rdRaw n) (raw n) := by
  refine ⟨fun bs => ?_, fun s hs => ?_⟩
  · simp only [raw, rdRaw]
    cases h : takeN n bs with
    | none => simp [Res.failed]
    | some p => simp
  · simp [rdRaw, hs, Res.failed]

theorem impl_pmap_throw {α β : Type} {R : Reader α} {c : Codec α} (h : Impl R c) (f : α → Option β) (g : β → α) :
    Impl (bind R (criticalUnless f)) (pmap c f g) := (h.runs.bind (runs_criticalUnless f)).impl

theorem impl_map {α β : Type} {R : Reader α} {c : Codec α} (h : Impl R c) (f : α → β) (g : β → α) :
    Impl (bind R (fun x => ret (f x))) (pmap c (fun x => some (f x)) g) :=
  (h.runs.bind fun x => Runs.ret (f x)).impl

theorem impl_dseq_or {α β : Type} [Inhabited α] [Inhabited β] {A : Reader α} {a : Codec α} {B : α → Reader β}
    {b : α → Codec β} (ha : Impl A a) (hb : ∀ x, Impl (B x) (b x)) :
    Impl (bindOk A (fun x => bind (B x) (fun y => ret (x, y)))) (dseq a b) :=
  (ha.runs.bindOk fun x => (hb x).runs.bind fun y => Runs.ret (x, y)).impl

theorem impl_critical {α : Type} {R : Reader α} {c : Codec α} (h : Impl R c) : Impl (critical R) c :=
  h.runs.critical.impl

theorem impl_uint (k : Nat) : Impl (rdUInt k) (uintLE k) := impl_map (impl_raw k) leNat (leBytes k)

theorem impl_int (k : Nat) : Impl (rdInt k) (intLE k) := impl_map (impl_uint k) (toSigned k) (ofSigned k)

/-- length-prefixed data: the decoder of `str` and of `vec c` -/
theorem prefixed_dec {α β : Type} (a : Codec α) (b : α → Codec β) (g : β → α × β) (bs : Bytes) :
    (pmap (dseq a b) (fun p => some p.2) g).dec bs = dbind a.dec (fun x => (b x).dec) bs := by
  unfold pmap dseq dbind
  dsimp only
  cases a.dec bs with
  | none => rfl
  | some p =>
    obtain ⟨x, r⟩ := p
    dsimp only
    cases (b x).dec r <;> rfl

/-! ### vectors: the loop with the early return -/

theorem runs_rdElems {α : Type} {R : Reader α} {c : Codec α} (h : Impl R c) : ∀ n, Runs (rdElems R n) (decN c n)
  | 0 => Runs.ret []
  | n + 1 =>
    (h.runs.step (G := rdElems R (n + 1)) (fun x => (runs_rdElems h n).bind fun xs => Runs.ret (x :: xs))
      fun s => by
        simp only [rdElems, Stream.bind]
        cases R s with
        | throw => rfl
        | val x s1 =>
          dsimp only
          split
          · cases rdElems R n s1 <;> rfl
          · exact Res.failed_val ‹_›).congr (decN_succ c n)

/-! ### tensors -/

theorem impl_dims : ∀ n : Nat, Impl (rdDims n) (rep i32 n)
  | 0 => (Runs.ret []).impl
  | n + 1 =>
    (((impl_int 4).runs.bind fun d => (impl_dims n).runs.bind fun ds => Runs.ret (d :: ds)).congr
      (decN_succ i32 n)).impl

/-- the header fields in wire order -/
def hdr5 (rank : Nat) : Codec (Nat × Nat × List Int × Nat × Nat) := seq u32 (seq u32 (seq (rep i32 rank) (seq u32 u64)))

theorem impl_tensorHeader (rank : Nat) : Impl (rdTensorHeader rank) (hdr5 rank) :=
  impl_dseq_or (impl_uint 4) (fun _ => impl_dseq_or (impl_uint 4) (fun _ => impl_dseq_or (impl_dims rank)
    (fun _ => impl_dseq_or (impl_uint 4) (fun _ => impl_uint 8))))

/-! The tensor codec compares each constant as soon as it is read, the reader reads all five header fields first. Both
   are chains of `dbind` with tests in between; a test that does not depend on what is read next commutes with that
   read, so both have the same normal form. -/

section
variable {α β γ : Type} (p : Prop) [Decidable p] (d : Dec α) (k : α → Dec β)

theorem dbind_ret (x : α) : dbind (fun r => some (x, r)) k = k x := rfl

theorem dbind_fail : dbind (fun _ => none) k = fun _ => none := rfl

theorem dbind_none : dbind d (fun _ _ => (none : Option (β × Bytes))) = fun _ => none := by
  funext bs; unfold dbind; cases d bs <;> rfl

theorem ite_dbind (e : Dec α) :
    dbind (fun r => if p then d r else e r) k = fun r => if p then dbind d k r else dbind e k r := by
  by_cases h : p <;> simp only [h, if_true, if_false]

/-- a test that does not depend on what is read next may be made before or after that read -/
theorem dbind_ite (k' : α → Dec β) :
    dbind d (fun x r => if p then k x r else k' x r) = fun r => if p then dbind d k r else dbind d k' r := by
  by_cases h : p <;> simp only [h, if_true, if_false]

theorem ite_dec (a b : Codec α) : (if p then a else b).dec = fun r => if p then a.dec r else b.dec r := by
  by_cases h : p <;> simp only [h, if_true, if_false]

end

/-- what the reader does once all five header fields `(version, rank, dims, sizeof, hash)` are there: compare the
    constants, `resize`, read the content, compare the hash -/
def tensorTail (k : Scalar) (rank : Nat) (x : Nat × Nat × List Int × Nat × Nat) : Dec Tensor :=
  fun r5 =>
  if x.1 = hashVersion then
    if x.2.1 = rank then
      if x.2.2.2.1 = k.size then
        if dimsSize x.2.2.1 < 0 then none
        else
          dbind (raw ((dimsSize x.2.2.1).toNat * k.size)).dec
            (fun pl r6 =>
              if x.2.2.2.2 = (hashPayload k (dimsSize x.2.2.1).toNat pl).toNat then some (⟨x.2.2.1, pl⟩, r6) else none) r5
      else none
    else none
  else none

theorem tensor_dec_via_header (k : Scalar) (rank : Nat) :
    (tensor k rank).dec = dbind (hdr5 rank).dec (tensorTail k rank) := by
  unfold tensor tensorHeader tensorBody hdr5 const seq tensorTail
  simp only [pmap_dec, dseq_dec, ite_dec, fail, dbind_assoc, dbind_ret, dbind_fail, dbind_none, ite_some_match, ite_dbind,
    dbind_ite]

/-! ### configurables: `critical` after the version triple, the version comparison, `critical` after the parameters -/

theorem impl_version3 : Impl rdVersion (seq i32 (seq i32 i32)) :=
  impl_critical (impl_dseq_or (impl_int 4) (fun _ => impl_dseq_or (impl_int 4) (fun _ => impl_int 4)))

theorem critical_val_ok {α : Type} (R : Reader α) (s : IStream) (x : α) (s' : IStream)
    (h : critical R s = .val x s') : s'.ok = true := by
  simp only [critical] at h
  split at h
  · cases h
  · split at h
    · cases h; assumption
    · cases h

theorem critical_failed_throw {α : Type} (R : Reader α) (s : IStream) (h : (critical R s).failed = true) :
    critical R s = .throw := by
  cases hr : critical R s with
  | throw => rfl
  | val x s' =>
    have := critical_val_ok R s x s' hr
    rw [hr] at h
    simp [Res.failed, this] at h

/-- after a `critical` nothing continues on a failed stream: the outcome on a failed input is an exception -/
theorem critical_throws {α : Type} {R : Reader α} {c : Codec α} (h : Impl R c) (buf : Bytes) :
    critical R ⟨buf, false⟩ = .throw :=
  critical_failed_throw R _ ((impl_critical h).sticky buf)

end NanoVerif.Codec.Stream
