import NanoVerif.Model.Boost
import NanoVerif.Proofs.EarlyStopping
import NanoVerif.Proofs.CxxMoments
import Mathlib.Algebra.BigOperators.Group.List.Basic
import Mathlib.Tactic.Ring
/-!
  C11 — helper lemmas for the round-loop skeleton and the prediction/averaging algebra of `Model/Boost.lean`.

  A regular round (after its learner is appended) and the start of `::fit` (no learner yet) have the same shape: one
  call of `optimum.done` on the learners present, then the loop unless it answered `true` (`callThen`). `Stretch` is
  the one invariant of such a piece of the fit; everything the property theorems say about `fitLoop` / `fitCalls`
  is a field of it.
-/
set_option linter.unusedSectionVars false

namespace NanoVerif.Boost
open NanoVerif.Gen.EarlyStopping NanoVerif.EarlyStopping

variable {L X α : Type} [Field α] [LinearOrder α] [IsStrictOrderedRing α]

section loop
variable (eps : α) (pat ntrain nvalid : Nat)

/-- the call of `optimum.done` made when `n` learners are present -/
def callOf (n : Nat) (t v : α) : Call α :=
  { train := t, valid := v, n := n, ntrain := ntrain, nvalid := nvalid, idx := n + 1 }

/-- one call of `optimum.done` on the learners of `st`, then the loop over `rest` unless it answered `true`:
    `loop st (.fitted w t v :: rest)` is this from `st` with `w` appended, `fitLoop` is this from no learner and `init vmax` -/
def callThen (st : LoopSt L α) (t v : α) (rest : List (RoundEv L α)) : LoopSt L α :=
  if (done eps pat st.es (callOf ntrain nvalid st.learners.length t v)).2 then
    { st with es := (done eps pat st.es (callOf ntrain nvalid st.learners.length t v)).1 }
  else loop eps pat ntrain nvalid
    { st with es := (done eps pat st.es (callOf ntrain nvalid st.learners.length t v)).1 } rest

/-- the calls of `optimum.done` that `callThen` makes -/
def callsThen (st : LoopSt L α) (t v : α) (rest : List (RoundEv L α)) :
    List (Call α) :=
  callOf ntrain nvalid st.learners.length t v ::
    if (done eps pat st.es (callOf ntrain nvalid st.learners.length t v)).2 then []
    else callsMade eps pat ntrain nvalid
      { st with es := (done eps pat st.es (callOf ntrain nvalid st.learners.length t v)).1 } rest

/-- a piece of `::fit` from the state `st` to the state `r` that made the monitor calls `cs`, the first of them seeing
    `n0` learners, and could append the learners `ws`: the monitor of `r` is the monitor of `st` driven over `cs`; the
    recorded round does not exceed the learners present; the learners grew by a prefix of `ws`; the calls name their
    tensor one above their learner count, are numbered `n0, n0 + 1, …` and all but the last answered `false` -/
structure Stretch (st r : LoopSt L α) (cs : List (Call α)) (n0 : Nat) (ws : List L) : Prop where
  es : r.es = stateAfter eps pat st.es cs
  round_le : r.es.round ≤ r.learners.length
  learners : ∃ k, r.learners = st.learners ++ ws.take k
  idx : ∀ c ∈ cs, c.idx = c.n + 1
  num : ∀ pre c post, cs = pre ++ c :: post → c.n = n0 + pre.length
  quiet : ∀ pre c post, cs = pre ++ c :: post → post ≠ [] → (done eps pat (stateAfter eps pat st.es pre) c).2 = false

theorem Stretch.still (st r : LoopSt L α) (h : st.es.round ≤ st.learners.length) (n0 : Nat)
    (ws : List L) (k : Nat) (he : r.es = st.es) (hl : r.learners = st.learners ++ ws.take k) :
    Stretch eps pat st r [] n0 ws :=
  ⟨he, by rw [he, hl]; exact Nat.le_trans h (by simp), ⟨k, hl⟩, by simp, forall_split_nil, forall_split_nil⟩

/-- `callThen` from the invariant of the loop it continues with -/
theorem callThen_stretch (rest : List (RoundEv L α)) (ws : List L)
    (ih : ∀ st : LoopSt L α, st.es.round ≤ st.learners.length →
      Stretch eps pat st (loop eps pat ntrain nvalid st rest) (callsMade eps pat ntrain nvalid st rest)
        (st.learners.length + 1) ws)
    (st : LoopSt L α) (h : st.es.round ≤ st.learners.length) (t v : α) :
    Stretch eps pat st (callThen eps pat ntrain nvalid st t v rest) (callsThen eps pat ntrain nvalid st t v rest)
      st.learners.length ws := by
  have hround : (done eps pat st.es (callOf ntrain nvalid st.learners.length t v)).1.round ≤ st.learners.length :=
    done_state_ind (P := fun s => s.round ≤ st.learners.length) eps pat h (Nat.le_refl _)
  unfold callThen callsThen
  by_cases hd : (done eps pat st.es (callOf ntrain nvalid st.learners.length t v)).2 = true
  · rw [if_pos hd, if_pos hd]
    exact ⟨rfl, hround, ⟨0, by simp⟩, by simp [callOf], forall_split_cons.mpr ⟨rfl, forall_split_nil⟩,
      forall_split_cons.mpr ⟨fun hne => absurd rfl hne, forall_split_nil⟩⟩
  · rw [if_neg hd, if_neg hd]
    obtain ⟨i1, i2, i3, i4, i5, i6⟩ := ih { st with es := _ } hround
    exact ⟨i1, i2, i3, List.forall_mem_cons.mpr ⟨rfl, i4⟩,
      forall_split_cons.mpr ⟨rfl, fun pre c post e => by rw [i5 pre c post e]; dsimp only [List.length_cons]; omega⟩,
      forall_split_cons.mpr ⟨fun _ => (Bool.not_eq_true _).mp hd, i6⟩⟩

theorem loop_stretch (evs : List (RoundEv L α)) :
    ∀ st : LoopSt L α, st.es.round ≤ st.learners.length →
      Stretch eps pat st (loop eps pat ntrain nvalid st evs) (callsMade eps pat ntrain nvalid st evs)
        (st.learners.length + 1) (learnersOf evs) := by
  induction evs with
  | nil => intro st h; exact Stretch.still eps pat st st h _ _ 0 rfl (by simp)
  | cons ev rest ih =>
    intro st h
    cases ev with
    | noLearner => exact Stretch.still eps pat st st h _ _ 0 rfl (by simp)
    | scaleFail w => exact Stretch.still eps pat st { st with learners := st.learners ++ [w] } h _ _ 1 rfl rfl
    | fitted w t v =>
      -- `loop` and `callsMade` at a fitted round unfold to `callThen` / `callsThen` after the append
      obtain ⟨i1, i2, ⟨k, i3⟩, i4, i5, i6⟩ := callThen_stretch eps pat ntrain nvalid rest _ ih
        { st with learners := st.learners ++ [w] } (Nat.le_trans h (by simp)) t v
      exact ⟨i1, i2, ⟨k + 1, i3.trans (by simp [learnersOf])⟩, i4, fun pre c post e => by rw [i5 pre c post e]; simp, i6⟩

/-- the invariant of `::fit` up to `result.done`: a fresh monitor and no learner, the calls `fitCalls` numbered from 0 -/
theorem fitLoop_stretch (maxRounds : Nat) (vmax train0 valid0 : α) (evs : List (RoundEv L α)) :
    Stretch eps pat { learners := [], es := init vmax } (fitLoop eps pat ntrain nvalid maxRounds vmax train0 valid0 evs)
      (fitCalls eps pat ntrain nvalid maxRounds vmax train0 valid0 evs) 0 (learnersOf (evs.take maxRounds)) :=
  callThen_stretch eps pat ntrain nvalid _ _ (loop_stretch eps pat ntrain nvalid _) _ (Nat.le_refl 0) train0 valid0

end loop

/-! ### the choice of the weak learner -/

/-- the scan over the prototypes from an accumulator `(b, ow)`: the result is the accumulator when no score is below `b`;
    otherwise it is the **first** candidate whose score is the minimum, and that score is below `b` -/
theorem pickBest_go (cands : List (α × L)) :
    ∀ (b : α) (ow : Option L),
      let r := cands.foldl (fun (b : α × Option L) c => if c.1 < b.1 then (c.1, some c.2) else b) (b, ow)
      (r = (b, ow) ∧ ∀ c ∈ cands, ¬ c.1 < b) ∨
      (∃ pre s w post, cands = pre ++ (s, w) :: post ∧ r = (s, some w) ∧ s < b ∧ (∀ c ∈ pre, s < c.1) ∧ ∀ c ∈ post, s ≤ c.1) := by
  induction cands with
  | nil => intro b ow; exact Or.inl ⟨rfl, by simp⟩
  | cons c cs ih =>
    intro b ow
    simp only [List.foldl_cons]
    by_cases hc : c.1 < b
    · -- `c` becomes the accumulator: it stays the answer unless a later score is strictly below its own
      rw [if_pos hc]
      rcases ih c.1 (some c.2) with ⟨e, hall⟩ | ⟨pre, s, w, post, e1, e2, h1, h2, h3⟩
      · exact Or.inr ⟨[], c.1, c.2, cs, rfl, e, hc, by simp, fun d hd => not_lt.mp (hall d hd)⟩
      · exact Or.inr ⟨c :: pre, s, w, post, by rw [e1]; rfl, e2, lt_trans h1 hc, List.forall_mem_cons.mpr ⟨h1, h2⟩, h3⟩
    · rw [if_neg hc]
      rcases ih b ow with ⟨e, hall⟩ | ⟨pre, s, w, post, e1, e2, h1, h2, h3⟩
      · exact Or.inl ⟨e, List.forall_mem_cons.mpr ⟨hc, hall⟩⟩
      · exact Or.inr ⟨c :: pre, s, w, post, by rw [e1]; rfl, e2, h1,
          List.forall_mem_cons.mpr ⟨lt_of_lt_of_le h1 (not_lt.mp hc), h2⟩, h3⟩

/-! ### prediction and averaging -/

theorem foldl_add_eq (l : List α) (a : α) : l.foldl (· + ·) a = a + l.sum := Cxx.foldl_add l a

theorem foldl_add_map {ι : Type} (l : List ι) (f : ι → α) (a : α) :
    l.foldl (fun acc i => acc + f i) a = a + (l.map f).sum := by
  rw [← foldl_add_eq, List.foldl_map]

theorem predict_snoc (bias : α) (fs : List (X → α)) (f : X → α) (x : X) :
    predict bias (fs ++ [f]) x = predict bias fs x + f x := by
  unfold predict; rw [List.foldl_append]; rfl

theorem sum_map_flatMap {ι κ : Type} (l : List ι) (g : ι → List κ) (f : κ → α) :
    ((l.flatMap g).map f).sum = (l.map fun i => ((g i).map f).sum).sum := by
  rw [List.map_flatMap, List.flatMap_def, List.sum_flatten, List.map_map]; rfl

theorem sum_scale (d : α) (ws : List (X → α)) (x : X) :
    ((ws.map (scale d)).map (fun w => w x)).sum = (ws.map (fun w => w x)).sum * d := by
  rw [List.map_map, ← List.sum_map_mul_right]
  exact congrArg List.sum (List.map_congr_left fun w _ => mul_comm d (w x))

end NanoVerif.Boost
