import NanoVerif.Proofs.SolverSkeleton
import NanoVerif.Proofs.ListVec
import NanoVerif.Proofs.CxxOrder
import NanoVerif.Proofs.ListIndex
import Mathlib.Tactic.Positivity
import Mathlib.Tactic.FieldSimp
/-!
  C01 — exact-arithmetic lemmas about the vector/matrix formulas of `Model/Solver.lean`, instantiated at an arbitrary
  linear ordered field: bilinearity of `vdot` (the componentwise operations are `List.zipWith`, so one linearity lemma,
  `vdot_zipWith_right`, serves sums, differences, `q − c·y`, `r + s·c` and the rows of `A ± B`), the two-loop recursion as
  the product form of a positive definite operator (`twoLoop_pos`), `matVec` of sums, products and outer products (what the
  secant equation of BFGS needs), Cauchy–Schwarz and the scalar core of the strongly convex bound, and the reading of
  `infNorm` as `max |·|`.
-/
namespace NanoVerif.Solver
open NanoVerif.Gen.DoneLogic
set_option linter.unusedSectionVars false

variable {α : Type} [Field α] [LinearOrder α] [IsStrictOrderedRing α]

/-! ### `absv`, `cmax`, `infNorm`, `gradientTest` in a linear ordered field -/

theorem absv_eq_abs (x : α) : absv x = |x| := Cxx.ite_abs x

theorem cmax_eq_max (a b : α) : cmax a b = max a b := Cxx.ite_max a b

/-- `lpNorm<Infinity>` is the running maximum of the absolute values, started at `0`: the third branch of the model's step (the
    NaN case at `Float`) is never taken in a linear order -/
theorem infNorm_eq (g : Vec α) : infNorm g = (g.map (|·|)).foldl max 0 := by
  rw [List.foldl_map]
  refine congrArg (fun f => g.foldl f 0) (funext₂ fun m v => ?_)
  simp only [absv_eq_abs]
  split
  · next h => exact (max_eq_right (le_of_lt h)).symm
  · next h => rw [if_pos (not_lt.mp h)]; exact (max_eq_left (not_lt.mp h)).symm

theorem le_infNorm (g : Vec α) : ∀ v ∈ g, |v| ≤ infNorm g := by
  rw [infNorm_eq]; exact List.forall_mem_map.mp (Cxx.le_foldl_max _ 0).2

theorem infNorm_nonneg (g : Vec α) : 0 ≤ infNorm g := by
  rw [infNorm_eq]; exact (Cxx.le_foldl_max _ 0).1

/-! ### `vdot` -/

theorem vdot_eq : (vdot : Vec α → Vec α → α) = ListVec.dot := by
  funext a
  induction a with
  | nil => exact funext fun _ => rfl
  | cons x a ih => exact funext fun | [] => rfl | y :: b => congrArg (x * y + ·) (congrFun ih b)

theorem vdot_comm (u v : Vec α) : vdot u v = vdot v u := by
  rw [vdot_eq]; exact ListVec.dot_comm u v

theorem vdot_nil_left (v : Vec α) : vdot [] v = 0 := rfl

theorem vdot_nil_right (u : Vec α) : vdot u [] = 0 := by cases u <;> rfl

theorem vdot_self_nonneg (q : Vec α) : 0 ≤ vdot q q := by
  rw [vdot_eq]; exact ListVec.dot_self_nonneg q

theorem vdot_self_pos (q : Vec α) (h : ∃ a ∈ q, a ≠ 0) : 0 < vdot q q := by
  rw [vdot_eq]; exact ListVec.dot_self_pos q h

theorem vdot_zero_of_all_zero (u v : Vec α) (h : ¬ ∃ b ∈ u, b ≠ 0) : vdot u v = 0 := by
  rw [vdot_eq]; exact ListVec.dot_eq_zero_of_forall_eq_zero u v fun a ha => not_not.mp fun hne => h ⟨a, ha, hne⟩

theorem vdot_map_right (g : α → α) (c : α) (hg : ∀ x, g x = c * x) (u v : Vec α) : vdot u (v.map g) = c * vdot u v := by
  rw [vdot_eq]; exact ListVec.dot_map_right c hg u v

theorem vdot_vneg_right (u v : Vec α) : vdot u (vneg v) = -vdot u v := by
  rw [vneg, vdot_map_right _ (-1) (fun x => (neg_one_mul x).symm), neg_one_mul]

theorem vdot_vscale_right (c : α) (u v : Vec α) : vdot u (vscale c v) = c * vdot u v :=
  vdot_map_right _ c (fun _ => rfl) u v

/-! ### the componentwise operations are `List.zipWith`, and `vdot` is linear in them -/

theorem vadd_eq_zipWith : ∀ (a b : Vec α), vadd a b = List.zipWith (· + ·) a b
  | [], _ => rfl
  | _ :: _, [] => rfl
  | _ :: a, _ :: b => congrArg (List.cons _) (vadd_eq_zipWith a b)

theorem vsub_eq_zipWith : ∀ (a b : Vec α), vsub a b = List.zipWith (· - ·) a b
  | [], _ => rfl
  | _ :: _, [] => rfl
  | _ :: a, _ :: b => congrArg (List.cons _) (vsub_eq_zipWith a b)

theorem vsubScaled_eq_zipWith (c : α) : ∀ (q y : Vec α), vsubScaled q c y = List.zipWith (fun q y => q - c * y) q y
  | [], _ => rfl
  | _ :: _, [] => rfl
  | _ :: q, _ :: y => congrArg (List.cons _) (vsubScaled_eq_zipWith c q y)

theorem vaddScaled_eq_zipWith (c : α) : ∀ (r s : Vec α), vaddScaled r s c = List.zipWith (fun r s => r + s * c) r s
  | [], _ => rfl
  | _ :: _, [] => rfl
  | _ :: r, _ :: s => congrArg (List.cons _) (vaddScaled_eq_zipWith c r s)

theorem length_zipWith_of_eq (f : α → α → α) (a b : Vec α) (h : a.length = b.length) : (List.zipWith f a b).length = a.length := by
  rw [List.length_zipWith, h, Nat.min_self]

/-- `⟨u, f(a, b)⟩ = ca ⟨u, a⟩ + cb ⟨u, b⟩` for a componentwise linear `f(x, y) = ca x + cb y` of two vectors of the same
    length (sums, differences, `q − c·y`, `r + s·c`, rows of `A ± B`) -/
theorem vdot_zipWith_right (f : α → α → α) (ca cb : α) (hf : ∀ x y, f x y = ca * x + cb * y) (u a b : Vec α)
    (h : a.length = b.length) : vdot u (List.zipWith f a b) = ca * vdot u a + cb * vdot u b := by
  rw [vdot_eq]; exact ListVec.dot_zipWith_right ca cb hf u h

theorem vdot_zipWith_left (f : α → α → α) (ca cb : α) (hf : ∀ x y, f x y = ca * x + cb * y) (a b v : Vec α)
    (h : a.length = b.length) : vdot (List.zipWith f a b) v = ca * vdot a v + cb * vdot b v := by
  rw [vdot_eq]; exact ListVec.dot_zipWith_left ca cb hf v h

theorem vsub_length (a b : Vec α) (h : a.length = b.length) : (vsub a b).length = a.length := by
  rw [vsub_eq_zipWith, length_zipWith_of_eq _ a b h]

theorem vadd_length (a b : Vec α) (h : a.length = b.length) : (vadd a b).length = a.length := by
  rw [vadd_eq_zipWith, length_zipWith_of_eq _ a b h]

theorem vsubScaled_length (c : α) (q y : Vec α) (h : q.length = y.length) : (vsubScaled q c y).length = q.length := by
  rw [vsubScaled_eq_zipWith, length_zipWith_of_eq _ q y h]

theorem vaddScaled_length (c : α) (r s : Vec α) (h : r.length = s.length) : (vaddScaled r s c).length = r.length := by
  rw [vaddScaled_eq_zipWith, length_zipWith_of_eq _ r s h]

theorem vneg_length (a : Vec α) : (vneg a).length = a.length := by simp [vneg]
theorem vscale_length (c : α) (a : Vec α) : (vscale c a).length = a.length := List.length_map _

theorem vdot_vsub_right (u a b : Vec α) (h : a.length = b.length) : vdot u (vsub a b) = vdot u a - vdot u b := by
  rw [vsub_eq_zipWith, vdot_zipWith_right _ 1 (-1) (fun x y => by ring) u a b h]; ring

theorem vdot_vadd_right (u a b : Vec α) (h : a.length = b.length) : vdot u (vadd a b) = vdot u a + vdot u b := by
  rw [vadd_eq_zipWith, vdot_zipWith_right _ 1 1 (fun x y => by ring) u a b h]; ring

theorem vdot_vsubScaled_right (c : α) (u q y : Vec α) (h : q.length = y.length) :
    vdot u (vsubScaled q c y) = vdot u q - c * vdot u y := by
  rw [vsubScaled_eq_zipWith, vdot_zipWith_right _ 1 (-c) (fun x y => by ring) u q y h]; ring

theorem vdot_vaddScaled_right (c : α) (u r s : Vec α) (h : r.length = s.length) :
    vdot u (vaddScaled r s c) = vdot u r + c * vdot u s := by
  rw [vaddScaled_eq_zipWith, vdot_zipWith_right _ 1 c (fun x y => by ring) u r s h]; ring

theorem vdot_vsubScaled_left (c : α) (q y r : Vec α) (h : q.length = y.length) :
    vdot (vsubScaled q c y) r = vdot q r - c * vdot y r := by
  rw [vdot_comm, vdot_vsubScaled_right c r q y h, vdot_comm r q, vdot_comm r y]

theorem vsubScaled_zero (q y : Vec α) (h : q.length = y.length) : vsubScaled q 0 y = q := by
  rw [vsubScaled_eq_zipWith]
  induction q generalizing y with
  | nil => rfl
  | cons a q ih =>
    cases y with
    | nil => nomatch h
    | cons b y => rw [List.zipWith_cons_cons, ih y (Nat.succ.inj h), zero_mul, sub_zero]

theorem vsub_self (s : Vec α) : vsub s s = List.replicate s.length 0 := by
  rw [vsub_eq_zipWith, List.zipWith_self]
  induction s with
  | nil => rfl
  | cons a s ih => rw [List.map_cons, ih, sub_self]; rfl

theorem vadd_replicate_zero_left : ∀ (s : Vec α), vadd (List.replicate s.length 0) s = s
  | [] => rfl
  | a :: s => by
    show (0 + a) :: vadd (List.replicate s.length 0) s = a :: s
    rw [zero_add, vadd_replicate_zero_left s]

theorem vdot_replicate_zero_right (u : Vec α) (n : Nat) : vdot u (List.replicate n 0) = 0 := by
  rw [vdot_eq]; exact ListVec.dot_replicate_zero_right u n

/-! ### the two-loop recursion (C01 `twoloop_descent`) -/

def HistOK (n : Nat) (h : List (Vec α × Vec α)) : Prop :=
  ∀ p ∈ h, p.1.length = n ∧ p.2.length = n ∧ 0 < vdot p.1 p.2

def GammaOK : Option α → Prop
  | none => True
  | some c => 0 < c

theorem HistOK.tail {n : Nat} {p : Vec α × Vec α} {h : List (Vec α × Vec α)} (hok : HistOK n (p :: h)) : HistOK n h :=
  fun q hq => hok q (List.mem_cons_of_mem _ hq)

theorem twoLoop_length (gamma : Option α) (n : Nat) : ∀ (h : List (Vec α × Vec α)) (q : Vec α),
    HistOK n h → q.length = n → (twoLoop gamma h q).length = n
  | [], q, _, hq => by
    cases gamma with
    | none => exact hq
    | some c => exact (vscale_length c q).trans hq
  | (s, y) :: older, q, hok, hq => by
    obtain ⟨hs, hy, _⟩ := hok (s, y) List.mem_cons_self
    have hq' : (vsubScaled q (vdot s q / vdot s y) y).length = n :=
      (vsubScaled_length _ q y (hq.trans hy.symm)).trans hq
    have hr := twoLoop_length gamma n older _ hok.tail hq'
    exact (vaddScaled_length _ _ s (hr.trans hs.symm)).trans hr

/-- one pair of the recursion in scalars (`sq = s·q`, `sy = s·y`, `yr = y·r`, `qr = q·r`): with `a = sq/sy`, `b = yr/sy` the
    quadratic form `q·(r + (a − b) s)` is `(q − a y)·r` plus the square `sq²/sy` -/
theorem twoLoop_step_scalar (sq sy yr qr : α) (hsy : sy ≠ 0) :
    qr + (sq / sy - yr / sy) * sq = (qr - sq / sy * yr) + sq * sq / sy := by
  field_simp; ring

/-- the quadratic form of the L-BFGS operator is positive: `⟨q, H q⟩ > 0` for `q ≠ 0` when all `s·y > 0` -/
theorem twoLoop_pos (gamma : Option α) (hg : GammaOK gamma) (n : Nat) : ∀ (h : List (Vec α × Vec α)) (q : Vec α),
    HistOK n h → q.length = n → (∃ a ∈ q, a ≠ 0) → 0 < vdot q (twoLoop gamma h q)
  | [], q, _, _, hne => by
    cases gamma with
    | none => exact vdot_self_pos q hne
    | some c =>
      show 0 < vdot q (vscale c q)
      rw [vdot_vscale_right c q q]
      exact mul_pos hg (vdot_self_pos q hne)
  | (s, y) :: older, q, hok, hq, hne => by
    obtain ⟨hs, hy, hsy⟩ := hok (s, y) List.mem_cons_self
    have hqy : q.length = y.length := hq.trans hy.symm
    have hq'len : (vsubScaled q (vdot s q / vdot s y) y).length = n := (vsubScaled_length _ q y hqy).trans hq
    have hrlen := twoLoop_length gamma n older _ hok.tail hq'len
    -- ⟨q, H q⟩ = ⟨q', H' q'⟩ + (s·q)² / (s·y) with q' = q − a y
    have hid : vdot q (twoLoop gamma ((s, y) :: older) q)
        = vdot (vsubScaled q (vdot s q / vdot s y) y) (twoLoop gamma older (vsubScaled q (vdot s q / vdot s y) y))
          + vdot s q * vdot s q / vdot s y := by
      show vdot q (vaddScaled _ s _) = _
      rw [vdot_vaddScaled_right _ q _ s (hrlen.trans hs.symm), vdot_vsubScaled_left _ q y _ hqy, vdot_comm q s]
      exact twoLoop_step_scalar _ _ _ _ (ne_of_gt hsy)
    rw [hid]
    by_cases hsq : vdot s q = 0
    · rw [hsq, zero_div, vsubScaled_zero q y hqy, zero_mul, zero_div, add_zero]
      exact twoLoop_pos gamma hg n older q hok.tail hq hne
    · refine add_pos_of_nonneg_of_pos ?_ (div_pos (mul_self_pos.mpr hsq) hsy)
      by_cases hz : ∃ b ∈ vsubScaled q (vdot s q / vdot s y) y, b ≠ 0
      · exact le_of_lt (twoLoop_pos gamma hg n older _ hok.tail hq'len hz)
      · rw [vdot_zero_of_all_zero _ _ hz]
termination_by h => h.length

theorem lbfgsGamma_ok (n : Nat) (h : List (Vec α × Vec α)) (hok : HistOK n h) : GammaOK (lbfgsGamma h) := by
  cases h with
  | nil => trivial
  | cons p older =>
    obtain ⟨s, y⟩ := p
    obtain ⟨_, _, hsy⟩ := hok (s, y) List.mem_cons_self
    refine div_pos hsy (vdot_self_pos y ?_)
    by_contra hz
    rw [vdot_comm, vdot_zero_of_all_zero y s hz] at hsy
    exact lt_irrefl _ hsy

/-! ### matrices: `matVec` of sums, products, outer products -/

theorem matVec_length (H : Mat α) (v : Vec α) : (matVec H v).length = H.length := List.length_map _

theorem matVec_zero (H : Mat α) (n : Nat) : matVec H (List.replicate n 0) = List.replicate H.length 0 := by
  induction H with
  | nil => rfl
  | cons row rows ih =>
    show vdot row (List.replicate n 0) :: matVec rows (List.replicate n 0) = 0 :: List.replicate rows.length 0
    rw [vdot_replicate_zero_right, ih]

theorem matVec_vsub (A : Mat α) (x z : Vec α) (h : x.length = z.length) :
    matVec A (vsub x z) = vsub (matVec A x) (matVec A z) := by
  induction A with
  | nil => rfl
  | cons r A ih =>
    show vdot r (vsub x z) :: matVec A (vsub x z) = (vdot r x - vdot r z) :: vsub (matVec A x) (matVec A z)
    rw [vdot_vsub_right r x z h, ih]

theorem matZipWith_eq_zipWith (f : α → α → α) : ∀ (A B : Mat α), matZipWith f A B = List.zipWith (List.zipWith f) A B
  | [], _ => rfl
  | _ :: _, [] => rfl
  | _ :: A, _ :: B => congrArg (List.cons _) (matZipWith_eq_zipWith f A B)

theorem matZipWith_rows_length (f : α → α → α) (n : Nat) : ∀ (A B : Mat α), (∀ r ∈ A, r.length = n) →
    (∀ r ∈ B, r.length = n) → ∀ r ∈ matZipWith f A B, r.length = n
  | [], _, _, _, _, hr => nomatch hr
  | _ :: _, [], _, _, _, hr => nomatch hr
  | a :: A, b :: B, hA, hB, r, hr => by
    obtain ⟨ha, hA'⟩ := List.forall_mem_cons.mp hA
    obtain ⟨hb, hB'⟩ := List.forall_mem_cons.mp hB
    rcases List.mem_cons.mp hr with rfl | hr'
    · exact (length_zipWith_of_eq f a b (ha.trans hb.symm)).trans ha
    · exact matZipWith_rows_length f n A B hA' hB' r hr'

theorem matVec_eq (H : Mat α) (v : Vec α) : matVec H v = ListVec.mv H v := by
  rw [matVec, vdot_eq]; rfl

theorem matVec_matZipWith (f : α → α → α) (ca cb : α) (hf : ∀ x y, f x y = ca * x + cb * y) (n : Nat) (v : Vec α)
    (A B : Mat α) (hA : ∀ r ∈ A, r.length = n) (hB : ∀ r ∈ B, r.length = n) :
    matVec (matZipWith f A B) v = List.zipWith f (matVec A v) (matVec B v) := by
  rw [matZipWith_eq_zipWith, matVec_eq, matVec_eq, matVec_eq,
    ListVec.mv_zipWith_rows (List.zipWith f) (fun p b => f p (ListVec.dot b v)) v A B fun r hr b hb => by
      rw [ListVec.dot_zipWith_left ca cb hf v ((hA r hr).trans (hB b hb).symm), hf]]
  exact (List.zipWith_map_right ..).symm

theorem matVec_matAdd (A B : Mat α) (v : Vec α) (n : Nat) (hA : ∀ r ∈ A, r.length = n) (hB : ∀ r ∈ B, r.length = n) :
    matVec (matAdd A B) v = vadd (matVec A v) (matVec B v) := by
  rw [vadd_eq_zipWith]; exact matVec_matZipWith _ 1 1 (fun x y => by ring) n v A B hA hB

theorem matVec_matSub (A B : Mat α) (v : Vec α) (n : Nat) (hA : ∀ r ∈ A, r.length = n) (hB : ∀ r ∈ B, r.length = n) :
    matVec (matSub A B) v = vsub (matVec A v) (matVec B v) := by
  rw [vsub_eq_zipWith]; exact matVec_matZipWith _ 1 (-1) (fun x y => by ring) n v A B hA hB

/-- `(u vᵀ / c) w = u (v·w) / c`, component by component -/
theorem matVec_outer_div (u v w : Vec α) (c : α) :
    matVec (matDiv (outer u v) c) w = u.map (fun a => a * (vdot v w / c)) := by
  have hrow : ∀ a : α, vdot ((v.map (fun b => a * b)).map (fun x => x / c)) w = a * (vdot v w / c) := fun a => by
    rw [List.map_map, vdot_comm, vdot_map_right _ (a / c) (fun x => by show a * x / c = a / c * x; ring), vdot_comm]; ring
  simp only [matVec, matDiv, outer, List.map_map]
  exact List.map_congr_left fun a _ => hrow a

theorem map_mul_one (u : Vec α) : u.map (fun a => a * (1 : α)) = u := by
  induction u with
  | nil => rfl
  | cons a u ih => rw [List.map_cons, ih, mul_one]

theorem outer_rows_length (u v : Vec α) : ∀ r ∈ outer u v, r.length = v.length := by
  intro r hr
  obtain ⟨a, _, rfl⟩ := List.mem_map.mp hr
  exact List.length_map _

theorem matDiv_rows_length (A : Mat α) (c : α) (n : Nat) (h : ∀ r ∈ A, r.length = n) : ∀ r ∈ matDiv A c, r.length = n := by
  intro r hr
  obtain ⟨a, ha, rfl⟩ := List.mem_map.mp hr
  exact (List.length_map _).trans (h a ha)

theorem matMul_rows_length (n : Nat) (A B : Mat α) : ∀ r ∈ matMul n A B, r.length = n := by
  intro r hr
  obtain ⟨a, _, rfl⟩ := List.mem_map.mp hr
  rw [List.length_map, List.length_range]

theorem identity_rows_length (n : Nat) : ∀ r ∈ (identity n : Mat α), r.length = n := by
  intro r hr
  obtain ⟨i, _, rfl⟩ := List.mem_map.mp hr
  rw [List.length_map, List.length_range]

theorem identity_length (n : Nat) : (identity n : Mat α).length = n := by simp [identity]

/-- `⟨e_i, v⟩ = v_i` for the rows of the identity, by position -/
theorem vdot_unit_row : ∀ (v : Vec α) (i k : Nat),
    vdot ((List.range' k v.length).map (fun j => if i = j then (1 : α) else 0)) v = if k ≤ i ∧ i < k + v.length then v.getD (i - k) 0 else 0
  | [], i, k => by simp [vdot]
  | a :: v, i, k => by
    simp only [List.length_cons, List.range'_succ, List.map_cons, vdot]
    rw [vdot_unit_row v i (k + 1)]
    by_cases hik : i = k
    · subst hik
      simp
    · simp only [hik, if_false, zero_mul, zero_add]
      by_cases h1 : k + 1 ≤ i ∧ i < k + 1 + v.length
      · have h2 : k ≤ i ∧ i < k + (v.length + 1) := ⟨by omega, by omega⟩
        simp only [h1, h2, and_self, if_true]
        have : i - k = (i - (k + 1)) + 1 := by omega
        rw [this, List.getD_cons_succ]
      · have h2 : ¬ (k ≤ i ∧ i < k + (v.length + 1)) := by omega
        simp [h1, h2]

theorem matVec_identity (v : Vec α) : matVec (identity v.length) v = v := by
  simp only [matVec, identity, List.map_map]
  apply List.ext_getElem
  · simp
  · intro i h1 h2
    simp only [List.getElem_map, List.getElem_range, Function.comp]
    have := vdot_unit_row v i 0
    simp only [List.range_eq_range'] at *
    rw [this]
    have hi : i < v.length := by simpa using h2
    simp [hi, List.getD_eq_getElem?_getD]

theorem vdot_map_zero {ι : Type} (l : List ι) (v : Vec α) : vdot (l.map (fun _ => (0 : α))) v = 0 := by
  rw [List.map_const', vdot_comm, vdot_replicate_zero_right]

theorem vdot_map_mul_add {ι : Type} (c : α) (F G : ι → α) (l : List ι) (v : Vec α) :
    vdot (l.map (fun j => c * F j + G j)) v = c * vdot (l.map F) v + vdot (l.map G) v := by
  have e : l.map (fun j => c * F j + G j) = List.zipWith (fun x y => c * x + 1 * y) (l.map F) (l.map G) := by
    rw [List.zipWith_map, List.zipWith_self]; simp only [one_mul]
  rw [e, vdot_zipWith_left _ c 1 (fun _ _ => rfl) _ _ v (by rw [List.length_map, List.length_map]), one_mul]

/-- `(P B) v = P (B v)` for the model's `matMul`, when `B` has `n` columns: one row of `P` -/
theorem vdot_matMul_row (n : Nat) : ∀ (row : Vec α) (B : Mat α) (v : Vec α), (∀ r ∈ B, r.length = n) →
    vdot ((List.range n).map (fun j => vdot row (matCol B j))) v = vdot row (matVec B v)
  | [], _, v, _ => vdot_map_zero _ v
  | _ :: _, [], v, _ => vdot_map_zero _ v
  | r :: row, b :: B, v, hB => by
    obtain ⟨hb, hB'⟩ := List.forall_mem_cons.mp hB
    show vdot ((List.range n).map (fun j => r * b.getD j 0 + vdot row (matCol B j))) v
      = r * vdot b v + vdot row (matVec B v)
    rw [vdot_map_mul_add, vdot_matMul_row n row B v hB', ← hb, Lst.map_getD_range]

theorem matVec_matMul (n : Nat) (P B : Mat α) (v : Vec α) (hB : ∀ r ∈ B, r.length = n) :
    matVec (matMul n P B) v = matVec P (matVec B v) := by
  simp only [matVec, matMul, List.map_map]
  exact List.map_congr_left fun row _ => vdot_matMul_row n row B v hB

/-! ### strongly convex quadratics: the gradient bounds the distance to the minimiser -/

/-- Cauchy–Schwarz in the squared form -/
theorem vdot_sq_le (u v : Vec α) : vdot u v * vdot u v ≤ vdot u u * vdot v v := by
  rw [vdot_eq]; exact ListVec.dot_sq_le u v

/-- the scalar core of `strongly_convex_gradient_bound` (Props/C01): with `V = ‖v‖²`, `G = ‖g‖²`, `W = v·g`, strong convexity `λV ≤ W` and
    Cauchy–Schwarz `W² ≤ VG` give `λ²V ≤ G` -/
theorem sq_mul_le_of_mul_le_of_sq_le (lam V G W : α) (hlam : 0 ≤ lam) (hV : 0 ≤ V) (hG : 0 ≤ G) (h1 : lam * V ≤ W)
    (h2 : W * W ≤ V * G) : lam * lam * V ≤ G := by
  rcases eq_or_lt_of_le hV with h | h
  · rw [← h, mul_zero]; exact hG
  · have h3 : 0 ≤ lam * V := mul_nonneg hlam hV
    have h4 : lam * V * (lam * V) ≤ V * G := (mul_le_mul h1 h1 h3 (h3.trans h1)).trans h2
    rw [show lam * V * (lam * V) = V * (lam * lam * V) by ring] at h4
    exact le_of_mul_le_mul_left h4 h

theorem vdot_self_le_of_components (v : Vec α) (c : α) (h : ∀ a ∈ v, |a| ≤ c) : vdot v v ≤ (v.length : α) * (c * c) := by
  induction v with
  | nil => simp [vdot]
  | cons a v ih =>
    obtain ⟨ha, hv⟩ := List.forall_mem_cons.mp h
    have h3 : a * a ≤ c * c := by
      rw [← abs_mul_abs_self a]; exact mul_le_mul ha ha (abs_nonneg a) ((abs_nonneg a).trans ha)
    calc vdot (a :: v) (a :: v) ≤ c * c + (v.length : α) * (c * c) := add_le_add h3 (ih hv)
      _ = ((a :: v).length : α) * (c * c) := by rw [List.length_cons, Nat.cast_succ]; ring

/-! ### `update_if_better` in exact arithmetic: only on strict decrease -/

/-- the generated rule `better = (m_fx - fx) > 0` says `fx < m_fx` -/
theorem uibBetter_iff (mfx fx : α) : uibBetter (uibDf mfx fx) = true ↔ fx < mfx := by
  simp only [uibBetter, uibDf, decide_eq_true_eq, gt_iff_lt, sub_pos]

theorem updateIfBetter_fx_le (env : Env α) (b : BState α) (x gx : Vec α) (fx : α) :
    (updateIfBetter env b x gx fx).1.st.fx ≤ b.st.fx := by
  rcases updateIfBetter_cases env b x gx fx with ⟨_, h⟩ | ⟨_, _, hb, h⟩
  · rw [h]
  · rw [h]; exact le_of_lt ((uibBetter_iff _ _).mp hb)

end NanoVerif.Solver
