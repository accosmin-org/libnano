import NanoVerif.Proofs.Parameter
import NanoVerif.Model.ParamNarrow
import NanoVerif.Model.Factory
/-!
  C19 — helper lemmas about `Model/ParamNarrow.lean` and `Model/Factory.lean` (core Lean only): the modular conversions,
  `operator==` on exact doubles, exact-name lookup, the factory.
-/
namespace NanoVerif.Param

/-! ### conversions between the integer types -/

/-- `static_cast<int32_t>(int64_t)` is the balanced remainder modulo 2^32 -/
theorem wrapI32_eq_bmod (v : Int) : wrapI32 v = v.bmod 4294967296 := by
  unfold wrapI32 twoP32 twoP31 Int.bmod
  simp only
  split <;> split <;> omega

/-- … and `static_cast<int64_t>(uint64_t)` the balanced remainder modulo 2^64 -/
theorem wrapI64_eq_bmod (v : Int) : wrapI64 v = v.bmod 18446744073709551616 := by
  unfold wrapI64 twoP64 XF.twoP63 Int.bmod
  simp only
  split <;> split <;> omega

theorem wrapI32_id (v : Int) (h : -twoP31 ≤ v ∧ v < twoP31) : wrapI32 v = v :=
  (wrapI32_eq_bmod v).trans (Int.bmod_eq_of_le h.1 h.2)

theorem wrapU64_id (v : Int) (h : 0 ≤ v ∧ v < twoP64) : wrapU64 v = v := Int.emod_eq_of_lt h.1 h.2

theorem wrapI64_id (v : Int) (h : -XF.twoP63 ≤ v ∧ v < XF.twoP63) : wrapI64 v = v :=
  (wrapI64_eq_bmod v).trans (Int.bmod_eq_of_le h.1 h.2)

/-- the two's complement round trip `int64_t → uint64_t → int64_t` -/
theorem wrapI64_wrapU64 (v : Int) (h : -XF.twoP63 ≤ v ∧ v < XF.twoP63) : wrapI64 (wrapU64 v) = v :=
  (wrapI64_eq_bmod _).trans ((Int.emod_bmod v 18446744073709551616).trans (Int.bmod_eq_of_le h.1 h.2))

theorem wrapI32_range (v : Int) : -twoP31 ≤ wrapI32 v ∧ wrapI32 v < twoP31 :=
  wrapI32_eq_bmod v ▸ ⟨Int.le_bmod (by decide), Int.bmod_lt (by decide)⟩

/-! ### `==` on exact doubles -/

/-- operands of a comparison that holds are not NaN, so each equals itself under `==` -/
theorem XF.eqNum_self_of_rel (c : Cmp) (a b : XF) (h : c.Rel a b) : XF.eqNum a a = true ∧ XF.eqNum b b = true := by
  have refl : ∀ x : XF, x ≠ .nan → XF.eqNum x x = true := by
    intro x hx
    cases x with
    | nan => exact absurd rfl hx
    | inf n => cases n <;> rfl
    | fin n m e => simp [XF.eqNum, XF.le]
  have ha : a ≠ .nan := by
    rintro rfl
    cases c <;> exact Bool.noConfusion h
  have hb : b ≠ .nan := by
    rintro rfl
    cases c <;> cases a <;> simp [Cmp.Rel, LE.le, LT.lt, XF.le, XF.lt] at h
  exact ⟨refl a ha, refl b hb⟩

/-! ### exact-name lookup -/

section
variable {α : Type} [LT α] [LE α] [DecidableLT α] [DecidableLE α] [FOps α]

set_option linter.unusedSectionVars false
theorem Config.has_iff_mem (c : Config α) (n : String) : c.has n = true ↔ n ∈ c.names := by
  constructor
  · intro h
    refine Classical.byContradiction (fun hn => ?_)
    have := find?_none_of_not_mem c n hn
    simp [Config.has, this] at h
  · intro h
    obtain ⟨s, hs⟩ := find?_some_of_mem c n h
    simp [Config.has, hs]

end

/-! ### the factory -/

namespace Factory
variable {α : Type}

theorem find?_none_iff (f : Factory α) (id : String) : f.find? id = none ↔ id ∉ f.allIds := by
  unfold Factory.find? Factory.allIds
  rw [List.find?_eq_none]
  simp only [List.mem_map, not_exists, not_and]
  constructor
  · intro h p hp hpe
    exact h p hp (by simp [hpe])
  · intro h p hp hpe
    exact h p hp (by simpa using hpe)

theorem has_iff_mem (f : Factory α) (id : String) : f.has id = true ↔ id ∈ f.allIds := by
  unfold Factory.has
  cases hf : f.find? id with
  | none =>
    have := (find?_none_iff f id).1 hf
    simp [this]
  | some p =>
    have hn : ¬ (id ∉ f.allIds) := fun h => by
      rw [(find?_none_iff f id).2 h] at hf; cases hf
    simp only [Option.isSome_some, true_iff]
    exact Classical.not_not.1 hn

theorem find?_some_spec (f : Factory α) (id : String) (p : Proto α) (h : f.find? id = some p) :
    p ∈ f.protos ∧ p.id = id := by
  unfold Factory.find? at h
  exact ⟨List.mem_of_find?_eq_some h, by simpa using List.find?_some h⟩

theorem find?_append_new (f : Factory α) (q : Proto α) (h : f.find? q.id = none) :
    (Factory.mk (f.protos ++ [q])).find? q.id = some q := by
  unfold Factory.find? at *
  rw [List.find?_append, h]
  simp

end Factory

end NanoVerif.Param
