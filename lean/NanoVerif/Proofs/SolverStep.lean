import NanoVerif.Model.SolverStep
import NanoVerif.Proofs.SolverAlgebra
/-!
  C01 — the four `lsearch0` strategies in exact arithmetic (any linear ordered field): the formula each one evaluates, when
  the step it hands out is positive, where it is not (kernel-checked witnesses; the same call histories are run on the real
  code by the op family `ls0 hist`, corpus/C01/ops.txt), and what the private members are after a call / a history of calls.
-/
namespace NanoVerif.SolverStep
open NanoVerif.Gen.DoneLogic NanoVerif.Solver
set_option linter.unusedSectionVars false

variable {α : Type} [Field α] [LinearOrder α] [IsStrictOrderedRing α]

/-- the registered domains of the parameters as far as the theorems need them (lsearch0.cpp:12, constant.cpp:8, linear.cpp:8-9,
    quadratic.cpp:8-9, cgdescent.cpp:8-10; every registered interval is open; the upper ends `1e6` are never needed) -/
structure Dom (P : Params α) : Prop where
  epsilon : 0 < P.epsilon
  constT0 : 0 < P.constT0
  linBeta : 1 < P.linBeta
  linAlpha : 1 < P.linAlpha
  quadBeta : 1 < P.quadBeta
  quadAlpha : 1 < P.quadAlpha
  phi0 : 0 < P.phi0
  phi1 : 0 < P.phi1
  phi2 : 1 < P.phi2

theorem cmin_eq_min (a b : α) : cmin a b = min a b := Cxx.ite_min a b

/-! ### constant -/

theorem constant_t0 (P : Params α) (m : Mem α) (s : Scal α) : t0Of .constant P m s = P.constT0 := rfl

theorem constant_pos (P : Params α) (m : Mem α) (s : Scal α) (hd : Dom P) : 0 < t0Of .constant P m s := hd.constT0

/-! ### linear -/

theorem linear_first (P : Params α) (m : Mem α) (s : Scal α) (h : s.last < 0) : linearT0 P m s = 1 := by
  simp [linearT0, h]

theorem linear_formula (P : Params α) (m : Mem α) (s : Scal α) (h : ¬ s.last < 0) :
    linearT0 P m s = min 1 (P.linAlpha * max (-(s.last * m.prevdg)) (P.linBeta * P.epsilon) / (-s.dg)) := by
  simp only [linearT0, h, if_false, cmin_eq_min, cmax_eq_max, neg_mul, neg_div, div_neg]

theorem floor_pos (a b e : α) (hb : 1 < b) (he : 0 < e) : 0 < max a (b * e) :=
  lt_of_lt_of_le (mul_pos (lt_trans one_pos hb) he) (le_max_right _ _)

/-- along a descent direction the linear strategy hands out a step in `(0, 1]`, whatever its memory and `last_step_size` -/
theorem linear_pos (P : Params α) (m : Mem α) (s : Scal α) (hd : Dom P) (hg : s.dg < 0) :
    0 < linearT0 P m s ∧ linearT0 P m s ≤ 1 := by
  by_cases h : s.last < 0
  · rw [linear_first P m s h]; exact ⟨one_pos, le_refl _⟩
  · rw [linear_formula P m s h]
    refine ⟨lt_min one_pos (div_pos (mul_pos (lt_trans one_pos hd.linAlpha) ?_) (neg_pos.mpr hg)), min_le_left _ _⟩
    exact floor_pos _ _ _ hd.linBeta hd.epsilon

/-- … and along an ascent direction (`g·d > 0`, not a first call) a NEGATIVE one -/
theorem linear_neg_of_ascent (P : Params α) (m : Mem α) (s : Scal α) (hd : Dom P) (h : ¬ s.last < 0) (hg : 0 < s.dg) :
    linearT0 P m s < 0 := by
  rw [linear_formula P m s h]
  refine lt_of_le_of_lt (min_le_right _ _) (div_neg_of_pos_of_neg (mul_pos (lt_trans one_pos hd.linAlpha) ?_) (neg_neg_of_pos hg))
  exact floor_pos _ _ _ hd.linBeta hd.epsilon

/-! ### quadratic -/

theorem quadratic_first (P : Params α) (m : Mem α) (s : Scal α) (h : s.last < 0) : quadraticT0 P m s = 1 := by
  simp [quadraticT0, h]

theorem quadratic_formula (P : Params α) (m : Mem α) (s : Scal α) (h : ¬ s.last < 0) :
    quadraticT0 P m s = min 1 (P.quadAlpha * (2 * max (m.prevf - s.fx) (P.quadBeta * P.epsilon)) / (-m.prevdg)) := by
  simp only [quadraticT0, h, if_false, cmin_eq_min, cmax_eq_max, neg_mul, neg_div, div_neg, mul_assoc]

/-- the quadratic strategy hands out a step in `(0, 1]` whenever the direction of the PREVIOUS call was a descent direction
    (`m_prevdg < 0`), whatever the two function values are -/
theorem quadratic_pos (P : Params α) (m : Mem α) (s : Scal α) (hd : Dom P) (hg : m.prevdg < 0) :
    0 < quadraticT0 P m s ∧ quadraticT0 P m s ≤ 1 := by
  by_cases h : s.last < 0
  · rw [quadratic_first P m s h]; exact ⟨one_pos, le_refl _⟩
  · rw [quadratic_formula P m s h]
    refine ⟨lt_min one_pos (div_pos (mul_pos (lt_trans one_pos hd.quadAlpha) (mul_pos two_pos ?_)) (neg_pos.mpr hg)),
      min_le_left _ _⟩
    exact floor_pos _ _ _ hd.quadBeta hd.epsilon

/-- … and a NEGATIVE one when the previous call was made along an ascent direction (not a first call) -/
theorem quadratic_neg_of_prev_ascent (P : Params α) (m : Mem α) (s : Scal α) (hd : Dom P) (h : ¬ s.last < 0)
    (hg : 0 < m.prevdg) : quadraticT0 P m s < 0 := by
  rw [quadratic_formula P m s h]
  refine lt_of_le_of_lt (min_le_right _ _)
    (div_neg_of_pos_of_neg (mul_pos (lt_trans one_pos hd.quadAlpha) (mul_pos two_pos ?_)) (neg_neg_of_pos hg))
  exact floor_pos _ _ _ hd.quadBeta hd.epsilon

/-- what the uncapped, unscaled formula `2 (f_prev − f) / (−dg_prev)` is: the step `s` at which the parabola with value `f_prev`
    and slope `dg_prev` at `0` attains its minimum, when that minimum VALUE is `f` (Nocedal & Wright (3.60)) -/
theorem quadratic_is_parabola_minimiser (fprev f dgprev : α) (hdg : dgprev ≠ 0) (hf : f ≠ fprev) :
    let s := 2 * (fprev - f) / (-dgprev)
    let a := (-dgprev) / (2 * s)
    fprev + dgprev * s + a * (s * s) = f ∧ dgprev + 2 * a * s = 0 := by
  intro s a
  have hs : s ≠ 0 :=
    div_ne_zero (mul_ne_zero two_ne_zero (sub_ne_zero.mpr (Ne.symm hf))) (neg_ne_zero.mpr hdg)
  have has : a * s = -dgprev / 2 := by
    show -dgprev / (2 * s) * s = -dgprev / 2
    rw [div_mul_eq_mul_div, mul_div_mul_right _ _ hs]
  have hss : dgprev * s = -(2 * (fprev - f)) := by
    show dgprev * (2 * (fprev - f) / (-dgprev)) = _
    rw [div_neg, mul_neg, ← mul_div_assoc, mul_div_cancel_left₀ _ hdg]
  constructor
  · rw [← mul_assoc, has, show -dgprev / 2 * s = -(dgprev * s) / 2 by ring, hss]; ring
  · rw [mul_assoc, has]; ring

/-! ### CG_DESCENT -/

theorem cg_first_formula (P : Params α) (s : Scal α) (h : s.last < 0) :
    cgdescentT0 P s =
      if 0 < s.xnorm then P.phi0 * s.xnorm / s.gnorm else if 0 < |s.fx| then P.phi0 * |s.fx| / s.gsq else 1 := by
  simp only [cgdescentT0, h, if_true, cgFirst, absv_eq_abs, gt_iff_lt]

/-- first call: the step is positive when the gradient is not zero (`0 < ‖g‖∞`, `0 < ‖g‖₂²`) -/
theorem cg_first_pos (P : Params α) (s : Scal α) (hd : Dom P) (h : s.last < 0) (h1 : 0 < s.gnorm) (h2 : 0 < s.gsq) :
    0 < cgdescentT0 P s := by
  rw [cg_first_formula P s h]
  split
  · rename_i hx; exact div_pos (mul_pos hd.phi0 hx) h1
  · split
    · rename_i hf; exact div_pos (mul_pos hd.phi0 hf) h2
    · exact one_pos

/-- first call at a stationary point away from the origin: the quotient is `phi0 ‖x‖∞ / 0`. In a field that is `0` (not positive);
    in binary64 it is `+inf` (run on the real code: corpus/C01/ops.txt `ls0 hist cgdescent … # zero-gradient`; `lsearchk_t::get`
    replaces a non-finite step by `1`, lsearchk.cpp:52) -/
theorem cg_first_zero_gradient (P : Params α) (s : Scal α) (h : s.last < 0) (hx : 0 < s.xnorm) (hg : s.gnorm = 0) :
    cgdescentT0 P s = 0 := by
  rw [cg_first_formula P s h, if_pos hx, hg, div_zero]

theorem quadConvex_iff (f0 g0 t1 f1 : α) :
    quadConvex (⟨0, f0, g0⟩ : LSearch.Step α) ⟨t1, f1, 0⟩ = true ↔ f0 + t1 * g0 < f1 := by
  simp only [quadConvex, decide_eq_true_eq, gt_iff_lt]
  rw [show (0 - t1) * g0 - (f0 - f1) = f1 - (f0 + t1 * g0) by ring, sub_pos]

/-- `lsearch_step_t::quadratic` through `(0, f, g)` and `(t1, f1)`, in closed form (also at `t1 = 0` and at a vanishing
    denominator, where both sides are `0` in a field) -/
theorem quadratic_from_origin (f g t1 f1 : α) :
    LSearch.quadratic (⟨0, f, g⟩ : LSearch.Step α) ⟨t1, f1, 0⟩ = g * t1 * t1 / (2 * (g * t1 + (f - f1))) := by
  simp only [LSearch.quadratic]
  by_cases ht : t1 = 0
  · rw [ht]; simp only [sub_zero, mul_zero, zero_div]
  · have e : g - (f - f1) / (0 - t1) = (g * t1 + (f - f1)) / t1 := by
      rw [zero_sub, div_neg, sub_neg_eq_add, add_div, mul_div_assoc, div_self ht, mul_one]
    rw [e, div_div_eq_mul_div]
    generalize g * t1 + (f - f1) = D
    ring

/-- a later call: with `t1 = last·phi1` the trial step and `f1 = f(x + t1 d)`: when `f1 < f` and `f1` lies above the tangent
    (`f + t1·dg < f1`, i.e. the interpolating parabola is convex) the step is `dg·t1² / (2 (dg·t1 + f − f1))`, otherwise `last·phi2` -/
theorem cg_next_formula (P : Params α) (s : Scal α) (h : ¬ s.last < 0) :
    cgdescentT0 P s =
      if s.ftrial < s.fx ∧ s.fx + s.last * P.phi1 * s.dg < s.ftrial then
        s.dg * (s.last * P.phi1) * (s.last * P.phi1) / (2 * (s.dg * (s.last * P.phi1) + (s.fx - s.ftrial)))
      else s.last * P.phi2 := by
  simp only [cgdescentT0, h, if_false, cgNext, quadConvex_iff, quadratic_from_origin]

/-- the parabola behind `cg_next_formula`: `q(t) = f + dg·t + a·t²` with `a = (f1 − f − dg·t1)/t1²` passes through `(t1, f1)`, is
    convex exactly when the flag of `lsearch_step_t::quadratic` says so, and the step handed out is its stationary point -/
theorem cg_next_is_parabola_minimiser (f dg t1 f1 : α) (ht : t1 ≠ 0) (hc : f + t1 * dg < f1) :
    let a := (f1 - f - dg * t1) / (t1 * t1)
    let tq := dg * t1 * t1 / (2 * (dg * t1 + (f - f1)))
    f + dg * t1 + a * (t1 * t1) = f1 ∧ 0 < a ∧ dg + 2 * a * tq = 0 := by
  intro a tq
  have htt : 0 < t1 * t1 := mul_self_pos.mpr ht
  have hnum : 0 < f1 - f - dg * t1 := by linarith only [hc]
  refine ⟨?_, div_pos hnum htt, ?_⟩
  · show f + dg * t1 + (f1 - f - dg * t1) / (t1 * t1) * (t1 * t1) = f1
    rw [div_mul_cancel₀ _ (ne_of_gt htt)]; ring
  · -- the denominator of `tq` is `−2` times the numerator of `a`
    show dg + 2 * ((f1 - f - dg * t1) / (t1 * t1)) * (dg * t1 * t1 / (2 * (dg * t1 + (f - f1)))) = 0
    rw [show dg * t1 + (f - f1) = -(f1 - f - dg * t1) by ring]
    generalize f1 - f - dg * t1 = N at hnum
    have hN : N ≠ 0 := ne_of_gt hnum
    field_simp; ring

/-- a later call after a POSITIVE last step: the step handed out is positive (whatever the direction, the values, the slope) -/
theorem cg_next_pos (P : Params α) (s : Scal α) (hd : Dom P) (h : 0 < s.last) : 0 < cgdescentT0 P s := by
  rw [cg_next_formula P s (not_lt.mpr (le_of_lt h))]
  have ht : 0 < s.last * P.phi1 := mul_pos h hd.phi1
  split
  · -- `t1 dg < f1 − f < 0`: numerator and denominator are both negative
    next hc =>
    obtain ⟨h1, h2⟩ := hc
    have hg : s.dg * (s.last * P.phi1) < 0 := by linarith only [h1, h2]
    exact div_pos_of_neg_of_neg (mul_neg_of_neg_of_pos hg ht) (by linarith only [h2])
  · exact mul_pos h (lt_trans one_pos hd.phi2)

/-- a later call after the last step `0` (a failed search may hand back `0`: C07 `morethuente_zero_step_accepted_if_inconsistent`,
    first two components): the step handed out is `0`, for every parameter value and every state — the trial point is `x` itself -/
theorem cg_zero_last (P : Params α) (s : Scal α) (h : s.last = 0) : cgdescentT0 P s = 0 := by
  rw [cg_next_formula P s (by rw [h]; exact lt_irrefl _), h, zero_mul, zero_mul, add_zero]
  split
  · rename_i hc; exact absurd (lt_trans hc.1 hc.2) (lt_irrefl _)
  · exact zero_mul _

/-! ### the members after a call, after a history of calls -/

theorem memAfter_constant (m : Mem α) (s : Scal α) : memAfter .constant m s = m := rfl
theorem memAfter_cgdescent (m : Mem α) (s : Scal α) : memAfter .cgdescent m s = m := rfl
theorem memAfter_linear (m : Mem α) (s : Scal α) : memAfter .linear m s = ⟨m.prevf, s.dg⟩ := rfl
theorem memAfter_quadratic (m : Mem α) (s : Scal α) : memAfter .quadratic m s = ⟨s.fx, s.dg⟩ := rfl

theorem l0run_append (st : Strategy) (P : Params α) : ∀ (a b : List (Scal α)) (m : Mem α),
    l0run st P m (a ++ b) = ((l0run st P m a).1 ++ (l0run st P (l0run st P m a).2 b).1, (l0run st P (l0run st P m a).2 b).2)
  | [], b, m => by simp [l0run]
  | s :: a, b, m => by
    simp only [List.cons_append, l0run]
    rw [l0run_append st P a b (memAfter st m s)]

theorem l0run_length (st : Strategy) (P : Params α) : ∀ (a : List (Scal α)) (m : Mem α), (l0run st P m a).1.length = a.length
  | [], _ => rfl
  | s :: a, m => by simp [l0run, l0run_length st P a]

/-- the linear strategy never touches `m_prevf` (it has no such member) -/
theorem l0run_linear_prevf (P : Params α) : ∀ (a : List (Scal α)) (m : Mem α), (l0run .linear P m a).2.prevf = m.prevf
  | [], _ => rfl
  | s :: a, m => by simp only [l0run]; rw [l0run_linear_prevf P a]; rfl

/-- the members after ANY non-empty history of calls are the documented function of the LAST call alone:
    quadratic `(fx, dg)`, linear `dg`; the other two strategies are stateless -/
theorem history_members (st : Strategy) (P : Params α) (m : Mem α) (pre : List (Scal α)) (a : Scal α) :
    (l0run st P m (pre ++ [a])).2 =
      match st with
      | .quadratic => ⟨a.fx, a.dg⟩
      | .linear => ⟨m.prevf, a.dg⟩
      | _ => (l0run st P m pre).2 := by
  rw [l0run_append]
  cases st
  · simp [l0run, memAfter]
  · simp only [l0run, memAfter]; rw [l0run_linear_prevf]
  · simp [l0run, memAfter]
  · simp [l0run, memAfter]

theorem l0run_stateless (st : Strategy) (hst : st = .constant ∨ st = .cgdescent) (P : Params α) :
    ∀ (a : List (Scal α)) (m : Mem α), (l0run st P m a).2 = m ∧ (l0run st P m a).1 = a.map (t0Of st P m)
  | [], _ => ⟨rfl, rfl⟩
  | s :: a, m => by
    have hm : memAfter st m s = m := by rcases hst with rfl | rfl <;> rfl
    simp only [l0run, hm, List.map_cons]
    exact ⟨(l0run_stateless st hst P a m).1, by rw [(l0run_stateless st hst P a m).2]⟩

/-- the step handed out by a call that has a predecessor depends on the history only through that predecessor:
    it is the strategy's formula on the members `history_members` describes -/
theorem history_step (st : Strategy) (P : Params α) (m : Mem α) (pre : List (Scal α)) (a b : Scal α) :
    (l0run st P m (pre ++ [a, b])).1 = (l0run st P m (pre ++ [a])).1 ++ [t0Of st P (l0run st P m (pre ++ [a])).2 b] := by
  have : pre ++ [a, b] = (pre ++ [a]) ++ [b] := by simp
  rw [this, l0run_append st P (pre ++ [a]) [b]]
  simp [l0run]

/-- the quadratic strategy, any history: the step of a call with a predecessor `a` is
    `min(1, α·2·max(f_a − f_b, β ε) / (−dg_a))` (or `1` when `last_step_size < 0`) -/
theorem quadratic_history_step (P : Params α) (m : Mem α) (pre : List (Scal α)) (a b : Scal α) :
    (l0run .quadratic P m (pre ++ [a, b])).1.getLast? = some (quadraticT0 P ⟨a.fx, a.dg⟩ b) := by
  rw [history_step, history_members]; simp [t0Of]

/-- the linear strategy, any history: the step of a call with a predecessor `a` is
    `min(1, α·max(−last·dg_a, β ε) / (−dg_b))` (or `1` when `last_step_size < 0`) -/
theorem linear_history_step (P : Params α) (m : Mem α) (pre : List (Scal α)) (a b : Scal α) :
    (l0run .linear P m (pre ++ [a, b])).1.getLast? = some (linearT0 P ⟨m.prevf, a.dg⟩ b) := by
  rw [history_step, history_members]; simp [t0Of]

end NanoVerif.SolverStep
