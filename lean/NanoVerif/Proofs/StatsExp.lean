import NanoVerif.Proofs.Stats
import NanoVerif.Model.StatsExp
import NanoVerif.Proofs.CxxOrder
import Mathlib.Analysis.SpecialFunctions.Log.Basic
/-!
  C20 — `histogram_t::make_from_exponents`: the thresholds `-base^e` (descending exponents) followed by `+base^e`
  (ascending exponents) are STRICTLY increasing for every `base > 1`, whatever exponents the log / floor scan produced
  (so the constructor's sort is the identity on them and no bin is empty by construction of the thresholds), the
  constructor's own assert cannot fire, and the exponent of every value lies inside the scanned range of its side.
  Exact arithmetic: `std::pow(base, double(e))` is `base ^ (e : ℤ)` (`PowSpec`); `std::log` is left abstract in the first part.

  Last part, over `ℝ` with `std::log = Real.log`, `std::pow(b, e) = b ^ (e : ℤ)`, `std::fabs = |·|`: the exponent `get_exponent`
  computes for a value brackets the value, `base^e ≤ |v| < base^(e+1)`, hence every value (clamped by `epsilon` as coded) sits in
  the bin that starts at ITS OWN threshold.
-/
namespace NanoVerif.Stats

variable {α : Type} [Field α] [LinearOrder α] [IsStrictOrderedRing α] [FloorRing α]

/-- `std::pow` on an integer exponent, in exact arithmetic -/
def PowSpec [Libm α] : Prop := ∀ (b : α) (e : ℤ), Libm.powi b e = b ^ e

theorem mem_intRange (lo hi e : ℤ) : e ∈ intRange lo hi ↔ lo ≤ e ∧ e ≤ hi := by
  unfold intRange
  simp only [List.mem_map, List.mem_range]
  constructor
  · rintro ⟨k, hk, rfl⟩
    have : (k : ℤ) = Int.ofNat k := rfl
    omega
  · rintro ⟨h1, h2⟩
    refine ⟨(e - lo).toNat, by omega, ?_⟩
    have : Int.ofNat (e - lo).toNat = e - lo := by
      show ((e - lo).toNat : ℤ) = e - lo
      omega
    omega

theorem intRange_pairwise (lo hi : ℤ) : (intRange lo hi).Pairwise (· < ·) := by
  unfold intRange
  rw [List.pairwise_map]
  refine (List.pairwise_lt_range (n := (hi + 1 - lo).toNat)).imp ?_
  intro a b hab
  have h1 : Int.ofNat a = (a : ℤ) := rfl
  have h2 : Int.ofNat b = (b : ℤ) := rfl
  omega

/-- **the thresholds of `make_from_exponents` are strictly increasing** (for any scanned exponent ranges) -/
theorem expThresholds_pairwise_lt [Libm α] (hpow : PowSpec (α := α)) (base : α) (hb : 1 < base)
    (neg pos : Option (ℤ × ℤ)) : (expThresholds base neg pos).Pairwise (· < ·) := by
  have hb0 : (0 : α) < base := lt_trans zero_lt_one hb
  unfold expThresholds
  rw [List.pairwise_append]
  refine ⟨?_, ?_, ?_⟩
  · cases neg with
    | none => exact List.Pairwise.nil
    | some r =>
      obtain ⟨mn, mx⟩ := r
      simp only
      rw [List.pairwise_map, List.pairwise_reverse]
      refine (intRange_pairwise mn mx).imp ?_
      intro a b hab
      rw [hpow, hpow]
      exact neg_lt_neg (zpow_lt_zpow_right₀ hb hab)
  · cases pos with
    | none => exact List.Pairwise.nil
    | some r =>
      obtain ⟨mn, mx⟩ := r
      simp only
      rw [List.pairwise_map]
      refine (intRange_pairwise mn mx).imp ?_
      intro a b hab
      rw [hpow, hpow]
      exact zpow_lt_zpow_right₀ hb hab
  · intro a ha b hb'
    have ha0 : a < 0 := by
      cases neg with
      | none => simp at ha
      | some r =>
        obtain ⟨mn, mx⟩ := r
        simp only [List.mem_map] at ha
        obtain ⟨e, -, rfl⟩ := ha
        rw [hpow]
        exact neg_neg_of_pos (zpow_pos hb0 e)
    have hb0' : 0 < b := by
      cases pos with
      | none => simp at hb'
      | some r =>
        obtain ⟨mn, mx⟩ := r
        simp only [List.mem_map] at hb'
        obtain ⟨e, -, rfl⟩ := hb'
        rw [hpow]
        exact zpow_pos hb0 e
    exact lt_trans ha0 hb0'

/-! ### the scan -/

def Covers (r : Option (ℤ × ℤ)) (e : ℤ) : Prop := ∃ mn mx, r = some (mn, mx) ∧ mn ≤ e ∧ e ≤ mx

theorem updRange_covers_self (r : Option (ℤ × ℤ)) (e : ℤ) : Covers (updRange r e) e := by
  unfold updRange
  cases r with
  | none => exact ⟨e, e, rfl, le_refl _, le_refl _⟩
  | some q =>
    obtain ⟨mn, mx⟩ := q
    refine ⟨_, _, rfl, ?_, ?_⟩
    · split <;> omega
    · split <;> omega

theorem updRange_covers_mono (r : Option (ℤ × ℤ)) (e e' : ℤ) (h : Covers r e') : Covers (updRange r e) e' := by
  obtain ⟨mn, mx, rfl, h1, h2⟩ := h
  unfold updRange
  refine ⟨_, _, rfl, ?_, ?_⟩
  · split <;> omega
  · split <;> omega

omit [IsStrictOrderedRing α] in
theorem expScan_mono [Libm α] (base eps : α) (vs : List α) (acc : Option (ℤ × ℤ) × Option (ℤ × ℤ)) (e : ℤ) :
    (Covers acc.1 e → Covers (expScan base eps vs acc).1 e) ∧ (Covers acc.2 e → Covers (expScan base eps vs acc).2 e) := by
  induction vs generalizing acc with
  | nil => obtain ⟨n, p⟩ := acc; exact ⟨id, id⟩
  | cons v vs ih =>
    obtain ⟨n, p⟩ := acc
    unfold expScan
    cases hx : exponentOf base eps v with
    | mk side e' =>
      cases side with
      | true =>
        simp only
        exact ⟨fun h => (ih (updRange n e', p)).1 (updRange_covers_mono n e' e h), fun h => (ih (updRange n e', p)).2 h⟩
      | false =>
        simp only
        exact ⟨fun h => (ih (n, updRange p e')).1 h, fun h => (ih (n, updRange p e')).2 (updRange_covers_mono p e' e h)⟩

set_option linter.unusedSectionVars false
/-- **the scan covers every value**: the exponent computed for a value lies inside the range of its side -/
theorem expScan_covers [Libm α] (base eps : α) (vs : List α) (acc : Option (ℤ × ℤ) × Option (ℤ × ℤ))
    (v : α) (hv : v ∈ vs) :
    ((exponentOf base eps v).1 = true → Covers (expScan base eps vs acc).1 (exponentOf base eps v).2) ∧
    ((exponentOf base eps v).1 = false → Covers (expScan base eps vs acc).2 (exponentOf base eps v).2) := by
  induction vs generalizing acc with
  | nil => cases hv
  | cons w vs ih =>
    obtain ⟨n, p⟩ := acc
    rcases List.mem_cons.mp hv with rfl | hv'
    · unfold expScan
      cases hx : exponentOf base eps v with
      | mk side e' =>
        cases side with
        | true =>
          simp only
          exact ⟨fun _ => (expScan_mono base eps vs (updRange n e', p) e').1 (updRange_covers_self n e'),
            fun h => by cases h⟩
        | false =>
          simp only
          exact ⟨fun h => (by cases h),
            fun _ => (expScan_mono base eps vs (n, updRange p e') e').2 (updRange_covers_self p e')⟩
    · unfold expScan
      cases hx : exponentOf base eps w with
      | mk side e' =>
        cases side with
        | true => simp only; exact ih (updRange n e', p) hv'
        | false => simp only; exact ih (n, updRange p e') hv'

omit [LinearOrder α] [IsStrictOrderedRing α] [FloorRing α] in
theorem expThresholds_mem_neg [Libm α] (base : α) (neg pos : Option (ℤ × ℤ)) (e : ℤ) (h : Covers neg e) :
    - Libm.powi base e ∈ expThresholds base neg pos := by
  obtain ⟨mn, mx, rfl, h1, h2⟩ := h
  unfold expThresholds
  refine List.mem_append_left _ (List.mem_map.mpr ⟨e, ?_, rfl⟩)
  rw [List.mem_reverse, mem_intRange]
  exact ⟨h1, h2⟩

omit [LinearOrder α] [IsStrictOrderedRing α] [FloorRing α] in
theorem expThresholds_mem_pos [Libm α] (base : α) (neg pos : Option (ℤ × ℤ)) (e : ℤ) (h : Covers pos e) :
    Libm.powi base e ∈ expThresholds base neg pos := by
  obtain ⟨mn, mx, rfl, h1, h2⟩ := h
  unfold expThresholds
  refine List.mem_append_right _ (List.mem_map.mpr ⟨e, ?_, rfl⟩)
  rw [mem_intRange]
  exact ⟨h1, h2⟩

omit [IsStrictOrderedRing α] in
/-- inside its three asserts `make_from_exponents` answers the thresholds of the scanned ranges -/
theorem thresholdsFromExponents_eq_some [Libm α] {vs : List α} {base eps : α} (hne : vs ≠ []) (hb : 1 < base) (he : 0 < eps) :
    thresholdsFromExponents vs base eps =
      some (expThresholds base (expScan base eps vs (none, none)).1 (expScan base eps vs (none, none)).2) := by
  unfold thresholdsFromExponents
  rw [if_neg (fun h => hne (List.isEmpty_iff.mp h)), if_neg (not_not.mpr hb), if_neg (not_not.mpr he)]

/-- **every value owns a threshold**: inside the asserted domain `make_from_exponents` produces thresholds, and for
    every value `v` of the data the threshold `∓base^e` of ITS exponent `e` (clamped by `epsilon` as coded) is one of
    them -/
theorem thresholdsFromExponents_spec [Libm α] (vs : List α) (base eps : α) :
    (vs = [] ∨ ¬ 1 < base ∨ ¬ 0 < eps → thresholdsFromExponents vs base eps = none) ∧
    (vs ≠ [] → 1 < base → 0 < eps → ∃ T, thresholdsFromExponents vs base eps = some T ∧
      ∀ v ∈ vs, ((exponentOf base eps v).1 = true → - Libm.powi base (exponentOf base eps v).2 ∈ T) ∧
                ((exponentOf base eps v).1 = false → Libm.powi base (exponentOf base eps v).2 ∈ T)) := by
  constructor
  · intro h
    unfold thresholdsFromExponents
    rcases h with h | h | h
    · simp [h]
    · by_cases he : vs.isEmpty = true
      · simp [he]
      · simp [he, h]
    · by_cases he : vs.isEmpty = true
      · simp [he]
      · by_cases hb : 1 < base
        · simp [he, hb, h]
        · simp [he, hb]
  · intro hne hb he
    refine ⟨_, thresholdsFromExponents_eq_some hne hb he, fun v hv => ?_⟩
    obtain ⟨c1, c2⟩ := expScan_covers base eps vs (none, none) v hv
    exact ⟨fun h => expThresholds_mem_neg base _ _ _ (c1 h), fun h => expThresholds_mem_pos base _ _ _ (c2 h)⟩

/-- **`make_from_exponents` end to end** (exact arithmetic): inside the asserted domain the histogram exists (the
    public constructor's `assert(size > 0)` cannot fire), its thresholds are exactly the computed ones — the
    constructor's sort changes nothing — and they are strictly increasing. -/
theorem histFromExponents_spec [Libm α] (hpow : PowSpec (α := α)) (sort : List α → List α) (hs : SortSpec sort)
    (vs : List α) (base eps : α) (hne : vs ≠ []) (hb : 1 < base) (he : 0 < eps) :
    ∃ h T, histFromExponents sort vs base eps = some h ∧ thresholdsFromExponents vs base eps = some T ∧
      h.thresholds = T ∧ T ≠ [] ∧ T.Pairwise (· < ·) ∧ h.cells = bins T (sort vs) := by
  have hT := thresholdsFromExponents_eq_some hne hb he
  -- the first value owns a threshold, so there is one
  obtain ⟨v, hv⟩ := List.exists_mem_of_ne_nil vs hne
  obtain ⟨c1, c2⟩ := expScan_covers base eps vs (none, none) v hv
  generalize expScan base eps vs (none, none) = sc at hT c1 c2
  have hTne : expThresholds base sc.1 sc.2 ≠ [] := by
    cases hside : (exponentOf base eps v).1 with
    | true => exact List.ne_nil_of_mem (expThresholds_mem_neg base _ _ _ (c1 hside))
    | false => exact List.ne_nil_of_mem (expThresholds_mem_pos base _ _ _ (c2 hside))
  have hlt := expThresholds_pairwise_lt hpow base hb sc.1 sc.2
  refine ⟨⟨_, bins _ (sort vs)⟩, _, ?_, hT, rfl, hTne, hlt, rfl⟩
  unfold histFromExponents
  rw [hT]
  show mkHist sort vs _ = _
  rw [mkHist, if_neg (fun h => hTne (List.isEmpty_iff.mp h)), sortSpec_sorted_id hs _ (hlt.imp le_of_lt)]
  rfl

/-! ### over `ℝ` -/

noncomputable instance libmReal : Libm ℝ := ⟨Real.log, fun b e => b ^ e, fun x => |x|⟩

theorem powSpec_real : PowSpec (α := ℝ) := fun _ _ => rfl

/-- **get_exponent brackets the value**: `e = ⌊log|v| / log base⌋` gives `base^e ≤ |v| < base^(e+1)` -/
theorem getExponent_bracket (base v : ℝ) (hb : 1 < base) (hv : v ≠ 0) :
    base ^ (getExponent base v) ≤ |v| ∧ |v| < base ^ (getExponent base v + 1) := by
  have hb0 : 0 < base := lt_trans zero_lt_one hb
  have hL : 0 < Real.log base := Real.log_pos hb
  have hav : 0 < |v| := abs_pos.mpr hv
  have he : getExponent base v = ⌊Real.log |v| / Real.log base⌋ := rfl
  have h1 : ((⌊Real.log |v| / Real.log base⌋ : ℤ) : ℝ) ≤ Real.log |v| / Real.log base := Int.floor_le _
  have h2 : Real.log |v| / Real.log base < (⌊Real.log |v| / Real.log base⌋ : ℤ) + 1 := Int.lt_floor_add_one _
  rw [he]
  set e := ⌊Real.log |v| / Real.log base⌋ with hedef
  rw [le_div_iff₀ hL] at h1
  rw [div_lt_iff₀ hL] at h2
  constructor
  · rw [← Real.log_le_log_iff (zpow_pos hb0 e) hav, Real.log_zpow]
    exact h1
  · rw [← Real.log_lt_log_iff hav (zpow_pos hb0 (e + 1)), Real.log_zpow]
    push_cast
    exact h2

theorem cmax_eq_max (a b : ℝ) : cmax a b = max a b := Cxx.ite_max a b

theorem cmin_eq_min (a b : ℝ) : cmin a b = min a b := Cxx.ite_min a b

/-- **every value is bracketed by its own threshold.** For a value `v ≥ 0` of the data, with `c = max(v, ε)` the
    clamped value and `e` its exponent: `base^e` is one of the thresholds and `base^e ≤ c < base^(e+1)`; for `v < 0`,
    with `c = min(v, -ε)`: `-base^e` is one of the thresholds and `-base^(e+1) < c ≤ -base^e`. -/
theorem exponents_value_bracketed (vs : List ℝ) (base eps : ℝ) (hb : 1 < base) (he : 0 < eps) (T : List ℝ)
    (hT : thresholdsFromExponents vs base eps = some T) (v : ℝ) (hv : v ∈ vs) :
    (0 ≤ v → ∃ e : ℤ, base ^ e ∈ T ∧ base ^ e ≤ max v eps ∧ max v eps < base ^ (e + 1)) ∧
    (v < 0 → ∃ e : ℤ, -base ^ e ∈ T ∧ -base ^ (e + 1) < min v (-eps) ∧ min v (-eps) ≤ -base ^ e) := by
  have hne : vs ≠ [] := List.ne_nil_of_mem hv
  obtain ⟨T', hT', hmem⟩ := (thresholdsFromExponents_spec vs base eps).2 hne hb he
  rw [hT] at hT'
  cases hT'
  obtain ⟨m1, m2⟩ := hmem v hv
  constructor
  · intro h0
    have hside : exponentOf base eps v = (false, getExponent base (cmax v eps)) := by
      unfold exponentOf
      rw [if_neg (not_lt.mpr h0)]
    have hc := cmax_eq_max v eps
    have hpos : 0 < max v eps := lt_of_lt_of_le he (le_max_right _ _)
    rw [hside] at m2
    have hm := m2 rfl
    simp only at hm
    rw [hc] at hm
    obtain ⟨b1, b2⟩ := getExponent_bracket base (max v eps) hb (ne_of_gt hpos)
    rw [abs_of_pos hpos] at b1 b2
    exact ⟨_, hm, b1, b2⟩
  · intro h0
    have hside : exponentOf base eps v = (true, getExponent base (cmin v (-eps))) := by
      unfold exponentOf
      rw [if_pos h0]
    have hc := cmin_eq_min v (-eps)
    have hneg : min v (-eps) < 0 := lt_of_le_of_lt (min_le_left _ _) h0
    rw [hside] at m1
    have hm := m1 rfl
    simp only at hm
    rw [hc] at hm
    obtain ⟨b1, b2⟩ := getExponent_bracket base (min v (-eps)) hb (ne_of_lt hneg)
    rw [abs_of_neg hneg] at b1 b2
    exact ⟨_, hm, by linarith, by linarith⟩

end NanoVerif.Stats
