import NanoVerif.Proofs.LSearch
/-!
  C07 — helper lemmas, Moré–Thuente: what a `return {true, stp}` of `lsearchk_morethuente_t::do_get` implies.

  Since the repair 3b214f8 the loop body tests convergence FIRST (`f <= ftest && |g| <= gtol * (-ginit)`: Armijo and strong
  Wolfe) and that is its only `return {true, stp}`; the four "no further progress" tests that follow (`brackt && (stp <= stmin
  || stp >= stmax)`, `brackt && stmax - stmin <= xtol * stmax`, `stp >= stpmax() && …`, `stp <= stpmin() && …`) return
  `{false, stp}`. Before the repair all five returned `true` (MINPACK-2 `dcsrch` reports four of them as warnings); the
  exact disjunction that held then, and kernel-checked runs of the old rule, are kept in `Props/C07.lean`
  (section "pre-3b214f8").
-/
namespace NanoVerif.LSearch
open NanoVerif.Gen.LsPredicates


variable {α : Type} [Field α] [LinearOrder α] [IsStrictOrderedRing α]

omit [IsStrictOrderedRing α] in
/-- Armijo in the form of morethuente.cpp:189, `f <= ftest` with `ftest = finit + stp * gtest`, `gtest = ftol * ginit` -/
theorem armijo_iff_ftest (f0 g0 f t c1 : α) : hasArmijo f0 g0 f t c1 = true ↔ f ≤ f0 + t * (c1 * g0) := by
  rw [armijo_iff, mul_assoc]

section
variable (cfg : Cfg α) (φ : Oracle α) (s0 : Eval α)

omit [IsStrictOrderedRing α] in
theorem mtConverged_iff (m : MT α) (f g : α) :
    mtConverged cfg s0 m f g = true ↔ (f ≤ s0.f + m.dc.stp * (cfg.c1 * s0.g) ∧ absv g ≤ cfg.c2 * (-s0.g)) := by
  simp only [mtConverged, decide_eq_true_eq]

omit [IsStrictOrderedRing α] in
theorem mtGiveUp_cases (m : MT α) (f g : α) (h : mtGiveUp cfg s0 m f g = true) :
    ((m.dc.brackt = true ∧ (m.dc.stp ≤ m.stmin ∨ m.dc.stp ≥ m.stmax)) ∨
      (m.dc.brackt = true ∧ m.stmax - m.stmin ≤ cfg.eps0 * m.stmax)) ∨
    (m.dc.stp ≥ stpmax cfg.macheps ∧ f ≤ s0.f + m.dc.stp * (cfg.c1 * s0.g) ∧ g ≤ cfg.c1 * s0.g) ∨
    (m.dc.stp ≤ stpmin cfg.macheps ∧ (f > s0.f + m.dc.stp * (cfg.c1 * s0.g) ∨ g ≥ cfg.c1 * s0.g)) := by
  simp only [mtGiveUp, Bool.or_eq_true, decide_eq_true_eq] at h
  exact or_assoc.mp h

omit [IsStrictOrderedRing α] in
theorem mtConverged_conv (hd : s0.g < 0) (m : MT α) (ctx : Ctx α)
    (h : mtConverged cfg s0 m ctx.cur.f ctx.cur.g = true) : Advertised .morethuente cfg s0 ⟨true, m.dc.stp, ctx⟩ := by
  obtain ⟨h1, h2⟩ := (mtConverged_iff ..).mp h
  refine ⟨(armijo_iff_ftest ..).mpr h1, ?_⟩
  have : absv s0.g = -s0.g := by unfold absv; simp [hd]
  simp only [hasStrongWolfe, decide_eq_true_eq, this]
  exact h2

theorem morethuente_spec (hd : s0.g < 0) : ∀ (n : Nat) (m : MT α) (ctx : Ctx α),
    Post φ (Advertised .morethuente cfg s0) ctx m.dc.stp n (morethuente cfg φ s0 n m ctx) := by
  intro n
  induction n with
  | zero => intro m ctx; exact post_fail (by simp)
  | succ n ih =>
    intro m ctx
    simp only [morethuente]
    exact ite_post (fun hx => post_here (mtConverged_conv cfg s0 hd m ctx hx))
      (fun _ => ite_post (fun _ => post_fail (by simp))
        (fun _ => ite_post (fun _ => post_step (ih _ _)) (fun _ => post_fail (by simp))))

end

end NanoVerif.LSearch
