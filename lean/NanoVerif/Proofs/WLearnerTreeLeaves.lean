import NanoVerif.Proofs.WLearnerTreeRoute
import Mathlib.Data.List.Induction
/-!
  C10 — the numbering of the leaves of a fitted tree: (terminal entry, side) ↦ table row `tbase log j + g` is a bijection
  onto the rows of the table.
-/
set_option linter.unusedSectionVars false

namespace NanoVerif.WLearner
variable {α : Type} [Field α] [LinearOrder α] [IsStrictOrderedRing α]

theorem tc_take_le (log : List (TEntry α)) (a b : Nat) (h : a ≤ b) : tc (log.take a) ≤ tc (log.take b) := by
  have : log.take a = (log.take b).take a := by rw [List.take_take, Nat.min_eq_left h]
  rw [this]
  conv_rhs => rw [← List.take_append_drop a (log.take b)]
  rw [tc_append]
  omega

theorem tc_take_succ (log : List (TEntry α)) (j : Nat) (e : TEntry α) (he : log[j]? = some e) :
    tc (log.take (j + 1)) = tc (log.take j) + (if e.terminal then 1 else 0) := by
  rw [List.take_add_one, he]
  exact tc_snoc _ e

theorem tc_take_lt (log : List (TEntry α)) {j j' : Nat} {e : TEntry α} (he : log[j]? = some e) (ht : e.terminal = true)
    (h : j < j') : tc (log.take j) < tc (log.take j') := by
  have a := tc_take_succ log j e he
  rw [ht] at a
  exact Nat.lt_of_lt_of_le (by rw [a]; exact Nat.lt_succ_self _) (tc_take_le log (j + 1) j' h)

/-- different (terminal entry, side) pairs own different table rows -/
theorem tbase_inj (log : List (TEntry α)) (j1 j2 g1 g2 : Nat) (e1 e2 : TEntry α) (h1 : log[j1]? = some e1)
    (h2 : log[j2]? = some e2) (t1 : e1.terminal = true) (t2 : e2.terminal = true) (hg1 : g1 < 2) (hg2 : g2 < 2)
    (h : tbase log j1 + g1 = tbase log j2 + g2) : j1 = j2 ∧ g1 = g2 := by
  unfold tbase at h
  obtain ⟨hgg, htc⟩ : g1 = g2 ∧ tc (log.take j1) = tc (log.take j2) := by omega
  refine ⟨?_, hgg⟩
  rcases Nat.lt_trichotomy j1 j2 with hlt | heq | hgt
  · exact absurd htc (Nat.ne_of_lt (tc_take_lt log h1 t1 hlt))
  · exact heq
  · exact absurd htc.symm (Nat.ne_of_lt (tc_take_lt log h2 t2 hgt))

theorem tc_surj (log : List (TEntry α)) : ∀ m, m < tc log →
    ∃ (j : Nat) (e : TEntry α), log[j]? = some e ∧ e.terminal = true ∧ tc (log.take j) = m := by
  induction log using List.reverseRecOn with
  | nil => intro m hm; exact absurd hm (Nat.not_lt_zero m)
  | append_singleton l e ih =>
    intro m hm
    rw [tc_snoc] at hm
    rcases Nat.lt_or_ge m (tc l) with hml | hml
    · obtain ⟨j, e', he', ht, htk⟩ := ih m hml
      have hjl : j < l.length := (List.getElem?_eq_some_iff.mp he').1
      refine ⟨j, e', ?_, ht, ?_⟩
      · rw [List.getElem?_append_left hjl]; exact he'
      · rw [List.take_append_of_le_length (Nat.le_of_lt hjl)]; exact htk
    · -- `m` is the last row pair: the last entry is terminal
      cases hterm : e.terminal with
      | false =>
        rw [hterm] at hm
        exact absurd hm (Nat.not_lt.mpr hml)
      | true =>
        rw [hterm] at hm
        refine ⟨l.length, e, List.getElem?_concat_length, hterm, ?_⟩
        rw [List.take_append_of_le_length (Nat.le_refl _), List.take_length]
        exact Nat.le_antisymm hml (Nat.le_of_lt_succ hm)

theorem tbase_surj (log : List (TEntry α)) (L : Nat) (hL : L < 2 * tc log) :
    ∃ (j : Nat) (e : TEntry α) (g : Nat), log[j]? = some e ∧ e.terminal = true ∧ g < 2 ∧ L = tbase log j + g := by
  obtain ⟨j, e, he, ht, htk⟩ := tc_surj log (L / 2) (by omega)
  exact ⟨j, e, L % 2, he, ht, Nat.mod_lt _ (by omega), by unfold tbase; rw [htk]; omega⟩

theorem inLeaf_iff {cfg : TreeCfg α} {st : TState α} {j g : Nat} {e : TEntry α} (he : st.log[j]? = some e)
    (hterm : e.terminal = true) (hg : g < 2) (i : Nat) :
    InLeaf cfg st i (tbase st.log j + g) ↔
      i ∈ e.cache.samples ∧ stumpSide cfg.val e.cand.feature e.cand.thr i = some g := by
  constructor
  · rintro ⟨j2, e2, v, he2, ht2, hm, hv, hL⟩
    have hs2 : sideOf v e2.cand.thr < 2 := sideOf_lt_two _ _
    obtain ⟨rfl, rfl⟩ := tbase_inj st.log j j2 g _ e e2 he he2 hterm ht2 hg hs2 hL
    rw [he] at he2
    cases he2
    exact ⟨hm, (stumpSide_eq_some _ _ _ _ _).mpr ⟨v, hv, rfl⟩⟩
  · rintro ⟨hm, hs⟩
    obtain ⟨v, hv, rfl⟩ := (stumpSide_eq_some _ _ _ _ _).mp hs
    exact ⟨j, e, v, he, hterm, hm, hv, rfl⟩

theorem filter_range_mem (N : Nat) (P : Nat → Bool) :
    (List.range N).filter P = (List.range N).filter fun i => ((List.range N).filter P).contains i := by
  apply List.filter_congr
  intro i hi
  by_cases hp : P i = true
  · rw [hp]; symm; rw [List.contains_iff_mem]; exact List.mem_filter.mpr ⟨hi, hp⟩
  · have hp' : P i = false := by simpa using hp
    rw [hp']; symm
    apply Bool.eq_false_iff.mpr
    intro hc
    rw [List.contains_iff_mem] at hc
    exact hp (List.mem_filter.mp hc).2

end NanoVerif.WLearner
