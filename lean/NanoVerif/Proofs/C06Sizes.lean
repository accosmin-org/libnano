import NanoVerif.Gen.Flags
import NanoVerif.Model.FunctionsBase
/-!
  C06 — kernel evaluation over the dumps of `Gen/Flags.lean`. The two list lemmas that make the sweeps of `Props/C06.lean`
  over the flag rows cheap, and `function_t::size()` of `make(dims, summands)` as dumped from the implementation for EVERY
  requested dims 1..32 (`sizes`) against the model's size rule (`Model/FunctionsBase.lean: sizeBy`).
  Own file: rebuilt only when the dump or the rule changes (string comparisons are slow in the kernel).
-/
namespace NanoVerif.C06
open NanoVerif.Gen.Flags NanoVerif.FnBase

/-! ### cheap membership for the sweeps over the dumped tables -/

/-- membership in a list, asked of a bit mask: bit `idx b` is set for every `b` of the list. The sweeps over the flag table
    put the question once per row and list; through `List.contains` each costs the kernel one comparison per
    element of the list, through the mask one shift. -/
theorem contains_eq_testBit {α : Type} [DecidableEq α] (idx : α → Nat) (inv : Nat → α) (hinv : ∀ a, inv (idx a) = a)
    (l : List α) (a : α) : l.contains a = (l.foldr (fun b m => m ||| 2 ^ idx b) 0).testBit (idx a) := by
  induction l with
  | nil => simp
  | cons b l ih =>
    have e : (a == b) = decide (idx b = idx a) :=
      decide_eq_decide.mpr ⟨fun h => h ▸ rfl, fun h => by rw [← hinv a, ← h, hinv]⟩
    rw [List.contains_cons, List.foldr_cons, Nat.testBit_or, Nat.testBit_two_pow, ← ih, e, Bool.or_comm]

theorem obj_contains_eq_testBit (l : List Obj) (o : Obj) :
    l.contains o = (l.foldr (fun (b : Obj) m => m ||| 2 ^ b.ctorIdx) 0).testBit o.ctorIdx :=
  contains_eq_testBit Obj.ctorIdx Obj.ofNat Obj.ofNat_ctorIdx l o

/-- an association list is searched only for a key it holds -/
theorem lookup_eq_guarded {α β : Type} [BEq α] [LawfulBEq α] (l : List (α × β)) (a : α) :
    l.lookup a =
      if (l.map Prod.fst).contains a then l.findSome? (fun p => if a == p.1 then some p.2 else none) else none := by
  rw [← List.lookup_eq_findSome?]
  split
  · rfl
  · rename_i h
    refine List.lookup_eq_none_iff.mpr fun p hp => ?_
    simp only [List.contains_map, List.any_eq_true, not_exists, not_and, Bool.not_eq_true] at h
    simpa [bne] using h p hp

/-! ### the size table -/

/-- the elastic-net prototypes (`<loss>+<regulariser>[…]`): built on synthetic linear data with at least two inputs -/
def enetObjs : List Obj := [
  .fn_mse_ridge_1, .fn_mse_ridge_100, .fn_mse_ridge_10000, .fn_mse_ridge_1e_06, .fn_mse_lasso_1, .fn_mse_lasso_100,
  .fn_mse_lasso_10000, .fn_mse_lasso_1e_06, .fn_mse_elasticnet_1_1, .fn_mse_elasticnet_100_100,
  .fn_mse_elasticnet_10000_10000, .fn_mse_elasticnet_1e_06_1e_06, .fn_mae_ridge_1, .fn_mae_lasso_1,
  .fn_mae_elasticnet_1_1, .fn_hinge_ridge_1, .fn_hinge_lasso_1, .fn_hinge_elasticnet_1_1, .fn_cauchy_ridge_1,
  .fn_cauchy_lasso_1, .fn_cauchy_elasticnet_1_1, .fn_logistic_ridge_1, .fn_logistic_lasso_1, .fn_logistic_elasticnet_1_1]

/-- the size rule per registered object; an object that is not named here (a newly registered prototype) gets `same` and
    must then report exactly the requested dimension, or `sizes_covered` fails -/
def sizeRuleOf (o : Obj) : SizeRule :=
  if o = .fn_powell then .powell
  else if o = .fn_rosenbrock || enetObjs.contains o then .atLeast2
  else .same

/-- for every registered prototype and every requested dims 1..32 (not only the powers of two): the size the
    implementation reports is the model's. Powell dims that are not a multiple of four are rounded down (at least 4). -/
theorem sizes_covered_table :
    (sizes.all fun p => p.2 == (List.range 32).map (fun d => sizeBy (sizeRuleOf p.1) (d + 1))) = true := by
  decide +kernel

/-- the driver looks the rule up by the registered id (a string): the same rule for every dumped object -/
theorem size_rule_by_id_table :
    (sizes.all fun p => decide (sizeRuleOfId p.1.rawId = sizeRuleOf p.1)) = true := by
  decide +kernel

end NanoVerif.C06
