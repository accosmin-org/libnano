import NanoVerif.Model.WLearnerKTable
import NanoVerif.Proofs.WLearnerBrute
/-!
  C10 — the k-split table fit (`Model/WLearnerKTable.lean`): merging two clusters never lowers the residual sum of squares,
  so every candidate of the greedy agglomeration has at least the RSS of the first one, which is the dense table's.
-/
set_option linter.unusedSectionVars false

namespace NanoVerif.WLearner
variable {α : Type} [Field α] [LinearOrder α] [IsStrictOrderedRing α]

/-- Cauchy–Schwarz for two terms: `(x + y)² / (a + b) ≤ x² / a + y² / b`; the difference of the cross-multiplied sides is
    `(x·b − y·a)²` -/
theorem sq_div_add_le {x y a b : α} (ha : 0 < a) (hb : 0 < b) :
    (x + y) * (x + y) / (a + b) ≤ x * x / a + y * y / b := by
  rw [div_add_div _ _ ha.ne' hb.ne', div_le_div_iff₀ (add_pos ha hb) (mul_pos ha hb)]
  have h : (x * x * b + a * (y * y)) * (a + b) - (x + y) * (x + y) * (a * b) = (x * b - y * a) ^ 2 := by ring
  exact sub_nonneg.mp (h ▸ sq_nonneg _)

theorem sub_add_sub_le {p q u v w : α} (h : w ≤ u + v) : p - u + (q - v) ≤ p + q - w := by
  rw [sub_add_sub_comm]
  exact sub_le_sub_left h _

/-- the merged cluster's within-RSS is at least the sum of the two -/
theorem cluScore_merge (T : Nat) (a b : Clu α) (ha : 0 < a.x0) (hb : 0 < b.x0) :
    cluScore T a + cluScore T b ≤ cluScore T (Clu.merge a b) := by
  unfold cluScore
  rw [← vsum_add]
  exact vsum_le T fun o _ => sub_add_sub_le (sq_div_add_le ha hb)

theorem lsum_map_set {β : Type} (f : β → α) (d m : β) : ∀ (l : List β) (i : Nat), i < l.length →
    lsum ((l.set i m).map f) = lsum (l.map f) - f (l.getD i d) + f m
  | x :: l, 0, _ => by
    show f m + lsum (l.map f) = f x + lsum (l.map f) - f x + f m
    ring
  | x :: l, i + 1, hi => by
    show f x + lsum ((l.set i m).map f) = f x + lsum (l.map f) - f (l.getD i d) + f m
    rw [lsum_map_set f d m l i (Nat.lt_of_succ_lt_succ hi)]
    ring

theorem lsum_map_eraseIdx {β : Type} (f : β → α) (d : β) : ∀ (l : List β) (j : Nat), j < l.length →
    lsum ((l.eraseIdx j).map f) = lsum (l.map f) - f (l.getD j d)
  | x :: l, 0, _ => by
    show lsum (l.map f) = f x + lsum (l.map f) - f x
    ring
  | x :: l, j + 1, hj => by
    show f x + lsum ((l.eraseIdx j).map f) = f x + lsum (l.map f) - f (l.getD j d)
    rw [lsum_map_eraseIdx f d l j (Nat.lt_of_succ_lt_succ hj)]
    ring

theorem foldl_invariant {σ β : Type} (P : σ → Prop) (f : σ → β → σ) : ∀ (l : List β) (s : σ), P s →
    (∀ s, P s → ∀ x ∈ l, P (f s x)) → P (l.foldl f s)
  | [], _, hs, _ => hs
  | x :: l, s, hs, hf =>
    foldl_invariant P f l (f s x) (hf s hs x List.mem_cons_self) fun s hs y hy => hf s hs y (List.mem_cons_of_mem _ hy)

/-- the pair returned by the double loop is a valid pair of distinct clusters: the start `(0, 1)` is one and so is every
    pair the loop visits -/
theorem closestPair_valid (T : Nat) (big : α) (cl : List (Clu α)) (h2 : 2 ≤ cl.length) :
    (closestPair T big cl).1 < (closestPair T big cl).2 ∧ (closestPair T big cl).2 < cl.length := by
  unfold closestPair
  apply foldl_invariant (fun best : α × Nat × Nat => best.2.1 < best.2.2 ∧ best.2.2 < cl.length)
  · exact ⟨Nat.zero_lt_one, h2⟩
  · intro best hb p hm
    obtain ⟨i, _, hm⟩ := List.mem_flatMap.mp hm
    obtain ⟨j, hj, rfl⟩ := List.mem_map.mp hm
    obtain ⟨hj1, hj2⟩ := List.mem_filter.mp hj
    dsimp only
    split
    · exact ⟨of_decide_eq_true hj2, List.mem_range.mp hj1⟩
    · exact hb

/-- one trial keeps the counts positive, shortens the list by one and does not lower the within-RSS -/
theorem cluStep_spec (T : Nat) (big : α) (st : List (Clu α) × List Nat) (h2 : 2 ≤ st.1.length)
    (hpos : ∀ c ∈ st.1, 0 < c.x0) :
    (cluStep T big st).1.length + 1 = st.1.length ∧ (∀ c ∈ (cluStep T big st).1, 0 < c.x0) ∧
    lsum (st.1.map (cluScore T)) ≤ lsum ((cluStep T big st).1.map (cluScore T)) := by
  obtain ⟨h12, h2l⟩ := closestPair_valid T big st.1 h2
  simp only [cluStep]
  generalize closestPair T big st.1 = p at h12 h2l ⊢
  have h1l : p.1 < st.1.length := Nat.lt_trans h12 h2l
  have ha := hpos _ (Lst.getD_mem h1l Clu.dflt)
  have hb := hpos _ (Lst.getD_mem h2l Clu.dflt)
  have h2s : p.2 < (st.1.set p.1 (Clu.merge (st.1.getD p.1 Clu.dflt) (st.1.getD p.2 Clu.dflt))).length := by
    rw [List.length_set]
    exact h2l
  refine ⟨?_, ?_, ?_⟩
  · rw [List.length_eraseIdx, if_pos h2s, List.length_set]
    omega
  · intro c hc
    rcases List.mem_or_eq_of_mem_set (List.mem_of_mem_eraseIdx hc) with hc | rfl
    · exact hpos c hc
    · exact add_pos ha hb
  · rw [lsum_map_eraseIdx (cluScore T) Clu.dflt _ p.2 h2s, lsum_map_set (cluScore T) Clu.dflt _ st.1 p.1 h1l,
      Lst.getD_set_ne _ (Nat.ne_of_lt h12)]
    linarith only [cluScore_merge T _ _ ha hb]

theorem cluTrials_head (T : Nat) (big : α) : ∀ (n : Nat) (st : List (Clu α) × List Nat), 0 < n → st ∈ cluTrials T big n st
  | _ + 1, _, _ => List.mem_cons_self

theorem cluTrials_spec (T : Nat) (big : α) : ∀ (n : Nat) (st : List (Clu α) × List Nat), st.1.length = n →
    (∀ c ∈ st.1, 0 < c.x0) → ∀ st' ∈ cluTrials T big n st,
      lsum (st.1.map (cluScore T)) ≤ lsum (st'.1.map (cluScore T)) := by
  intro n
  induction n with
  | zero => intro st _ _ st' h; exact absurd h List.not_mem_nil
  | succ n ih =>
    intro st hlen hpos st' hmem
    rcases List.mem_cons.mp hmem with rfl | hmem
    · exact le_refl _
    · cases n with
      | zero => exact absurd hmem List.not_mem_nil
      | succ n =>
        obtain ⟨hl, hp, hle⟩ := cluStep_spec T big st (by rw [hlen]; exact Nat.le_add_left 2 n) hpos
        exact le_trans hle (ih _ (Nat.succ.inj (hl.trans hlen)) hp st' hmem)

/-- trial 0: every bin its own cluster -/
def ksplitInit (rows : List (CRow α)) : List (Clu α) × List Nat :=
  ((hashesOf rows).map fun h => Clu.ofBin (binMom rows h), List.range (hashesOf rows).length)

theorem ksplitInit_length (rows : List (CRow α)) : (ksplitInit rows).1.length = (hashesOf rows).length :=
  List.length_map _

theorem ksplitInit_pos (rows : List (CRow α)) : ∀ c ∈ (ksplitInit rows).1, 0 < c.x0 := by
  intro c hc
  obtain ⟨h, hh, rfl⟩ := List.mem_map.mp hc
  show 0 < (binMom rows h).x0
  rw [binMom_eq, momOf_x0]
  exact countOf_pos _ (by simpa using binRows_ne_nil rows h hh)

/-- what every k-split candidate of a feature is (RSS criterion): its RSS is at least the dense table's; the first
    candidate (every bin its own cluster) IS the dense table's -/
theorem ksplitCands_spec [Log α] (T : Nat) (K big : α) (f : Nat) (rows : List (CRow α)) :
    (∀ c ∈ ksplitCands T K big Crit.rss f rows,
      c.feature = f ∧ c.score = cmax c.rss K ∧ (denseCand T K Crit.rss f rows).rss ≤ c.rss) ∧
    (hashesOf rows ≠ [] → ∃ c ∈ ksplitCands T K big Crit.rss f rows, c.rss = (denseCand T K Crit.rss f rows).rss ∧
      c.hashes = hashesOf rows ∧ c.h2t = List.range (hashesOf rows).length) := by
  have hdense : (denseCand T K Crit.rss f rows).rss = sumL (cluScore T) (ksplitInit rows).1 (missRssC T rows) := by
    show sumL _ _ _ = _
    rw [sumL_eq, sumL_eq, ksplitInit, List.map_map]
    rfl
  constructor
  · intro c hc
    obtain ⟨st', hst', rfl⟩ := List.mem_map.mp hc
    refine ⟨rfl, rfl, ?_⟩
    show _ ≤ sumL (cluScore T) st'.1 (missRssC T rows)
    rw [hdense, sumL_eq, sumL_eq]
    exact add_le_add (le_refl _)
      (cluTrials_spec T big _ (ksplitInit rows) (ksplitInit_length rows) (ksplitInit_pos rows) st' hst')
  · intro hne
    exact ⟨_, List.mem_map.mpr ⟨ksplitInit rows, cluTrials_head T big _ _ (List.length_pos_iff.mpr hne), rfl⟩,
      hdense.symm, rfl, rfl⟩

def ksplitAll [Log α] (T : Nat) (K big : α) (cols : List (Nat × List (CRow α))) : List (Cand α) :=
  cols.flatMap fun p => ksplitCands T K big Crit.rss p.1 p.2

end NanoVerif.WLearner
