import NanoVerif.Proofs.WLearnerBasic
/-!
  C10 — the constant fit (one bin / one side of a stump): the mean of the residuals, output by output.
-/
set_option linter.unusedSectionVars false

namespace NanoVerif.WLearner
variable {α : Type} [Field α] [LinearOrder α] [IsStrictOrderedRing α]

theorem lsum_sqErr (T : Nat) (rs : List (Vec α)) (c : Vec α) :
    lsum (rs.map fun r => sqErr T r c) = vsum (fun o => lsum (rs.map fun r => (r o - c o) * (r o - c o))) T := by
  unfold sqErr
  rw [vsum_lsum (fun r o => (r o - c o) * (r o - c o)) rs T]

theorem map_proj {β : Type} (f : α → β) (rs : List (Vec α)) (o : Nat) :
    rs.map (fun r => f (r o)) = (rs.map fun r => r o).map f := by
  rw [List.map_map]; rfl

theorem const_fit_vec (T : Nat) (rs : List (Vec α)) (h : rs ≠ []) (c : Vec α) :
    binScore T (momOf rs) ≤ lsum (rs.map fun r => sqErr T r c) ∧
    binScore T (momOf rs) = lsum (rs.map fun r => sqErr T r (binMean (momOf rs))) := by
  -- output by output, `scalar_const_fit` on the `o`-th components
  have key : ∀ o (x : α), (momOf rs).r2 o - (momOf rs).r1 o * (momOf rs).r1 o / (momOf rs).x0
        ≤ lsum (rs.map fun r => (r o - x) * (r o - x)) ∧
      (momOf rs).r2 o - (momOf rs).r1 o * (momOf rs).r1 o / (momOf rs).x0
        = lsum (rs.map fun r => (r o - binMean (momOf rs) o) * (r o - binMean (momOf rs) o)) := by
    intro o x
    have hs := scalar_const_fit (rs.map fun r => r o) (fun e => h (List.map_eq_nil_iff.mp e)) x
    rw [countOf_map, ← map_proj, ← map_proj, ← map_proj] at hs
    simp only [binMean, momOf_r1, momOf_r2, momOf_x0]
    exact hs
  rw [lsum_sqErr, lsum_sqErr]
  exact ⟨vsum_le T fun o _ => (key o (c o)).1, vsum_congr T fun o _ => (key o 0).2⟩

/-- the empty bin (excluded above): its sum of squared errors is 0; no theorem needs `x / 0` -/
theorem const_fit_vec_nil (T : Nat) (c : Vec α) :
    lsum (([] : List (Vec α)).map fun r => sqErr T r c) = 0 := rfl

end NanoVerif.WLearner
