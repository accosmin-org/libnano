-- no heavier than `Proofs/Reduce.lean` imports: its proofs, and those of the other users, see whatever is imported here
import Mathlib.Algebra.BigOperators.Group.List.Basic
/-!
  The `+=` loop: what `for (x : xs) acc += f(x)`, a `List.foldl`, leaves in any observed part of the loop state (start plus
  `(xs.map f).sum`; a counter; an untouched field).
-/
namespace NanoVerif.Cxx

/-- `g` is any observed quantity of the loop state that one step increases by `f b` -/
theorem foldl_add_eq {σ β M : Type} [AddMonoid M] (step : σ → β → σ) (g : σ → M) (f : β → M)
    (h : ∀ s b, g (step s b) = g s + f b) (l : List β) (s : σ) : g (l.foldl step s) = g s + (l.map f).sum := by
  induction l generalizing s with
  | nil => exact (add_zero _).symm
  | cons b l ih => rw [List.foldl_cons, ih, h, List.map_cons, List.sum_cons, add_assoc]

theorem foldl_add {M : Type} [AddMonoid M] (l : List M) (a : M) : l.foldl (· + ·) a = a + l.sum :=
  (foldl_add_eq (· + ·) id id (fun _ _ => rfl) l a).trans (by rw [List.map_id]; rfl)

theorem foldl_count_eq {σ β : Type} (step : σ → β → σ) (g : σ → Nat) (h : ∀ s b, g (step s b) = g s + 1)
    (l : List β) (s : σ) : g (l.foldl step s) = g s + l.length := by
  induction l generalizing s with
  | nil => rfl
  | cons b l ih => rw [List.foldl_cons, ih, h, List.length_cons, Nat.add_assoc, Nat.add_comm 1]

theorem foldl_keep_eq {σ β γ : Type} (step : σ → β → σ) (g : σ → γ) (h : ∀ s b, g (step s b) = g s)
    (l : List β) (s : σ) : g (l.foldl step s) = g s := by
  induction l generalizing s with
  | nil => rfl
  | cons b l ih => rw [List.foldl_cons, ih, h]

end NanoVerif.Cxx
