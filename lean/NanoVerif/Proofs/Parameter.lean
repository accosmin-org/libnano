import NanoVerif.Proofs.ParameterStep
import NanoVerif.Model.Configurable
/-!
  C19 — helper lemmas about the generated guards (`Gen/ParamCheck.lean`) and the definitions the property
  theorems are phrased with (core Lean only).
-/
namespace NanoVerif.Param
open NanoVerif.Gen.ParamCheck

/-- whichever of `≤`, `<` the two bounds are declared with: an integer inside its domain lies between them -/
theorem Range.bounds_of_inDomain (p : Range Int) (hd : p.InDomain) : p.min ≤ p.value ∧ p.value ≤ p.max := by
  obtain ⟨_, h1, h2⟩ := hd
  constructor
  · cases hc : p.mincomp <;> rw [hc] at h1 <;> simp only [Cmp.Rel] at h1 <;> omega
  · cases hc : p.maxcomp <;> rw [hc] at h2 <;> simp only [Cmp.Rel] at h2 <;> omega

/-! ### `Config.find?` -/

section
variable {α : Type}

theorem find?_none_of_not_mem (c : Config α) (name : String) (h : name ∉ c.names) : c.find? name = none := by
  unfold Config.find?
  have : c.params.find? (fun p => p.1 == name) = none := by
    rw [List.find?_eq_none]
    intro p hp hpe
    apply h
    simp only [Config.names, List.mem_map]
    exact ⟨p, hp, by simpa using hpe⟩
  rw [this]

theorem find?_some_of_mem (c : Config α) (name : String) (h : name ∈ c.names) :
    ∃ s, c.find? name = some s := by
  unfold Config.find?
  simp only [Config.names, List.mem_map] at h
  obtain ⟨p, hp, hpe⟩ := h
  cases hf : c.params.find? (fun p => p.1 == name) with
  | none =>
    rw [List.find?_eq_none] at hf
    exact absurd (by simpa using hpe) (hf p hp)
  | some q => exact ⟨q.2, rfl⟩

theorem setFirst_mem (name : String) (s : Storage α) (ps : List (String × Storage α))
    (p : String × Storage α) (hp : p ∈ Config.setFirst name s ps) : p ∈ ps ∨ p.2 = s := by
  induction ps with
  | nil => simp [Config.setFirst] at hp
  | cons q qs ih =>
    simp only [Config.setFirst] at hp
    split at hp
    · rcases List.mem_cons.1 hp with h | h
      · right; rw [h]
      · left; exact List.mem_cons_of_mem _ h
    · rcases List.mem_cons.1 hp with h | h
      · left; rw [h]; exact List.mem_cons_self
      · rcases ih h with h' | h'
        · left; exact List.mem_cons_of_mem _ h'
        · right; exact h'

theorem find?_mem (c : Config α) (name : String) (s : Storage α) (h : c.find? name = some s) :
    ∃ p ∈ c.params, p.2 = s := by
  unfold Config.find? at h
  cases hq : c.params.find? (fun p => p.1 == name) with
  | none => rw [hq] at h; cases h
  | some q =>
    rw [hq] at h
    cases h
    exact ⟨q, List.mem_of_find?_eq_some hq, rfl⟩

end

end NanoVerif.Param
