import NanoVerif.Proofs.C06Real
import Mathlib.Analysis.SpecialFunctions.ExpDeriv
import Mathlib.Analysis.SpecialFunctions.Log.Deriv
import Mathlib.Analysis.SpecialFunctions.Trigonometric.ArctanDeriv
/-!
  C06 — scalar derivative facts behind the kernels `·V t o` / `·G t o` (derivative in the output `o`, the target `t`
  fixed): the chain rule in the form the proofs use, `log (1 + exp)` and `log (1 + square)` (logistic and cauchy kernels
  of loss and elastic net), `max(·, 0)` and `|·|` away from `0`, `max(·, 0)²` everywhere, and the kernels with a kink
  (mae, hinge, pinball, elastic-net hinge) away from it. The theorems per kernel are in `Props/C06.lean`.
-/

namespace NanoVerif.C06
open NanoVerif.Loss NanoVerif.Fn

theorem deriv_of_eq {f g : ℝ → ℝ} {f' g' x : ℝ} (h : HasDerivAt f f' x) (hg : ∀ y, g y = f y) (hg' : g' = f') :
    HasDerivAt g g' x := by
  rw [hg', funext hg]; exact h

/-- the chain rule with the composition written out and the scalars fixed to `ℝ` (Mathlib's `HasDerivAt.comp`, stated
    with `∘` over two general fields, is slow to unify against the kernels) -/
theorem comp_deriv {φ u : ℝ → ℝ} {φ' u' x : ℝ} (hu : HasDerivAt u u' x) (hφ : HasDerivAt φ φ' (u x)) :
    HasDerivAt (fun y => φ (u y)) (φ' * u') x := hφ.comp x hu

/-- `log (1 + exp (c y))`: the kernel of both logistic losses -/
theorem log_one_add_exp_deriv (c o : ℝ) :
    HasDerivAt (fun y : ℝ => Real.log (1 + Real.exp (c * y))) (c * (Real.exp (c * o) / (1 + Real.exp (c * o)))) o := by
  have h := ((hasDerivAt_const_mul c).exp.const_add 1).log (x := o) (add_pos one_pos (Real.exp_pos _)).ne'
  exact h.congr_deriv (by ring)

theorem enetLogistic_deriv (t o : ℝ) : HasDerivAt (fun o => enetLogisticV t o) (enetLogisticG t o) o := by
  have e : ∀ y : ℝ, -y * t = -t * y := fun y => by ring
  unfold enetLogisticV enetLogisticG
  simp only [texp_eq, tlog_eq, e]
  exact (log_one_add_exp_deriv (-t) o).congr_deriv (by ring)

/-- `log (1 + (y − t)²)`: the kernel of both cauchy losses -/
theorem log_one_add_sq_deriv (t o : ℝ) :
    HasDerivAt (fun y : ℝ => Real.log (1 + (y - t) * (y - t))) (2 * (o - t) / (1 + (o - t) * (o - t))) o := by
  have h := (hasDerivAt_id' o).sub_const t
  have hpos : 1 + (o - t) * (o - t) ≠ 0 := (add_pos_of_pos_of_nonneg one_pos (mul_self_nonneg _)).ne'
  exact (((h.fun_mul h).const_add 1).log hpos).congr_deriv (by rw [one_mul, mul_one, ← two_mul])

theorem enetCauchy_deriv (t o : ℝ) : HasDerivAt (fun o => enetCauchyV t o) (enetCauchyG t o) o := by
  have e : ∀ y : ℝ, (y - t) * (y - t) + 1 = 1 + (y - t) * (y - t) := fun y => add_comm _ _
  unfold enetCauchyV enetCauchyG
  simp only [tlog_eq, e]
  exact log_one_add_sq_deriv t o

/-- away from `0`, `max(·, 0)` is locally `0` or the identity -/
theorem max0_deriv_off {u : ℝ} (h : u ≠ 0) : HasDerivAt (fun u : ℝ => max0 u) ((sign' u + 1) / 2) u := by
  rcases lt_or_gt_of_ne h with hn | hp
  · refine deriv_of_eq (g := fun _ => (0 : ℝ)) (hasDerivAt_const u 0) (fun _ => rfl) (by rw [sign'_of_neg hn]; ring) |>.congr_of_eventuallyEq ?_
    exact Filter.eventuallyEq_of_mem (Iio_mem_nhds hn) fun y hy => max0_of_nonpos (le_of_lt hy)
  · refine ((hasDerivAt_id' u).congr_deriv (by rw [sign'_of_pos hp]; ring)).congr_of_eventuallyEq ?_
    exact Filter.eventuallyEq_of_mem (Ioi_mem_nhds hp) fun y hy => max0_of_pos hy

theorem abs_deriv_off {u : ℝ} (h : u ≠ 0) : HasDerivAt (fun u : ℝ => abs' u) (sign' u) u := by
  rcases lt_or_gt_of_ne h with hn | hp
  · refine ((hasDerivAt_id' u).neg.congr_deriv (sign'_of_neg hn).symm).congr_of_eventuallyEq ?_
    exact Filter.eventuallyEq_of_mem (Iio_mem_nhds hn) fun y hy => if_pos hy
  · refine ((hasDerivAt_id' u).congr_deriv (sign'_of_pos hp).symm).congr_of_eventuallyEq ?_
    exact Filter.eventuallyEq_of_mem (Ioi_mem_nhds hp) fun y hy => if_neg (le_of_lt hy).not_gt

theorem max0_sq_deriv (u : ℝ) : HasDerivAt (fun u : ℝ => max0 u * max0 u) (2 * max0 u) u := by
  rcases eq_or_ne u 0 with rfl | h
  · -- at the kink: `0` on the left, `u²` on the right, both with derivative `0`
    have e0 : max0 (0 : ℝ) = 0 := max0_of_nonpos le_rfl
    have hl : HasDerivWithinAt (fun u : ℝ => max0 u * max0 u) 0 (Set.Iic 0) 0 :=
      (hasDerivWithinAt_const (0 : ℝ) (Set.Iic 0) (0 : ℝ)).congr (fun y hy => by rw [max0_of_nonpos hy, mul_zero])
        (by rw [e0, mul_zero])
    have hid := hasDerivWithinAt_id (0 : ℝ) (Set.Ici 0)
    have hr : HasDerivWithinAt (fun u : ℝ => max0 u * max0 u) (1 * 0 + 0 * 1) (Set.Ici 0) 0 :=
      (hid.fun_mul hid).congr (fun y hy => by rw [max0_eq, max_eq_left hy]; rfl) (by rw [e0]; rfl)
    rw [one_mul, mul_one, add_zero] at hr
    have h := hl.union hr
    rw [Set.Iic_union_Ici, hasDerivWithinAt_univ] at h
    rwa [e0, mul_zero]
  · have h1 := max0_deriv_off h
    refine (h1.fun_mul h1).congr_deriv ?_
    rcases lt_or_gt_of_ne h with hn | hp
    · rw [max0_of_nonpos hn.le]; ring
    · rw [sign'_of_pos hp]; ring

theorem mae_deriv_off (t o : ℝ) (h : o ≠ t) : HasDerivAt (fun o => maeV t o) (maeG t o) o := by
  have h := comp_deriv ((hasDerivAt_id' o).sub_const t) (abs_deriv_off (sub_ne_zero.2 h))
  exact h.congr_deriv (mul_one _)

theorem hinge_deriv_off (t o : ℝ) (h : 1 - t * o ≠ 0) : HasDerivAt (fun o => hingeV t o) (hingeG t o) o := by
  have h := comp_deriv ((hasDerivAt_const_mul t).const_sub 1) (max0_deriv_off h)
  exact h.congr_deriv (by unfold hingeG; ring)

theorem pinball_deriv_off (a t o : ℝ) (h : o ≠ t) : HasDerivAt (fun o => pinballV a t o) (pinballG a t o) o := by
  have h1 := (comp_deriv ((hasDerivAt_id' o).const_sub t) (max0_deriv_off (sub_ne_zero.2 h.symm))).const_mul a
  have h2 := (comp_deriv ((hasDerivAt_id' o).sub_const t) (max0_deriv_off (sub_ne_zero.2 h))).const_mul (1 - a)
  refine (h1.add h2).congr_deriv ?_
  unfold pinballG
  -- the two arguments have opposite signs
  rcases lt_or_gt_of_ne h with hlt | hgt
  · rw [sign'_of_pos (sub_pos.2 hlt), sign'_of_neg (sub_neg.2 hlt)]; ring
  · rw [sign'_of_neg (sub_neg.2 hgt), sign'_of_pos (sub_pos.2 hgt)]; ring

/-- elastic_net.h hinge kernel -/
theorem enetHinge_deriv_off (t o : ℝ) (h : 1 + -o * t ≠ 0) : HasDerivAt (fun o => enetHingeV t o) (enetHingeG t o) o := by
  have h := comp_deriv (((hasDerivAt_neg' o).mul_const t).const_add 1) (max0_deriv_off h)
  exact h.congr_deriv (by unfold enetHingeG; ring)

end NanoVerif.C06
