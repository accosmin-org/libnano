import NanoVerif.Model.Dataset
/-!
  C08 — range checks and the per-feature encodings as functions of the abstract map `D = Storage.stored`. Core Lean only.
-/
namespace NanoVerif.Dataset
open NanoVerif.Tensor NanoVerif.Mask

section
variable {α : Type} [Scalar α]

/-! ### range checks -/

theorem checkSamples_none (ds : Dataset) (samples : List Int)
    (h : ∃ s ∈ samples, s < 0 ∨ Int.ofNat ds.st.samples ≤ s) : ds.checkSamples samples = none := by
  obtain ⟨s, hs, hbad⟩ := h
  unfold Dataset.checkSamples
  rw [if_neg]
  intro hall
  rw [List.all_eq_true] at hall
  have := hall s hs
  simp only [decide_eq_true_eq] at this
  omega

theorem checkSamples_some (ds : Dataset) (samples : List Int)
    (h : ∀ s ∈ samples, 0 ≤ s ∧ s < Int.ofNat ds.st.samples) :
    ds.checkSamples samples = some (samples.map Int.toNat) := by
  unfold Dataset.checkSamples
  rw [if_pos]
  rw [List.all_eq_true]
  intro s hs
  simp only [decide_eq_true_eq]
  exact h s hs

theorem checkSamples_lt (ds : Dataset) (samples : List Int) (ss : List Nat) (h : ds.checkSamples samples = some ss) :
    ∀ s ∈ ss, s < ds.st.samples := by
  unfold Dataset.checkSamples at h
  split at h
  · rename_i hall
    cases h
    intro s hs
    obtain ⟨x, hx, rfl⟩ := List.mem_map.1 hs
    have := List.all_eq_true.1 hall x hx
    simp only [decide_eq_true_eq, Int.ofNat_eq_natCast] at this
    omega
  · cases h

theorem checkFeature_none (ds : Dataset) (f : Int) (h : f < 0 ∨ Int.ofNat ds.features ≤ f) :
    ds.checkFeature f = none := by
  unfold Dataset.checkFeature
  rw [if_neg]; omega

theorem checkFeature_ofNat (ds : Dataset) (f : Nat) :
    ds.checkFeature (Int.ofNat f) = if f < ds.features then some f else none := by
  unfold Dataset.checkFeature
  by_cases h : f < ds.features
  · rw [if_pos ⟨by simp, by simpa using h⟩, if_pos h]; simp
  · rw [if_neg (by intro hh; exact h (by simpa using hh.2)), if_neg h]

theorem flattenFrom_nil (st : Storage) (g : Gen) (ss : List Nat) : ∀ (is : List Nat) (c : Nat),
    g.flattenFrom (α := α) st ss is [] c = []
  | [], _ => rfl
  | i :: is, c => by
    simp only [Gen.flattenFrom, writeColumns, List.zipWith_nil_left]
    exact flattenFrom_nil st g ss is _

theorem flattenGens_nil (st : Storage) (ss : List Nat) : ∀ (gens : List Gen) (cols : List Nat) (off : Nat),
    flattenGens (α := α) st ss gens cols [] off = []
  | [], _, _ => by simp [flattenGens]
  | _ :: _, [], _ => by simp [flattenGens]
  | g :: gs, c :: cs, off => by
    simp only [flattenGens, Gen.flatten, flattenFrom_nil]
    exact flattenGens_nil st ss gs cs _

end

section
variable {α : Type} [Scalar α]

/-! ### the documented per-feature views as functions of the abstract map `D = Storage.stored` -/

/-- the view of an identity feature whose values over the sample list are `vals` (`none` = missing) -/
def viewOf (k : GKind) (m : FMap) (vals : List (Option (List Int))) : View α :=
  match k with
  | .sclassId => .sclass (vals.map encSclass)
  | .mclassId => .mclass m.classes (vals.map (encMclass m.classes))
  | .scalarId => .scalar (vals.map encScalar)
  | .structId => .struct m.d0 m.d1 m.d2 (vals.map (encStruct (m.d0 * m.d1 * m.d2)))
  | .product => .scalar []
  | .gradient _ => .scalar []      -- derived features: `plainView` (Proofs/DatasetHistory.lean) and `gradientOf`
  | .custom _ => .scalar []        -- derived features: `plainView` and `customView`

theorem iterSample_nil (s : Nat) : iterSample [] s = s := rfl

theorem iterate_nil (st : Storage) (orig : Nat) (samples : List Nat) :
    iterate st orig [] samples = samples.map (fun s => st.stored (st.inputIndex orig) s) := rfl

theorem shuffledAll_of_flag0 (g : Gen) (i : Nat) (h : g.infos.getD i 0 = 0) : g.shuffledAll i = [] := by
  unfold Gen.shuffledAll; rw [h]; rfl

theorem shouldDrop_of_flag0 (g : Gen) (i : Nat) (h : g.infos.getD i 0 = 0) : g.shouldDrop i = false := by
  unfold Gen.shouldDrop; rw [h]; rfl

@[simp] theorem derived_length (st : Storage) (c : Custom) (m : FMap) (sh ss : List Nat) :
    (derived st c m sh ss).length = ss.length := by
  unfold derived
  cases c.in2 <;> simp [iterate, iterate2]

theorem derived_mem (st : Storage) (c : Custom) (m : FMap) (sh ss : List Nat) (x : Option (List Int))
    (hx : x ∈ derived st c m sh ss) (v : List Int) (hv : x = some v) : ∃ p, v = customOut c p := by
  subst hv
  unfold derived at hx
  cases hc : c.in2 with
  | none =>
    simp only [hc, List.mem_map] at hx
    obtain ⟨y, _, hy⟩ := hx
    cases y with
    | none => simp at hy
    | some w => simp at hy; exact ⟨_, hy.symm⟩
  | some k2 =>
    simp only [hc, List.mem_map] at hx
    obtain ⟨y, _, hy⟩ := hx
    cases y with
    | none => simp at hy
    | some w => simp at hy; exact ⟨_, hy.symm⟩

theorem customOut_length (c : Custom) (p : Int × Int) (h : c.out = .mclass ∨ c.out = .struct) :
    (customOut c p).length = customCols c.out := by
  unfold customOut customCols
  rcases h with h | h <;> rw [h] <;> rfl

/-- labels are in `0..2`, hits are 0 / 1 -/
theorem customOut_class_nonneg (c : Custom) (p : Int × Int) (h : c.out = .sclass ∨ c.out = .mclass) :
    ∀ x ∈ customOut c p, 0 ≤ x := by
  unfold customOut
  rcases h with h | h <;> rw [h] <;> intro x hx
  · simp only [List.mem_singleton] at hx
    subst hx
    exact Int.emod_nonneg _ (by decide)
  · simp only [List.mem_cons, List.not_mem_nil, or_false] at hx
    rcases hx with rfl | rfl <;> split <;> decide

/-- value of a product feature at one stored sample -/
def productOf (x y : Option (List Int)) : α :=
  match x, y with
  | some a, some b => Scalar.mul (Scalar.ofInt (headI a)) (Scalar.ofInt (headI b))
  | _, _ => Scalar.nan

/-! ### targets -/

/-- `+1` at the label, `−1` elsewhere -/
def oneHot (n : Nat) (label : Nat) : List α :=
  (List.range n).map (fun k => if k = label then Scalar.ofInt 1 else Scalar.ofInt (-1))

end

end NanoVerif.Dataset
