import NanoVerif.Proofs.MLResult
/-!
  C18 — schedule independence of `ml::tune` on the models of C13 (`Model/Tune.lean`) and C11 (`Model/MLResult.lean`).

  * `foldl_set_perm`: writes at pairwise distinct positions commute;
  * `runBatch_schedule_independent`: the result after a batch is the same for every order in which the pool runs its tasks;
  * `runBatchLive`: the batch as CODED — a task reads the warm-start data of its closest trial from the LIVE result, which the
    other tasks of the batch are writing — equals `runBatch` (reads from the result as it was right after `add`) whenever every
    task's closest trial is an EARLIER trial (`tune_reads_only_earlier`), for every order;
  * `runTune_schedule_independent`: the whole `ml::tune` run, any number of batches.
-/
namespace NanoVerif.Sharing
open NanoVerif.Tune

/-! ### writes at distinct positions commute -/

theorem foldl_set_perm {β ι : Type} (pos : ι → Nat) (val : ι → β) (o o' : List ι) (l : List β)
    (hinj : ∀ i ∈ o, ∀ i' ∈ o, pos i = pos i' → i = i') (hnd : o.Nodup) (hp : o.Perm o') :
    o.foldl (fun l i => l.set (pos i) (val i)) l = o'.foldl (fun l i => l.set (pos i) (val i)) l := by
  apply List.ext_getElem?
  intro j
  by_cases hj : ∃ i ∈ o, pos i = j
  · obtain ⟨i, hi, rfl⟩ := hj
    by_cases hlt : pos i < l.length
    · rw [foldl_set_getElem?_of_mem pos val o l hinj hnd i hi hlt,
        foldl_set_getElem?_of_mem pos val o' l
          (fun a ha b hb => hinj a (hp.mem_iff.mpr ha) b (hp.mem_iff.mpr hb)) (hp.nodup_iff.mp hnd) i (hp.mem_iff.mp hi) hlt]
    · rw [List.getElem?_eq_none (by rw [foldl_set_length]; omega),
        List.getElem?_eq_none (by rw [foldl_set_length]; omega)]
  · rw [foldl_set_getElem?_of_not_mem _ _ _ _ _ (fun i hi h => hj ⟨i, hi, h⟩),
      foldl_set_getElem?_of_not_mem _ _ _ _ _ (fun i hi h => hj ⟨i, hp.mem_iff.mpr hi, h⟩)]

theorem result_ext {σ : Type} (x y : Result σ) (h1 : x.folds = y.folds) (h2 : x.trials = y.trials)
    (h3 : x.slots = y.slots) : x = y := by
  cases x; cases y; simp_all

/-- one batch of `ml::tune`: every order in which the pool runs every index exactly once leaves the same result -/
theorem runBatch_schedule_independent {σ : Type} (cb : Nat → Nat → Option σ → σ) (closest : Nat → Nat) (r0 : Result σ)
    (k : Nat) (order order' : List Nat) (hp : order.Perm (List.range (k * r0.folds)))
    (hp' : order'.Perm (List.range (k * r0.folds))) :
    runBatch cb closest r0 k order = runBatch cb closest r0 k order' := by
  obtain ⟨a1, a2, a3⟩ := runBatch_slots cb closest r0 k order
  obtain ⟨b1, b2, b3⟩ := runBatch_slots cb closest r0 k order'
  apply result_ext
  · rw [a1, b1]
  · rw [a2, b2]
  · rw [a3, b3]
    exact foldl_set_perm (fun i => r0.trials * r0.folds + i) _ order order' _
      (fun i _ i' _ h => Nat.add_left_cancel h) (hp.nodup_iff.mpr List.nodup_range) (hp.trans hp'.symm)

/-! ### the batch as coded: the warm-start data is read from the live result -/

/-- `thread_callback(index, ·)` (tune.cpp:25-41) reading `result.extra(closest_trial, fold)` from the result the other tasks of
    the batch are storing into -/
def threadCallbackLive {σ : Type} (cb : Nat → Nat → Option σ → σ) (closest : Nat → Nat) (folds old : Nat)
    (r : Result σ) (index : Nat) : Result σ :=
  let tf := decode folds index
  r.store (old + tf.1) tf.2 (cb tf.1 tf.2 (r.get? (closest tf.1) tf.2))

def runBatchLive {σ : Type} (cb : Nat → Nat → Option σ → σ) (closest : Nat → Nat) (r0 : Result σ) (k : Nat)
    (order : List Nat) : Result σ :=
  order.foldl (threadCallbackLive cb closest r0.folds r0.trials) (r0.add k)

theorem get?_store_earlier {σ : Type} (r : Result σ) (old T F c f : Nat) (p : σ) (hT : old ≤ T) (hc : c < old) :
    (r.store T F p).get? c f = r.get? c f := by
  unfold Result.get? Result.store
  simp only
  by_cases hg : f < r.folds ∧ c < r.trials
  · rw [if_pos hg, if_pos hg]
    have hne : slot r.folds T F ≠ slot r.folds c f := by
      unfold slot
      have h1 : (c + 1) * r.folds ≤ T * r.folds := Nat.mul_le_mul_right _ (Nat.le_trans hc hT)
      rw [Nat.add_mul, Nat.one_mul] at h1
      omega
    rw [List.getElem?_set_ne hne]
  · rw [if_neg hg, if_neg hg]

/-- **As coded = as modelled when the closest trial is an earlier one.** For every order (any list of indices): if every task
    of the order is handed a closest trial below `old = r0.trials` — `tune_reads_only_earlier`: `closest_trial(params, old)`
    with `old > 0` — then reading the live result gives what reading the result right after `add` gives. -/
theorem runBatchLive_eq {σ : Type} (cb : Nat → Nat → Option σ → σ) (closest : Nat → Nat) (r0 : Result σ) (k : Nat)
    (order : List Nat) (hcl : ∀ i ∈ order, closest (decode r0.folds i).1 < r0.trials) :
    runBatchLive cb closest r0 k order = runBatch cb closest r0 k order := by
  -- invariant of the fold: the slots of the earlier trials still hold what they held right after `add`
  suffices key : ∀ r : Result σ, (∀ c f, c < r0.trials → r.get? c f = (r0.add k).get? c f) →
      order.foldl (threadCallbackLive cb closest r0.folds r0.trials) r =
        order.foldl (threadCallback cb closest (r0.add k) r0.trials) r from key (r0.add k) fun _ _ _ => rfl
  induction order with
  | nil => exact fun _ _ => rfl
  | cons a rest ih =>
    intro r hsame
    have hstep : threadCallbackLive cb closest r0.folds r0.trials r a =
        threadCallback cb closest (r0.add k) r0.trials r a :=
      congrArg (fun x => r.store _ _ (cb _ _ x)) (hsame _ _ (hcl a List.mem_cons_self))
    rw [List.foldl_cons, List.foldl_cons, hstep]
    exact ih (fun i hi => hcl i (List.mem_cons_of_mem _ hi)) _ fun c f hc =>
      (get?_store_earlier _ r0.trials _ _ c f _ (Nat.le_add_right _ _) hc).trans (hsame c f hc)

/-! ### the whole run -/

section
open NanoVerif.MLResult NanoVerif.Stats
variable {E α : Type} [Add α] [Sub α] [Mul α] [Div α] [LT α] [LE α] [DecidableLT α] [DecidableLE α]
  [OfNat α 0] [OfNat α 1] [OfNat α 2] [OfNat α 50] [OfNat α 100] [FloorI α] [HasSqrt α]

/-- two histories of batches that differ only in the order in which the pool ran the tasks of each batch -/
def SameBatches (folds : Nat) (b b' : Batch E α) : Prop :=
  b.k = b'.k ∧ b.closest = b'.closest ∧ b.fit = b'.fit ∧ b.order.Perm (List.range (b.k * folds)) ∧
    b'.order.Perm (List.range (b'.k * folds))

theorem foldl_batches_schedule_independent (sort : List α → List α) (folds : Nat) :
    ∀ (bs bs' : List (Batch E α)) (r : Result (Payload E α)), r.folds = folds → List.Forall₂ (SameBatches folds) bs bs' →
      bs.foldl (fun r b => runBatch (cbOf sort b.fit) b.closest r b.k b.order) r =
        bs'.foldl (fun r b => runBatch (cbOf sort b.fit) b.closest r b.k b.order) r := by
  intro bs bs' r hr hall
  induction hall generalizing r with
  | nil => rfl
  | @cons b b' bs bs' hb _ ih =>
    obtain ⟨hk, hc, hf, hp, hp'⟩ := hb
    simp only [List.foldl_cons]
    have hstep : runBatch (cbOf sort b.fit) b.closest r b.k b.order =
        runBatch (cbOf sort b'.fit) b'.closest r b'.k b'.order := by
      rw [← hk, ← hc, ← hf]
      exact runBatch_schedule_independent _ _ r b.k b.order b'.order (hr ▸ hp) (hr ▸ hk ▸ hp')
    rw [hstep]
    exact ih _ (by rw [(runBatch_slots _ _ r b'.k b'.order).1]; exact hr)

/-- **`ml::tune` is schedule independent**: whatever the order in which the pool runs the (trial, fold) tasks of every batch,
    the `ml::result_t` it fills is the same — every slot, hence every reported statistic, every model-specific datum, the value
    of every trial and the optimum trial. -/
theorem runTune_schedule_independent (sort : List α → List α) (folds : Nat) (bs bs' : List (Batch E α))
    (h : List.Forall₂ (SameBatches folds) bs bs') : runTune sort folds bs = runTune sort folds bs' :=
  foldl_batches_schedule_independent sort folds bs bs' (Result.empty folds) rfl h

end
end NanoVerif.Sharing
