import NanoVerif.Model.Codec
/-!
  C15 — generic theorems about the codec combinators (core Lean only).

  `Good c wf` bundles the two facts every wire format has to satisfy on its well-formed values:
  * `rt` — round trip: reading what was written (followed by anything) gives the value back and leaves the rest;
  * `ps` — prefix safety: every *strict* prefix of what was written is refused.
-/
namespace NanoVerif.Codec

def Codec.RoundTrip {α : Type} (c : Codec α) (wf : α → Prop) : Prop :=
  ∀ x rest, wf x → c.dec (c.enc x ++ rest) = some (x, rest)

def Codec.PrefixSafe {α : Type} (c : Codec α) (wf : α → Prop) : Prop :=
  ∀ x p, wf x → p <+: c.enc x → p ≠ c.enc x → c.dec p = none

structure Good {α : Type} (c : Codec α) (wf : α → Prop) : Prop where
  rt : c.RoundTrip wf
  ps : c.PrefixSafe wf

theorem Good.mono {α : Type} {c : Codec α} {w w' : α → Prop} (h : Good c w) (hw : ∀ x, w' x → w x) : Good c w' :=
  ⟨fun x rest hx => h.rt x rest (hw x hx), fun x p hx => h.ps x p (hw x hx)⟩

theorem Good.at {α : Type} {c : Codec α} {w : α → Prop} (h : Good c w) (x : α) (hx : w x) : Good c (· = x) :=
  h.mono (fun _ e => e ▸ hx)

/-- both clauses speak of one value at a time: the branches of a tagged union are checked value by value -/
theorem Good.of_forall {α : Type} {c : Codec α} {w : α → Prop} (h : ∀ x, w x → Good c (· = x)) : Good c w :=
  ⟨fun x rest hx => (h x hx).rt x rest rfl, fun x p hx => (h x hx).ps x p rfl⟩

theorem Good.congr {α : Type} {c c' : Codec α} {w : α → Prop} (h : Good c w) (he : ∀ x, w x → c'.enc x = c.enc x)
    (hd : ∀ bs, c'.dec bs = c.dec bs) : Good c' w :=
  ⟨fun x rest hx => by rw [hd, he x hx]; exact h.rt x rest hx,
   fun x p hx hp hne => by rw [hd]; rw [he x hx] at hp hne; exact h.ps x p hx hp hne⟩

/-! ### lists -/

theorem prefix_append_cases {α : Type} {p l₁ l₂ : List α} (h : p <+: l₁ ++ l₂) :
    (p <+: l₁ ∧ p ≠ l₁) ∨ ∃ q, p = l₁ ++ q ∧ q <+: l₂ := by
  by_cases h1 : l₁ <+: p
  · obtain ⟨q, rfl⟩ := h1
    exact Or.inr ⟨q, rfl, (List.prefix_append_right_inj l₁).mp h⟩
  · exact Or.inl ⟨(List.prefix_or_prefix_of_prefix h (List.prefix_append l₁ l₂)).resolve_right h1,
      fun e => h1 (e ▸ List.prefix_refl _)⟩

theorem strict_prefix_length {α : Type} {p l : List α} (h : p <+: l) (hne : p ≠ l) : p.length < l.length := by
  rcases Nat.lt_or_ge p.length l.length with h1 | h1
  · exact h1
  · exact absurd (h.eq_of_length (Nat.le_antisymm h.length_le h1)) hne

/-! ### raw bytes -/

/-- `takeN` splits at `n` when that many bytes are there -/
theorem takeN_eq : ∀ (n : Nat) (bs : Bytes), takeN n bs = if n ≤ bs.length then some (bs.take n, bs.drop n) else none
  | 0, bs => rfl
  | n + 1, [] => rfl
  | n + 1, b :: bs => by
    rw [takeN, takeN_eq n bs, List.length_cons]
    by_cases h : n ≤ bs.length
    · rw [if_pos h, if_pos (Nat.succ_le_succ h)]; rfl
    · rw [if_neg h, if_neg (fun h' => h (Nat.le_of_succ_le_succ h'))]

theorem takeN_append (x rest : Bytes) : takeN x.length (x ++ rest) = some (x, rest) := by
  rw [takeN_eq, if_pos (by rw [List.length_append]; exact Nat.le_add_right _ _), List.take_left' rfl, List.drop_left' rfl]

theorem takeN_short (n : Nat) (p : Bytes) (h : p.length < n) : takeN n p = none := by
  rw [takeN_eq, if_neg (Nat.not_le.mpr h)]

theorem takeN_some : ∀ (n : Nat) (bs x r : Bytes), takeN n bs = some (x, r) → bs = x ++ r ∧ x.length = n := by
  intro n bs x r h
  rw [takeN_eq] at h
  split at h
  · obtain ⟨rfl, rfl⟩ := Prod.mk.inj (Option.some.inj h)
    exact ⟨(List.take_append_drop n bs).symm, List.length_take_of_le ‹_›⟩
  · cases h

theorem raw_good (n : Nat) : Good (raw n) (fun x => x.length = n) := by
  refine ⟨?_, ?_⟩
  · intro x rest hx
    simp only [raw]
    rw [← hx]; exact takeN_append x rest
  · intro x p hx hp hne
    simp only [raw] at hp hne ⊢
    exact takeN_short n p (hx ▸ strict_prefix_length hp hne)

theorem unit_good : Good unit (fun _ => True) := by
  refine ⟨fun x rest _ => by simp [unit], ?_⟩
  intro x p _ hp hne
  simp only [unit] at hp hne
  exact absurd (List.prefix_nil.mp hp) hne

theorem fail_good {α : Type} : Good (fail : Codec α) (fun _ => False) :=
  ⟨fun _ _ h => h.elim, fun _ _ h => h.elim⟩

/-! ### pmap / dseq -/

theorem pmap_good {α β : Type} {c : Codec α} {w : α → Prop} (h : Good c w) (f : α → Option β) (g : β → α) :
    Good (pmap c f g) (fun y => w (g y) ∧ f (g y) = some y) := by
  refine ⟨?_, ?_⟩
  · intro y rest ⟨hw, hf⟩
    simp only [pmap]
    rw [h.rt (g y) rest hw]
    simp only [hf]
  · intro y p ⟨hw, _⟩ hp hne
    simp only [pmap] at hp hne ⊢
    rw [h.ps (g y) p hw hp hne]

theorem dseq_good {α β : Type} {a : Codec α} {b : α → Codec β} {wa : α → Prop} {wb : α → β → Prop}
    (ha : Good a wa) (hb : ∀ x, Good (b x) (wb x)) :
    Good (dseq a b) (fun p => wa p.1 ∧ wb p.1 p.2) := by
  refine ⟨?_, ?_⟩
  · intro ⟨x, y⟩ rest ⟨hx, hy⟩
    simp only [dseq, List.append_assoc]
    rw [ha.rt x _ hx]
    simp only []
    rw [(hb x).rt y _ hy]
  · intro ⟨x, y⟩ p ⟨hx, hy⟩ hp hne
    simp only [dseq] at hp hne ⊢
    rcases prefix_append_cases hp with ⟨h, he⟩ | ⟨q, rfl, hq⟩
    · rw [ha.ps x p hx h he]
    · rw [ha.rt x q hx]
      simp only []
      rw [(hb x).ps y q hy hq (fun h0 => hne (h0 ▸ rfl))]

theorem seq_good {α β : Type} {a : Codec α} {b : Codec β} {wa : α → Prop} {wb : β → Prop}
    (ha : Good a wa) (hb : Good b wb) : Good (seq a b) (fun p => wa p.1 ∧ wb p.2) :=
  dseq_good ha (fun _ => hb)

/-! ### decoders are put together by `dbind`; a stream that begins with a written field -/

namespace Stream

abbrev Dec (α : Type) := Bytes → Option (α × Bytes)

/-- decode with `d`, hand the value and the rest to `k`: the decoder of every `dseq` and `pmap` -/
def dbind {α β : Type} (d : Dec α) (k : α → Dec β) : Dec β := fun bs =>
  match d bs with
  | none => none
  | some (x, r) => k x r

theorem pmap_dec {α β : Type} (c : Codec α) (f : α → Option β) (g : β → α) :
    (pmap c f g).dec = dbind c.dec (fun x r => match f x with | none => none | some y => some (y, r)) := rfl

/-- a `pmap` whose reinterpretation is a test -/
theorem ite_some_match {α β : Type} (p : Prop) [Decidable p] (y : α) (K : α → Option β) :
    (match (if p then some y else none) with | none => none | some y => K y) = if p then K y else none := by
  split <;> simp_all

theorem dseq_dec {α β : Type} (a : Codec α) (b : α → Codec β) :
    (dseq a b).dec = dbind a.dec (fun x => dbind (b x).dec (fun y r => some ((x, y), r))) := rfl

theorem dbind_assoc {α β γ : Type} (d : Dec α) (k : α → Dec β) (k' : β → Dec γ) :
    dbind (dbind d k) k' = dbind d (fun x => dbind (k x) k') := by
  funext bs
  unfold dbind
  cases d bs <;> rfl

theorem decN_succ {α : Type} (c : Codec α) (n : Nat) (bs : Bytes) :
    decN c (n + 1) bs = dbind c.dec (fun x => dbind (decN c n) (fun xs r => some (x :: xs, r))) bs := by
  unfold dbind
  simp only [decN]
  cases c.dec bs with
  | none => rfl
  | some p =>
    obtain ⟨x, r⟩ := p
    dsimp only
    cases decN c n r <;> rfl

end Stream

/-- reading a written field hands its value and the rest of the stream on -/
theorem Good.dbind_enc {α β : Type} {c : Codec α} {w : α → Prop} (h : Good c w) {x : α} (hx : w x) (k : α → Stream.Dec β)
    (rest : Bytes) : Stream.dbind c.dec k (c.enc x ++ rest) = k x rest := by
  unfold Stream.dbind
  rw [h.rt x rest hx]

/-! ### scalars -/

theorem leBytes_length : ∀ (k n : Nat), (leBytes k n).length = k
  | 0, _ => rfl
  | k + 1, n => by simp [leBytes, leBytes_length k]

theorem leNat_leBytes : ∀ (k n : Nat), n < 256 ^ k → leNat (leBytes k n) = n
  | 0, n, h => by simp at h; simp [leBytes, leNat, h]
  | k + 1, n, h => by
    have h1 : n / 256 < 256 ^ k := Nat.div_lt_of_lt_mul (by rw [Nat.pow_succ, Nat.mul_comm] at h; exact h)
    simp only [leBytes, leNat, leNat_leBytes k _ h1, UInt8.toNat_ofNat', Nat.reducePow, Nat.mod_mod]
    exact Nat.mod_add_div n 256

theorem leNat_lt : ∀ (bs : Bytes), leNat bs < 256 ^ bs.length
  | [] => by simp [leNat]
  | b :: bs => by
    have := leNat_lt bs
    have hb : b.toNat < 256 := b.toNat_lt
    simp only [leNat, List.length_cons, Nat.pow_succ]
    omega

theorem leBytes_leNat : ∀ (bs : Bytes), leBytes bs.length (leNat bs) = bs
  | [] => rfl
  | b :: bs => by
    have h1 : (b.toNat + 256 * leNat bs) % 256 = b.toNat := by
      rw [Nat.add_mul_mod_self_left, Nat.mod_eq_of_lt b.toNat_lt]
    have h2 : (b.toNat + 256 * leNat bs) / 256 = leNat bs := by
      rw [Nat.add_mul_div_left _ _ (by decide), Nat.div_eq_of_lt b.toNat_lt, Nat.zero_add]
    simp only [leNat, List.length_cons, leBytes, h1, h2, leBytes_leNat bs, UInt8.ofNat_toNat]

theorem uintLE_good (k : Nat) : Good (uintLE k) (fun n => n < 256 ^ k) :=
  (pmap_good (raw_good k) _ _).mono (fun n hn => ⟨leBytes_length k n, by simp [leNat_leBytes k n hn]⟩)

theorem u32_good : Good u32 (fun n => n < 4294967296) := uintLE_good 4
theorem u64_good : Good u64 (fun n => n < 18446744073709551616) := uintLE_good 8

/-- two's complement with `2 H` patterns: a value of `[-H, H)` has a pattern `n`, and reads back from it -/
theorem signed_rt (H : Nat) (i : Int) (h1 : -(H : Int) ≤ i) (h2 : i < H) :
    ∃ n : Nat, i % ((2 * H : Nat) : Int) = n ∧ n < 2 * H ∧
      (if n < H then (n : Int) else (n : Int) - ((2 * H : Nat) : Int)) = i := by
  cases i with
  | ofNat n =>
    have hn : n < H := Int.ofNat_lt.mp h2
    exact ⟨n, Int.emod_eq_of_lt (Int.natCast_nonneg n) (Int.ofNat_lt.mpr (by omega)), by omega, if_pos hn⟩
  | negSucc m =>
    obtain ⟨d, rfl⟩ := Nat.exists_eq_add_of_lt (show m < H by omega)
    refine ⟨m + 2 * d + 1, ?_, by omega, ?_⟩
    · rw [Int.negSucc_emod m (by omega), Int.emod_eq_of_lt (Int.natCast_nonneg m) (by omega)]; omega
    · rw [if_neg (by omega)]; omega

theorem intLE_good (k : Nat) (hk : 0 < k) :
    Good (intLE k) (fun i => -((256 ^ k / 2 : Nat) : Int) ≤ i ∧ i < ((256 ^ k / 2 : Nat) : Int)) := by
  obtain ⟨H, hH⟩ : ∃ H, 256 ^ k = 2 * H := by
    cases k with
    | zero => omega
    | succ k => exact ⟨256 ^ k * 128, by rw [Nat.pow_succ]; omega⟩
  refine (pmap_good (uintLE_good k) _ _).mono ?_
  intro i ⟨h1, h2⟩
  unfold toSigned ofSigned
  rw [hH, Nat.mul_div_cancel_left H (by decide)] at *
  obtain ⟨n, e, hn, hi⟩ := signed_rt H i h1 h2
  rw [e]
  exact ⟨hn, congrArg some hi⟩

theorem i32_good : Good i32 (fun i => -2147483648 ≤ i ∧ i < 2147483648) := intLE_good 4 (by decide)

theorem i64_good : Good i64 (fun i => -9223372036854775808 ≤ i ∧ i < 9223372036854775808) := intLE_good 8 (by decide)

theorem const_good {α : Type} [DecidableEq α] {c : Codec α} {w : α → Prop} (h : Good c w) (v : α) (hv : w v) :
    Good (const c v) (fun _ => True) :=
  (pmap_good h _ _).mono (fun _ _ => ⟨hv, by simp⟩)

theorem const_dec {α : Type} [DecidableEq α] {c : Codec α} {w : α → Prop} (h : Good c w) (v x : α) (hx : w x)
    (rest : Bytes) : (const c v).dec (c.enc x ++ rest) = if x = v then some ((), rest) else none := by
  simp only [const, pmap]
  rw [h.rt x rest hx]
  by_cases e : x = v <;> simp [e]

theorem flag_good : Good flag (fun _ => True) := by
  refine (pmap_good u32_good _ _).mono ?_
  intro b _
  cases b <;> simp

/-! ### repetition, vectors, strings, factories -/

/-- one more element is a sequence "element, then `n` elements" -/
theorem rep_good {α : Type} {c : Codec α} {w : α → Prop} (h : Good c w) :
    ∀ n, Good (rep c n) (fun xs => xs.length = n ∧ ∀ x ∈ xs, w x)
  | 0 => by
    refine Good.of_forall fun xs ⟨hl, _⟩ => ?_
    cases List.length_eq_zero_iff.mp hl
    exact ⟨fun _ rest e => e ▸ rfl, fun _ p e hp hne => by subst e; exact absurd (List.prefix_nil.mp hp) hne⟩
  | n + 1 => by
    refine Good.of_forall fun xs ⟨hl, hw⟩ => ?_
    cases xs with
    | nil => cases hl
    | cons x xs =>
      refine ((pmap_good (seq_good h (rep_good h n)) (fun p => some (p.1 :: p.2)) (fun _ => (x, xs))).at (x :: xs)
        ⟨⟨hw x List.mem_cons_self, Nat.succ.inj hl, fun y hy => hw y (List.mem_cons_of_mem x hy)⟩, rfl⟩).congr
        (fun _ e => e ▸ rfl) (fun bs => ?_)
      rw [show (rep c (n + 1)).dec bs = decN c (n + 1) bs from rfl, Stream.decN_succ]
      simp only [Stream.pmap_dec, seq, Stream.dseq_dec, Stream.dbind_assoc]
      rfl

theorem vec_good {α : Type} {c : Codec α} {w : α → Prop} (h : Good c w) :
    Good (vec c) (fun xs => xs.length < 18446744073709551616 ∧ ∀ x ∈ xs, w x) :=
  (pmap_good (dseq_good u64_good (rep_good h)) _ _).mono (fun _ hx => ⟨⟨hx.1, rfl, hx.2⟩, rfl⟩)

theorem str_good : Good str (fun s => s.length < 4294967296) :=
  (pmap_good (dseq_good u32_good raw_good) _ _).mono (fun _ hx => ⟨⟨hx, rfl⟩, rfl⟩)

theorem factory_good {β : Type} {body : Codec β} {w : β → Prop} (ids : List Bytes) (h : Good body w) :
    Good (factory ids body) (fun p => p.1.length < 4294967296 ∧ p.1 ∈ ids ∧ w p.2) := by
  have hb : ∀ id : Bytes, Good (if id ∈ ids then body else fail) (fun y => id ∈ ids ∧ w y) := by
    intro id
    by_cases hid : id ∈ ids
    · simp only [hid, if_true]; exact h.mono (fun _ hx => hx.2)
    · simp only [hid, if_false]; exact fail_good.mono (fun _ hx => hx.1)
  exact (dseq_good str_good hb).mono (fun _ hx => ⟨hx.1, hx.2.1, hx.2.2⟩)

end NanoVerif.Codec
