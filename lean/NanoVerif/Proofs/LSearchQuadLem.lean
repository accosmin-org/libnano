import NanoVerif.Proofs.LSearchQuad
/-!
  C07 — helper lemmas: LeMaréchal on a convex quadratic `φ(t) = f0 + g0 t + h t²/2` from EVERY positive first trial step, with
  an interpolation that is exact on quadratic data (`InterpExact`), `c1 ≤ 1/2`, `0 < c2 < 1`.

  Write `A = (1 - c2) t*` (Wolfe ⇔ `A ≤ t`), `T = 2 (1 - c1) t*` (Armijo ⇔ `t ≤ T`), `A < t* ≤ T`.
  * expansion phase (`R` unset): the step is multiplied by `tau1` while `t < A`; it ends with an accepted step or with `R = t > T`;
  * bracket phase (`L.t < A`, `T < R.t`): the trial is `clamp(t*, L.t + s W, R.t - s W)`, `W = R.t - L.t`; it is accepted, or it was
    clamped and becomes the new `R` (resp. `L`), and the width of the bracket is multiplied by `s = safeguard`. Since the bracket
    always contains `[A, T]`, this can happen at most `j` times when `s^j W < T - A`.
-/
namespace NanoVerif.LSearch
open NanoVerif.Gen.LsPredicates


variable {α : Type} [Field α] [LinearOrder α] [IsStrictOrderedRing α]

theorem lemarechal_quad_step (cfg : Cfg α) {f0 g0 h : α} (hh : 0 < h) (n : Nat) (L R : Step α) {t : α} {ctx : Ctx α}
    (hc : ctx.cur = quadLine f0 g0 h t) (ht : 0 < t) :
    lemarechal cfg (fun _ => quadLine f0 g0 h) ⟨f0, g0, true⟩ (n + 1) L R t ctx =
      if t ≤ 2 * (1 - cfg.c1) * tstar g0 h then
        if (1 - cfg.c2) * tstar g0 h ≤ t then ⟨true, t, ctx⟩
        else
          let t' := if R.t < cfg.eps0 then cfg.tau1 * t else lemInterp cfg (stepOf ctx t) R
          lemarechal cfg (fun _ => quadLine f0 g0 h) ⟨f0, g0, true⟩ n (stepOf ctx t) R t' (ask (fun _ => quadLine f0 g0 h) ctx t')
      else
        let t' := lemInterp cfg L (stepOf ctx t)
        lemarechal cfg (fun _ => quadLine f0 g0 h) ⟨f0, g0, true⟩ n L (stepOf ctx t) t' (ask (fun _ => quadLine f0 g0 h) ctx t') := by
  rw [lemarechal]
  simp only [hc, armijo_quad_iff hh ht, wolfe_quad_iff hh]
  rfl

/-- an overshooting first trial (`T < t`) whose interpolation is not clamped: the second trial is `t*`, accepted when `c1 ≤ 1/2` -/
theorem lemarechal_quad_overshoot (cfg : Cfg α) (f0 g0 h : α) (hg : g0 < 0) (hh : 0 < h) (hI : InterpExact cfg f0 g0 h)
    (n : Nat) (t : α) (ctx : Ctx α) (hc : ctx.cur = quadLine f0 g0 h t) (ht : 2 * (1 - cfg.c1) * tstar g0 h < t)
    (hlo : cfg.safeguard * t ≤ tstar g0 h) (hhi : tstar g0 h ≤ (1 - cfg.safeguard) * t) (hc1 : cfg.c1 ≤ 1 / 2)
    (hc2 : 0 ≤ cfg.c2) :
    lemarechal cfg (fun _ => quadLine f0 g0 h) ⟨f0, g0, true⟩ (n + 2) ⟨0, f0, g0⟩ ⟨0, f0, g0⟩ t ctx =
      ⟨true, tstar g0 h, ask (fun _ => quadLine f0 g0 h) ctx (tstar g0 h)⟩ := by
  have hp := tstar_pos hg hh
  have hT := tstar_le_armijo hg hh hc1
  have ht0 : 0 < t := hp.trans_le (hT.trans ht.le)
  have hint : lemInterp cfg ⟨0, f0, g0⟩ (stepOf ctx t) = tstar g0 h := by
    unfold lemInterp
    rw [hI _ _ (onQuad_origin f0 g0 h) (onQuad_stepOf f0 g0 h ctx t hc) (ne_of_lt ht0)]
    exact Cxx.clamp_of_mem (by simp only [stepOf]; linarith only [hlo]) (by simp only [stepOf]; linarith only [hhi])
  rw [lemarechal_quad_step cfg hh (n + 1) _ _ hc ht0, if_neg (not_le.2 ht)]
  simp only [hint]
  rw [lemarechal_quad_step cfg hh n _ _ rfl hp, if_pos hT, if_pos (one_sub_mul_le hc2 hp.le)]

section
variable (cfg : Cfg α) (f0 g0 h : α) (hg : g0 < 0) (hh : 0 < h) (hI : InterpExact cfg f0 g0 h)
  (hs0 : 0 < cfg.safeguard) (hs1 : cfg.safeguard ≤ 1 / 2) (hc1 : cfg.c1 ≤ 1 / 2) (hc20 : 0 < cfg.c2)
  (heps0 : 0 < cfg.eps0) (heps1 : cfg.eps0 ≤ 2 * (1 - cfg.c1) * tstar g0 h)
include hg hh hI hs0 hs1 hc1 hc20 heps0 heps1

omit heps0 in
theorem lemarechal_quad_bracket :
    ∀ (j n : Nat) (L R : Step α) (t : α) (ctx : Ctx α), j < n → OnQuad f0 g0 h L → OnQuad f0 g0 h R → 0 ≤ L.t →
      L.t < (1 - cfg.c2) * tstar g0 h → 2 * (1 - cfg.c1) * tstar g0 h < R.t → t = lemInterp cfg L R →
      ctx.cur = quadLine f0 g0 h t →
      cfg.safeguard ^ j * (R.t - L.t) < 2 * (1 - cfg.c1) * tstar g0 h - (1 - cfg.c2) * tstar g0 h →
      QuadOK (lemarechal cfg (fun _ => quadLine f0 g0 h) ⟨f0, g0, true⟩ n L R t ctx) := by
  have hA : (1 - cfg.c2) * tstar g0 h < tstar g0 h :=
    mul_lt_of_lt_one_left (tstar_pos hg hh) (sub_lt_self 1 hc20)
  have hT := tstar_le_armijo hg hh hc1
  intro j
  induction j with
  | zero =>
    intro n L R t ctx _ _ _ _ h4 h5 _ _ h8
    rw [pow_zero, one_mul] at h8
    exact absurd (sub_lt_sub h5 h4) (lt_asymm h8)
  | succ j ih =>
    intro n L R t ctx hn hL hR h3 h4 h5 h6 h7 h8
    obtain ⟨n', rfl⟩ : ∃ n', n = n' + 1 := ⟨n - 1, by omega⟩
    have hLc := h4.trans hA
    have hcR := hT.trans_lt h5
    rw [lemInterp, hI L R hL hR (hLc.trans hcR).ne] at h6
    obtain ⟨hLt, htR, hlo, hhi⟩ := clamp_trial hLc hcR hs0 le_rfl hs1 h6
    have ht0 : 0 < t := h3.trans_lt hLt
    have hton := onQuad_stepOf f0 g0 h ctx t h7
    -- a clamped trial replaces one end; the width is multiplied by `safeguard`
    have hw : ∀ w, w ≤ cfg.safeguard * (R.t - L.t) →
        cfg.safeguard ^ j * w < 2 * (1 - cfg.c1) * tstar g0 h - (1 - cfg.c2) * tstar g0 h := fun w hw =>
      lt_of_le_of_lt (by rw [pow_succ, mul_assoc]; exact mul_le_mul_of_nonneg_left hw (pow_nonneg hs0.le j)) h8
    rw [lemarechal_quad_step cfg hh n' L R h7 ht0]
    by_cases hT' : t ≤ 2 * (1 - cfg.c1) * tstar g0 h
    · rw [if_pos hT']
      by_cases hA' : (1 - cfg.c2) * tstar g0 h ≤ t
      · rw [if_pos hA']; exact ⟨rfl, ht0⟩
      · rw [if_neg hA', if_neg (not_lt.2 (heps1.trans h5.le))]
        exact ih n' (stepOf ctx t) R _ _ (by omega) hton hR ht0.le (not_le.1 hA') h5 rfl rfl
          (hw _ (hhi ((not_le.1 hA').trans hA)))
    · rw [if_neg hT']
      exact ih n' L (stepOf ctx t) _ _ (by omega) hL hton h3 h4 (not_le.1 hT') rfl rfl
        (hw _ (hlo (hT.trans_lt (not_le.1 hT'))))

theorem lemarechal_quad_expand (htau : 1 < cfg.tau1) (J : Nat) :
    ∀ (k n : Nat) (L : Step α) (t : α) (ctx : Ctx α), k + J + 1 < n → OnQuad f0 g0 h L → 0 ≤ L.t →
      L.t < (1 - cfg.c2) * tstar g0 h → L.t < t → ctx.cur = quadLine f0 g0 h t →
      (1 - cfg.c2) * tstar g0 h ≤ cfg.tau1 ^ k * t →
      cfg.safeguard ^ J * max t (cfg.tau1 * ((1 - cfg.c2) * tstar g0 h)) <
        2 * (1 - cfg.c1) * tstar g0 h - (1 - cfg.c2) * tstar g0 h →
      QuadOK (lemarechal cfg (fun _ => quadLine f0 g0 h) ⟨f0, g0, true⟩ n L ⟨0, f0, g0⟩ t ctx) := by
  have hsJ : 0 ≤ cfg.safeguard ^ J := pow_nonneg hs0.le J
  intro k
  induction k with
  | zero =>
    -- `A ≤ t`: accepted, or `T < t` opens the bracket phase with `R = t`
    intro n L t ctx hn hL h3 h4 h5 h7 hk hJ
    obtain ⟨n', rfl⟩ : ∃ n', n = n' + 1 := ⟨n - 1, by omega⟩
    have ht0 : 0 < t := h3.trans_lt h5
    rw [pow_zero, one_mul] at hk
    rw [lemarechal_quad_step cfg hh n' L _ h7 ht0, if_pos hk]
    by_cases hT : t ≤ 2 * (1 - cfg.c1) * tstar g0 h
    · rw [if_pos hT]; exact ⟨rfl, ht0⟩
    · rw [if_neg hT]
      exact lemarechal_quad_bracket cfg f0 g0 h hg hh hI hs0 hs1 hc1 hc20 heps1 J n' L (stepOf ctx t) _ _ (by omega) hL
        (onQuad_stepOf f0 g0 h ctx t h7) h3 h4 (not_le.1 hT) rfl rfl
        (lt_of_le_of_lt (mul_le_mul_of_nonneg_left ((sub_le_self t h3).trans (le_max_left _ _)) hsJ) hJ)
  | succ k ih =>
    intro n L t ctx hn hL h3 h4 h5 h7 hk hJ
    have ht0 : 0 < t := h3.trans_lt h5
    by_cases hA : (1 - cfg.c2) * tstar g0 h ≤ t
    · exact ih n L t ctx (by omega) hL h3 h4 h5 h7 (hA.trans (le_mul_of_one_le_left ht0.le (one_le_pow₀ htau.le))) hJ
    · -- `t < A`: Armijo holds, and the step is multiplied by `tau1`
      obtain ⟨n', rfl⟩ : ∃ n', n = n' + 1 := ⟨n - 1, by omega⟩
      have htA := not_le.1 hA
      have hT : t ≤ 2 * (1 - cfg.c1) * tstar g0 h :=
        htA.le.trans ((one_sub_mul_le hc20.le (tstar_pos hg hh).le).trans (tstar_le_armijo hg hh hc1))
      rw [lemarechal_quad_step cfg hh n' L _ h7 ht0, if_pos hT, if_neg hA,
        if_pos (show (⟨0, f0, g0⟩ : Step α).t < cfg.eps0 from heps0)]
      refine ih n' (stepOf ctx t) (cfg.tau1 * t) _ (by omega) (onQuad_stepOf f0 g0 h ctx t h7) ht0.le htA
        (lt_mul_of_one_lt_left ht0 htau) rfl (by rw [← mul_assoc, ← pow_succ]; exact hk) (lt_of_le_of_lt ?_ hJ)
      exact mul_le_mul_of_nonneg_left (max_le ((mul_le_mul_of_nonneg_left htA.le (zero_lt_one.trans htau).le).trans
        (le_max_right _ _)) (le_max_right _ _)) hsJ

end

end NanoVerif.LSearch
