import NanoVerif.Proofs.EllipsoidStep
/-!
  C03 — the n-D ellipsoid loop (`iterND` / `runND`): the initial ball contains every point within `R` of `x0`, the loop
  invariant (`InvN`: the minimiser is in the current ellipsoid, `H` symmetric, cached values are those of the centre, the best
  value is attained at `bx`), its preservation by a pass that goes on, and the certificate of a pass that stops with `converged`.
-/
set_option linter.unusedSectionVars false

namespace NanoVerif.Ellipsoid
open NanoVerif.Bundle
variable {α : Type} [Field α] [LinearOrder α] [IsStrictOrderedRing α]

/-! ### `initH` -/

/-- block form of `d I`: first row `(d, 0, …, 0)`, below it a zero column beside `d I` of one size less -/
theorem diag_succ (d : α) (n : Nat) :
    ((List.range (n + 1)).map fun i => (List.range (n + 1)).map fun j => if i = j then d else 0) =
      (d :: (List.range n).map fun _ => 0) ::
        ((List.range n).map fun i => (List.range n).map fun j => if i = j then d else 0).map (0 :: ·) := by
  simp [List.range_succ_eq_map, Function.comp_def]

theorem dot_mv_diag (d : α) : ∀ (n : Nat) (u v : List α), u.length = n → v.length = n →
    dot u (mv ((List.range n).map fun i => (List.range n).map fun j => if i = j then d else 0) v) = d * dot u v
  | 0, [], _, _, _ => by simp [dot_nil_left]
  | n + 1, a :: u, b :: v, hu, hv => by
    have ih := dot_mv_diag d n u v (Nat.succ.inj hu) (Nat.succ.inj hv)
    rw [diag_succ]
    simp only [mv, List.map_cons, List.map_map, Function.comp_def, dot, zero_mul, zero_add, List.map_const',
      List.length_range] at ih ⊢
    rw [ih, show dot (List.replicate n (0 : α)) v = 0 from dot_zeros n v]
    ring
  | 0, _ :: _, _, h, _ => nomatch h
  | n + 1, [], _, h, _ => nomatch h
  | n + 1, _ :: _, [], _, h => nomatch h

theorem dot_mv_initH (n : Nat) (R : α) (u v : List α) (hu : u.length = n) (hv : v.length = n) :
    dot u (mv (initH n R) v) = (if n = 1 then R else R * R) * dot u v :=
  dot_mv_diag _ n u v hu hv

theorem initH_wellH (n : Nat) (R : α) : WellH n (initH n R) := by
  refine ⟨by simp [initH], ?_, ?_⟩
  · intro r hr
    simp only [initH, List.mem_map] at hr
    obtain ⟨i, -, rfl⟩ := hr
    simp
  · intro u v hu hv
    rw [dot_mv_initH n R u v hu hv, dot_mv_initH n R v u hv hu, dot_comm u v]

set_option linter.unusedVariables false
/-- the initial ball (ellipsoid.cpp:36-37, `n ≥ 2`: `H = R² I`) contains every `z` with `‖z − x0‖₂ ≤ R` -/
theorem initH_contains (n : Nat) (hn : n ≠ 1) (R : α) (x0 z : List α) (hx : x0.length = n) (hz : z.length = n)
    (hR : dot (vsub z x0) (vsub z x0) ≤ R * R) : InE n x0 (initH n R) z := by
  intro w hw
  unfold quad
  rw [dot_mv_initH n R w w hw hw, if_neg hn]
  have h1 := dot_sq_le w (vsub z x0)
  have h2 := mul_le_mul_of_nonneg_left hR (dot_self_nonneg' w)
  linarith
set_option linter.unusedVariables true

/-! ### the loop -/

def InvN (n : Nat) (f : List α → α) (g' : List α → List α) (z : List α) (s : SN α) : Prop :=
  s.x.length = n ∧ WellH n s.H ∧ InE n s.x s.H z ∧ s.f = f s.x ∧ s.g = g' s.x ∧ s.best ≤ f s.x ∧ f z ≤ s.best ∧
    s.best = f s.bx ∧ s.bx.length = n

/-- what a run that stops with `converged` certifies: the value of the returned point `bx` is within `ε` of the minimum,
    or (early exit) its gap squared is below `epsM` -/
def CertN (f : List α → α) (z : List α) (eps epsM : α) (s : SN α) : Prop :=
  s.best = f s.bx ∧ (s.best - f z < eps ∨ (s.best - f z) * (s.best - f z) < epsM)

theorem doneE_none (a b c : Bool) (h : doneE a b c = none) : a = true ∧ b = false ∧ c = true := by
  cases a <;> cases b <;> cases c <;> simp [doneE] at h ⊢

theorem doneE_converged (a b c : Bool) (h : doneE a b c = some EStatus.converged) : b = true := by
  cases a <;> cases b <;> cases c <;> simp [doneE] at h ⊢

theorem betterF_le (fin : α → Bool) (best v : α) : betterF fin best v ≤ best := by
  unfold betterF
  split
  · exact (better_le best v).1
  · exact le_refl _

theorem betterF_le_of_fin (fin : α → Bool) (best v : α) (h : fin v = true) : betterF fin best v ≤ v := by
  rw [betterF, if_pos h]
  exact (better_le best v).2

theorem le_betterF (fin : α → Bool) (m best v : α) (h1 : m ≤ best) (h2 : m ≤ v) : m ≤ betterF fin best v := by
  unfold betterF better
  split_ifs <;> assumption

theorem betterF_bx (fin : α → Bool) (f : List α → α) (best : α) (xn bx : List α) (hbx : best = f bx) :
    betterF fin best (f xn) = f (if fin (f xn) && decide (0 < best - f xn) then xn else bx) := by
  unfold betterF better
  cases fin (f xn)
  · simpa using hbx
  · by_cases h : 0 < best - f xn
    · simp [h]
    · simp only [if_true, Bool.true_and, h, decide_false, if_false, Bool.false_eq_true]
      exact hbx

/-- the deep cut through the best value (ellipsoid.cpp:64): `α = (f(x) − best)/√(gᵀHg)` lies in `[0, 1]` when
    `best ≤ f(x) ≤ best + √(gᵀHg)`, and a `z` with `g·(z − x) ≤ best − f(x)` is on the kept side -/
theorem stepND_contains_cut [Sqrt α] (hsqrt : ∀ v : α, 0 ≤ v → 0 ≤ Sqrt.sqrt v ∧ Sqrt.sqrt v * Sqrt.sqrt v = v)
    (n : Nat) (hn : 2 ≤ n) (x g z : List α) (H : List (List α)) (fx best : α) (hx : x.length = n) (hg : g.length = n)
    (hz : z.length = n) (hH : WellH n H) (hpos : 0 < quad H g) (hin : InE n x H z) (hb : best ≤ fx)
    (hr : fx - best ≤ Sqrt.sqrt (quad H g)) (hcut : dot g (vsub z x) ≤ best - fx) :
    InE n (stepND n x g H fx best).1 (stepND n x g H fx best).2 z := by
  have hr0 := sqrt_pos_of_pos hsqrt hpos
  have hal : alphaCut fx best (dot g (mv H g)) * Sqrt.sqrt (quad H g) = fx - best := div_mul_cancel₀ _ hr0.ne'
  have hal0 : 0 ≤ alphaCut fx best (quad H g) := div_nonneg (sub_nonneg.2 hb) hr0.le
  exact stepND_contains hsqrt n hn x g z H _ hx hg hz hH hpos hin
    (le_trans neg_one_lt_zero.le (mul_nonneg (Nat.cast_nonneg n) hal0)) ((div_le_one hr0).2 hr)
    (by rw [neg_mul, hal, neg_sub]; exact hcut)

theorem iterND_spec [Sqrt α] (hsqrt : ∀ v : α, 0 ≤ v → 0 ≤ Sqrt.sqrt v ∧ Sqrt.sqrt v * Sqrt.sqrt v = v)
    (n : Nat) (hn : 2 ≤ n) (f : List α → α) (g' : List α → List α) (z : List α) (eps epsM : α)
    (fin : α → Bool) (valid : SN α → Bool)
    (hsub : ∀ x : List α, x.length = n → SubGrad n f x (g' x)) (hz : z.length = n)
    (hmin : ∀ w : List α, w.length = n → f z ≤ f w) (hepsM : 0 < epsM) (s : SN α) (hinv : InvN n f g' z s) :
    ((iterND n eps epsM fin valid (fun x => (f x, g' x)) s).1 = none →
        InvN n f g' z (iterND n eps epsM fin valid (fun x => (f x, g' x)) s).2) ∧
      ((iterND n eps epsM fin valid (fun x => (f x, g' x)) s).1 = some EStatus.converged →
        CertN f z eps epsM (iterND n eps epsM fin valid (fun x => (f x, g' x)) s).2) := by
  obtain ⟨hx, hH, hin, hf, hg, hb, hzb, hbx, hbxl⟩ := hinv
  have hsx : SubGrad n f s.x s.g := hg ▸ hsub s.x hx
  have hgap : f s.x - f z ≤ Sqrt.sqrt (quad s.H s.g) := by
    linarith only [hsx.2 z hz, neg_sqrt_le_of_sq_le hsqrt (hin s.g hsx.1)]
  unfold iterND
  simp only
  by_cases hc : quad s.H s.g < epsM
  · -- early exit: `0 ≤ best − f(z) ≤ f(x) − f(z) ≤ √(gᵀHg)`, squared
    rw [if_pos hc]
    refine ⟨fun h => by simp [doneE] at h, fun _ => ⟨hbx, Or.inr ?_⟩⟩
    have hrr := (hsqrt _ (le_trans (mul_self_nonneg _) (hin s.g hsx.1))).2
    calc (s.best - f z) * (s.best - f z)
        ≤ Sqrt.sqrt (quad s.H s.g) * Sqrt.sqrt (quad s.H s.g) :=
          mul_self_le_mul_self (sub_nonneg.2 hzb) (le_trans (sub_le_sub_right hb _) hgap)
      _ < epsM := hrr.trans_lt hc
  · rw [if_neg hc]
    have hcont := stepND_contains_cut hsqrt n hn s.x s.g z s.H s.f s.best hx hsx.1 hz hH
      (lt_of_lt_of_le hepsM (not_lt.mp hc)) hin (hf ▸ hb) (by rw [hf]; linarith only [hzb, hgap])
      (by rw [hf]; linarith only [hzb, hsx.2 z hz])
    have hxl : (stepND n s.x s.g s.H s.f s.best).1.length = n :=
      (stepX_length _ _ _ _ _ (by rw [hx, mv_length, hH.1])).trans hx
    constructor
    · intro hnone
      obtain ⟨hfin, -, -⟩ := doneE_none _ _ _ hnone
      refine ⟨hxl, stepH_wellH n _ _ s.H hH s.g hsx.1, hcont, rfl, rfl, betterF_le_of_fin fin _ _ hfin,
        le_betterF fin _ _ _ hzb (hmin _ hxl), betterF_bx fin f s.best _ s.bx hbx, ?_⟩
      show (if _ then _ else _ : List α).length = n
      split
      · exact hxl
      · exact hbxl
    · intro hconv
      have hlt : Sqrt.sqrt (quad s.H s.g) < eps := of_decide_eq_true (doneE_converged _ _ _ hconv)
      exact ⟨betterF_bx fin f s.best _ s.bx hbx, Or.inl (lt_of_le_of_lt
        (le_trans (sub_le_sub_right (le_trans (betterF_le fin s.best _) hb) _) hgap) hlt)⟩

theorem runND_spec [Sqrt α] (hsqrt : ∀ v : α, 0 ≤ v → 0 ≤ Sqrt.sqrt v ∧ Sqrt.sqrt v * Sqrt.sqrt v = v)
    (n : Nat) (hn : 2 ≤ n) (f : List α → α) (g' : List α → List α) (z : List α) (eps epsM : α)
    (fin : α → Bool) (valid : SN α → Bool)
    (hsub : ∀ x : List α, x.length = n → SubGrad n f x (g' x)) (hz : z.length = n)
    (hmin : ∀ w : List α, w.length = n → f z ≤ f w) (hepsM : 0 < epsM) :
    ∀ (fuel : Nat) (s s' : SN α), InvN n f g' z s →
      runND n eps epsM fin valid (fun x => (f x, g' x)) fuel s = (EStatus.converged, s') → CertN f z eps epsM s'
  | 0, s, s', _, h => by simp [runND] at h
  | k + 1, s, s', hinv, h => by
    obtain ⟨hgo, hstop⟩ := iterND_spec hsqrt n hn f g' z eps epsM fin valid hsub hz hmin hepsM s hinv
    unfold runND at h
    generalize hit : iterND n eps epsM fin valid (fun x => (f x, g' x)) s = r at h hgo hstop
    obtain ⟨o, s1⟩ := r
    cases o with
    | none =>
      simp only at h
      exact runND_spec hsqrt n hn f g' z eps epsM fin valid hsub hz hmin hepsM k s1 s' (hgo rfl) h
    | some st =>
      simp only [Prod.mk.injEq] at h
      obtain ⟨h1, h2⟩ := h
      subst h1 h2
      exact hstop rfl

end NanoVerif.Ellipsoid
