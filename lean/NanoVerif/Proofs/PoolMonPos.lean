import NanoVerif.Model.PoolMon
import NanoVerif.Proofs.PoolSeq
/-!
  C17 — the position the monitors compute from the range an operator call received (`Call.position`) is the
  position of that range in the list of ranges the model says the call makes (`Call.ranges`). Core Lean only.
-/
namespace NanoVerif.Pool

theorem position_iff_ranges (cl : Call) (a b k : Nat) : cl.position a b = some k ↔ cl.ranges[k]? = some (a, b) := by
  cases cl with
  | enq r =>
    simp only [Call.position, Call.ranges]
    constructor
    · intro h
      split at h
      · rename_i hc; cases h; obtain ⟨h1, h2⟩ := hc; subst h1; subst h2; rfl
      · cases h
    · intro h
      cases k with
      | zero => simp at h; obtain ⟨h1, h2⟩ := h; subst h1; subst h2; simp
      | succ k => simp at h
  | map n c r =>
    cases c with
    | zero =>
      simp only [Call.position, Call.ranges]
      rw [elemRanges_get]
      constructor
      · intro h
        split at h
        · rename_i hc; cases h; obtain ⟨h1, h2⟩ := hc; subst h2; simp [h1]
        · cases h
      · intro h
        by_cases hk : k < n
        · rw [if_pos hk] at h; cases h; simp [hk]
        · rw [if_neg hk] at h; cases h
    | succ c =>
      simp only [Call.position, Call.ranges]
      rw [chunks_get' n (c + 1) k (Nat.succ_pos c)]
      constructor
      · intro h
        split at h
        · rename_i hc
          cases h
          obtain ⟨h1, h2, h3⟩ := hc
          have hm : a / (c + 1) * (c + 1) = a := Nat.div_mul_cancel (Nat.dvd_of_mod_eq_zero h2)
          rw [hm, if_pos h1, h3]
        · cases h
      · intro h
        by_cases hk : k * (c + 1) < n
        · rw [if_pos hk] at h
          cases h
          have h2 : k * (c + 1) % (c + 1) = 0 := Nat.mul_mod_left k (c + 1)
          have h3 : k * (c + 1) / (c + 1) = k := Nat.mul_div_cancel k (Nat.succ_pos c)
          rw [if_pos ⟨hk, h2, rfl⟩, h3]
        · rw [if_neg hk] at h; cases h

/-- number of operator calls of a call = number of its ranges (`chunksize ≥ 1` is the `assert` of `map`) -/
theorem nops_eq_ranges_length (cl : Call) : cl.nops = cl.ranges.length := by
  cases cl with
  | enq r => rfl
  | map n c r =>
    cases c with
    | zero => simp [Call.nops, Call.ranges, elemRanges]
    | succ c => simp only [Call.nops, Call.ranges]; exact (chunks_length n (c + 1) (Nat.succ_pos c)).symm

/-! ### the monitors on hand-written raw traces (kernel-checked): what they accept and what they reject -/

private def r (tid kind a b : Nat) : Raw := { tid, kind, a, b }

/-- `map(2, op)` on a pool of two workers: the caller (thread 0) pushes two tasks under the lock and notifies -/
private def pushT : List Raw :=
  [r 0 21 0 1, r 0 15 2 0, r 0 16 0 0, r 0 0 0 0, r 0 1 0 0, r 0 3 1 0, r 0 3 1 0, r 0 2 0 0, r 0 5 0 0, r 0 17 0 0]

/-- worker `w` in thread `tid` pops a task and runs the operator on `[i, i+1)` -/
private def workT (tid w i : Nat) : List Raw :=
  [r tid 0 0 w, r tid 1 0 w, r tid 6 1 w, r tid 7 0 w, r tid 2 0 w, r tid 9 0 w, r tid 22 0 w, r tid 23 i (i + 1), r tid 24 0 0,
   r tid 10 0 w]

private def callsT : Array Call := #[.map 2 0 true]

/-- accepted: both indices invoked once, each in the worker thread of its tnum, then `map` returns -/
example : (monitor 2 callsT (pushT ++ workT 10 0 0 ++ workT 11 1 1 ++ [r 0 18 0 0, r 0 25 0 0])).failure.isNone = true := by
  decide +kernel

/-- rejected at the offending event: the CALLER runs a task of the parallel path (with tnum 0) -/
example : ((monitor 2 callsT (pushT ++ [r 0 22 0 0])).failure.map (·.1)) = some 10 := by decide +kernel

/-- rejected: a worker index used by two threads (thread ↔ worker index is not a bijection) -/
example : ((monitor 2 callsT (pushT ++ workT 10 0 0 ++ workT 11 0 1)).failure.map (·.1)) = some 22 := by decide +kernel

/-- rejected: one thread acts as two workers -/
example : ((monitor 2 callsT (pushT ++ workT 10 0 0 ++ workT 10 1 1)).failure.map (·.1)) = some 22 := by decide +kernel

/-- rejected: two operator calls inside one task (indices grouped per task) -/
example : ((monitor 2 callsT (pushT ++ (workT 10 0 0).take 9 ++ [r 10 22 0 0])).failure.map (·.1)) = some 19 := by
  decide +kernel

/-- rejected: `map` is left (here: by an exception, code 1) although index 1 was never invoked -/
example : ((monitor 2 callsT (pushT ++ workT 10 0 0 ++ [r 0 25 0 1])).failure.map (·.1)) = some 20 := by decide +kernel

/-- rejected: an index invoked twice -/
example : ((monitor 2 callsT (pushT ++ workT 10 0 0 ++ workT 11 1 0)).failure.map (·.1)) = some 27 := by decide +kernel

/-- rejected: `stop_set` outside a critical section (the destructor writes `m_stop` without the mutex) -/
example : ((monitor 1 #[] [r 10 0 0 0, r 10 1 0 0, r 10 6 0 0, r 0 26 0 0, r 0 12 0 0]).failure.map (·.1)) = some 4 := by
  decide +kernel

/-- accepted: the destructor as coded -/
example : (monitor 1 #[] [r 10 0 0 0, r 10 1 0 0, r 10 6 0 0, r 0 26 0 0, r 0 0 0 0, r 0 1 0 0, r 0 12 0 0, r 0 2 0 0, r 0 5 0 0,
    r 0 13 0 0, r 10 6 1 0, r 10 8 0 0, r 10 5 0 0, r 10 2 0 0, r 10 11 0 0, r 0 14 0 0]).failure.isNone = true := by
  decide +kernel

/-- rejected: the exiting worker clears the queue after unlocking -/
example : ((monitor 1 #[] [r 10 0 0 0, r 10 1 0 0, r 10 6 0 0, r 0 26 0 0, r 0 0 0 0, r 0 1 0 0, r 0 12 0 0, r 0 2 0 0, r 0 5 0 0,
    r 0 13 0 0, r 10 6 1 0, r 10 2 0 0, r 10 8 0 0]).failure.map (·.1)) = some 12 := by
  decide +kernel

/-- rejected: a push while another thread holds the mutex -/
example : ((monitor 1 #[.enq true] [r 10 0 0 0, r 10 1 0 0, r 0 20 0 0, r 0 3 1 0]).failure.map (·.1)) = some 3 := by
  decide +kernel

end NanoVerif.Pool
