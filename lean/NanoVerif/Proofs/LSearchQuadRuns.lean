import NanoVerif.Proofs.LSearchQuad
/-!
  C07 — helper lemmas: the preamble of `lsearchk_t::get` when the first answer is valid and on line functions that are always
  valid, how far its tripling loop can go on a convex quadratic, and backtracking on a line function whose Armijo steps are an
  interval `(0, T]` (termination with an explicit iteration count).
-/
namespace NanoVerif.LSearch
open NanoVerif.Gen.LsPredicates


variable {α : Type} [Field α] [LinearOrder α] [IsStrictOrderedRing α]

/-! ### the preamble of `get` on an always-valid line function -/

omit [LinearOrder α] [IsStrictOrderedRing α] in
theorem shrink_of_valid (φ : Oracle α) (n : Nat) (t : α) (ctx : Ctx α) (hok : (ask φ ctx t).cur.ok = true) :
    shrink φ (n + 1) t ctx = (t, ask φ ctx t) := by
  rw [shrink, if_pos hok]

theorem grow_valid_len (ψ : α → Eval α) (hok : ∀ t, (ψ t).ok = true) (eps1 f0 : α) :
    ∀ (n : Nat) (t : α) (ctx : Ctx α), 0 < t → ctx.cur = ψ t →
      ∃ t' ctx', grow (fun _ => ψ) eps1 f0 n t ctx = .inr (t', ctx') ∧ ctx'.cur = ψ t' ∧ t ≤ t' ∧
        (t' = t ∨ ∃ t'', t ≤ t'' ∧ t' = t'' * 3 ∧ absv ((ψ t'').f - f0) < eps1) ∧
        ctx'.trace.length ≤ ctx.trace.length + n ∧ (¬ absv ((ψ t).f - f0) < eps1 → t' = t ∧ ctx' = ctx) := by
  intro n
  induction n with
  | zero => intro t ctx ht hc; exact ⟨t, ctx, rfl, hc, le_refl _, Or.inl rfl, le_refl _, fun _ => ⟨rfl, rfl⟩⟩
  | succ n ih =>
    intro t ctx ht hc
    by_cases hlt : absv (ctx.cur.f - f0) < eps1
    · have hok' : (ask (fun _ => ψ) ctx (t * 3)).cur.ok = true := hok _
      have h3 : t ≤ t * 3 := le_mul_of_one_le_right ht.le (by norm_num)
      obtain ⟨t', ctx', e1, e2, e3, e4, e5, _⟩ := ih (t * 3) (ask (fun _ => ψ) ctx (t * 3)) (lt_of_lt_of_le ht h3) rfl
      have e5' : ctx'.trace.length ≤ ctx.trace.length + 1 + n := e5
      refine ⟨t', ctx', ?_, e2, le_trans h3 e3, Or.inr ?_, by omega, fun h => absurd (by rw [← hc]; exact hlt) h⟩
      · simp only [grow, hlt, hok', if_true]; exact e1
      · rcases e4 with e4 | ⟨t'', a1, a2, a3⟩
        · exact ⟨t, le_refl _, e4, by rw [← hc]; exact hlt⟩
        · exact ⟨t'', le_trans h3 a1, a2, a3⟩
    · exact ⟨t, ctx, by simp only [grow, hlt, if_false], hc, le_refl _, Or.inl rfl, by omega, fun _ => ⟨rfl, rfl⟩⟩

omit [IsStrictOrderedRing α] in
/-- along a descent direction, when the oracle's first answer (at the clamped initial step) is valid, `get` is the tripling loop
    from that answer followed by `do_get`: for every oracle -/
theorem get_of_first_valid (m : Method) (cfg : Cfg α) (φ : Oracle α) (s0 : Eval α) (t0 : α) (hg : s0.g < 0) (hM : 0 < cfg.maxIter)
    (hok : (φ 0 (initialStep cfg t0)).ok = true) :
    get m cfg φ s0 t0 =
      match grow φ cfg.eps1 s0.f cfg.maxIter (initialStep cfg t0) (ask φ ⟨s0, []⟩ (initialStep cfg t0)) with
      | .inl q => ⟨false, q.1, q.2⟩
      | .inr q => doGet m cfg φ s0 q.1 q.2 := by
  obtain ⟨n, hn⟩ : ∃ n, cfg.maxIter = n + 1 := ⟨cfg.maxIter - 1, by omega⟩
  have hd : hasDescent s0.g = true := (descent_iff _).2 hg
  have hok' : (ask φ ⟨s0, []⟩ (initialStep cfg t0)).cur.ok = true := hok
  simp only [get, hd, if_true]
  rw [hn, shrink_of_valid φ n _ _ hok', ← hn]
  simp only [hok', if_true]
  rfl

section
variable (ψ : α → Eval α) (hok : ∀ t, (ψ t).ok = true) (m : Method) (cfg : Cfg α) (s0 : Eval α) (t0 : α)
  (hg : s0.g < 0) (hM : 0 < cfg.maxIter)
include hok hg hM

omit [IsStrictOrderedRing α] in
theorem get_line_nogrow (hng : ¬ absv ((ψ (initialStep cfg t0)).f - s0.f) < cfg.eps1) :
    get m cfg (fun _ => ψ) s0 t0 =
      doGet m cfg (fun _ => ψ) s0 (initialStep cfg t0) ⟨ψ (initialStep cfg t0), [initialStep cfg t0]⟩ := by
  obtain ⟨n, hn⟩ : ∃ n, cfg.maxIter = n + 1 := ⟨cfg.maxIter - 1, by omega⟩
  have hng' : ¬ absv ((ask (fun _ => ψ) ⟨s0, []⟩ (initialStep cfg t0)).cur.f - s0.f) < cfg.eps1 := hng
  rw [get_of_first_valid m cfg _ s0 t0 hg hM (hok _), hn]
  simp only [grow, hng', if_false]
  rfl

theorem get_line_eq_doGet_len (he : 0 < cfg.macheps) :
    ∃ t ctx, get m cfg (fun _ => ψ) s0 t0 = doGet m cfg (fun _ => ψ) s0 t ctx ∧ ctx.cur = ψ t ∧ initialStep cfg t0 ≤ t ∧
      (t = initialStep cfg t0 ∨ ∃ t'', initialStep cfg t0 ≤ t'' ∧ t = t'' * 3 ∧ absv ((ψ t'').f - s0.f) < cfg.eps1) ∧
      ctx.trace.length ≤ cfg.maxIter + 1 ∧
      (¬ absv ((ψ (initialStep cfg t0)).f - s0.f) < cfg.eps1 → ctx.trace.length = 1) := by
  obtain ⟨t', ctx', e1, e2, e3, e4, e5, e6⟩ := grow_valid_len ψ hok cfg.eps1 s0.f cfg.maxIter (initialStep cfg t0)
    (ask (fun _ => ψ) ⟨s0, []⟩ (initialStep cfg t0)) (initialStep_pos cfg t0 he) rfl
  have e5' : ctx'.trace.length ≤ 1 + cfg.maxIter := e5
  refine ⟨t', ctx', ?_, e2, e3, e4, by omega, fun h => by rw [(e6 h).2]; rfl⟩
  rw [get_of_first_valid m cfg _ s0 t0 hg hM (hok _), e1]

end

/-! ### quadratics: how far the second loop of `get` can push the step -/

theorem quad_small_change_lt {f0 g0 h eps1 B t : α} (hg : g0 < 0) (hh : 0 < h) (hB : 4 * tstar g0 h ≤ B)
    (hB2 : eps1 ≤ h * B * B / 4) (ht : absv ((quadLine f0 g0 h t).f - f0) < eps1) : t < B := by
  by_contra hc
  have hBt := not_lt.1 hc
  have hB0 : 0 < B := (mul_pos four_pos (tstar_pos hg hh)).trans_le hB
  -- beyond `B` the change `h/2 · t (t - 2t*)` is at least `h/2 · B · B/2`
  have e := quad_change (f0 := f0) (g0 := g0) hh t
  have h2 : B / 2 ≤ t - 2 * tstar g0 h := by linarith only [hB, hBt]
  have h3 := mul_le_mul (mul_le_mul_of_nonneg_left hBt (half_pos hh).le) h2 (half_pos hB0).le
    (mul_pos (half_pos hh) (hB0.trans_le hBt)).le
  rw [absv_eq_abs] at ht
  linarith only [h3, e, hB2, (le_abs_self _).trans_lt ht]

/-! ### backtracking on an always-valid line function whose Armijo steps are `(0, T]` (a convex quadratic: `T = 2 (1 - c1) t*`):
  success within `k + 1` iterations when `(1 - safeguard)^k · t ≤ T`, whatever the interpolation function -/

section
variable (cfg : Cfg α) (ψ : α → Eval α) (s0 : Eval α) (T : α) (hok : ∀ t, (ψ t).ok = true)
  (hA : ∀ t, 0 < t → (hasArmijo s0.f s0.g (ψ t).f t cfg.c1 = true ↔ t ≤ T))
include hok hA

theorem backtrack_line_step (n : Nat) {t : α} {ctx : Ctx α} (hc : ctx.cur = ψ t) (ht : 0 < t) :
    backtrack cfg (fun _ => ψ) s0 (n + 1) t ctx =
      if t ≤ T then ⟨true, t, ctx⟩
      else backtrack cfg (fun _ => ψ) s0 n
        (clamp (cfg.interp ⟨0, s0.f, s0.g⟩ (stepOf ctx t)) (cfg.safeguard * t) (t - cfg.safeguard * t))
        (ask (fun _ => ψ) ctx
          (clamp (cfg.interp ⟨0, s0.f, s0.g⟩ (stepOf ctx t)) (cfg.safeguard * t) (t - cfg.safeguard * t))) := by
  have hok' : ∀ x, (ask (fun _ => ψ) ctx x).cur.ok = true := fun x => hok x
  rw [backtrack]
  simp only [hc, hok, hok', hA t ht, cmin_eq_min, cmax_eq_max, min_eq_left ht.le, max_eq_right ht.le, sub_zero, zero_add, if_true]

theorem backtrack_line_run (hs0 : 0 < cfg.safeguard) (hs1 : cfg.safeguard ≤ 1 / 2) :
    ∀ (k n : Nat) (t : α) (ctx : Ctx α), k < n → 0 < t → ctx.cur = ψ t → (1 - cfg.safeguard) ^ k * t ≤ T →
      (backtrack cfg (fun _ => ψ) s0 n t ctx).ok = true ∧ 0 < (backtrack cfg (fun _ => ψ) s0 n t ctx).t := by
  intro k
  induction k with
  | zero =>
    intro n t ctx hn ht hc hk
    obtain ⟨n', rfl⟩ : ∃ n', n = n' + 1 := ⟨n - 1, by omega⟩
    rw [pow_zero, one_mul] at hk
    rw [backtrack_line_step cfg ψ s0 T hok hA n' hc ht, if_pos hk]
    exact ⟨rfl, ht⟩
  | succ k ih =>
    intro n t ctx hn ht hc hk
    obtain ⟨n', rfl⟩ : ∃ n', n = n' + 1 := ⟨n - 1, by omega⟩
    rw [backtrack_line_step cfg ψ s0 T hok hA n' hc ht]
    by_cases hT : t ≤ T
    · rw [if_pos hT]; exact ⟨rfl, ht⟩
    · -- the next trial lies in `[s t, (1 - s) t]`
      rw [if_neg hT]
      have e : t - cfg.safeguard * t = (1 - cfg.safeguard) * t := by rw [sub_mul, one_mul]
      obtain ⟨c1, c2⟩ := clamp_mem (v := cfg.interp ⟨0, s0.f, s0.g⟩ (stepOf ctx t))
        (show cfg.safeguard * t ≤ t - cfg.safeguard * t by linarith only [mul_le_mul_of_nonneg_right hs1 ht.le])
      exact ih n' _ (ask (fun _ => ψ) ctx _) (by omega) ((mul_pos hs0 ht).trans_le c1) rfl
        ((mul_le_mul_of_nonneg_left (c2.trans_eq e) (pow_nonneg (by linarith only [hs1]) k)).trans
          (by rw [← mul_assoc, ← pow_succ]; exact hk))

end

end NanoVerif.LSearch
