import NanoVerif.Model.PenaltySolver
import NanoVerif.Gen.PenaltyKernels
import NanoVerif.Gen.AugLagStep
import NanoVerif.Gen.DoneLogic
/-!
  C05 — the hand-written model IS the text regenerated from the C++ source (DESIGN.md §2.3.a).

  `Gen/PenaltyKernels.lean` and `Gen/AugLagStep.lean` are re-translated by `tools/props/c05_translate.py` from
  `src/function/penalty.cpp`, `src/solver/augmented.cpp`, `src/solver/penalty.cpp`, `src/solver.cpp` on every check. Each theorem
  below states, for EVERY scalar type with the core classes of the model (so for `Float` in `driver_c05` and for the ordered fields of
  Props/C05.lean alike), that a definition of `Model/Penalty.lean` / `Model/PenaltySolver.lean` equals the one built from the generated
  kernels. An edit of a translated C++ formula changes the generated text and breaks the corresponding theorem.
  No Mathlib; no hypotheses (the theorems are equations of programs), the `example`s at the end instantiate them at `Float` and `Int`.
-/
namespace NanoVerif.Penalty
open NanoVerif.Constraint
open NanoVerif.Gen
set_option linter.unusedSectionVars false

section kernels
variable {α : Type} [Add α] [Sub α] [Mul α] [Div α] [Neg α] [LT α] [LE α] [DecidableLT α] [DecidableLE α]
  [OfNat α 0] [OfNat α 1] [OfNat α 2]

/-- `penalty_vgrad` (penalty.cpp): a constraint contributes `op(fc, gc)` exactly under the generated guard `eq || fc > 0.0` -/
theorem model_penaltyVgrad_is_generated (op : α → List α → List α → α × List α) (fx : α) (gx : List α) (e : Eval α)
    (es : List (Eval α)) :
    penaltyVgrad op fx gx (e :: es) =
      if PenaltyKernels.penaltyActive e.isEq e.fc then penaltyVgrad op (fx + (op e.fc e.gc gx).1) (op e.fc e.gc gx).2 es
      else penaltyVgrad op fx gx es := rfl

/-- the lambda of `linear_penalty_function_t::do_vgrad`: value and gradient factor are the generated formulas -/
theorem model_linearOp_is_generated (c fc : α) (gc gx : List α) :
    linearOp c fc gc gx = (PenaltyKernels.linearValue c fc, axpy (PenaltyKernels.linearFactor c fc) gc gx) := rfl

/-- the lambda of `quadratic_penalty_function_t::do_vgrad`: value and gradient factor are the generated formulas -/
theorem model_quadraticOp_is_generated (c fc : α) (gc gx : List α) :
    quadraticOp c fc gc gx = (PenaltyKernels.quadraticValue c fc, axpy (PenaltyKernels.quadraticFactor c fc) gc gx) := rfl

/-- `augmented_lagrangian_function_t::do_vgrad`, an equality: it consumes the next `lambda`, the generated guard holds (`eq || …`) and
    the generated value / gradient factor are added -/
theorem model_alVgrad_eq_is_generated (ro l : α) (lambda miu : List α) (fx fc : α) (gx gc : List α) (es : List (Eval α)) :
    PenaltyKernels.alActive true ro fc l = true ∧
    alVgrad ro (l :: lambda) miu fx gx (⟨true, fc, gc⟩ :: es) =
      alVgrad ro lambda miu (fx + PenaltyKernels.alValue ro fc l) (axpy (PenaltyKernels.alFactor ro fc l) gc gx) es :=
  ⟨rfl, rfl⟩

/-- `augmented_lagrangian_function_t::do_vgrad`, an inequality: it consumes the next `miu` and contributes the generated value /
    gradient factor exactly under the generated guard `eq || fc + mu / ro > 0.0` -/
theorem model_alVgrad_ineq_is_generated (ro m : α) (lambda miu : List α) (fx fc : α) (gx gc : List α) (es : List (Eval α)) :
    alVgrad ro lambda (m :: miu) fx gx (⟨false, fc, gc⟩ :: es) =
      if PenaltyKernels.alActive false ro fc m then
        alVgrad ro lambda miu (fx + PenaltyKernels.alValue ro fc m) (axpy (PenaltyKernels.alFactor ro fc m) gc gx) es
      else alVgrad ro lambda miu fx gx es := by
  -- the generated guard is `decide (0 < fc + m / ro)`, the model's branch is on the proposition itself
  cases lambda <;> by_cases h : (0 : α) < fc + m / ro <;>
    simp [alVgrad, PenaltyKernels.alActive, PenaltyKernels.alValue, PenaltyKernels.alFactor, half, h]

/-- `solver_t::more_precise` + the growth rule and the two decisions of `solver_penalty_t::minimize` (solver/penalty.cpp): one outer
    iteration of the model is the generated `!iter_ok` branch, the generated `converged`, `solver_t::done`'s generated branch condition
    (Gen/DoneLogic.lean), the generated penalty growth and epsilon schedule -/
theorem model_penStep_is_generated (cs : List (C α)) (p : PParams α) (s : PState α) (a : PAnswer α) :
    penStep cs p s a =
      (let xconv := xConverged s.best.x a.cx p.eps
       let call : PCall α := ⟨s.penalty, s.innerEps, s.best.x, a.cx, a.iterOk, a.bvalid, xconv⟩
       let conv := AugLagStep.penConverged a.iterOk xconv
       if AugLagStep.penFailed a.iterOk then
         ({ s with penalty := AugLagStep.penaltyOnFail s.penalty p.eta, iters := s.iters + 1, calls := s.calls ++ [call] }, false)
       else if DoneLogic.doneCond a.iterOk conv a.bvalid then
         ({ s with best := mkState cs a.cx, iters := s.iters + 1, status := if conv then 1 else 2, calls := s.calls ++ [call] }, true)
       else
         ({ best := mkState cs a.cx, penalty := AugLagStep.penaltyNext s.penalty p.eta,
            innerEps := AugLagStep.morePrecise s.innerEps p.epsK, iters := s.iters + 1, status := s.status,
            calls := s.calls ++ [call] }, false)) := by
  cases a with
  | mk cx ok bv => cases ok <;> rfl

end kernels

section step
variable {α : Type} [Add α] [Sub α] [Mul α] [Div α] [Neg α] [LT α] [LE α] [DecidableLT α] [DecidableLE α] [∀ n, OfNat α n]

/-- `make_ro1` (augmented.cpp): the model with the literal `1e-6` of the source is the generated scalar formula applied to the two dot
    products, `G` being the generated element-wise image of the inequalities -/
theorem model_makeRo1_is_generated (fx : α) (s : St α) (roMin roMax : α) :
    makeRo1 fx s (1 / 1000000) roMin roMax =
      AugLagStep.makeRo1 fx (dot s.ceq s.ceq) (dot (s.cineq.map AugLagStep.ro1Elem) (s.cineq.map AugLagStep.ro1Elem)) roMin roMax := rfl

/-- `make_criterion` (augmented.cpp): `max` of the two infinity norms over the generated element maps -/
theorem model_criterion_is_generated (c : St α) (miu : List α) (ro : α) :
    criterion c miu ro =
      AugLagStep.criterionOf (maxL (c.ceq.map (fun h => absv (AugLagStep.criterionEqElem h))))
        (maxL (List.zipWith (fun g m => absv (AugLagStep.criterionIneqElem g m ro)) c.cineq miu)) := rfl

/-- the variables before the loop of `solver_augmented_lagrangian_t::do_minimize`: the generated initial multipliers -/
theorem model_alInit_is_generated (cs : List (C α)) (x0 : List α) (ro1 : α) :
    alInit cs x0 ro1 =
      (let b := mkState cs x0
       let miu := b.cineq.map (fun _ => (AugLagStep.miuInit : α))
       let lambda := b.ceq.map (fun _ => (AugLagStep.lambdaInit : α))
       { best := b, bmeq := lambda, bmineq := miu, ro := ro1, lambda := lambda, miu := miu, oldCrit := criterion b miu ro1, iters := 0,
         status := 0 }) := rfl

/-- `nano::converged(bstate, cstate, epsilon)` (state.cpp) — the step test of all three solvers — is the scalar form regenerated into
    Gen/DoneLogic.lean (`dx < epsilon * std::max(1.0, |bstate.x|_inf)`) applied to the two infinity norms -/
theorem model_xConverged_is_generated (bx cx : List α) (eps : α) :
    xConverged bx cx eps = DoneLogic.convergedDx (maxL ((vsub cx bx).map absv)) eps (maxL (bx.map absv)) := rfl

/-- `converged` of the augmented-Lagrangian loop is the generated conjunction -/
theorem model_alConverged_is_generated (p : Params α) (s : ALState α) (a : Answer α) :
    alConverged p s a =
      AugLagStep.alConverged a.iterOk (criterion a.cstate s.miu s.ro) p.eps (xConverged s.best.x a.cstate.x p.eps) := rfl

/-- the guard of the best-state update is the generated one -/
theorem model_alImproved_is_generated (s : ALState α) (a : Answer α) :
    alImproved s a = AugLagStep.alImproved a.iterOk (criterion a.cstate s.miu s.ro) s.oldCrit := rfl

/-- the loop stops exactly under `solver_t::done`'s generated branch condition on the generated `converged` -/
theorem model_alStep_stop_is_generated (cs : List (C α)) (p : Params α) (s : ALState α) (a : Answer α) :
    (alStep cs p s a).2 = DoneLogic.doneCond a.iterOk (alConverged p s a) a.bvalid := by
  have hd : DoneLogic.doneCond a.iterOk (alConverged p s a) a.bvalid = (alConverged p s a || !(a.iterOk && a.bvalid)) := rfl
  rw [hd]
  unfold alStep
  dsimp only
  by_cases hc : (alConverged p s a || !(a.iterOk && a.bvalid)) = true
  · rw [if_pos hc, hc]
  · rw [if_neg hc]
    exact (Bool.eq_false_iff.mpr hc).symm

/-- when the loop goes on, `ro`, `old_criterion`, `lambda`, `miu` are updated by the generated rules (the multipliers with the `ro` of
    BEFORE its update, element by element) -/
theorem model_alStep_updates_are_generated (cs : List (C α)) (p : Params α) (s : ALState α) (a : Answer α)
    (h : (alStep cs p s a).2 = false) :
    (alStep cs p s a).1.ro = AugLagStep.roNext s.iters (criterion a.cstate s.miu s.ro) p.tau s.oldCrit p.gamma s.ro ∧
    (alStep cs p s a).1.oldCrit = AugLagStep.oldCritNext (criterion a.cstate s.miu s.ro) ∧
    (alStep cs p s a).1.lambda =
      List.zipWith (fun l hj => AugLagStep.lambdaNext l s.ro hj p.lambdaMin p.lambdaMax) s.lambda a.cstate.ceq ∧
    (alStep cs p s a).1.miu = List.zipWith (fun m g => AugLagStep.miuNext m s.ro g p.miuMax) s.miu a.cstate.cineq := by
  have hro : (if 0 < s.iters ∧ p.tau * s.oldCrit < criterion a.cstate s.miu s.ro then p.gamma * s.ro else s.ro) =
      AugLagStep.roNext s.iters (criterion a.cstate s.miu s.ro) p.tau s.oldCrit p.gamma s.ro := by
    simp [AugLagStep.roNext]
  unfold alStep at h ⊢
  dsimp only at h ⊢
  by_cases hc : (alConverged p s a || !(a.iterOk && a.bvalid)) = true
  · rw [if_pos hc] at h
    exact absurd (show true = false from h) (by decide)
  · rw [if_neg hc]
    exact ⟨hro, rfl, rfl, rfl⟩

end step

/-! ### the theorems have no hypotheses; they apply to the scalar types the model is run and proved at -/

example : linearOp (2 : Float) (-3) [1] [0] = (PenaltyKernels.linearValue 2 (-3), axpy (PenaltyKernels.linearFactor 2 (-3)) [1] [0]) :=
  model_linearOp_is_generated _ _ _ _
example (s : St Int) : True := by have := model_makeRo1_is_generated (3 : Int) s 1 10; trivial
example (s : ALState Float) (a : Answer Float) : True := by have := model_alImproved_is_generated s a; trivial

end NanoVerif.Penalty
