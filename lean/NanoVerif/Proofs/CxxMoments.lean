import NanoVerif.Proofs.CxxSum
import Mathlib.Algebra.BigOperators.Ring.List
import Mathlib.Tactic.Ring
/-!
  The one-pass variance (`Σ x`, `Σ x²` and the count accumulated in one loop): the second-moment identity behind it, with the
  library's `List.sum_map_mul_left/right` for its users.
-/
namespace NanoVerif.Cxx

/-- `Σ (x − c)² = Σ x² − 2 c Σ x + n c²`: why the sums `Σ x`, `Σ x²` and the count are all a one-pass variance needs -/
theorem sum_sq_dev {R : Type} [CommRing R] (l : List R) (c : R) :
    (l.map fun x => (x - c) * (x - c)).sum = (l.map fun x => x * x).sum - 2 * c * l.sum + l.length * (c * c) := by
  induction l with
  | nil => simp
  | cons x xs ih =>
    simp only [List.map_cons, List.sum_cons, List.length_cons, ih]
    push_cast
    ring

end NanoVerif.Cxx
