import NanoVerif.Model.PoolSection
import NanoVerif.Proofs.PoolAll
/-!
  C17 — `m_stop` written without the mutex: the state a pool of one worker reaches by `lostWakeupTrace` violates `J` and is
  quiescent (the lost wake-up). Core Lean only.
-/
namespace NanoVerif.Pool

/-- the worker evaluates its predicate (false), the destructor sets the flag without the mutex and notifies (nobody is
    waiting yet), the worker blocks -/
def lostWakeupTrace : List EvF := [.predFalse 0, .stopNoLock 1, .atom (.cNotify 1 none), .block 0]

def lostState : St :=
  { nw := 1, queue := [], stop := true, ts := fun _ => .fresh, wpc := upd (fun _ => .ready) 0 .sleeping,
    cpc := upd (upd (fun _ => .idle) 1 .stopSet) 1 .joining,
    exec := fun _ => 0, threw := fun _ => false, sexec := fun _ _ => 0, sthrew := fun _ _ => false }

theorem lost_not_J : ¬ J lostState := by
  intro hj
  rcases hj (Or.inr rfl) with ⟨w, hw, ha⟩ | ⟨c, hc⟩ | h
  · have : w = 0 := by simp [lostState] at hw; exact hw
    subst this
    simp [lostState, upd, active] at ha
  · by_cases h1 : c = 1
    · subst h1; simp [lostState, upd, owesNotify] at hc
    · simp [lostState, upd, h1, owesNotify] at hc
  · have := h 0 (by simp [lostState])
    simp [lostState, upd] at this

theorem lost_cpc (c : Nat) : lostState.cpc c = .joining ∨ lostState.cpc c = .idle := by
  by_cases h : c = 1 <;> simp [lostState, upd, h]

theorem lost_wpc (w : Nat) (hw : w < lostState.nw) : lostState.wpc w = .sleeping := by
  have : w = 0 := by simp [lostState] at hw; exact hw
  subst this; simp [lostState, upd]

theorem lost_quiescent : Quiescent lostState := by
  intro e h1 h2
  cases hst : step lostState e with
  | none => rfl
  | some s' =>
    exfalso
    cases e with
    | wTake w => obtain ⟨hw, hp, _⟩ := step_wTake hst; rw [lost_wpc w hw] at hp; cases hp
    | wSleep w => obtain ⟨hw, hp, _⟩ := step_wSleep hst; rw [lost_wpc w hw] at hp; cases hp
    | wExit w => obtain ⟨hw, hp, _⟩ := step_wExit hst; rw [lost_wpc w hw] at hp; cases hp
    | wRunEnd w b => obtain ⟨hw, t, hp, _⟩ := step_wRunEnd hst; rw [lost_wpc w hw] at hp; cases hp
    | wWake w => cases h1
    | cPush c ts all => cases h2
    | cNotify c w =>
      rcases step_cNotify hst with ⟨ts, hp, _⟩ | ⟨ts, v, hp, _⟩ | ⟨ts, hp, _⟩ | ⟨hp, _⟩ <;>
        rcases lost_cpc c with h | h <;> rw [h] at hp <;> cases hp
    | cReturn c => obtain ⟨ts, hp, _⟩ := step_cReturn hst; rcases lost_cpc c with h | h <;> rw [h] at hp <;> cases hp
    | dStop c => cases h2
    | dJoined c =>
      obtain ⟨_, hall, _⟩ := step_dJoined hst
      have := hall 0 (by simp [lostState])
      rw [lost_wpc 0 (by simp [lostState])] at this; cases this
    | sStart c n => cases h2
    | sOpBegin c => obtain ⟨n, i, err, hp, _⟩ := step_sOpBegin hst; rcases lost_cpc c with h | h <;> rw [h] at hp <;> cases hp
    | sOpEnd c b => obtain ⟨n, i, err, hp, _⟩ := step_sOpEnd hst; rcases lost_cpc c with h | h <;> rw [h] at hp <;> cases hp
    | sReturn c => obtain ⟨n, err, hp, _⟩ := step_sReturn hst; rcases lost_cpc c with h | h <;> rw [h] at hp <;> cases hp

end NanoVerif.Pool
