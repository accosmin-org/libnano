import NanoVerif.Proofs.LSearchQuadMT
import NanoVerif.Proofs.LSearchQuadMTDc
/-!
  C07 — Moré–Thuente on a convex quadratic `φ(t) = f0 + g0 t + h t²/2` (`g0 < 0 < h`, minimiser `T = t* = -g0/h`) from ANY first trial
  step, in exact arithmetic: the `dcstep` case analysis instantiated where cubic, quadratic and secant interpolants all return `T`.

  While no bracket exists the loop state is `Unbr m s t`: stage 1, `stx = s < t = stp`, the data at `stx` lie on the quadratic,
  `stmax ≥ t + 4 (t - s)` (morethuente.cpp:175 for the first iteration, :260 afterwards).
    * `t < (1 - c2) T` (undershoot; neither convergence nor give-up): `dcstep` case 3 — the next step is
      `clamp(max(stmin, min(stmax, T)))`, at least `min(t + 4 (t - s), T)`: the distance `stp - stx` grows by a factor `≥ 4`
      (`mt_extrapolate`); it may OVERSHOOT `T` (when `T < stmin = t + 1.1 (t - s)`) but never exceeds `stpmax()`;
    * `(1 - c2) T ≤ t`, acceptable: the convergence test holds;
    * `T < t`, not acceptable: ONE `dcstep` brackets `{s, t}` — case 1 (value increased), case 2 (slopes of opposite sign, stage 2) or
      case 1 on the modified function `φ(t) - c1 φ'(0) t` (stage 1, Armijo fails, value not increased); since `s < T < t` (and
      `s < (1 - c1) T < t` for the modified function) all three are `dcstep_quad_bracket`. The next step is `clamp(mtTrial)`, `mtTrial = T`,
      or `(1 - c1) T` for the modified function (`Unbr.mtNext_bracket`); both are acceptable (`mt_bracket`).
  Hence success after at most `k + 1` evaluations of `do_get` when `4^k · t1 ≥ (1 - c2) T` (`mt_quad_run`).
  From the state `do_get` starts in (`s = 0`) and with the clamp idle, the same lemma gives the result of the loop as an equation
  (`morethuente_init_bracket`: `{true, mtTrial}`, where `mtTrial` is `(1 - c1) T` for `2 (1 - c1) T < t ≤ 2T` and `T` for the other
  `t > T`: `2T < t`, the value increased, and `(1 + c2) T < t ≤ 2 (1 - c1) T`, stage 2).
-/
namespace NanoVerif.LSearch
open NanoVerif.Gen.LsPredicates


variable {α : Type} [Field α] [LinearOrder α] [IsStrictOrderedRing α]

theorem div_absv_of_neg {x : α} (hx : x < 0) : x / absv x = -1 := by
  rw [absv_eq_abs, abs_of_neg hx, div_neg, div_self (ne_of_lt hx)]

/-! ### the quadratic: values and slopes relative to the minimiser -/

/-- the data of the modified function `φ(t) - c φ'(0) t` lie on the quadratic with slope `(1 - c) g0` at the origin (whose minimiser
    is `(1 - c) t*`, `tstar_scale`) -/
theorem onQuad_modified {f0 g0 h : α} (c : α) {t f g : α} (hu : OnQuad f0 g0 h ⟨t, f, g⟩) :
    OnQuad f0 ((1 - c) * g0) h ⟨t, f - t * (c * g0), g - c * g0⟩ := by
  have e1 : f = f0 + g0 * t + h * t * t / 2 := hu.1
  have e2 : g = g0 + h * t := hu.2
  constructor
  · show f - t * (c * g0) = f0 + (1 - c) * g0 * t + h * t * t / 2
    rw [e1]; ring
  · show g - c * g0 = (1 - c) * g0 + h * t
    rw [e2]; ring

/-! ### `dcstep` on quadratic data: all interpolants return the minimiser `T` -/

theorem dcstep_quad_bracket (cfg : Cfg α) {f0 g0 h : α} (hh : 0 < h) (d : DC α) (fp dp lo hi : α)
    (hX : OnQuad f0 g0 h ⟨d.stx, d.fx, d.dx⟩) (hP : OnQuad f0 g0 h ⟨d.stp, fp, dp⟩)
    (hcub : cfg.cubic ⟨d.stx, d.fx, d.dx⟩ ⟨d.stp, fp, dp⟩ = tstar g0 h)
    (hs : d.stx < tstar g0 h) (hv : tstar g0 h < d.stp) :
    Bracketing (dcstep cfg d fp dp lo hi) d.stx d.stp (tstar g0 h) := by
  have hne : (⟨d.stx, d.fx, d.dx⟩ : Step α).t ≠ (⟨d.stp, fp, dp⟩ : Step α).t := ne_of_lt (lt_trans hs hv)
  by_cases hf : fp > d.fx
  · rw [dcstep_case1 cfg d fp dp lo hi _ hf hcub (quadratic_exact hh _ _ hX hP hne)]
    exact ⟨rfl, rfl, Or.inl ⟨rfl, rfl⟩⟩
  · have hdx : d.dx < 0 := by rw [onQuad_slope hh hX]; exact mul_neg_of_pos_of_neg hh (sub_neg.mpr hs)
    have hdp : 0 < dp := by rw [onQuad_slope hh hP]; exact mul_pos hh (sub_pos.mpr hv)
    have hsgn : dp * (d.dx / absv d.dx) < 0 := by rw [div_absv_of_neg hdx, mul_neg_one]; exact neg_neg_of_pos hdp
    rw [dcstep_case2 cfg d fp dp lo hi _ hf hsgn hcub (secant_exact hh _ _ hX hP hne)]
    exact ⟨rfl, rfl, Or.inr ⟨rfl, rfl⟩⟩

theorem dcstep_quad_extrapolate (cfg : Cfg α) {f0 g0 h : α} (hh : 0 < h) (d : DC α) (fp dp lo hi : α)
    (hX : OnQuad f0 g0 h ⟨d.stx, d.fx, d.dx⟩) (hP : OnQuad f0 g0 h ⟨d.stp, fp, dp⟩)
    (hcub : cfg.cubic ⟨d.stx, d.fx, d.dx⟩ ⟨d.stp, fp, dp⟩ = tstar g0 h) (hfin : cfg.fin (tstar g0 h) = true)
    (hb : d.brackt = false) (hst : d.stx < d.stp) (ht : d.stp < tstar g0 h) :
    dcstep cfg d fp dp lo hi =
      { d with stx := d.stp, fx := fp, dx := dp, stp := max lo (min hi (tstar g0 h)), brackt := false } := by
  have hne : (⟨d.stx, d.fx, d.dx⟩ : Step α).t ≠ (⟨d.stp, fp, dp⟩ : Step α).t := ne_of_lt hst
  have eX : d.fx = (quadLine f0 g0 h d.stx).f := hX.1
  have eP : fp = (quadLine f0 g0 h d.stp).f := hP.1
  have hdx : d.dx < 0 := by rw [onQuad_slope hh hX]; exact mul_neg_of_pos_of_neg hh (sub_neg.mpr (lt_trans hst ht))
  have hdp : dp < 0 := by rw [onQuad_slope hh hP]; exact mul_neg_of_pos_of_neg hh (sub_neg.mpr ht)
  have h1 : ¬ fp > d.fx := by
    rw [eX, eP, gt_iff_lt, quad_lt_iff hh hst, not_lt, two_mul]; exact (add_lt_add (lt_trans hst ht) ht).le
  have h2 : ¬ dp * (d.dx / absv d.dx) < 0 := by
    rw [div_absv_of_neg hdx, mul_neg_one, not_lt]; exact neg_nonneg.mpr hdp.le
  have h3 : absv dp < absv d.dx := by
    rw [absv_eq_abs, absv_eq_abs, abs_of_neg hdp, abs_of_neg hdx, neg_lt_neg_iff, onQuad_slope hh hX, onQuad_slope hh hP]
    exact mul_lt_mul_of_pos_left (sub_lt_sub_right hst _) hh
  exact dcstep_case3_unbracketed cfg d fp dp lo hi _ h1 h2 h3 hb hcub (secant_exact hh _ _ hX hP hne) hfin
    (mul_pos (sub_pos.mpr hst) (sub_pos.mpr ht))

/-! ### the loop before a bracket exists -/

structure Unbr (cfg : Cfg α) (f0 g0 h : α) (m : MT α) (s t : α) : Prop where
  stage : m.stage1 = true
  br : m.dc.brackt = false
  stx : m.dc.stx = s
  fx : m.dc.fx = (quadLine f0 g0 h s).f
  dx : m.dc.dx = (quadLine f0 g0 h s).g
  stp : m.dc.stp = t
  s0 : 0 ≤ s
  st : s < t
  smax : t + 4 * (t - s) ≤ m.stmax
  w1 : m.width1 = 2 * (stpmax cfg.macheps - stpmin cfg.macheps)
  tmin : stpmin cfg.macheps ≤ t
  bis : t - s < 2 * (stpmax cfg.macheps - stpmin cfg.macheps) * (66 / 100)

/-- the state `do_get` starts from (morethuente.cpp:160-185) -/
theorem unbr_init (cfg : Cfg α) (f0 g0 h : α) {t : α} (ht0 : 0 < t) (hmin : stpmin cfg.macheps ≤ t)
    (hbis : t < 2 * (stpmax cfg.macheps - stpmin cfg.macheps) * (66 / 100)) :
    Unbr cfg f0 g0 h (morethuenteInit cfg ⟨f0, g0, true⟩ t) 0 t where
  stage := rfl
  br := rfl
  stx := rfl
  fx := by rw [quadLine_zero]; rfl
  dx := by rw [quadLine_zero]; rfl
  stp := rfl
  s0 := le_refl _
  st := ht0
  smax := by show t + 4 * (t - 0) ≤ t + t * 4; rw [sub_zero, mul_comm]
  w1 := rfl
  tmin := hmin
  bis := by rw [sub_zero]; exact hbis

section
variable {cfg : Cfg α} {f0 g0 h : α} {m : MT α} {s t : α} {ctx : Ctx α} (U : Unbr cfg f0 g0 h m s t)
include U

omit [IsStrictOrderedRing α] in
/-- before a bracket exists only the tests against `stpmax()` and `stpmin()` can give up -/
theorem Unbr.giveUp_false (f g : α)
    (hmax : ¬ (stpmax cfg.macheps ≤ t ∧ f ≤ f0 + m.dc.stp * (cfg.c1 * g0) ∧ g ≤ cfg.c1 * g0))
    (hmin : ¬ (t ≤ stpmin cfg.macheps ∧ (f0 + m.dc.stp * (cfg.c1 * g0) < f ∨ cfg.c1 * g0 ≤ g))) :
    mtGiveUp cfg ⟨f0, g0, true⟩ m f g = false := by
  rw [Bool.eq_false_iff]; intro hx
  rcases mtGiveUp_cases cfg _ _ _ _ hx with (⟨h1, _⟩ | ⟨h1, _⟩) | h3 | h4
  · rw [U.br] at h1; cases h1
  · rw [U.br] at h1; cases h1
  · exact hmax ⟨by rw [← U.stp]; exact h3.1, h3.2⟩
  · exact hmin ⟨by rw [← U.stp]; exact h4.1, h4.2⟩

omit [IsStrictOrderedRing α] in
theorem Unbr.pos : 0 < t := lt_of_le_of_lt U.s0 U.st

variable (hc : ctx.cur = quadLine f0 g0 h t)
include hc

omit [IsStrictOrderedRing α] hc in
theorem Unbr.onQuad_stx : OnQuad f0 g0 h ⟨m.dc.stx, m.dc.fx, m.dc.dx⟩ := by
  rw [U.stx, U.fx, U.dx]; exact ⟨rfl, rfl⟩

omit [IsStrictOrderedRing α] in
theorem Unbr.onQuad_stp : OnQuad f0 g0 h ⟨m.dc.stp, ctx.cur.f, ctx.cur.g⟩ := by
  rw [U.stp, hc]; exact ⟨rfl, rfl⟩

theorem Unbr.converged_iff (hg : g0 < 0) (hh : 0 < h) :
    mtConverged cfg ⟨f0, g0, true⟩ m ctx.cur.f ctx.cur.g = true ↔ MtAccept cfg g0 h t := by
  have := mtConverged_quad cfg f0 hg hh m (by rw [U.stp]; exact U.pos)
  rwa [U.stp, ← hc] at this

theorem Unbr.ftest_iff (hh : 0 < h) :
    ctx.cur.f ≤ f0 + m.dc.stp * (cfg.c1 * g0) ↔ t ≤ 2 * (1 - cfg.c1) * tstar g0 h := by
  rw [← armijo_iff_ftest, hc, U.stp, armijo_quad_iff hh (U.pos)]

theorem Unbr.fx_iff (hh : 0 < h) : ctx.cur.f ≤ m.dc.fx ↔ t + s ≤ 2 * tstar g0 h := by
  rw [hc, U.fx, ← not_lt, quad_lt_iff hh U.st, not_lt, add_comm]

end

/-! ### acceptable steps -/

theorem mtAccept_of_mem {cfg : Cfg α} {g0 h p : α} (hT : 0 < tstar g0 h) (hc1 : cfg.c1 ≤ 1 / 2) (hc20 : 0 ≤ cfg.c2)
    (hp1 : (1 - cfg.c2) * tstar g0 h ≤ p) (hp2 : p ≤ tstar g0 h) : MtAccept cfg g0 h p := by
  have h2 := mul_nonneg hc20 hT.le
  exact ⟨le_trans hp2 (le_two_mul_one_sub_mul hc1 hT.le), abs_le.mpr ⟨by linarith only [hp1], by linarith only [h2, hp2]⟩⟩

/-! ### one bracketing iteration -/

/-- the step `dcstep` proposes at `v > T` from the other end `s`: while Armijo fails at `v` and the value has not increased the
    loop interpolates the modified function, whose minimiser is `(1 - c1) T`; else the function itself -/
def mtTrial (cfg : Cfg α) (g0 h s v : α) : α :=
  if v + s ≤ 2 * tstar g0 h ∧ 2 * (1 - cfg.c1) * tstar g0 h < v then (1 - cfg.c1) * tstar g0 h else tstar g0 h

theorem mtTrial_mem (cfg : Cfg α) {g0 h : α} (s v : α) (hc10 : 0 ≤ cfg.c1) (hT : 0 < tstar g0 h) :
    (1 - cfg.c1) * tstar g0 h ≤ mtTrial cfg g0 h s v ∧ mtTrial cfg g0 h s v ≤ tstar g0 h := by
  have hTT := one_sub_mul_le hc10 hT.le
  unfold mtTrial; split
  · exact ⟨le_refl _, hTT⟩
  · exact ⟨hTT, le_refl _⟩

section
variable {cfg : Cfg α} {f0 g0 h : α} {m : MT α} {s v : α} {ctx : Ctx α} (U : Unbr cfg f0 g0 h m s v)
  (hc : ctx.cur = quadLine f0 g0 h v) (hg : g0 < 0) (hh : 0 < h) (hc10 : 0 ≤ cfg.c1) (hv : tstar g0 h < v)
include U hc hg hh hc10 hv

theorem Unbr.no_exit_beyond (hna : ¬ MtAccept cfg g0 h v) (hmin : stpmin cfg.macheps < v) :
    mtConverged cfg ⟨f0, g0, true⟩ m ctx.cur.f ctx.cur.g = false ∧ mtGiveUp cfg ⟨f0, g0, true⟩ m ctx.cur.f ctx.cur.g = false := by
  have hgv : 0 < ctx.cur.g := by rw [hc, quad_slope hh]; exact mul_pos hh (sub_pos.mpr hv)
  have hgtest : cfg.c1 * g0 ≤ 0 := mul_nonpos_of_nonneg_of_nonpos hc10 hg.le
  constructor
  · rw [Bool.eq_false_iff, Ne, U.converged_iff hc hg hh]; exact hna
  · exact U.giveUp_false _ _ (fun h' => absurd (lt_of_lt_of_le hgv h'.2.2) (not_lt.mpr hgtest))
      (fun h' => absurd hmin (not_lt.mpr h'.1))

variable (hC : CubicExactAt cfg f0 g0 h)
  (hCm : v + s ≤ 2 * tstar g0 h → 2 * (1 - cfg.c1) * tstar g0 h < v → CubicExactAt cfg f0 ((1 - cfg.c1) * g0) h)
  (hs : s < (1 - cfg.c1) * tstar g0 h)
include hC hCm hs

/-- ONE `dcstep` brackets `{s, v}`: on the function itself (case 1 when the value increased, case 2 in stage 2), or on the modified
    function (case 1) when the loop still works on that; `st` is the stage flag after the switch -/
theorem Unbr.mtDcstep_bracket (st : Bool) (hst : 2 * (1 - cfg.c1) * tstar g0 h < v → st = true) :
    Bracketing (mtDcstep cfg ⟨f0, g0, true⟩ m ctx.cur.f ctx.cur.g st) s v (mtTrial cfg g0 h s v) := by
  have hT := tstar_pos hg hh
  have hTT := one_sub_mul_le hc10 hT.le
  have hX := U.onQuad_stx
  have hP := U.onQuad_stp hc
  have hne : m.dc.stx ≠ m.dc.stp := by rw [U.stx, U.stp]; exact ne_of_lt U.st
  have hmod : (st = true ∧ ctx.cur.f ≤ m.dc.fx ∧ ctx.cur.f > f0 + m.dc.stp * (cfg.c1 * g0)) ↔
      (v + s ≤ 2 * tstar g0 h ∧ 2 * (1 - cfg.c1) * tstar g0 h < v) := by
    rw [U.fx_iff hc hh, gt_iff_lt, ← not_le, U.ftest_iff hc hh, not_le]
    exact ⟨fun h' => h'.2, fun h' => ⟨hst h'.2, h'⟩⟩
  by_cases hm : v + s ≤ 2 * tstar g0 h ∧ 2 * (1 - cfg.c1) * tstar g0 h < v
  · obtain ⟨b1, b2, b3⟩ := dcstep_quad_bracket cfg hh
      { m.dc with fx := m.dc.fx - m.dc.stx * (cfg.c1 * g0), fy := m.dc.fy - m.dc.sty * (cfg.c1 * g0), dx := m.dc.dx - cfg.c1 * g0,
                  dy := m.dc.dy - cfg.c1 * g0 }
      (ctx.cur.f - m.dc.stp * (cfg.c1 * g0)) (ctx.cur.g - cfg.c1 * g0) m.stmin m.stmax (onQuad_modified cfg.c1 hX)
      (onQuad_modified cfg.c1 hP) (hCm hm.1 hm.2 _ _ (onQuad_modified cfg.c1 hX) (onQuad_modified cfg.c1 hP) hne)
      (by rw [tstar_scale]; show m.dc.stx < _; rw [U.stx]; exact hs)
      (by rw [tstar_scale]; show _ < m.dc.stp; rw [U.stp]; exact lt_of_le_of_lt hTT hv)
    simp only [mtDcstep, if_pos (hmod.mpr hm)]
    rw [mtTrial, if_pos hm, ← tstar_scale]
    exact ⟨b1, b2, by rw [← U.stx, ← U.stp]; exact b3⟩
  · have B := dcstep_quad_bracket cfg hh m.dc ctx.cur.f ctx.cur.g m.stmin m.stmax hX hP (hC _ _ hX hP hne)
      (by rw [U.stx]; exact lt_of_lt_of_le hs hTT) (by rw [U.stp]; exact hv)
    simp only [mtDcstep, if_neg (fun h' => hm (hmod.mp h'))]
    rw [mtTrial, if_neg hm, ← U.stx, ← U.stp]
    exact B

variable {q : α} (hq : clamp (mtTrial cfg g0 h s v) (stpmin cfg.macheps) (stpmax cfg.macheps) = q) (h1 : s < q) (h2 : q < v)
  (hw : cfg.eps0 * v < v - s)
include hq h1 h2 hw

theorem Unbr.mtNext_bracket : (mtNext cfg ⟨f0, g0, true⟩ m ctx.cur.f ctx.cur.g).dc.stp = q := by
  subst hq
  show (mtBounds cfg m _ (mtDcstep cfg ⟨f0, g0, true⟩ m ctx.cur.f ctx.cur.g _)).dc.stp = _
  refine mtBounds_bracketing cfg m _ (U.mtDcstep_bracket hc hg hh hc10 hv hC hCm hs _ fun hA => ?_) U.st
    (by rw [U.w1]; exact U.bis) h1 h2 hw
  have hft : ¬ ctx.cur.f ≤ f0 + m.dc.stp * (cfg.c1 * g0) := by rw [U.ftest_iff hc hh]; exact not_le.mpr hA
  rw [if_neg fun h' => hft h'.2.1]; exact U.stage

theorem Unbr.bracket_two_steps (hna : ¬ MtAccept cfg g0 h v) (hmin : stpmin cfg.macheps < v) (hacc : MtAccept cfg g0 h q) (n : Nat) :
    morethuente cfg (fun _ => quadLine f0 g0 h) ⟨f0, g0, true⟩ (n + 2) m ctx =
      ⟨true, q, ask (fun _ => quadLine f0 g0 h) ctx q⟩ := by
  obtain ⟨hx0, hx0'⟩ := U.no_exit_beyond hc hg hh hc10 hv hna hmin
  have hstp := U.mtNext_bracket hc hg hh hc10 hv hC hCm hs hq h1 h2 hw
  have hq0 := lt_of_le_of_lt U.s0 h1
  rw [morethuente_two_steps cfg (quadLine f0 g0 h) (fun _ => rfl) _ n m ctx hx0 hx0'
    ((mtConverged_quad cfg f0 hg hh _ (by rw [hstp]; exact hq0)).mpr (by rw [hstp]; exact hacc)), hstp]

end

section
variable (cfg : Cfg α) (f0 g0 h : α) (hg : g0 < 0) (hh : 0 < h) (hC : CubicExact cfg h)
  (hfin : cfg.fin (tstar g0 h) = true)
  (hc10 : 0 ≤ cfg.c1) (hc1 : cfg.c1 ≤ 1 / 2) (hc12 : cfg.c1 ≤ cfg.c2) (hc21 : cfg.c2 < 1) (heps : cfg.eps0 ≤ cfg.c2)
  (hlo : stpmin cfg.macheps ≤ tstar g0 h) (hhi : tstar g0 h ≤ stpmax cfg.macheps)
include hg hh hC hfin hc10 hc1 hc12 hc21 heps hlo hhi

set_option linter.unusedSectionVars false
theorem mtConverged_quad_iff (m : MT α) (ht0 : 0 < m.dc.stp) :
    mtConverged cfg ⟨f0, g0, true⟩ m (quadLine f0 g0 h m.dc.stp).f (quadLine f0 g0 h m.dc.stp).g = true ↔
      MtAccept cfg g0 h m.dc.stp :=
  mtConverged_quad cfg f0 hg hh m ht0
set_option linter.unusedSectionVars true

set_option linter.unusedSectionVars false
/-- undershoot: no exit, and the next state is again un-bracketed with the distance `stp - stx` at least quadrupled (or `T` reached
    or passed) -/
theorem mt_extrapolate (m : MT α) (s t : α) (ctx : Ctx α) (U : Unbr cfg f0 g0 h m s t) (hc : ctx.cur = quadLine f0 g0 h t)
    (ht : t < (1 - cfg.c2) * tstar g0 h) :
    mtConverged cfg ⟨f0, g0, true⟩ m ctx.cur.f ctx.cur.g = false ∧ mtGiveUp cfg ⟨f0, g0, true⟩ m ctx.cur.f ctx.cur.g = false ∧
    ∃ t', Unbr cfg f0 g0 h (mtNext cfg ⟨f0, g0, true⟩ m ctx.cur.f ctx.cur.g) t t' ∧ min (t + 4 * (t - s)) (tstar g0 h) ≤ t' := by
  have hT := tstar_pos hg hh
  have ht0 := U.pos
  have htT : t < tstar g0 h := lt_of_lt_of_le ht (one_sub_mul_le (le_trans hc10 hc12) hT.le)
  have hlt : stpmin cfg.macheps < stpmax cfg.macheps := lt_of_le_of_lt U.tmin (lt_of_lt_of_le htT hhi)
  have hgtn : ctx.cur.g < 0 := by rw [hc, quad_slope hh]; exact mul_neg_of_pos_of_neg hh (sub_neg.mpr htT)
  have hftest : ctx.cur.f ≤ f0 + m.dc.stp * (cfg.c1 * g0) :=
    (U.ftest_iff hc hh).mpr (le_trans htT.le (le_two_mul_one_sub_mul hc1 hT.le))
  have hgtest : ctx.cur.g < cfg.c1 * g0 := by
    rw [hc, quad_slope_lt_iff hh]; exact lt_of_lt_of_le ht (one_sub_mul_anti hc12 hT.le)
  refine ⟨?_, ?_, ?_⟩
  · rw [Bool.eq_false_iff, Ne, U.converged_iff hc hg hh]
    exact fun hacc => by linarith only [ht, (abs_le.mp hacc.2).1]
  · exact U.giveUp_false _ _ (fun h' => absurd (lt_of_lt_of_le htT hhi) (not_lt.mpr h'.1))
      (fun h' => h'.2.elim (fun h2 => absurd hftest (not_le.mpr h2)) (fun h2 => absurd hgtest (not_lt.mpr h2)))
  -- `dcstep` on the function itself (Armijo holds), the stage unchanged (negative slope): case 3
  have hX := U.onQuad_stx
  have hP := U.onQuad_stp hc
  have hne : m.dc.stx ≠ m.dc.stp := by rw [U.stx, U.stp]; exact ne_of_lt U.st
  have hstage : ¬ (m.stage1 = true ∧ ctx.cur.f ≤ f0 + m.dc.stp * (cfg.c1 * g0) ∧ ctx.cur.g ≥ 0) :=
    fun h' => absurd hgtn (not_lt.mpr h'.2.2)
  have hmod : ¬ (m.stage1 = true ∧ ctx.cur.f ≤ m.dc.fx ∧ ctx.cur.f > f0 + m.dc.stp * (cfg.c1 * g0)) :=
    fun h' => absurd hftest (not_le.mpr h'.2.2)
  rw [mtNext_plain cfg _ m _ _ hstage hmod, dcstep_quad_extrapolate cfg hh m.dc _ _ _ _ hX hP (hC f0 g0 _ _ hX hP hne) hfin U.br
    (by rw [U.stx, U.stp]; exact U.st) (by rw [U.stp]; exact htT), mtBounds_unbracketed cfg m m.stage1 _ rfl]
  -- the new step: `X = max stmin (min stmax T)` lies beyond `t ≥ stpmin()`, so clamping can only lower it, and not below `min X T`
  generalize eX : max m.stmin (min m.stmax (tstar g0 h)) = X
  have hu1 : min (t + 4 * (t - s)) (tstar g0 h) ≤ X := by
    rw [← eX]; exact le_trans (min_le_min U.smax (le_refl _)) (le_max_right _ _)
  have hu0 : t < min (t + 4 * (t - s)) (tstar g0 h) := lt_min (lt_add_of_pos_right t (mul_pos four_pos (sub_pos.mpr U.st))) htT
  have hcl := clamp_mem (v := X) hlt.le
  have hcl2 : clamp X (stpmin cfg.macheps) (stpmax cfg.macheps) ≤ X :=
    Cxx.clamp_le_of_le (le_trans U.tmin (lt_of_lt_of_le hu0 hu1).le) (le_refl _)
  have hcl3 : min (t + 4 * (t - s)) (tstar g0 h) ≤ clamp X (stpmin cfg.macheps) (stpmax cfg.macheps) :=
    Cxx.le_clamp_of_le hu1 (le_trans (min_le_right _ _) hhi)
  refine ⟨_, ?_, hcl3⟩
  refine ⟨U.stage, rfl, U.stp, by show ctx.cur.f = _; rw [hc], by show ctx.cur.g = _; rw [hc], rfl, ht0.le,
    lt_of_lt_of_le hu0 hcl3, ?_, U.w1, hcl.1, ?_⟩
  · simp only [U.stp]; linarith only [hcl2]
  · linarith only [hcl.2, U.tmin, hlt]
set_option linter.unusedSectionVars true

set_option linter.unusedSectionVars false
/-- a first or later trial step beyond the minimiser that is not acceptable: no exit, ONE `dcstep` brackets and the next trial step
    lies in `[(1 - c1) T, T]` -/
theorem mt_bracket (m : MT α) (s v : α) (ctx : Ctx α) (U : Unbr cfg f0 g0 h m s v) (hc : ctx.cur = quadLine f0 g0 h v)
    (hs : s < (1 - cfg.c2) * tstar g0 h) (hv : tstar g0 h < v) (hna : ¬ MtAccept cfg g0 h v) :
    mtConverged cfg ⟨f0, g0, true⟩ m ctx.cur.f ctx.cur.g = false ∧ mtGiveUp cfg ⟨f0, g0, true⟩ m ctx.cur.f ctx.cur.g = false ∧
    ∃ p, (mtNext cfg ⟨f0, g0, true⟩ m ctx.cur.f ctx.cur.g).dc.stp = p ∧ (1 - cfg.c1) * tstar g0 h ≤ p ∧ p ≤ tstar g0 h := by
  have hT := tstar_pos hg hh
  have hs1 : s < (1 - cfg.c1) * tstar g0 h := lt_of_lt_of_le hs (one_sub_mul_anti hc12 hT.le)
  obtain ⟨hp1, hp2⟩ := mtTrial_mem cfg s v hc10 hT
  -- clamping keeps the proposed step in `[(1 - c1) T, T]`, strictly inside the bracket
  have hq1 := Cxx.le_clamp_of_le (lo := stpmin cfg.macheps) hp1 (le_trans hp1 (le_trans hp2 hhi))
  have hq2 := Cxx.clamp_le_of_le (hi := stpmax cfg.macheps) hlo hp2
  have hw : cfg.eps0 * v < v - s := by
    have h1 := mul_le_mul_of_nonneg_right heps (lt_trans hT hv).le
    have h2 := mul_lt_mul_of_pos_left hv (sub_pos.mpr hc21)
    linarith only [h1, h2, hs]
  obtain ⟨hx0, hx0'⟩ := U.no_exit_beyond hc hg hh hc10 hv hna (lt_of_le_of_lt hlo hv)
  exact ⟨hx0, hx0', _, U.mtNext_bracket hc hg hh hc10 hv (hC f0 g0) (fun _ _ => hC f0 _) hs1 rfl (lt_of_lt_of_le hs1 hq1)
    (lt_of_le_of_lt hq2 hv) hw, hq1, hq2⟩
set_option linter.unusedSectionVars true

def MtGood (cfg : Cfg α) (f0 g0 h : α) (ctx : Ctx α) (k : Nat) (r : Res α) : Prop :=
  r.ok = true ∧ r.ctx.cur = quadLine f0 g0 h r.t ∧ 0 < r.t ∧ MtAccept cfg g0 h r.t ∧ r.ctx.trace.length ≤ ctx.trace.length + (k + 1)

theorem mt_quad_run_here (n : Nat) (m : MT α) (s t : α) (ctx : Ctx α) (U : Unbr cfg f0 g0 h m s t)
    (hc : ctx.cur = quadLine f0 g0 h t) (hs : s < (1 - cfg.c2) * tstar g0 h) (hnu : (1 - cfg.c2) * tstar g0 h ≤ t) (hn : 2 ≤ n) :
    MtGood cfg f0 g0 h ctx 0 (morethuente cfg (fun _ => quadLine f0 g0 h) ⟨f0, g0, true⟩ n m ctx) := by
  have hT := tstar_pos hg hh
  have hc20 := le_trans hc10 hc12
  obtain ⟨n', rfl⟩ : ∃ n', n = n' + 2 := ⟨n - 2, by omega⟩
  by_cases hacc : MtAccept cfg g0 h t
  · rw [morethuente_exit_now cfg _ _ (n' + 1) m ctx ((U.converged_iff hc hg hh).mpr hacc), U.stp]
    exact ⟨rfl, hc, U.pos, hacc, Nat.le_add_right _ _⟩
  · have hv : tstar g0 h < t := lt_of_not_ge fun h' => hacc (mtAccept_of_mem hT hc1 hc20 hnu h')
    obtain ⟨hx0, hx0', p, hp0, hp1, hp2⟩ := mt_bracket cfg f0 g0 h hg hh hC hfin hc10 hc1 hc12 hc21 heps hlo hhi m s t ctx U hc hs hv hacc
    have hpp : 0 < p := lt_of_lt_of_le (mul_pos (sub_pos.mpr (lt_of_le_of_lt hc1 one_half_lt_one)) hT) hp1
    have hpa : MtAccept cfg g0 h p :=
      mtAccept_of_mem hT hc1 hc20 (le_trans (one_sub_mul_anti hc12 hT.le) hp1) hp2
    rw [morethuente_two_steps cfg (quadLine f0 g0 h) (fun _ => rfl) _ n' m ctx hx0 hx0'
      ((mtConverged_quad cfg f0 hg hh _ (by rw [hp0]; exact hpp)).mpr (by rw [hp0]; exact hpa)), hp0]
    exact ⟨rfl, rfl, hpp, hpa, le_refl _⟩

/-- Moré–Thuente's loop on the quadratic from any un-bracketed state whose distance `stp - stx` reaches `(1 - c2) T` after at most
    `k` quadruplings: success within `k + 2` iterations, i.e. at most `k + 1` further evaluations, at an acceptable step -/
theorem mt_quad_run : ∀ (k n : Nat) (m : MT α) (s t : α) (ctx : Ctx α), Unbr cfg f0 g0 h m s t → ctx.cur = quadLine f0 g0 h t →
    s < (1 - cfg.c2) * tstar g0 h → ((1 - cfg.c2) * tstar g0 h ≤ t ∨ (1 - cfg.c2) * tstar g0 h ≤ 4 ^ k * (t - s)) → k + 2 ≤ n →
    MtGood cfg f0 g0 h ctx k (morethuente cfg (fun _ => quadLine f0 g0 h) ⟨f0, g0, true⟩ n m ctx) := by
  intro k
  induction k with
  | zero =>
    intro n m s t ctx U hc hs hk hn
    have hnu : (1 - cfg.c2) * tstar g0 h ≤ t := hk.elim id fun hk => by
      rw [pow_zero, one_mul] at hk; exact le_trans hk (sub_le_self t U.s0)
    exact mt_quad_run_here cfg f0 g0 h hg hh hC hfin hc10 hc1 hc12 hc21 heps hlo hhi n m s t ctx U hc hs hnu (by omega)
  | succ k ih =>
    intro n m s t ctx U hc hs hk hn
    by_cases hu : t < (1 - cfg.c2) * tstar g0 h
    · obtain ⟨n', rfl⟩ : ∃ n', n = n' + 1 := ⟨n - 1, by omega⟩
      obtain ⟨hx0, hx0', t', U', hgrow⟩ := mt_extrapolate cfg f0 g0 h hg hh hC hfin hc10 hc1 hc12 hc21 heps hlo hhi m s t ctx U hc hu
      rw [morethuente_step cfg (quadLine f0 g0 h) (fun _ => rfl) _ n' m ctx hx0 hx0', U'.stp]
      have hk' : (1 - cfg.c2) * tstar g0 h ≤ 4 ^ (k + 1) * (t - s) := hk.resolve_left (not_le.mpr hu)
      -- either the new distance `t' - t ≥ 4 (t - s)` needs one quadrupling less, or `T` has been reached
      have hk'' : (1 - cfg.c2) * tstar g0 h ≤ t' ∨ (1 - cfg.c2) * tstar g0 h ≤ 4 ^ k * (t' - t) := by
        rcases le_total (t + 4 * (t - s)) (tstar g0 h) with h' | h'
        · right; rw [min_eq_left h'] at hgrow
          calc (1 - cfg.c2) * tstar g0 h ≤ 4 ^ (k + 1) * (t - s) := hk'
            _ = 4 ^ k * (4 * (t - s)) := by rw [pow_succ, mul_assoc]
            _ ≤ 4 ^ k * (t' - t) := mul_le_mul_of_nonneg_left (le_sub_iff_add_le'.mpr hgrow) (pow_nonneg zero_le_four k)
        · left; rw [min_eq_right h'] at hgrow
          exact le_trans (one_sub_mul_le (le_trans hc10 hc12) (tstar_pos hg hh).le) hgrow
      obtain ⟨r1, r2, r3, r4, r5⟩ := ih n' _ t t' (ask (fun _ => quadLine f0 g0 h) ctx t') U' rfl hu hk'' (by omega)
      exact ⟨r1, r2, r3, r4, le_trans r5 (by show ctx.trace.length + 1 + (k + 1) ≤ _; omega)⟩
    · obtain ⟨r1, r2, r3, r4, r5⟩ :=
        mt_quad_run_here cfg f0 g0 h hg hh hC hfin hc10 hc1 hc12 hc21 heps hlo hhi n m s t ctx U hc hs (not_lt.mp hu) (by omega)
      exact ⟨r1, r2, r3, r4, le_trans r5 (by omega)⟩

end

/-! ### the first iteration of `do_get` at a trial step beyond the minimiser -/

theorem morethuente_init_bracket (cfg : Cfg α) (f0 g0 h : α) (hg : g0 < 0) (hh : 0 < h)
    (hc10 : 0 ≤ cfg.c1) (hc1 : cfg.c1 ≤ 1 / 2) (heps : cfg.eps0 < 1) (n : Nat) (t : α) (ctx : Ctx α)
    (hc : ctx.cur = quadLine f0 g0 h t) (hv : tstar g0 h < t)
    (hC : CubicExactAt cfg f0 g0 h)
    (hCm : t + 0 ≤ 2 * tstar g0 h → 2 * (1 - cfg.c1) * tstar g0 h < t → CubicExactAt cfg f0 ((1 - cfg.c1) * g0) h)
    (hna : ¬ MtAccept cfg g0 h t) {p : α} (hp : mtTrial cfg g0 h 0 t = p) (hlo : stpmin cfg.macheps ≤ p)
    (hhi : p ≤ stpmax cfg.macheps) (hbis : t < 2 * (stpmax cfg.macheps - stpmin cfg.macheps) * (66 / 100))
    (hacc : MtAccept cfg g0 h p) :
    morethuente cfg (fun _ => quadLine f0 g0 h) ⟨f0, g0, true⟩ (n + 2) (morethuenteInit cfg ⟨f0, g0, true⟩ t) ctx =
      ⟨true, p, ask (fun _ => quadLine f0 g0 h) ctx p⟩ := by
  have hT := tstar_pos hg hh
  have ht0 := lt_trans hT hv
  have hm0 : 0 < (1 - cfg.c1) * tstar g0 h := mul_pos (sub_pos.mpr (lt_of_le_of_lt hc1 one_half_lt_one)) hT
  have hpm := mtTrial_mem cfg 0 t hc10 hT
  rw [hp] at hpm
  have hpt : p < t := lt_of_le_of_lt hpm.2 hv
  have hq : clamp (mtTrial cfg g0 h 0 t) (stpmin cfg.macheps) (stpmax cfg.macheps) = p := by rw [hp]; exact Cxx.clamp_of_mem hlo hhi
  exact (unbr_init cfg f0 g0 h ht0 (le_trans hlo hpt.le) hbis).bracket_two_steps hc hg hh hc10 hv hC hCm hm0 hq
    (lt_of_lt_of_le hm0 hpm.1) hpt (by rw [sub_zero]; exact mul_lt_of_lt_one_left ht0 heps) hna (lt_of_le_of_lt hlo hpt) hacc n

end NanoVerif.LSearch
