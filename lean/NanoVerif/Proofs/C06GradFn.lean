import NanoVerif.Proofs.C06Line
/-!
  C06 — the smooth benchmark functions along a line: the scalar polynomials, a scalar function of `u = x·x`, the
  inductions that carry a running sum or a carried gradient entry along (rotated-ellipsoid, dixon-price), trid's neighbour
  products as a sum over pairs, powell's groups of four coordinates. The theorems per function are in `Props/C06.lean`.
-/

namespace NanoVerif.C06
open NanoVerif.Loss NanoVerif.Fn

theorem mul_self_deriv (y : ℝ) : HasDerivAt (fun y : ℝ => y * y) (2 * y) y :=
  ((hasDerivAt_id' y).fun_mul (hasDerivAt_id' y)).congr_deriv (by rw [one_mul, mul_one, ← two_mul])

theorem quartic_deriv (y : ℝ) : HasDerivAt (fun y : ℝ => y * y * (y * y)) (4 * (y * y * y)) y :=
  ((mul_self_deriv y).fun_mul (mul_self_deriv y)).congr_deriv (by ring)

/-! ### radial functions: a scalar function of `u = x·x` -/

theorem radial_line_deriv {φ : ℝ → ℝ} {φ' : ℝ} (x d : List ℝ) (hd : d.length = x.length)
    (h : HasDerivAt φ φ' (dot x x)) :
    HasDerivAt (fun t : ℝ => φ (dot (line x d t) (line x d t))) (φ' * (2 * dot x d)) 0 :=
  comp_at (by rw [line_zero x d hd]) h (dot_self_line_deriv x d hd)

/-! ### rotated ellipsoid: `Σ_i (x_0 + … + x_i)²` -/

/-- the running sum `acc` moves along with the point: its derivative is the head of the reverse accumulation -/
theorem rot_line_deriv (x d : List ℝ) (acc dacc : ℝ) (hd : d.length = x.length) :
    HasDerivAt (fun t : ℝ => rotF (acc + t * dacc) (line x d t))
      ((rotG acc x).headD 0 * dacc + dot (rotG acc x) d) 0 := by
  induction x, d, hd using length_eq_induction generalizing acc dacc with
  | nil => exact (hasDerivAt_const _ _).congr_deriv (by simp only [rotG, dot, List.headD_nil]; ring)
  | cons x xs d ds hd ih =>
    have hs := (coord_deriv acc dacc).fun_add (coord_deriv x d)
    refine deriv_of_eq ((hs.fun_mul hs).fun_add (ih (acc + x) (dacc + d))) (fun t => ?_) ?_
    · rw [line_cons, rotF, show acc + x + t * (dacc + d) = acc + t * dacc + (x + t * d) by ring]
    · simp only [rotG, List.headD_cons, dot]; ring

/-! ### trid and dixon-price: chains of neighbours -/

theorem adjSum_eq_pairSum : ∀ x : List ℝ, adjSum x = -pairSum (fun a b => -(a * b)) x
  | [] => neg_zero.symm
  | [_] => neg_zero.symm
  | a :: b :: r => by rw [adjSum, pairSum, adjSum_eq_pairSum (b :: r)]; ring

theorem dixon_sum_deriv (xs ds : List ℝ) (i : Nat) (a da carry : ℝ) (hl : ds.length = xs.length) :
    HasDerivAt (fun t : ℝ => dixonSum i (line (a :: xs) (da :: ds) t))
      (dot (dixonGradAux i carry (a :: xs)) (da :: ds) - carry * da) 0 := by
  induction xs, ds, hl using length_eq_induction generalizing i a da carry with
  | nil =>
    simp only [line_cons, line_nil, dixonSum, dixonGradAux, dot]
    exact (hasDerivAt_const _ _).congr_deriv (by ring)
  | cons b xs db ds hl ih =>
    have B := coord_deriv b db
    have u := ((B.fun_mul B).const_mul 2).fun_sub (coord_deriv a da)
    have h := ((u.fun_mul u).const_mul (((i + 1 : Nat) : ℝ))).fun_add
      (ih (i + 1) b db (((i + 1 : Nat) : ℝ) * 2 * (2 * (b * b) - a) * 4 * b))
    simp only [line_cons, dixonSum, dixonGradAux, dot] at h ⊢
    refine h.congr_deriv ?_
    simp only [zero_mul, add_zero]
    ring

/-! ### powell (groups of four coordinates) -/

theorem powell_grad : ∀ (x d : List ℝ), d.length = x.length →
    HasDerivAt (fun t : ℝ => powellF (line x d t)) (dot (powellG x) d) 0
  | [], [], _ => hasDerivAt_const _ _
  | [_], [_], _ => hasDerivAt_const _ _
  | [_, _], [_, _], _ => hasDerivAt_const _ _
  | [_, _, _], [_, _, _], _ => hasDerivAt_const _ _
  | a :: b :: c :: e :: r, da :: db :: dc :: de :: dr, hl => by
    have A := coord_deriv a da
    have B := coord_deriv b db
    have C := coord_deriv c dc
    have E := coord_deriv e de
    have u0 := A.fun_add (B.mul_const ((10 : Nat) : ℝ))
    have u1 := C.fun_sub E
    have u2 := B.fun_sub (C.mul_const 2)
    have u3 := A.fun_sub E
    have h := ((((u0.fun_mul u0).fun_add ((u1.fun_mul u1).mul_const ((5 : Nat) : ℝ))).fun_add
      ((u2.fun_mul u2).fun_mul (u2.fun_mul u2))).fun_add
      (((u3.fun_mul u3).fun_mul (u3.fun_mul u3)).mul_const ((10 : Nat) : ℝ))).fun_add
      (powell_grad r dr (by simpa using hl))
    refine h.congr_deriv ?_
    simp only [powellG, dot, zero_mul, add_zero]
    -- the chain rule, with the four inner expressions as atoms
    generalize a + b * ((10 : Nat) : ℝ) = u0
    generalize c - e = u1
    generalize b - c * 2 = u2
    generalize a - e = u3
    ring
  | [], _ :: _, h | _ :: _, [], h | [_], _ :: _ :: _, h | _ :: _ :: _, [_], h | [_, _], _ :: _ :: _ :: _, h
  | _ :: _ :: _ :: _, [_, _], h | [_, _, _], _ :: _ :: _ :: _ :: _, h | _ :: _ :: _ :: _ :: _, [_, _, _], h =>
    nomatch h

end NanoVerif.C06
