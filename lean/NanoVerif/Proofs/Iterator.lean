import NanoVerif.Model.Iterator
import NanoVerif.Proofs.ObjectiveSkeleton
/-!
  C09 — lemmas about the iterator model `Model/Iterator.lean` (core Lean only, every scalar type):
  * slices along the chain of ranges of `map(n, batch)` (`Tiles`, `chunks_tiles` in `Proofs/ObjectiveSkeleton.lean`);
  * the statistics computed batch by batch are the per-column C14 statistics, whatever the batch (`makeStats_eq_defStats`);
  * the uncached path of one range is the slice of the scaled matrix (`computeRows_eq`), the cache fillers produce the whole
    scaled matrix (`fillCache_eq`), a loop hands out the slices of the chain (`loopWith_eq`).
-/
set_option linter.unusedSectionVars false

namespace NanoVerif.Iterator
open NanoVerif.Scaling NanoVerif.Objective

/-! ### slices -/

theorem sliceOf_append {β : Type} (xs : List β) (a b c : Nat) (h1 : a ≤ b) (h2 : b ≤ c) :
    sliceOf xs a b ++ sliceOf xs b c = sliceOf xs a c := by
  unfold sliceOf
  obtain ⟨k, rfl⟩ := Nat.exists_eq_add_of_le h1
  obtain ⟨m, rfl⟩ := Nat.exists_eq_add_of_le h2
  rw [Nat.add_sub_cancel_left, Nat.add_sub_cancel_left, Nat.add_assoc, Nat.add_sub_cancel_left, List.take_add,
    List.drop_drop]

theorem sliceOf_self {β : Type} (xs : List β) (a : Nat) : sliceOf xs a a = [] := by simp [sliceOf]

theorem sliceOf_nil {β : Type} (b e : Nat) : sliceOf ([] : List β) b e = [] := by simp [sliceOf]

theorem sliceOf_full {β : Type} (xs : List β) : sliceOf xs 0 xs.length = xs := by simp [sliceOf]

theorem sliceOf_all {β : Type} {xs : List β} {n : Nat} (h : xs.length = n) : sliceOf xs 0 n = xs := h ▸ sliceOf_full xs

theorem sliceOf_map {β γ : Type} (f : β → γ) (xs : List β) (a b : Nat) : sliceOf (xs.map f) a b = (sliceOf xs a b).map f := by
  simp [sliceOf, List.map_take, List.map_drop]

theorem length_sliceOf {β : Type} (xs : List β) (a b : Nat) (h : b ≤ xs.length) : (sliceOf xs a b).length = b - a := by
  rw [sliceOf, List.length_take, List.length_drop, Nat.min_eq_left (Nat.sub_le_sub_right h a)]

theorem sliceOf_getD {β : Type} (X : List β) (d : β) (b e i : Nat) (h1 : b ≤ i) (h2 : i < e) :
    (sliceOf X b e).getD (i - b) d = X.getD i d := by
  rw [sliceOf, List.getD_eq_getElem?_getD, List.getD_eq_getElem?_getD,
    List.getElem?_take_of_lt (Nat.sub_lt_sub_right h1 h2), List.getElem?_drop, Nat.add_sub_cancel' h1]

theorem mem_sliceOf {β : Type} (xs : List β) (a b : Nat) (x : β) (h : x ∈ sliceOf xs a b) : x ∈ xs :=
  List.mem_of_mem_drop (List.mem_of_mem_take h)

/-! ### the chain of ranges -/

theorem tiles_flatten {β : Type} (xs : List β) : ∀ (cs : List (Nat × Nat)) (b n : Nat), Tiles b n cs →
    (cs.map fun c => sliceOf xs c.1 c.2).flatten = sliceOf xs b n :=
  fun cs b _ => tiles_concat (sliceOf xs) (sliceOf_self xs) (sliceOf_append xs) cs b

theorem tiles_le : ∀ (cs : List (Nat × Nat)) (b n : Nat), Tiles b n cs → b ≤ n :=
  fun cs b n => Tiles.induction (P := fun b _ => b ≤ n) (Nat.le_refl n) (fun _ _ _ h1 h2 _ _ => Nat.le_trans h1 h2) cs b

section
variable {α : Type} [Add α] [Sub α] [Mul α] [Div α] [Neg α] [LT α] [DecidableLT α]
  [OfNat α 0] [OfNat α 1] [NatCast α]

/-! ### statistics: batching does not matter, every column sees its cells in sample order -/

theorem updateRows_append (accs : List (Acc α)) (r1 r2 : List (List (Option α))) :
    updateRows accs (r1 ++ r2) = updateRows (updateRows accs r1) r2 := by
  simp [updateRows, List.foldl_append]

/-- the batches of `make_*_stats` are one pass over the rows of all the samples -/
theorem statsAcc_eq (hi lo : α) (k : Nat) (rowOf : Nat → List (Option α)) (samples : List Nat) (sbatch : Nat)
    (hsb : 0 < sbatch) :
    statsAcc hi lo k rowOf samples sbatch = updateRows (List.replicate k (Acc.init hi lo)) (samples.map rowOf) := by
  conv => rhs; rw [← sliceOf_full samples, ← tiles_flatten samples _ 0 _ (chunks_tiles samples.length sbatch hsb),
    List.map_flatten, List.map_map]
  unfold statsAcc updateRows
  rw [List.foldl_flatten, List.foldl_map]
  rfl

theorem length_pushRow (accs : List (Acc α)) (row : List (Option α)) (h : row.length = accs.length) :
    (pushRow accs row).length = accs.length := by
  simp [pushRow, h]

theorem pushRow_getElem? (accs : List (Acc α)) (row : List (Option α)) (h : row.length = accs.length) (c : Nat) :
    (pushRow accs row)[c]? = accs[c]?.map fun a => a.push (row.getD c none) := by
  unfold pushRow
  rw [List.getElem?_zipWith, List.getD_eq_getElem?_getD]
  by_cases hc : c < accs.length
  · rw [List.getElem?_eq_getElem hc, List.getElem?_eq_getElem (h ▸ hc)]
    rfl
  · rw [List.getElem?_eq_none (Nat.le_of_not_lt hc)]
    rfl

theorem updateRows_getElem? : ∀ (rows : List (List (Option α))) (accs : List (Acc α)) (c : Nat),
    (∀ r ∈ rows, r.length = accs.length) →
    (updateRows accs rows)[c]? = accs[c]?.map fun a => (rows.map fun r => r.getD c none).foldl Acc.push a := by
  intro rows
  induction rows with
  | nil =>
    intro accs c _
    show accs[c]? = _
    cases accs[c]? <;> rfl
  | cons r rows ih =>
    intro accs c h
    have hr : r.length = accs.length := h r (List.mem_cons_self ..)
    show (updateRows (pushRow accs r) rows)[c]? = _
    rw [ih (pushRow accs r) c (fun r' hr' => by
      rw [length_pushRow accs r hr]; exact h r' (List.mem_cons_of_mem _ hr')), pushRow_getElem? accs r hr c]
    cases accs[c]? <;> rfl

/-- **the statistics computed by `make_*_stats` in batches of any size `≥ 1` are the C14 statistics of the columns** -/
theorem makeStats_eq_defStats [Sqrt α] (hi lo eps : α) (en : List Bool) (rowOf : Nat → List (Option α))
    (samples : List Nat) (sbatch : Nat) (hsb : 0 < sbatch) (hrows : ∀ s ∈ samples, (rowOf s).length = en.length) :
    makeStats hi lo eps en rowOf samples sbatch = defStats hi lo eps en rowOf samples := by
  unfold makeStats defStats
  rw [statsAcc_eq hi lo en.length rowOf samples sbatch hsb]
  apply List.ext_getElem?
  intro c
  rw [List.getElem?_zipWith, updateRows_getElem? _ _ c (by
    intro r hr
    simp only [List.mem_map] at hr
    obtain ⟨s, hs, rfl⟩ := hr
    simp [hrows s hs])]
  by_cases hc : c < en.length
  · simp only [List.getElem?_eq_getElem hc, List.getElem?_replicate, hc, columnStats, accumulate, columnOf,
      List.getD_eq_getElem?_getD, if_true, Option.map_some, List.getElem?_map, List.getElem?_range hc, List.map_map]
    rfl
  · have h1 : en[c]? = none := List.getElem?_eq_none (by omega)
    have h2 : (List.range en.length)[c]? = none := List.getElem?_eq_none (by simp; omega)
    simp [h1, h2]

theorem length_defStats [Sqrt α] (hi lo eps : α) (en : List Bool) (rowOf : Nat → List (Option α)) (samples : List Nat) :
    (defStats hi lo eps en rowOf samples).length = en.length := by
  simp [defStats]

/-! ### one range on the uncached path -/

theorem mapM_scaleRow [FinTest α] (m : Mode) (ss : List (Stats α)) : ∀ (rows : List (List (Option α))),
    (∀ r ∈ rows, r.length = ss.length) →
    rows.mapM (scaleRow m ss) = some (rows.map fun r => List.zipWith (scaleCell m) ss r) := by
  intro rows
  induction rows with
  | nil => intro _; rfl
  | cons r rows ih =>
    intro h
    have hr : ss.length = r.length := (h r (List.mem_cons_self ..)).symm
    rw [List.mapM_cons, ih (fun r' hr' => h r' (List.mem_cons_of_mem _ hr'))]
    simp [scaleRow, hr]

/-- the size assert of `scale` fails as soon as one row of the batch has the wrong width -/
theorem mapM_scaleRow_none [FinTest α] (m : Mode) (ss : List (Stats α)) (rows : List (List (Option α)))
    (r : List (Option α)) (hr : r ∈ rows) (hbad : r.length ≠ ss.length) : rows.mapM (scaleRow m ss) = none := by
  induction rows with
  | nil => cases hr
  | cons r' rows ih =>
    rw [List.mapM_cons]
    rcases List.mem_cons.1 hr with rfl | h
    · have : ¬ ss.length = r.length := fun h => hbad h.symm
      simp [scaleRow, this]
    · rw [ih h]
      cases scaleRow m ss r' <;> rfl

/-- **uncached path**: the rows served for `[b, e)` are rows `b … e-1` of the scaled matrix of all the samples -/
theorem computeRows_eq [FinTest α] (m : Mode) (ss : List (Stats α)) (rowOf : Nat → List (Option α)) (samples : List Nat)
    (hrows : ∀ s ∈ samples, (rowOf s).length = ss.length) (b e : Nat) :
    computeRows m ss rowOf samples b e = some (sliceOf (scaledAll m ss rowOf samples) b e) := by
  unfold computeRows scaleRows scaledAll
  rw [mapM_scaleRow m ss _ (by
    intro r hr
    simp only [List.mem_map] at hr
    obtain ⟨s, hs, rfl⟩ := hr
    exact hrows s (mem_sliceOf samples b e s hs)), List.map_map, sliceOf_map]
  rfl

theorem length_scaledAll [FinTest α] (m : Mode) (ss : List (Stats α)) (rowOf : Nat → List (Option α)) (samples : List Nat) :
    (scaledAll m ss rowOf samples).length = samples.length := by
  simp [scaledAll]

/-! ### the cache fillers -/

theorem fillCache_eq_foldl (compute : Nat → Nat → Option (List (List α))) (seg : Nat → Nat → List (List α)) (workers : Nat)
    (hcomp : ∀ b e, compute b e = some (seg b e)) :
    ∀ (cs : List (Nat × Nat)) (ws : List Nat) (cache : List (List α)), ws.length = cs.length → (∀ w ∈ ws, w < workers) →
      fillCache compute workers cache cs ws
        = some (cs.foldl (fun buf c => buf.take c.1 ++ seg c.1 c.2 ++ buf.drop c.2) cache) := by
  intro cs
  induction cs with
  | nil =>
    intro ws cache hl _
    cases ws with
    | nil => rfl
    | cons _ _ => cases hl
  | cons c cs ih =>
    intro ws cache hl hw
    obtain ⟨b, e⟩ := c
    cases ws with
    | nil => cases hl
    | cons w ws =>
      show (if w < workers then _ else _) = _
      rw [if_pos (hw w (List.mem_cons_self ..)), hcomp]
      exact ih ws _ (Nat.succ.inj hl) fun w' h' => hw w' (List.mem_cons_of_mem _ h')

/-- filling along a chain from `b` to `n` keeps the first `b` rows and writes rows `b … n-1` of `full`, for every schedule
    that names an existing worker per chunk and every previous content of the cache -/
theorem fillCache_eq (compute : Nat → Nat → Option (List (List α))) (full : List (List α)) (workers n : Nat)
    (hfull : full.length = n) (hcomp : ∀ b e, compute b e = some (sliceOf full b e)) :
    ∀ (cs : List (Nat × Nat)) (ws : List Nat) (b : Nat) (cache : List (List α)), Tiles b n cs → cache.length = n →
      ws.length = cs.length → (∀ w ∈ ws, w < workers) →
      fillCache compute workers cache cs ws = some (cache.take b ++ sliceOf full b n) := by
  intro cs ws b cache ht hlen hws hall
  rw [fillCache_eq_foldl compute (sliceOf full) workers hcomp cs ws cache hws hall,
    tiles_splice (sliceOf full) (sliceOf_self full) (sliceOf_append full)
      (fun a b _ hb => length_sliceOf full a b (hfull ▸ hb)) cs b ht cache hlen]

theorem fillCache_none_of_bad_worker (compute : Nat → Nat → Option (List (List α))) (workers : Nat) (cache : List (List α))
    (c : Nat × Nat) (cs : List (Nat × Nat)) (w : Nat) (ws : List Nat) (hw : workers ≤ w) :
    fillCache compute workers cache (c :: cs) (w :: ws) = none := by
  obtain ⟨b, e⟩ := c
  have : ¬ w < workers := by omega
  simp [fillCache, this]

/-! ### the loops -/

/-- a loop over a list of ranges with a schedule naming an existing worker per chunk calls the callback once per range, in
    queue order, with the slices of the two matrices -/
theorem loopWith_eq (serve : Nat → Nat → Nat → Option (List (List α) × List (List α))) (X T : List (List α)) (workers : Nat)
    (hserve : ∀ w b e, w < workers → serve w b e = some (sliceOf X b e, sliceOf T b e)) :
    ∀ (cs : List (Nat × Nat)) (ws : List Nat), ws.length = cs.length → (∀ w ∈ ws, w < workers) →
      loopWith serve cs ws
        = some (List.zipWith (fun c w => (⟨c.1, c.2, w, sliceOf X c.1 c.2, sliceOf T c.1 c.2⟩ : Served α)) cs ws) := by
  intro cs
  induction cs with
  | nil =>
    intro ws hws _
    cases ws with
    | nil => rfl
    | cons _ _ => simp at hws
  | cons c cs ih =>
    intro ws hws hall
    cases ws with
    | nil => simp at hws
    | cons w ws =>
      obtain ⟨b, e⟩ := c
      simp only [loopWith, hserve w b e (hall w (List.mem_cons_self ..)),
        ih ws (by simpa using hws) (fun w' hw' => hall w' (List.mem_cons_of_mem _ hw')), List.zipWith_cons_cons]

end
end NanoVerif.Iterator
