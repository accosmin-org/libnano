import NanoVerif.Proofs.LSearchQuad
/-!
  C07 — the real `lsearch_step_t::interpolate` is exact on quadratic data (the contract `InterpExact` under which the runs of
  LeMaréchal and Fletcher on convex quadratics are proved).
-/
namespace NanoVerif.LSearch
open NanoVerif.Gen.LsPredicates


variable {α : Type} [Field α] [LinearOrder α] [IsStrictOrderedRing α]

/-- `lsearch_step_t::interpolate` in mode `quadratic`, and in mode `cubic` with any square root that is one on
    non-negative arguments, is exact on quadratic data as soon as `isfinite(t*)` -/
theorem interpolate_exact [Sqrt α] (hs : ∀ x : α, 0 ≤ x → 0 ≤ Sqrt.sqrt x ∧ Sqrt.sqrt x * Sqrt.sqrt x = x)
    (fin : α → Bool) {f0 g0 h : α} (hh : 0 < h) (hfin : fin (tstar g0 h) = true) (mode : Interp) (hm : mode ≠ .bisection)
    (u v : Step α) (hu : OnQuad f0 g0 h u) (hv : OnQuad f0 g0 h v) (hne : u.t ≠ v.t) :
    interpolate fin mode u v = tstar g0 h := by
  have e1 := cubic_exact hs hh u v hu hv hne
  have e2 := quadratic_exact hh u v hu hv hne
  cases mode with
  | bisection => exact absurd rfl hm
  | quadratic => simp [interpolate, e2, hfin]
  | cubic => simp [interpolate, e1, hfin]

end NanoVerif.LSearch
