import NanoVerif.Model.PenaltyState
import NanoVerif.Proofs.AugLag
/-!
  C05 — the constraint bookkeeping of `solver_state_t` (`Model/PenaltyState.lean`) in exact arithmetic: the gradient of the
  Lagrangian accumulated by `update_constraints`, the five KKT residuals, and the multipliers the augmented-Lagrangian loop
  stores in the state it returns.
-/
namespace NanoVerif.Penalty
open NanoVerif.Constraint
set_option linter.unusedSectionVars false

variable {α : Type} [Field α] [LinearOrder α] [IsStrictOrderedRing α]

/-! ### `m_lgx` -/

theorem foldl_axpy_spec (n : Nat) : ∀ (ps : List (α × List α)) (gx : List α), gx.length = n →
    (∀ p ∈ ps, p.2.length = n) →
    (ps.foldl (fun g p => axpy p.1 p.2 g) gx).length = n ∧
    ∀ i, (ps.foldl (fun g p => axpy p.1 p.2 g) gx).getD i 0
      = gx.getD i 0 + (ps.map (fun p => p.1 * p.2.getD i 0)).sum
  | [], gx, h, _ => ⟨h, fun i => by simp⟩
  | p :: ps, gx, h, hp => by
    have hpl : p.2.length = gx.length := by rw [hp p (by simp), h]
    have hl : (axpy p.1 p.2 gx).length = n := by rw [axpy_length _ _ _ hpl, h]
    obtain ⟨h1, h2⟩ := foldl_axpy_spec n ps (axpy p.1 p.2 gx) hl (fun q hq => hp q (by simp [hq]))
    refine ⟨h1, fun i => ?_⟩
    simp only [List.foldl_cons, List.map_cons, List.sum_cons]
    rw [h2 i, axpy_getD _ _ _ _ hpl]
    ring

theorem assignMult_spec (n : Nat) : ∀ (es : List (Eval α)) (meq mineq : List α),
    meq.length = (eqs es).length → mineq.length = (ineqs es).length → (∀ e ∈ es, e.gc.length = n) →
    ∃ ps, assignMult es meq mineq = some ps ∧ (∀ p ∈ ps, p.2.length = n) ∧
      ∀ i, (ps.map (fun p => p.1 * p.2.getD i 0)).sum
        = (List.zipWith (fun e m => m * e.gc.getD i 0) (eqs es) meq).sum
          + (List.zipWith (fun e m => m * e.gc.getD i 0) (ineqs es) mineq).sum
  | [], meq, mineq, _, _, _ => ⟨[], rfl, by simp, fun i => by simp [eqs, ineqs]⟩
  | e :: es, meq, mineq, hl, hm, hes => by
    have hes' : ∀ e' ∈ es, e'.gc.length = n := fun e' he' => hes e' (List.mem_cons_of_mem _ he')
    have hgc : ∀ (m : α) (ps : List (α × List α)), (∀ p ∈ ps, p.2.length = n) → ∀ p ∈ (m, e.gc) :: ps, p.2.length = n :=
      fun m ps h2 => List.forall_mem_cons.mpr ⟨hes e List.mem_cons_self, h2⟩
    rw [eqs_cons] at hl ⊢
    rw [ineqs_cons] at hm ⊢
    cases he : e.isEq
    · rw [he, if_neg Bool.false_ne_true] at hl hm
      match mineq, hm with
      | m :: mineq', hm =>
        obtain ⟨ps, h1, h2, h3⟩ := assignMult_spec n es meq mineq' hl (Nat.succ.inj hm) hes'
        refine ⟨(m, e.gc) :: ps, by simp [assignMult, he, h1], hgc m ps h2, fun i => ?_⟩
        simp only [Bool.false_eq_true, if_false, List.map_cons, List.sum_cons, List.zipWith_cons_cons]
        rw [h3 i, add_left_comm]
    · rw [he, if_pos rfl] at hl hm
      match meq, hl with
      | m :: meq', hl =>
        obtain ⟨ps, h1, h2, h3⟩ := assignMult_spec n es meq' mineq (Nat.succ.inj hl) hm hes'
        refine ⟨(m, e.gc) :: ps, by simp [assignMult, he, h1], hgc m ps h2, fun i => ?_⟩
        simp only [if_true, List.map_cons, List.sum_cons, List.zipWith_cons_cons]
        rw [h3 i, add_assoc]

/-! ### the residuals -/

theorem maxL_le_iff {l : List α} {b : α} (hb : 0 ≤ b) : maxL l ≤ b ↔ ∀ x ∈ l, x ≤ b :=
  ⟨fun h _ hx => le_trans (le_maxL hx) h, fun h => maxL_le hb h⟩

theorem maxL_eq_zero_iff {l : List α} (hl : ∀ x ∈ l, 0 ≤ x) : maxL l = 0 ↔ ∀ x ∈ l, x = 0 := by
  constructor
  · intro h x hx
    exact le_antisymm (by rw [← h]; exact le_maxL hx) (hl x hx)
  · intro h
    exact le_antisymm (maxL_le (le_refl _) (fun x hx => le_of_eq (h x hx))) (maxL_nonneg l)

/-! ### the multipliers stored by the augmented-Lagrangian loop -/

theorem storeMult_length (stored given : List α) : (storeMult stored given).length = stored.length := by
  unfold storeMult; split
  · assumption
  · rfl

theorem storeMult_mem {stored given : List α} {P : α → Prop} (h1 : ∀ m ∈ stored, P m) (h2 : ∀ m ∈ given, P m) :
    ∀ m ∈ storeMult stored given, P m := by
  unfold storeMult; split
  · exact h2
  · exact h1

structure MultInv (cs : List (C α)) (s : ALState α) : Prop where
  miu_nonneg : ∀ m ∈ s.miu, 0 ≤ m
  bmineq_nonneg : ∀ m ∈ s.bmineq, 0 ≤ m
  bmeq_len : s.bmeq.length = countEq cs
  bmineq_len : s.bmineq.length = countIneq cs

theorem alInit_multInv (cs : List (C α)) (x0 : List α) (ro1 : α) : MultInv cs (alInit cs x0 ro1) :=
  ⟨map_zero_nonneg _, map_zero_nonneg _, (List.length_map _).trans (evalEq_length cs x0),
    (List.length_map _).trans (evalIneq_length cs x0)⟩

theorem alStep_multInv (cs : List (C α)) (p : Params α) (hmiuMax : 0 ≤ p.miuMax) (s : ALState α) (a : Answer α)
    (h : MultInv cs s) : MultInv cs (alStep cs p s a).1 := by
  obtain ⟨_, hbmeq, hbmineq, _⟩ := alStep_kept cs p s a
  refine ⟨alStep_miu_nonneg cs p s a hmiuMax h.miu_nonneg, ?_, ?_, ?_⟩
  · rw [hbmineq]; split
    · exact storeMult_mem h.bmineq_nonneg h.miu_nonneg
    · exact h.bmineq_nonneg
  · rw [hbmeq]; split
    · exact (storeMult_length _ _).trans h.bmeq_len
    · exact h.bmeq_len
  · rw [hbmineq]; split
    · exact (storeMult_length _ _).trans h.bmineq_len
    · exact h.bmineq_len

theorem alLoop_multInv (cs : List (C α)) (p : Params α) (hmiuMax : 0 ≤ p.miuMax)
    (inner : Nat → ALState α → Answer α) : ∀ (fuel : Nat) (s : ALState α), MultInv cs s →
    MultInv cs (alLoop cs p inner fuel s) :=
  (alLoop_isLoop cs p inner).invariant (MultInv cs) (fun s h => alStep_multInv cs p hmiuMax s _ h)

end NanoVerif.Penalty
