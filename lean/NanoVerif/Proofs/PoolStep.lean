import NanoVerif.Model.Pool
/-!
  C17 — inversion lemmas of `Pool.step` (one per event: guard facts + the successor state), the frame shared by the six
  events that only move a client (`step_clientOnly`), the induction principle over reachable states, and small facts about
  `upd`, `wake`, `drop`, `nw`. Core Lean only.
-/
namespace NanoVerif.Pool

theorem upd_same {β} (f : Nat → β) (k v) : upd f k v k = v := by simp [upd]
theorem upd_other {β} (f : Nat → β) (k v i) (h : i ≠ k) : upd f k v i = f i := by simp [upd, h]

theorem of_upd_eq {β} {f : Nat → β} {k i : Nat} {v x : β} (h : upd f k v i = x) (hv : v ≠ x) : i ≠ k ∧ f i = x := by
  by_cases hik : i = k
  · subst hik; rw [upd_same] at h; exact absurd h hv
  · rw [upd_other _ _ _ _ hik] at h; exact ⟨hik, h⟩

theorem upd_ne {β} {f : Nat → β} {k i : Nat} {v x : β} (hv : v ≠ x) (hf : f i ≠ x) : upd f k v i ≠ x :=
  fun h => hf (of_upd_eq h hv).2

theorem wake_running (p : WPc) (t : Nat) : wake p = .running t ↔ p = .running t := by
  cases p <;> simp [wake]
theorem wake_exited (p : WPc) : wake p = .exited ↔ p = .exited := by
  cases p <;> simp [wake]
theorem wake_ne_sleeping (p : WPc) : wake p ≠ .sleeping := by
  cases p <;> simp [wake]
theorem drop_queued (x : TS) : drop x ≠ .queued := by
  cases x <;> simp [drop]
theorem drop_running (x : TS) (w : Nat) : drop x = .running w ↔ x = .running w := by
  cases x <;> simp [drop]
theorem drop_fresh (x : TS) : drop x = .fresh ↔ x = .fresh := by
  cases x <;> simp [drop]
theorem drop_done (x : TS) : drop x = .done ↔ x = .done := by
  cases x <;> simp [drop]

theorem of_ite {α} {p : Prop} [Decidable p] {o : Option α} {b : α} (h : (if p then o else none) = some b) :
    p ∧ o = some b := by
  split at h
  · exact ⟨‹p›, h⟩
  · cases h

theorem step_wTake {s s' : St} {w : Nat} (h : step s (.wTake w) = some s') :
    w < s.nw ∧ s.wpc w = .ready ∧ s.stop = false ∧ ∃ t q, s.queue = t :: q ∧
      s' = { s with queue := q, ts := upd s.ts t (.running w), wpc := upd s.wpc w (.running t),
                    exec := upd s.exec t (s.exec t + 1) } := by
  obtain ⟨hc, h⟩ := of_ite h
  split at h
  · cases h
  · exact ⟨hc.1, hc.2.1, hc.2.2, _, _, ‹_›, (Option.some.inj h).symm⟩

theorem step_wSleep {s s' : St} {w : Nat} (h : step s (.wSleep w) = some s') :
    w < s.nw ∧ s.wpc w = .ready ∧ s.stop = false ∧ s.queue = [] ∧ s' = { s with wpc := upd s.wpc w .sleeping } :=
  have ⟨hc, h⟩ := of_ite h
  ⟨hc.1, hc.2.1, hc.2.2.1, hc.2.2.2, (Option.some.inj h).symm⟩

theorem step_wExit {s s' : St} {w : Nat} (h : step s (.wExit w) = some s') :
    w < s.nw ∧ s.wpc w = .ready ∧ s.stop = true ∧
      s' = { s with queue := [], ts := fun t => drop (s.ts t),
                    wpc := fun v => if v = w then .exited else wake (s.wpc v) } :=
  have ⟨hc, h⟩ := of_ite h
  ⟨hc.1, hc.2.1, hc.2.2, (Option.some.inj h).symm⟩

theorem step_wRunEnd {s s' : St} {w : Nat} {b : Bool} (h : step s (.wRunEnd w b) = some s') :
    w < s.nw ∧ ∃ t, s.wpc w = .running t ∧
      s' = { s with ts := upd s.ts t .done, wpc := upd s.wpc w .ready, threw := upd s.threw t b } := by
  obtain ⟨hw, h⟩ := of_ite h
  split at h
  · exact ⟨hw, _, ‹_›, (Option.some.inj h).symm⟩
  · cases h

theorem step_wWake {s s' : St} {w : Nat} (h : step s (.wWake w) = some s') :
    w < s.nw ∧ s.wpc w = .sleeping ∧ s' = { s with wpc := upd s.wpc w .ready } :=
  have ⟨hc, h⟩ := of_ite h
  ⟨hc.1, hc.2, (Option.some.inj h).symm⟩

theorem step_cPush {s s' : St} {c : Nat} {ts : List Nat} {all : Bool} (h : step s (.cPush c ts all) = some s') :
    s.cpc c = .idle ∧ (∀ t ∈ ts, s.ts t = .fresh) ∧ ts.Nodup ∧ s.stop = false ∧
      s' = { s with queue := s.queue ++ ts, ts := fun t => if t ∈ ts then .queued else s.ts t,
                    cpc := upd s.cpc c (.pushed ts all) } :=
  have ⟨hc, h⟩ := of_ite h
  ⟨hc.1, hc.2.1, hc.2.2.1, hc.2.2.2, (Option.some.inj h).symm⟩

theorem step_cNotify {s s' : St} {c : Nat} {w : Option Nat} (h : step s (.cNotify c w) = some s') :
    (∃ ts, s.cpc c = .pushed ts true ∧
        s' = { s with wpc := fun v => wake (s.wpc v), cpc := upd s.cpc c (.waiting ts) }) ∨
    (∃ ts v, s.cpc c = .pushed ts false ∧ w = some v ∧ v < s.nw ∧ s.wpc v = .sleeping ∧
        s' = { s with wpc := upd s.wpc v .ready, cpc := upd s.cpc c (.waiting ts) }) ∨
    (∃ ts, s.cpc c = .pushed ts false ∧ w = none ∧ (∀ v, v < s.nw → s.wpc v ≠ .sleeping) ∧
        s' = { s with cpc := upd s.cpc c (.waiting ts) }) ∨
    (s.cpc c = .stopSet ∧ s' = { s with wpc := fun v => wake (s.wpc v), cpc := upd s.cpc c .joining }) := by
  simp only [step] at h
  split at h
  · rename_i ts all hpc
    cases all with
    | true => exact Or.inl ⟨ts, hpc, (Option.some.inj h).symm⟩
    | false =>
      cases w with
      | some v =>
        obtain ⟨hc, h⟩ := of_ite h
        exact Or.inr (Or.inl ⟨ts, v, hpc, rfl, hc.1, hc.2, (Option.some.inj h).symm⟩)
      | none =>
        obtain ⟨hc, h⟩ := of_ite h
        exact Or.inr (Or.inr (Or.inl ⟨ts, hpc, rfl, hc, (Option.some.inj h).symm⟩))
  · exact Or.inr (Or.inr (Or.inr ⟨‹_›, (Option.some.inj h).symm⟩))
  · cases h

theorem step_cReturn {s s' : St} {c : Nat} (h : step s (.cReturn c) = some s') :
    ∃ ts, s.cpc c = .waiting ts ∧ (∀ t ∈ ts, ready? (s.ts t) = true) ∧ s' = { s with cpc := upd s.cpc c .finished } := by
  simp only [step] at h
  split at h
  · obtain ⟨hc, h⟩ := of_ite h
    exact ⟨_, ‹_›, hc, (Option.some.inj h).symm⟩
  · cases h

theorem step_dStop {s s' : St} {c : Nat} (h : step s (.dStop c) = some s') :
    s.cpc c = .idle ∧ s' = { s with stop := true, cpc := upd s.cpc c .stopSet } :=
  have ⟨hc, h⟩ := of_ite h
  ⟨hc, (Option.some.inj h).symm⟩

theorem step_dJoined {s s' : St} {c : Nat} (h : step s (.dJoined c) = some s') :
    s.cpc c = .joining ∧ (∀ v, v < s.nw → s.wpc v = .exited) ∧ s' = { s with cpc := upd s.cpc c .finished } :=
  have ⟨hc, h⟩ := of_ite h
  ⟨hc.1, hc.2, (Option.some.inj h).symm⟩

theorem step_sStart {s s' : St} {c n : Nat} (h : step s (.sStart c n) = some s') :
    s.cpc c = .idle ∧ s' = { s with cpc := upd s.cpc c (.seq n 0 false none) } :=
  have ⟨hc, h⟩ := of_ite h
  ⟨hc, (Option.some.inj h).symm⟩

theorem step_sOpBegin {s s' : St} {c : Nat} (h : step s (.sOpBegin c) = some s') :
    ∃ n i err, s.cpc c = .seq n i false err ∧ i < n ∧
      s' = { s with cpc := upd s.cpc c (.seq n i true err),
                    sexec := fun c' k => if c' = c ∧ k = i then s.sexec c i + 1 else s.sexec c' k } := by
  simp only [step] at h
  split at h
  · rename_i n i busy err hpc
    obtain ⟨⟨rfl, hi⟩, h'⟩ := of_ite h
    exact ⟨n, i, err, hpc, hi, (Option.some.inj h').symm⟩
  · cases h

theorem step_sOpEnd {s s' : St} {c : Nat} {b : Bool} (h : step s (.sOpEnd c b) = some s') :
    ∃ n i err, s.cpc c = .seq n i true err ∧
      s' = { s with cpc := upd s.cpc c (.seq n (i + 1) false (firstErr err i b)),
                    sthrew := fun c' k => if c' = c ∧ k = i then b else s.sthrew c' k } := by
  simp only [step] at h
  split at h
  · rename_i n i busy err hpc
    obtain ⟨rfl, h'⟩ := of_ite h
    exact ⟨n, i, err, hpc, (Option.some.inj h').symm⟩
  · cases h

theorem step_sReturn {s s' : St} {c : Nat} (h : step s (.sReturn c) = some s') :
    ∃ n err, s.cpc c = .seq n n false err ∧ s' = { s with cpc := upd s.cpc c .finished } := by
  simp only [step] at h
  split at h
  · rename_i n i busy err hpc
    obtain ⟨⟨rfl, rfl⟩, h'⟩ := of_ite h
    exact ⟨_, err, hpc, (Option.some.inj h').symm⟩
  · cases h

/-- events that move one client call between states in which it neither owes a notification nor waits to be notified, and
    touch nothing else but the ghost counters of the sequential path -/
def movesClientOnly : Ev → Bool
  | .cReturn _ | .dJoined _ | .sStart _ _ | .sOpBegin _ | .sOpEnd _ _ | .sReturn _ => true
  | _ => false

theorem step_clientOnly {s s' : St} {e : Ev} (he : movesClientOnly e = true) (h : step s e = some s') :
    ∃ c x sx st, s' = { s with cpc := upd s.cpc c x, sexec := sx, sthrew := st } ∧
      (s.cpc c = .idle ∨ s.cpc c = .joining ∨ (∃ ts, s.cpc c = .waiting ts) ∨ ∃ n i b err, s.cpc c = .seq n i b err) ∧
      (x = .finished ∨ ∃ n i b err, x = .seq n i b err) := by
  cases e with
  | cReturn c => obtain ⟨ts, hpc, _, rfl⟩ := step_cReturn h; exact ⟨c, _, _, _, rfl, .inr (.inr (.inl ⟨ts, hpc⟩)), .inl rfl⟩
  | dJoined c => obtain ⟨hpc, _, rfl⟩ := step_dJoined h; exact ⟨c, _, _, _, rfl, .inr (.inl hpc), .inl rfl⟩
  | sStart c n => obtain ⟨hpc, rfl⟩ := step_sStart h; exact ⟨c, _, _, _, rfl, .inl hpc, .inr ⟨_, _, _, _, rfl⟩⟩
  | sOpBegin c =>
    obtain ⟨n, i, err, hpc, _, rfl⟩ := step_sOpBegin h
    exact ⟨c, _, _, _, rfl, .inr (.inr (.inr ⟨_, _, _, _, hpc⟩)), .inr ⟨_, _, _, _, rfl⟩⟩
  | sOpEnd c b =>
    obtain ⟨n, i, err, hpc, rfl⟩ := step_sOpEnd h
    exact ⟨c, _, _, _, rfl, .inr (.inr (.inr ⟨_, _, _, _, hpc⟩)), .inr ⟨_, _, _, _, rfl⟩⟩
  | sReturn c =>
    obtain ⟨n, err, hpc, rfl⟩ := step_sReturn h
    exact ⟨c, _, _, _, rfl, .inr (.inr (.inr ⟨_, _, _, _, hpc⟩)), .inl rfl⟩
  | _ => cases he

theorem run_induction (P : St → Prop) (hstep : ∀ s e s', P s → step s e = some s' → P s')
    (es : List Ev) (s s' : St) (hp : P s) (h : run s es = some s') : P s' := by
  fun_induction run s es with
  | case1 => exact Option.some.inj h ▸ hp
  | case2 => cases h
  | case3 s e es s1 hs1 ih => exact ih (hstep s e s1 hp hs1) h

theorem reachable_induction (P : St → Prop) (hinit : ∀ nw, P (init nw))
    (hstep : ∀ s e s', P s → step s e = some s' → P s') : ∀ s, Reachable s → P s := by
  rintro s ⟨nw, es, h⟩
  exact run_induction P hstep es (init nw) s (hinit nw) h

theorem reachable_step {s s' : St} {e : Ev} (hr : Reachable s) (h : step s e = some s') : Reachable s' := by
  obtain ⟨nw, es, hrun⟩ := hr
  refine ⟨nw, es ++ [e], ?_⟩
  have : ∀ (es : List Ev) (a b : St), run a es = some b → run a (es ++ [e]) = step b e := by
    intro es a b hab
    fun_induction run a es with
    | case1 => cases hab; show (match step b e with | none => none | some s' => some s') = _; cases step b e <;> rfl
    | case2 => cases hab
    | case3 a x xs a1 ha1 ih => rw [List.cons_append, run, ha1]; exact ih hab
  rw [this es (init nw) s hrun, h]

theorem step_nw {s s' : St} {e : Ev} (h : step s e = some s') : s'.nw = s.nw := by
  cases e with
  | wTake w => obtain ⟨_, _, _, t, q, _, rfl⟩ := step_wTake h; rfl
  | wSleep w => obtain ⟨_, _, _, _, rfl⟩ := step_wSleep h; rfl
  | wExit w => obtain ⟨_, _, _, rfl⟩ := step_wExit h; rfl
  | wRunEnd w b => obtain ⟨_, t, _, rfl⟩ := step_wRunEnd h; rfl
  | wWake w => obtain ⟨_, _, rfl⟩ := step_wWake h; rfl
  | cPush c ts all => obtain ⟨_, _, _, _, rfl⟩ := step_cPush h; rfl
  | cNotify c w =>
    rcases step_cNotify h with ⟨ts, _, rfl⟩ | ⟨ts, v, _, _, _, _, rfl⟩ | ⟨ts, _, _, _, rfl⟩ | ⟨_, rfl⟩ <;> rfl
  | dStop c => obtain ⟨_, rfl⟩ := step_dStop h; rfl
  | _ => obtain ⟨c, x, sx, st, rfl, _⟩ := step_clientOnly rfl h; rfl

theorem run_nw (nw : Nat) (es : List Ev) (s : St) (h : run (init nw) es = some s) : s.nw = nw :=
  run_induction (fun s => s.nw = nw) (fun s e s' hp hs => by rw [step_nw hs]; exact hp) es (init nw) s rfl h

end NanoVerif.Pool
