import NanoVerif.Proofs.WLearnerTable
import NanoVerif.Proofs.WLearnerPredict
/-!
  C10 — `nano::find` (bisection) on the sorted hashes of a dense table returns the bin of every fitted label set, so the
  fitted dense table predicts the bin means.
-/

namespace NanoVerif.WLearner
variable {α : Type} [Field α] [LinearOrder α] [IsStrictOrderedRing α]

theorem sorted_lt_iff (l : List Nat) (hs : l.Pairwise (· < ·)) (a b : Nat) (ha : a < l.length) (hb : b < l.length) :
    l[a] < l[b] ↔ a < b := by
  have hp := List.pairwise_iff_getElem.mp hs
  constructor
  · intro h
    by_contra hn
    rcases Nat.lt_or_ge b a with h1 | h1
    · have := hp b a hb ha h1; omega
    · have : a = b := by omega
      subst this; omega
  · intro h; exact hp a b ha hb h

theorem lowerBound_sorted (l : List Nat) (hs : l.Pairwise (· < ·)) (j : Nat) (hj : j < l.length) :
    ∀ fuel first len, len ≤ fuel → first ≤ j → j ≤ first + len → first + len ≤ l.length →
      lowerBound l l[j] fuel first len = j := by
  intro fuel
  induction fuel with
  | zero => intro first len hl h1 h2 _; simp only [lowerBound]; omega
  | succ fuel ih =>
    intro first len hl h1 h2 h3
    simp only [lowerBound]
    split
    · omega
    · rename_i hlen
      have hmid : first + len / 2 < l.length := by omega
      rw [List.getD_eq_getElem?_getD, List.getElem?_eq_getElem hmid, Option.getD_some]
      -- the interval stays around `j` and shrinks below the remaining fuel
      split
      · rename_i hlt
        have := (sorted_lt_iff l hs _ _ hmid hj).mp hlt
        have hb : len - len / 2 - 1 ≤ fuel ∧ first + len / 2 + 1 ≤ j ∧ j ≤ first + len / 2 + 1 + (len - len / 2 - 1) ∧
            first + len / 2 + 1 + (len - len / 2 - 1) ≤ l.length := by omega
        exact ih _ _ hb.1 hb.2.1 hb.2.2.1 hb.2.2.2
      · rename_i hnlt
        have : ¬ first + len / 2 < j := fun h => hnlt ((sorted_lt_iff l hs _ _ hmid hj).mpr h)
        have hb : len / 2 ≤ fuel ∧ j ≤ first + len / 2 ∧ first + len / 2 ≤ l.length := by omega
        exact ih _ _ hb.1 h1 hb.2.1 hb.2.2

theorem findHash_sorted (l : List Nat) (hs : l.Pairwise (· < ·)) (j : Nat) (hj : j < l.length) :
    findHash l l[j] = some j := by
  unfold findHash
  have := lowerBound_sorted l hs j hj l.length 0 l.length (le_refl _) (by omega) (by omega) (by omega)
  simp only [this, List.getElem?_eq_getElem hj, if_true]

/-- the value of a feature as the learners see it -/
def clsVal : Option Nat → FVal α
  | some h => FVal.cls h
  | none => FVal.missing

theorem dense_contrib [Log α] (T : Nat) (K : α) (crit : Crit) (f : Nat) (rows : List (CRow α)) (s : Nat → FVal α)
    (oh : Option Nat) (hs : s f = clsVal oh) (hmem : ∀ h, oh = some h → h ∈ hashesOf rows) :
    contrib (denseCand T K crit f rows).toTable s = tablePred (denseTable rows) oh := by
  unfold contrib Cand.toTable
  simp only [denseCand, eval, hs]
  cases oh with
  | none => rfl
  | some h =>
    simp only [clsVal, tablePred]
    obtain ⟨j, hj⟩ := List.mem_iff_getElem?.mp (hmem h rfl)
    obtain ⟨hjlt, hjeq⟩ := List.getElem?_eq_some_iff.mp hj
    have hfind : findHash (hashesOf rows) h = some j := by
      rw [← hjeq]; exact findHash_sorted _ (hashesOf_sorted rows) j hjlt
    rw [hfind]
    simp only [List.getElem?_range hjlt]
    funext o
    simp only [tab, List.getD_eq_getElem?_getD, List.getElem?_map, hj, Option.map_some, Option.getD_some, denseTable]

end NanoVerif.WLearner
