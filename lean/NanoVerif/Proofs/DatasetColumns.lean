import NanoVerif.Proofs.DatasetStorage
/-!
  C08 — fitted generators (`Gen.WF`) and the feature / column bookkeeping of `update()`. Core Lean only; no Mathlib.
-/
namespace NanoVerif.Dataset
open NanoVerif.Tensor NanoVerif.Mask

/-! ### fitted generators -/

def FMap.describes (m : FMap) (f : Feature) : Prop :=
  m.classes = f.classes ∧ m.d0 = f.d0 ∧ m.d1 = f.d1 ∧ m.d2 = f.d2

/-- how a mapping row relates to its source feature: identity / product rows copy its classes and dims
    (`FMap.describes`); a gradient row (elemwise_gradient.cpp:22-40) has the dims `(1, rows − 2, cols − 2)` of the filtered
    map of one channel, a channel of the source and a mode 0..3 -/
def rowDescribes (k : GKind) (m : FMap) (f : Feature) : Prop :=
  match k with
  | .gradient _ => m.classes = f.classes ∧ m.d0 = 1 ∧ m.d1 + 2 = f.d1 ∧ m.d2 + 2 = f.d2 ∧ m.chan < f.d0 ∧ m.mode < 4 ∧
      1 ≤ m.d1 ∧ 1 ≤ m.d2
  | _ => m.describes f

/-- no feature of the generator is the 1x1 output map the gradient generator derives from a 3x3 image: such a feature is
    described as a scalar but served only by the structured `select` (open finding `gradient-1x1-select-unwritten`) -/
def Gen.NonDegenerate (g : Gen) : Prop := ∀ k, g.kind = .gradient k → ∀ m ∈ g.mapping, 1 < m.d1 * m.d2

/-- what `fit` establishes and the flag operations preserve -/
structure Gen.WF (st : Storage) (g : Gen) : Prop where
  infos_len : g.infos.length = g.mapping.length
  rows : ∀ (i : Nat) (m : FMap), g.mapping[i]? = some m →
    ∃ f, st.inputFeature m.orig = some f ∧ kindAccepts g.kind f = true ∧ rowDescribes g.kind m f ∧
      (g.kind = .product → ∃ f2, st.inputFeature m.orig2 = some f2 ∧ f2.isScalar = true)
  /-- the second source of a pair-wise computer is an input feature of the second selected kind -/
  rows2 : ∀ (c : Custom) (k2 : IKind), g.kind = .custom c → c.in2 = some k2 → ∀ (i : Nat) (m : FMap),
    g.mapping[i]? = some m → ∃ f2, st.inputFeature m.orig2 = some f2 ∧ k2.accepts f2 = true

theorem selectFeatures_mem (st : Storage) (accept : Feature → Bool) (list : List Nat) (ms : List FMap)
    (h : selectFeatures st accept list = some ms) :
    ∀ m ∈ ms, ∃ f, st.inputFeature m.orig = some f ∧ accept f = true ∧ m.describes f := by
  unfold selectFeatures at h
  dsimp only at h
  generalize (if list.isEmpty then List.range st.inputs else list) = idx at h
  induction idx generalizing ms with
  | nil => cases h; intro m hm; cases hm
  | cons i is ih =>
    simp only [List.foldr_cons, Option.bind_eq_bind, Option.bind_eq_some_iff, Option.pure_def, Option.some.injEq] at h
    obtain ⟨rest, hrest, f, hf, rfl⟩ := h
    intro m hm
    split at hm
    · rcases List.mem_cons.1 hm with rfl | hm
      · exact ⟨f, hf, ‹_›, rfl, rfl, rfl, rfl⟩
      · exact ih rest hrest m hm
    · exact ih rest hrest m hm

theorem tryEmplace_vals (k v : Nat × Nat) : ∀ (l : List ((Nat × Nat) × (Nat × Nat))) (kv),
    kv ∈ tryEmplace k v l → kv.2 = v ∨ kv ∈ l
  | [], kv, h => by simp [tryEmplace] at h; left; rw [h]
  | (k', v') :: rest, kv, h => by
    unfold tryEmplace at h
    split at h
    · right; exact h
    · split at h
      · rcases List.mem_cons.1 h with rfl | h
        · left; rfl
        · right; exact h
      · rcases List.mem_cons.1 h with rfl | h
        · right; exact List.mem_cons_self
        · rcases tryEmplace_vals k v rest kv h with h | h
          · left; exact h
          · right; exact List.mem_cons_of_mem _ h

theorem upairs_vals (m1 m2 : List FMap) (cands : List (Nat × Nat)) :
    ∀ (acc : List ((Nat × Nat) × (Nat × Nat))),
    (∀ kv ∈ acc, kv.2.1 < m1.length ∧ kv.2.2 < m2.length) →
    (∀ p ∈ cands, p.1 < m1.length ∧ p.2 < m2.length) →
    ∀ kv ∈ cands.foldl (fun acc (p : Nat × Nat) =>
      tryEmplace (min (m1.getD p.1 default).orig (m2.getD p.2 default).orig,
                  max (m1.getD p.1 default).orig (m2.getD p.2 default).orig) p acc) acc,
      kv.2.1 < m1.length ∧ kv.2.2 < m2.length := by
  induction cands with
  | nil => intro acc hacc _ kv hkv; exact hacc kv hkv
  | cons p ps ih =>
    intro acc hacc hc kv hkv
    simp only [List.foldl_cons] at hkv
    refine ih _ ?_ (fun q hq => hc q (List.mem_cons_of_mem _ hq)) kv hkv
    intro kv' hkv'
    rcases tryEmplace_vals _ _ _ _ hkv' with h | h
    · rw [h]; exact hc p List.mem_cons_self
    · exact hacc kv' h

theorem makePairwise_mem (m1 m2 : List FMap) : ∀ m ∈ makePairwise m1 m2,
    ∃ a ∈ m1, ∃ b ∈ m2, m = { a with orig2 := b.orig } := by
  intro m hm
  unfold makePairwise at hm
  simp only [List.mem_map] at hm
  obtain ⟨kv, hkv, rfl⟩ := hm
  have hb := upairs_vals m1 m2 _ [] (by simp) (by
    intro p hp
    simp only [List.mem_flatMap, List.mem_range, List.mem_map] at hp
    obtain ⟨i1, h1, i2, h2, rfl⟩ := hp
    exact ⟨h1, h2⟩) kv hkv
  refine ⟨m1.getD kv.2.1 default, ?_, m2.getD kv.2.2 default, ?_, rfl⟩
  · rw [List.getD_eq_getElem?_getD, List.getElem?_eq_getElem hb.1]; simp
  · rw [List.getD_eq_getElem?_getD, List.getElem?_eq_getElem hb.2]; simp

/-- the rows `do_fit` of the gradient generator produces: exactly one per (selected feature of at least 3x3, channel, mode) -/
theorem gradientMapping_mem (sel : List FMap) (m : FMap) :
    m ∈ gradientMapping sel ↔
      ∃ s ∈ sel, 3 ≤ s.d1 ∧ 3 ≤ s.d2 ∧ ∃ ch, ch < s.d0 ∧ ∃ ty, ty < 4 ∧
        m = { s with d0 := 1, d1 := s.d1 - 2, d2 := s.d2 - 2, chan := ch, mode := ty } := by
  unfold gradientMapping
  simp only [List.mem_flatMap]
  constructor
  · rintro ⟨s, hs, hm⟩
    split at hm
    · rename_i h33
      simp only [List.mem_flatMap, List.mem_range, List.mem_map] at hm
      obtain ⟨ch, hch, ty, hty, rfl⟩ := hm
      exact ⟨s, hs, h33.1, h33.2, ch, hch, ty, hty, rfl⟩
    · simp at hm
  · rintro ⟨s, hs, h1, h2, ch, hch, ty, hty, rfl⟩
    refine ⟨s, hs, ?_⟩
    rw [if_pos ⟨h1, h2⟩]
    simp only [List.mem_flatMap, List.mem_range, List.mem_map]
    exact ⟨ch, hch, ty, hty, rfl⟩

/-- what `fit` returns: the kind it was given, cleared flags, and a mapping made from the selection of the first list
    (every `do_fit` starts with it) — as it is, paired with a second selection, or expanded per channel and mode -/
theorem fit_inv (st : Storage) (kind : GKind) (l1 l2 : List Nat) (g : Gen) (h : fit st kind l1 l2 = some g) :
    g.kind = kind ∧ g.infos = List.replicate g.mapping.length 0 ∧
    ∃ m1, selectFeatures st (kindAccepts kind) l1 = some m1 ∧
      match kind with
      | .product => ∃ m2, selectFeatures st (kindAccepts kind) l2 = some m2 ∧ g.mapping = makePairwise m1 m2
      | .gradient _ => g.mapping = gradientMapping m1
      | .custom c =>
        match c.in2 with
        | none => g.mapping = m1
        | some k2 => ∃ m2, selectFeatures st k2.accepts l2 = some m2 ∧ g.mapping = makePairwise m1 m2
      | _ => g.mapping = m1 := by
  unfold fit at h
  cases kind with
  | custom c =>
    cases hc : c.in2 <;>
      simp only [hc, Option.bind_eq_bind, Option.bind_eq_some_iff, Option.pure_def, Option.some.injEq] at h ⊢
    · obtain ⟨m1, h1, rfl⟩ := h
      exact ⟨rfl, rfl, m1, h1, rfl⟩
    · obtain ⟨m1, h1, m2, h2, _, rfl, rfl⟩ := h
      exact ⟨rfl, rfl, m1, h1, m2, h2, rfl⟩
  | product =>
    simp only [Option.bind_eq_bind, Option.bind_eq_some_iff, Option.pure_def, Option.some.injEq] at h
    obtain ⟨m1, h1, m2, h2, _, rfl, rfl⟩ := h
    exact ⟨rfl, rfl, m1, h1, m2, h2, rfl⟩
  | gradient k =>
    simp only [Option.bind_eq_bind, Option.bind_eq_some_iff, Option.pure_def, Option.some.injEq] at h
    obtain ⟨m1, h1, _, rfl, rfl⟩ := h
    exact ⟨rfl, rfl, m1, h1, rfl⟩
  | _ =>
    simp only [Option.bind_eq_bind, Option.bind_eq_some_iff, Option.pure_def, Option.some.injEq] at h
    obtain ⟨m1, h1, rfl⟩ := h
    exact ⟨rfl, rfl, m1, h1, rfl⟩


theorem fit_wf (st : Storage) (kind : GKind) (l1 l2 : List Nat) (g : Gen) (h : fit st kind l1 l2 = some g) :
    g.WF st := by
  obtain ⟨hk, hinf, m1, h1, hmap⟩ := fit_inv st kind l1 l2 g h
  have hsel := selectFeatures_mem st _ l1 m1 h1
  refine ⟨by rw [hinf, List.length_replicate], ?_, ?_⟩
  · intro i m hm
    have hmem := List.mem_of_getElem? hm
    rw [hk]
    cases kind with
    | product =>
      obtain ⟨m2, h2, hmap⟩ := hmap
      obtain ⟨a, ha, b, hb, rfl⟩ := makePairwise_mem m1 m2 m (hmap ▸ hmem)
      obtain ⟨fa, hfa, hacc, hdesc⟩ := hsel a ha
      obtain ⟨fb, hfb, haccb, _⟩ := selectFeatures_mem st _ l2 m2 h2 b hb
      exact ⟨fa, hfa, hacc, hdesc, fun _ => ⟨fb, hfb, haccb⟩⟩
    | gradient k =>
      obtain ⟨s, hs, h31, h32, ch, hch, ty, hty, rfl⟩ := (gradientMapping_mem m1 m).1 (hmap ▸ hmem)
      obtain ⟨f, hf, hacc, hc, hd0, hd1, hd2⟩ := hsel s hs
      exact ⟨f, hf, hacc,
        ⟨hc, rfl, (Nat.sub_add_cancel (Nat.le_trans (by decide) h31)).trans hd1,
          (Nat.sub_add_cancel (Nat.le_trans (by decide) h32)).trans hd2, hd0 ▸ hch, hty,
          Nat.le_sub_of_add_le h31, Nat.le_sub_of_add_le h32⟩, fun hk => by cases hk⟩
    | custom c =>
      dsimp only at hmap
      split at hmap
      · obtain ⟨f, hf, hacc, hdesc⟩ := hsel m (hmap ▸ hmem)
        exact ⟨f, hf, hacc, hdesc, fun hk => by cases hk⟩
      · obtain ⟨m2, _, hmap⟩ := hmap
        obtain ⟨a, ha, b, _, rfl⟩ := makePairwise_mem m1 m2 m (hmap ▸ hmem)
        obtain ⟨fa, hfa, hacc, hdesc⟩ := hsel a ha
        exact ⟨fa, hfa, hacc, hdesc, fun hk => by cases hk⟩
    | _ =>
      obtain ⟨f, hf, hacc, hdesc⟩ := hsel m (hmap ▸ hmem)
      exact ⟨f, hf, hacc, hdesc, fun hk => by cases hk⟩
  · intro c k2 hkc hin i m hm
    rw [hk] at hkc
    subst hkc
    simp only [hin] at hmap
    obtain ⟨m2, h2, hmap⟩ := hmap
    obtain ⟨a, _, b, hb, rfl⟩ := makePairwise_mem m1 m2 m (hmap ▸ List.mem_of_getElem? hm)
    obtain ⟨fb, hfb, haccb, _⟩ := selectFeatures_mem st _ l2 m2 h2 b hb
    exact ⟨fb, hfb, haccb⟩

/-! ### column bookkeeping -/

theorem colsize_of (g : Gen) (i : Nat) (m : FMap) (hm : g.mapping[i]? = some m) :
    g.colsize i = match g.kind with
      | .sclassId => m.classes - 1 | .mclassId => m.classes | .scalarId => 1 | .structId => m.d0 * m.d1 * m.d2
      | .product => 1 | .gradient _ => m.d1 * m.d2 | .custom c => customCols c.out := by
  unfold Gen.colsize
  rw [List.getD_eq_getElem?_getD, hm]
  rfl

theorem colMapFrom_length : ∀ (k : Nat) (fs : List Feature),
    (colMapFrom k fs).length = (fs.map featureColumns).sum
  | _, [] => rfl
  | k, f :: fs => by
    simp [colMapFrom, colMapFrom_length (k + 1) fs]

/-- first flatten column of dataset feature `f` -/
def colOffset (fs : List Feature) (f : Nat) : Nat := ((fs.take f).map featureColumns).sum

theorem colOffset_zero (fs : List Feature) : colOffset fs 0 = 0 := by simp [colOffset]

theorem colOffset_succ (f : Feature) (fs : List Feature) (j : Nat) :
    colOffset (f :: fs) (j + 1) = featureColumns f + colOffset fs j := by
  simp [colOffset]

theorem colMapFrom_getElem? : ∀ (k : Nat) (fs : List Feature) (c x : Nat),
    (colMapFrom k fs)[c]? = some x ↔
      ∃ j, x = k + j ∧ ∃ f, fs[j]? = some f ∧ colOffset fs j ≤ c ∧ c < colOffset fs j + featureColumns f
  | k, [], c, x => by simp [colMapFrom]
  | k, f :: fs, c, x => by
    unfold colMapFrom
    by_cases hc : c < featureColumns f
    · rw [List.getElem?_append_left (by simpa using hc), List.getElem?_replicate, if_pos hc]
      constructor
      · intro h
        simp at h
        exact ⟨0, by omega, f, rfl, by simp [colOffset_zero], by simpa [colOffset_zero] using hc⟩
      · rintro ⟨j, rfl, f', hf', h1, h2⟩
        cases j with
        | zero => simp
        | succ j =>
          rw [colOffset_succ] at h1
          omega
    · rw [List.getElem?_append_right (by simpa using hc), List.length_replicate,
        colMapFrom_getElem? (k + 1) fs]
      constructor
      · rintro ⟨j, rfl, f', hf', h1, h2⟩
        refine ⟨j + 1, by omega, f', by simpa using hf', ?_, ?_⟩ <;> rw [colOffset_succ] <;> omega
      · rintro ⟨j, rfl, f', hf', h1, h2⟩
        cases j with
        | zero =>
          simp at hf'; subst hf'
          simp [colOffset_zero] at h2
          omega
        | succ j =>
          rw [colOffset_succ] at h1 h2
          exact ⟨j, by omega, f', by simpa using hf', by omega, by omega⟩

theorem sum_flatMap_map {β : Type} (l : List β) (g : β → List Feature) :
    ((l.flatMap g).map featureColumns).sum = (l.map (fun x => ((g x).map featureColumns).sum)).sum := by
  induction l with
  | nil => rfl
  | cons x xs ih => simp [List.flatMap_cons, ih]

theorem featureColumns_customDesc (o : Overload) (name : String) : featureColumns (customDesc o name) = customCols o := by
  cases o <;> rfl

theorem featureColumns_sclass (f : Feature) (h : f.isSclass = true) : featureColumns f = f.classes - 1 := by
  rw [featureColumns, of_decide_eq_true h]

theorem featureColumns_mclass (f : Feature) (h : f.isMclass = true) : featureColumns f = f.classes := by
  rw [featureColumns, of_decide_eq_true h]

theorem featureColumns_cont (f : Feature) (h1 : f.type ≠ .sclass) (h2 : f.type ≠ .mclass) :
    featureColumns f = f.dimSize := by
  unfold featureColumns
  split <;> first | contradiction | rfl

/-- the descriptor `generator->feature(i)` returns for a mapping row `m` with source `f`, up to the name: the identity
    generators forward the source's descriptor, the others make a fresh one -/
def genDesc (k : GKind) (m : FMap) (f : Feature) (name : String) : Feature :=
  match k with
  | .product => ⟨name, .float64, 1, 1, 1, 0⟩
  | .gradient _ => ⟨name, .float64, m.d0, m.d1, m.d2, 0⟩
  | .custom c => customDesc c.out name
  | _ => f

theorem feature_eq (st : Storage) (g : Gen) (hg : g.WF st) (i : Nat) (m : FMap) (hm : g.mapping[i]? = some m) :
    ∃ f name, st.inputFeature m.orig = some f ∧ kindAccepts g.kind f = true ∧ rowDescribes g.kind m f ∧
      g.feature st i = some (genDesc g.kind m f name) := by
  obtain ⟨f, hf, hacc, hdesc, hprod⟩ := hg.rows i m hm
  suffices h : ∃ name, g.feature st i = some (genDesc g.kind m f name) by
    obtain ⟨name, h⟩ := h
    exact ⟨f, name, hf, hacc, hdesc, h⟩
  unfold Gen.feature
  simp only [hm, hf, Option.bind_eq_bind, Option.bind_some, Option.pure_def]
  cases hk : g.kind with
  | product =>
    obtain ⟨f2, hf2, _⟩ := hprod hk
    simp only [hf2, Option.bind_some]
    exact ⟨_, rfl⟩
  | gradient k => exact ⟨_, rfl⟩
  | custom c =>
    cases hc2 : c.in2 with
    | none => simp only [hc2]; exact ⟨_, rfl⟩
    | some k2 =>
      obtain ⟨f2, hf2, _⟩ := hg.rows2 c k2 hk hc2 i m hm
      simp only [hc2, hf2, Option.bind_some]
      exact ⟨_, rfl⟩
  | _ => exact ⟨"", rfl⟩

/-- descriptor / `process` agreement: the columns the dataset reserves for a generated feature are the columns its generator
    writes -/
theorem featureColumns_eq_colsize (st : Storage) (g : Gen) (hg : g.WF st) (i : Nat) (hi : i < g.features) :
    ∃ desc, g.feature st i = some desc ∧ featureColumns desc = g.colsize i := by
  have hm : g.mapping[i]? = some g.mapping[i] := List.getElem?_eq_getElem hi
  obtain ⟨f, name, hf, hacc, hdesc, hfeat⟩ := feature_eq st g hg i _ hm
  refine ⟨_, hfeat, ?_⟩
  have hget : g.mapping.getD i default = g.mapping[i] := by rw [List.getD_eq_getElem?_getD, hm]; rfl
  unfold Gen.colsize
  rw [hget]
  generalize g.mapping[i] = m at *
  cases hk : g.kind <;> rw [hk] at hacc hdesc <;> dsimp only [genDesc]
  case sclassId => rw [featureColumns_sclass f hacc, hdesc.1]
  case mclassId => rw [featureColumns_mclass f hacc, hdesc.1]
  case scalarId =>
    obtain ⟨h1, h2, h3⟩ := f.isScalar_iff.1 hacc
    rw [featureColumns_cont f h1 h2, h3]
  case structId =>
    obtain ⟨h1, h2, _⟩ := f.isStruct_iff.1 hacc
    rw [featureColumns_cont f h1 h2, hdesc.2.1, hdesc.2.2.1, hdesc.2.2.2]; rfl
  case product => rfl
  case gradient k => rw [← Nat.one_mul (m.d1 * m.d2), ← hdesc.2.1, ← Nat.mul_assoc]; rfl
  case custom c => exact featureColumns_customDesc c.out name

theorem columns_eq_sum (ds : Dataset) : ds.columns = (ds.featureList.map featureColumns).sum := by
  simp [Dataset.columns, Dataset.colMap, colMapFrom_length]

/-- the per-generator counts `m_generator_mapping` add up to `columns()` -/
theorem genColumns_sum (ds : Dataset) : ds.genColumns.sum = ds.columns := by
  rw [columns_eq_sum]
  unfold Dataset.genColumns Dataset.featureList
  rw [sum_flatMap_map]

theorem genColumns_eq_colsize (ds : Dataset) (hwf : ∀ g ∈ ds.gens, g.WF ds.st) :
    ds.genColumns = ds.gens.map (fun g => ((List.range g.features).map g.colsize).sum) := by
  unfold Dataset.genColumns
  apply List.map_congr_left
  intro g hg
  unfold Gen.featureList
  rw [List.map_map]
  congr 1
  apply List.map_congr_left
  intro i hi
  obtain ⟨desc, hd, hc⟩ := featureColumns_eq_colsize ds.st g (hwf g hg) i (List.mem_range.1 hi)
  simp [hd, hc]

end NanoVerif.Dataset
