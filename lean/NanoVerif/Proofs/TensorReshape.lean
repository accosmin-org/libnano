import NanoVerif.Model.Tensor
/-!
  C16 — helper lemmas for `reshape` (the `-1` inference loop of `treshape`). Core Lean only.
-/
namespace NanoVerif.Tensor

theorem size_append : ∀ (a b : List Nat), size (a ++ b) = size a * size b
  | [], b => by simp [size]
  | x :: a, b => by simp [size, size_append a b, Nat.mul_assoc]

theorem iprod_append : ∀ (a b : List Int), iprod (a ++ b) = iprod a * iprod b
  | [], b => by simp [iprod]
  | x :: a, b => by simp [iprod, iprod_append a b, Int.mul_assoc]

theorem iprod_ofNat : ∀ (a : List Nat), iprod (a.map Int.ofNat) = Int.ofNat (size a)
  | [] => rfl
  | x :: a => by simp [iprod, size, iprod_ofNat a]

theorem size_pos_of_pos : ∀ (a : List Nat), (∀ d ∈ a, 0 < d) → 0 < size a
  | [], _ => by simp [size]
  | x :: a, h => by
    have h1 := h x (by simp)
    have h2 := size_pos_of_pos a (fun d hd => h d (by simp [hd]))
    simp only [size]
    exact Nat.mul_pos h1 h2

theorem map_toNat_ofNat (a : List Nat) : (a.map Int.ofNat).map Int.toNat = a := by
  induction a with
  | nil => rfl
  | cons x a ih => simp [ih]

theorem all_nonneg_ofNat (a : List Nat) : (a.map Int.ofNat).all (· ≥ 0) = true := by
  simp [List.all_eq_true]

theorem reshapeInfer_explicit (total : Int) : ∀ (xs : List Nat) (acc rest : List Int),
    reshapeInfer total acc (xs.map Int.ofNat ++ rest) = reshapeInfer total (acc ++ xs.map Int.ofNat) rest
  | [], acc, rest => by simp
  | x :: xs, acc, rest => by
    have h1 : ¬ (Int.ofNat x = -1) := by simp
    have h2 : Int.ofNat x ≥ 0 := by simp
    simp only [List.map_cons, List.cons_append, reshapeInfer, h1, h2, if_false, if_true]
    rw [reshapeInfer_explicit total xs (acc ++ [Int.ofNat x]) rest]
    simp

theorem reshapeInfer_nil (total : Int) (acc : List Int) : reshapeInfer total acc [] = some acc := by
  simp [reshapeInfer]

/-- `-size() / size(dimensions)` with one `-1` among positive entries: truncating division of `-total` by
    `-P` is the natural-number quotient `total / P` -/
theorem tdiv_neg_neg_ofNat (t p : Nat) : Int.tdiv (-(Int.ofNat t)) (-(Int.ofNat p)) = Int.ofNat (t / p) := by
  rw [Int.tdiv_neg, Int.neg_tdiv, Int.neg_neg]
  simp

theorem iprod_one_neg (pre post : List Nat) :
    iprod (pre.map Int.ofNat ++ -1 :: post.map Int.ofNat) = -(Int.ofNat (size pre * size post)) := by
  rw [iprod_append, iprod, iprod_ofNat, iprod_ofNat]
  simp [Int.mul_neg, Int.neg_mul]

theorem size_insert (pre post : List Nat) (q : Nat) : size (pre ++ q :: post) = size pre * size post * q := by
  rw [size_append, size]
  rw [Nat.mul_assoc, Nat.mul_comm (size post) q]

theorem reshapeDims_one (total : Nat) (pre post : List Nat) (hpre : ∀ d ∈ pre, 0 < d)
    (hpost : ∀ d ∈ post, 0 < d) :
    reshapeDims total (pre.map Int.ofNat ++ -1 :: post.map Int.ofNat)
      = if size pre * size post * (total / (size pre * size post)) = total
        then some (pre ++ total / (size pre * size post) :: post) else none := by
  have hP : 0 < size pre * size post := Nat.mul_pos (size_pos_of_pos pre hpre) (size_pos_of_pos post hpost)
  have hne : ¬ (-(Int.ofNat (size pre * size post)) = 0) := by
    simp only [Int.ofNat_eq_natCast, Int.neg_eq_zero]; omega
  unfold reshapeDims
  have h := reshapeInfer_explicit (Int.ofNat total) pre [] (-1 :: post.map Int.ofNat)
  rw [h]
  simp only [List.nil_append]
  rw [reshapeInfer]
  simp only [if_true, iprod_one_neg, hne, if_false, tdiv_neg_neg_ofNat]
  have h2 := reshapeInfer_explicit (Int.ofNat total) post
    (pre.map Int.ofNat ++ [Int.ofNat (total / (size pre * size post))]) []
  simp only [List.append_nil] at h2
  rw [h2, reshapeInfer_nil]
  have hl : pre.map Int.ofNat ++ [Int.ofNat (total / (size pre * size post))] ++ post.map Int.ofNat
      = (pre ++ total / (size pre * size post) :: post).map Int.ofNat := by simp
  simp only [hl, all_nonneg_ofNat, iprod_ofNat, map_toNat_ofNat, true_and, size_insert]
  by_cases hc : size pre * size post * (total / (size pre * size post)) = total
  · simp [hc]
  · have : ¬ (Int.ofNat (size pre * size post * (total / (size pre * size post))) = Int.ofNat total) :=
      fun e => hc (Int.ofNat.inj e)
    rw [if_neg this, if_neg hc]

end NanoVerif.Tensor
