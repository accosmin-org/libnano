import NanoVerif.Proofs.ProgramRestate
import NanoVerif.Model.ProgramNewton
import Mathlib.Tactic.LinearCombination
/-!
  C04 — the linear system of the Newton step (`Model/ProgramNewton.lean`) over an arbitrary linear ordered field:
  what `kktMat · (dx, dv)` is, and that every exact solution of `kktMat · z = kktVec` is the Newton direction of the residual
  map `(x, u, v) ↦ (rdual, rcent, rprim)`.
-/
set_option linter.unusedSectionVars false

namespace NanoVerif.Program
variable {α : Type} [Field α] [LinearOrder α] [IsStrictOrderedRing α]

/-! ### matrices as lists of rows -/

@[simp] theorem hmul_length (a b : List α) : (hmul a b).length = min a.length b.length := by simp [hmul]
@[simp] theorem vdivE_length (a b : List α) : (vdivE a b).length = min a.length b.length := by simp [vdivE]

theorem vneg_vneg (a : List α) : vneg (vneg a) = a := by
  unfold vneg
  rw [List.map_map]
  exact (List.map_congr_left fun x _ => neg_neg x).trans (List.map_id _)

theorem mv_nil_right (A : List (List α)) : mv A ([] : List α) = zeros A.length :=
  (List.map_congr_left fun r _ => dot_nil_right r).trans List.map_const'

theorem mv_mneg (X : List (List α)) (x : List α) : mv (mneg X) x = vneg (mv X x) := by
  unfold mv mneg vneg
  rw [List.map_map, List.map_map]
  exact List.map_congr_left fun r _ => dot_vneg_left r x

theorem msub_rows (n : Nat) (X Y : List (List α)) (hX : ∀ r ∈ X, r.length = n) (hY : ∀ r ∈ Y, r.length = n) :
    ∀ r ∈ msub X Y, r.length = n :=
  (forall_mem_zipWith _ _ X Y).2 fun q hq => by
    rw [vsub_length, hX _ (List.of_mem_zip hq).1, hY _ (List.of_mem_zip hq).2, min_self]

theorem mv_msub : ∀ (X Y : List (List α)) (x : List α), (∀ p ∈ X.zip Y, p.1.length = p.2.length) →
    mv (msub X Y) x = vsub (mv X x) (mv Y x)
  | [], _, _, _ => by simp [msub, mv, vsub]
  | _ :: _, [], _, _ => by simp [msub, mv, vsub]
  | a :: X, b :: Y, x, h => by
    have ih := mv_msub X Y x (fun p hp => h p (List.mem_cons_of_mem _ hp))
    unfold msub mv vsub at ih ⊢
    rw [List.zipWith_cons_cons, List.map_cons, List.map_cons, List.map_cons, List.zipWith_cons_cons, ih]
    exact congrArg (· :: _) (dot_vsub_left a b x (h (a, b) List.mem_cons_self))

/-! ### transposes, products -/

theorem transp_length (n : Nat) : ∀ (M : List (List α)), (∀ r ∈ M, r.length = n) → (transp n M).length = n
  | [], _ => by simp [transp]
  | r :: M, h => by
    rw [transp, List.length_zipWith, h r List.mem_cons_self,
      transp_length n M (fun r' hr => h r' (List.mem_cons_of_mem _ hr)), min_self]

theorem mv_zipWith_cons (v0 : α) (vs : List α) : ∀ (r : List α) (T : List (List α)),
    mv (List.zipWith (· :: ·) r T) (v0 :: vs) = axpy v0 r (mv T vs)
  | [], _ => by simp [mv, axpy]
  | _ :: _, [] => by simp [mv, axpy]
  | a :: r, t :: T => by
    have ih := mv_zipWith_cons v0 vs r T
    unfold mv at ih ⊢
    rw [List.zipWith_cons_cons, List.map_cons, List.map_cons, axpy, dot_cons, ih, mul_comm]

/-- `Mᵀ v` computed from the list of columns is `tmv` -/
theorem mv_transp (n : Nat) : ∀ (A : List (List α)) (v : List α), (∀ r ∈ A, r.length = n) →
    mv (transp n A) v = tmv n A v
  | [], v, _ => by
    cases v <;> simp [transp, mv, tmv, zeros]
  | r :: A, [], h => by
    rw [mv_nil_right, transp_length n (r :: A) h]
    simp [tmv]
  | r :: A, v0 :: vs, h => by
    rw [transp, tmv, mv_zipWith_cons, mv_transp n A vs (fun r' hr => h r' (List.mem_cons_of_mem _ hr))]

theorem mv_mmul (n : Nat) (X Y : List (List α)) (x : List α) (hY : ∀ r ∈ Y, r.length = n) :
    mv (mmul n X Y) x = mv X (mv Y x) := by
  unfold mmul
  rw [mv, List.map_map]
  exact List.map_congr_left fun r _ => tmv_adjoint' n Y r x hY

theorem rowScale_rows (n : Nat) (w : List α) (G : List (List α)) (h : ∀ r ∈ G, r.length = n) :
    ∀ r ∈ rowScale w G, r.length = n :=
  (forall_mem_zipWith _ _ w G).2 fun _ hq => (smul_length _ _).trans (h _ (List.of_mem_zip hq).2)

theorem mmul_rows (n : Nat) (X Y : List (List α)) (hY : ∀ r ∈ Y, r.length = n) : ∀ r ∈ mmul n X Y, r.length = n :=
  List.forall_mem_map.2 fun c _ => tmv_length n Y c hY

/-- `hessvar · dx = Gᵀ ((u / Gxh) ∘ (G dx))` -/
theorem mv_hessvar (P : Prog α) (wf : WF P) (x u dx : List α) :
    mv (hessvar P x u) dx = tmv P.n P.G (hmul (vdivE u (slack P x)) (mv P.G dx)) := by
  unfold hessvar
  rw [mv_mmul P.n _ _ dx (rowScale_rows P.n _ _ wf.Grows), mv_transp P.n P.G _ wf.Grows]
  -- the model's `rowScale`, `hmul` unfold to `scaleRows`, `vmul`
  exact congrArg _ (mv_scaleRows _ P.G dx)

theorem hessvar_rows (P : Prog α) (wf : WF P) (x u : List α) : ∀ r ∈ hessvar P x u, r.length = P.n :=
  mmul_rows P.n _ _ (rowScale_rows P.n _ _ wf.Grows)

theorem hessvar_length (P : Prog α) (wf : WF P) (x u : List α) : (hessvar P x u).length = P.n :=
  (List.length_map _).trans (transp_length P.n P.G wf.Grows)

theorem zeroM_rows (n : Nat) : ∀ r ∈ (zeroM n : List (List α)), r.length = n :=
  fun _ hr => (congrArg List.length (List.eq_of_mem_replicate hr)).trans (zeros_length n)

theorem mv_zeroM (n : Nat) (x : List α) : mv (zeroM n : List (List α)) x = zeros n := by
  unfold mv zeroM
  rw [List.map_replicate, dot_zeros]
  rfl

/-! ### the top-left block `Q − H` (`−H` for an LP) -/

theorem topLeftOf_rows (P : Prog α) (wf : WF P) (H : List (List α)) (hH : ∀ r ∈ H, r.length = P.n) :
    ∀ r ∈ topLeftOf P H, r.length = P.n := by
  unfold topLeftOf
  split
  · exact List.forall_mem_map.2 fun c hc => (vneg_length c).trans (hH c hc)
  · exact msub_rows P.n P.Q H wf.Qrows hH

theorem topLeftOf_length (P : Prog α) (wf : WF P) (H : List (List α)) (hHl : H.length = P.n) :
    (topLeftOf P H).length = P.n := by
  unfold topLeftOf
  split
  · exact (List.length_map _).trans hHl
  · rename_i h
    rw [msub, List.length_zipWith, wf.Qlen.resolve_left (fun h0 => h (List.isEmpty_iff.2 h0)), hHl, min_self]

/-- `(Q − H) dx` tested against `d` (`Q dx` is absent for an LP) -/
theorem dot_mv_topLeft (P : Prog α) (wf : WF P) (H : List (List α)) (hH : ∀ r ∈ H, r.length = P.n)
    (hHl : H.length = P.n) (dx d : List α) :
    dot (mv (topLeftOf P H) dx) d = dot (mv P.Q dx) d - dot (mv H dx) d := by
  unfold topLeftOf
  split
  · rename_i h
    rw [mv_mneg, dot_vneg_left, List.isEmpty_iff.1 h]
    simp [mv]
  · rename_i h
    rw [mv_msub P.Q H dx (fun p hp => by
        rw [wf.Qrows p.1 (List.of_mem_zip hp).1, hH p.2 (List.of_mem_zip hp).2]),
      dot_vsub_left _ _ _ (by
        rw [mv_length, mv_length, wf.Qlen.resolve_left (fun h0 => h (List.isEmpty_iff.2 h0)), hHl])]

/-! ### `m_lmat · (dx, dv)` -/

theorem mv_zipWith_append (dx dv : List α) : ∀ (H T : List (List α)), (∀ r ∈ H, r.length = dx.length) →
    mv (List.zipWith (· ++ ·) H T) (dx ++ dv) = vadd (mv H dx) (mv T dv)
  | [], _, _ => by simp [mv, vadd]
  | _ :: _, [], _ => by simp [mv, vadd]
  | a :: H, t :: T, h => by
    have ih := mv_zipWith_append dx dv H T (fun r hr => h r (List.mem_cons_of_mem _ hr))
    unfold mv vadd at ih ⊢
    rw [List.zipWith_cons_cons, List.map_cons, List.map_cons, List.map_cons, List.zipWith_cons_cons, ih,
      dot_append a t dx dv (h a List.mem_cons_self)]

theorem mv_pad_zeros (p : Nat) (dx dv : List α) (A : List (List α)) (hA : ∀ r ∈ A, r.length = dx.length) :
    mv (A.map (fun r => r ++ zeros p)) (dx ++ dv) = mv A dx := by
  unfold mv
  rw [List.map_map]
  exact List.map_congr_left fun r hr => by
    rw [Function.comp_apply, dot_append r (zeros p) dx dv (hA r hr), dot_zeros, add_zero]

/-- the system matrix applied to `(dx, dv)`: `(H dx + Aᵀ dv, A dx)` -/
theorem mv_kktMat (P : Prog α) (wf : WF P) (H : List (List α)) (hH : ∀ r ∈ H, r.length = P.n) (dx dv : List α)
    (hdx : dx.length = P.n) :
    mv (kktMat P H) (dx ++ dv) = vadd (mv H dx) (tmv P.n P.A dv) ++ mv P.A dx := by
  unfold kktMat
  rw [mv, List.map_append]
  exact congrArg₂ (· ++ ·)
    ((mv_zipWith_append dx dv _ _ (fun r hr => (hH r hr).trans hdx.symm)).trans
      (congrArg (vadd _) (mv_transp P.n P.A dv wf.Arows)))
    (mv_pad_zeros P.p dx dv P.A (fun r hr => (wf.Arows r hr).trans hdx.symm))

theorem kkt_system_blocks (P : Prog α) (wf : WF P) (H : List (List α)) (hH : ∀ r ∈ H, r.length = P.n)
    (hHl : H.length = P.n) (a : List α × List α) (ha : a.1.length = P.n) (dx dv : List α) (hdx : dx.length = P.n)
    (hsol : mv (kktMat P (topLeftOf P H)) (dx ++ dv) = kktVecOf a) :
    vadd (mv (topLeftOf P H) dx) (tmv P.n P.A dv) = vneg a.1 ∧ mv P.A dx = vneg a.2 := by
  rw [mv_kktMat P wf _ (topLeftOf_rows P wf H hH) dx dv hdx] at hsol
  exact List.append_inj hsol (by
    rw [vadd_length, mv_length, topLeftOf_length P wf H hHl, tmv_length _ _ _ wf.Arows, min_self, vneg_length, ha])

/-! ### elementwise identities behind `du` -/

theorem du_split : ∀ (rc u y g : List α),
    vdivE (vsub rc (hmul u y)) g = vsub (vdivE rc g) (hmul (vdivE u g) y)
  | [], _, _, _ => by simp [vdivE, vsub, hmul]
  | _ :: _, [], _, _ => by simp [vdivE, vsub, hmul]
  | _ :: _, _ :: _, [], _ => by simp [vdivE, vsub, hmul]
  | _ :: _, _ :: _, _ :: _, [] => by simp [vdivE, vsub, hmul]
  | a :: rc, b :: u, c :: y, e :: g => by
    have ih := du_split rc u y g
    unfold vdivE vsub hmul at ih ⊢
    simp only [List.zipWith_cons_cons]
    rw [ih, sub_div, mul_div_right_comm]

theorem du_central : ∀ (rc uy g : List α), rc.length = uy.length → rc.length = g.length → (∀ a ∈ g, a ≠ 0) →
    vadd uy (hmul g (vdivE (vsub rc uy) g)) = rc
  | [], [], [], _, _, _ => by simp [vadd, hmul, vdivE, vsub]
  | a :: rc, b :: uy, e :: g, h1, h2, hg => by
    have ih := du_central rc uy g (Nat.succ.inj h1) (Nat.succ.inj h2) (fun t ht => hg t (List.mem_cons_of_mem _ ht))
    unfold vadd hmul vdivE vsub at ih ⊢
    simp only [List.zipWith_cons_cons]
    rw [ih, mul_div_cancel₀ _ (hg e List.mem_cons_self), add_sub_cancel]
  | [], _ :: _, _, h, _, _ => by simp at h
  | _ :: _, [], _, h, _, _ => by simp at h
  | [], [], _ :: _, _, h, _ => by simp at h
  | _ :: _, _ :: _, [], _, h, _ => by simp at h

/-! ### lengths of what `update` computes -/

theorem update_rcent (P : Prog α) (mufx miu : α) (x u v : List α) (st : St α) (hG : P.G ≠ []) :
    (update P mufx miu x u v st).rcent =
      List.zipWith (fun ui gi => -(update P mufx miu x u v st).eta / (miu * (P.m : α)) - ui * gi) u (slack P x) :=
  if_neg fun h => hG (List.isEmpty_iff.1 h)

theorem update_rcent_length (P : Prog α) (mufx miu : α) (x u v : List α) (st : St α) (hG : P.G ≠ [])
    (hu : u.length = P.G.length) (hh : P.h.length = P.G.length) :
    (update P mufx miu x u v st).rcent.length = P.G.length := by
  rw [update_rcent P mufx miu x u v st hG, List.length_zipWith, hu, slack_length P x hh, min_self]

theorem duOf_length (P : Prog α) (mufx miu : α) (x u v dx : List α) (st : St α) (hG : P.G ≠ [])
    (hu : u.length = P.G.length) (hh : P.h.length = P.G.length) :
    (duOf P x u dx (update P mufx miu x u v st)).length = P.G.length := by
  rw [duOf, vdivE_length, vsub_length, hmul_length, update_rcent_length P mufx miu x u v st hG hu hh, hu, mv_length,
    slack_length P x hh, min_self, min_self, min_self]

/-! ### an exact solution of the system is the Newton direction -/

/-- the dual residual is affine in `(x, u, v)`: along an exact solution `(dx, dv)` of the system, with `du` as the code
    computes it, `rdual(x + s dx, u + s du, v + s dv) = (1 − s) rdual(x, u, v)` for every step length `s`
    (`s = 1`: the linearised dual residual `rdual + J·Δ` vanishes) -/
theorem newton_rdual (P : Prog α) (wf : WF P) (mufx miu : α) (x u v dx dv : List α) (st0 st1 : St α) (s : α)
    (hG : P.G ≠ []) (hx : x.length = P.n) (hdx : dx.length = P.n) (hu : u.length = P.G.length)
    (hv : v.length = P.A.length) (hdv : dv.length = P.A.length) (hh : P.h.length = P.G.length)
    (htop : vadd (mv (kktTopLeft P x u) dx) (tmv P.n P.A dv) =
      vneg (newtonRhs P x (update P mufx miu x u v st0)).1) :
    (update P mufx miu (move x s dx) (move u s (duOf P x u dx (update P mufx miu x u v st0))) (move v s dv) st1).rdual =
      smul (1 - s) (update P mufx miu x u v st0).rdual := by
  have hdu := duOf_length P mufx miu x u v dx st0 hG hu hh
  have hrc := update_rcent_length P mufx miu x u v st0 hG hu hh
  have hsl := slack_length P x hh
  apply eq_of_dot_eq P.n _ _ (update_rdual_length P wf mufx miu _ _ _ st1)
    ((smul_length _ _).trans (update_rdual_length P wf mufx miu x u v st0))
  intro d hd
  rw [dot_rdual P wf, dot_smul_left, dot_rdual P wf, dot_gradObj P wf, dot_gradObj P wf, mv_move P.Q x dx s (hx.trans hdx.symm),
    dot_move_left _ _ d s (by rw [mv_length, mv_length]), dot_move_left v dv _ s (hv.trans hdv.symm),
    dot_move_left u _ _ s (hu.trans hdu.symm)]
  -- the first block row of the system, tested against `d`
  have e1 := congrArg (fun w => dot w d) htop
  simp only [newtonRhs, kktTopLeft] at e1
  rw [dot_vadd_left _ _ _ (by
      rw [mv_length, topLeftOf_length P wf _ (hessvar_length P wf x u), tmv_length _ _ _ wf.Arows]),
    dot_mv_topLeft P wf _ (hessvar_rows P wf x u) (hessvar_length P wf x u), mv_hessvar P wf x u dx,
    tmv_adjoint' P.n P.A dv d wf.Arows, tmv_adjoint' P.n P.G _ d wf.Grows, dot_vneg_left,
    dot_vadd_left _ _ _ (by rw [update_rdual_length P wf, tmv_length _ _ _ wf.Grows]),
    tmv_adjoint' P.n P.G _ d wf.Grows, dot_rdual P wf, dot_gradObj P wf] at e1
  -- `du` split into its two terms
  have e2 : dot (duOf P x u dx (update P mufx miu x u v st0)) (mv P.G d) =
      dot (vdivE (update P mufx miu x u v st0).rcent (slack P x)) (mv P.G d) -
        dot (hmul (vdivE u (slack P x)) (mv P.G dx)) (mv P.G d) := by
    rw [duOf, du_split, dot_vsub_left _ _ _ (by
      rw [vdivE_length, hmul_length, vdivE_length, hrc, hsl, hu, mv_length, min_self, min_self])]
  rw [e2]
  linear_combination s * e1

theorem newton_rprim (x dx : List α) (s : α) (hl : x.length = dx.length) : ∀ (A : List (List α)) (b : List α),
    mv A dx = vneg (vsub (mv A x) b) → vsub (mv A (move x s dx)) b = smul (1 - s) (vsub (mv A x) b)
  | [], _, _ => by simp [mv, vsub, smul]
  | r :: A, [], h => by simp [mv, vsub, vneg] at h
  | r :: A, b0 :: b, h => by
    simp only [mv, vsub, vneg, List.map_cons, List.zipWith_cons_cons, List.cons.injEq] at h
    have ih := newton_rprim x dx s hl A b (by simpa [mv, vsub, vneg] using h.2)
    simp only [mv, vsub, smul, List.map_cons, List.zipWith_cons_cons] at ih ⊢
    rw [ih, dot_move r x dx s hl, h.1]
    exact congrArg (· :: _) (by ring)

/-- the centrality residual, linearised with `η / (μ m)` held fixed (as the method does):
    `u ∘ (G dx) + (G x − h) ∘ du = rcent`, i.e. `rcent + J_cent·Δ = 0` -/
theorem newton_rcent (P : Prog α) (mufx miu : α) (x u v dx : List α) (st0 : St α) (hG : P.G ≠ [])
    (hu : u.length = P.G.length) (hh : P.h.length = P.G.length) (hint : ∀ a ∈ slack P x, a ≠ 0) :
    vadd (hmul u (mv P.G dx)) (hmul (slack P x) (duOf P x u dx (update P mufx miu x u v st0))) =
      (update P mufx miu x u v st0).rcent :=
  du_central _ _ _
    (by rw [update_rcent_length P mufx miu x u v st0 hG hu hh, hmul_length, hu, mv_length, min_self])
    (by rw [update_rcent_length P mufx miu x u v st0 hG hu hh, slack_length P x hh]) hint

/-! ### the equality-only path -/

theorem noineq_exact (P : Prog α) (wf : WF P) (mufx miu : α) (x v : List α) (st0 : St α)
    (hx : x.length = P.n) (hsol : mv (kktMat P (kktTopLeft0 P)) (x ++ v) = kktVec0 P) :
    (update P mufx miu x [] v st0).rdual = zeros P.n ∧ mv P.A x = P.b := by
  have hz : (zeroM P.n : List (List α)).length = P.n := List.length_replicate
  obtain ⟨e1, e2⟩ := kkt_system_blocks P wf (zeroM P.n) (zeroM_rows P.n) hz (P.c, vneg P.b) rfl x v hx hsol
  rw [vneg_vneg] at e2
  refine ⟨?_, e2⟩
  apply eq_of_dot_eq P.n _ _ (update_rdual_length P wf mufx miu x [] v st0) (zeros_length _)
  intro d hd
  -- the first block row `(Q − 0) x + Aᵀ v = −c`, tested against `d`
  have e := congrArg (fun w => dot w d) e1
  simp only at e
  rw [dot_vadd_left _ _ _ (by rw [mv_length, topLeftOf_length P wf _ hz, tmv_length _ _ _ wf.Arows]),
    dot_mv_topLeft P wf _ (zeroM_rows P.n) hz, mv_zeroM, dot_zeros, tmv_adjoint' P.n P.A v d wf.Arows,
    dot_vneg_left] at e
  rw [dot_rdual P wf, dot_gradObj P wf, dot_zeros, dot_nil_left]
  linarith only [e]

end NanoVerif.Program
