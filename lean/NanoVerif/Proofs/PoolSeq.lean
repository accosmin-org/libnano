import NanoVerif.Proofs.PoolStep
import NanoVerif.Proofs.ObjectiveSkeleton
/-!
  C17 — invariant of the sequential path of `map` (ghost counters `sexec`, `sthrew`) and the lemmas about `chunks` / `elemRanges`
  (the `k`-th range, their number, which range holds index `i`; that they tile `[0, n)` is taken from the same ranges of
  `Model/Objective.lean`, `Proofs/ObjectiveSkeleton.lean`).
  Core Lean only.
-/
namespace NanoVerif.Pool

/-- how often operator call `k` has been started when `i` calls are over and (`b`) call `i` is in progress -/
def seqCount (i : Nat) (b : Bool) (k : Nat) : Nat := if k < i ∨ (k = i ∧ b = true) then 1 else 0

theorem seqCount_succ (i k : Nat) : seqCount (i + 1) false k = seqCount i true k := by
  have : (k < i + 1 ∨ (k = i + 1 ∧ false = true)) ↔ (k < i ∨ (k = i ∧ true = true)) := by simp; omega
  simp only [seqCount, this]

structure SeqInv (s : St) : Prop where
  idle_zero : ∀ c, s.cpc c = .idle → ∀ k, s.sexec c k = 0 ∧ s.sthrew c k = false
  seq_ok : ∀ c n i b err, s.cpc c = .seq n i b err →
    i ≤ n ∧ (b = true → i < n) ∧ (∀ k, s.sexec c k = seqCount i b k) ∧ (∀ k, i ≤ k → s.sthrew c k = false) ∧
    err = (List.range i).find? (fun k => s.sthrew c k)

theorem seq_init (nw : Nat) : SeqInv (init nw) := by
  refine ⟨?_, ?_⟩ <;> simp [init]

theorem find?_ext {α} (p q : α → Bool) : ∀ (l : List α), (∀ x ∈ l, p x = q x) → l.find? p = l.find? q
  | [], _ => rfl
  | a :: l, h => by
    have ha : p a = q a := h a (by simp)
    have ih := find?_ext p q l (fun x hx => h x (by simp [hx]))
    simp only [List.find?_cons, ha, ih]

/-- The invariant speaks of each client by itself. So after an event that moves client `c` to `x` and touches the ghost counters
    of no other client, only `c` has to be looked at: its counters if `x` is `idle`, the loop bookkeeping if `x` is `seq`. -/
theorem seq_upd (s s' : St) (c : Nat) (x : CPc) (hs : SeqInv s) (hc : s'.cpc = upd s.cpc c x)
    (hrow : ∀ c' k, c' ≠ c → s'.sexec c' k = s.sexec c' k ∧ s'.sthrew c' k = s.sthrew c' k)
    (hidle : x = .idle → ∀ k, s'.sexec c k = 0 ∧ s'.sthrew c k = false)
    (hseq : ∀ n i b err, x = .seq n i b err →
      i ≤ n ∧ (b = true → i < n) ∧ (∀ k, s'.sexec c k = seqCount i b k) ∧ (∀ k, i ≤ k → s'.sthrew c k = false) ∧
      err = (List.range i).find? (fun k => s'.sthrew c k)) : SeqInv s' := by
  have hother : ∀ c', c' ≠ c → s'.cpc c' = s.cpc c' ∧ s'.sexec c' = s.sexec c' ∧ s'.sthrew c' = s.sthrew c' :=
    fun c' hcc => ⟨by rw [hc, upd_other _ _ _ _ hcc], funext fun k => (hrow c' k hcc).1, funext fun k => (hrow c' k hcc).2⟩
  refine ⟨fun c' hc' => ?_, fun c' n i b err hc' => ?_⟩
  · by_cases hcc : c' = c
    · subst hcc; rw [hc, upd_same] at hc'; exact hidle hc'
    · obtain ⟨h1, h2, h3⟩ := hother c' hcc
      rw [h2, h3]; exact hs.idle_zero c' (h1 ▸ hc')
  · by_cases hcc : c' = c
    · subst hcc; rw [hc, upd_same] at hc'; exact hseq n i b err hc'
    · obtain ⟨h1, h2, h3⟩ := hother c' hcc
      rw [h2, h3]; exact hs.seq_ok c' n i b err (h1 ▸ hc')

theorem seq_frame (s s' : St) (c : Nat) (x : CPc) (hs : SeqInv s) (hc : s'.cpc = upd s.cpc c x) (hse : s'.sexec = s.sexec)
    (hst : s'.sthrew = s.sthrew) (hx1 : x ≠ .idle) (hx2 : ∀ n i b err, x ≠ .seq n i b err) : SeqInv s' :=
  seq_upd s s' c x hs hc (fun c' k _ => ⟨by rw [hse], by rw [hst]⟩) (fun h => absurd h hx1) (fun n i b err h => absurd h (hx2 n i b err))

theorem seq_same (s s' : St) (hs : SeqInv s) (hc : s'.cpc = s.cpc) (hse : s'.sexec = s.sexec) (hst : s'.sthrew = s.sthrew) :
    SeqInv s' := by
  refine ⟨?_, ?_⟩
  · rw [hc, hse, hst]; exact hs.idle_zero
  · rw [hc, hse, hst]; exact hs.seq_ok

theorem seq_step (s s' : St) (e : Ev) (hs : SeqInv s) (h : step s e = some s') : SeqInv s' := by
  cases e with
  | wTake w => obtain ⟨_, _, _, t, q, _, rfl⟩ := step_wTake h; exact seq_same s _ hs rfl rfl rfl
  | wSleep w => obtain ⟨_, _, _, _, rfl⟩ := step_wSleep h; exact seq_same s _ hs rfl rfl rfl
  | wExit w => obtain ⟨_, _, _, rfl⟩ := step_wExit h; exact seq_same s _ hs rfl rfl rfl
  | wRunEnd w b => obtain ⟨_, t, _, rfl⟩ := step_wRunEnd h; exact seq_same s _ hs rfl rfl rfl
  | wWake w => obtain ⟨_, _, rfl⟩ := step_wWake h; exact seq_same s _ hs rfl rfl rfl
  | cPush c ts all => obtain ⟨_, _, _, _, rfl⟩ := step_cPush h; exact seq_frame s _ c _ hs rfl rfl rfl nofun nofun
  | cNotify c w =>
    rcases step_cNotify h with ⟨ts, _, rfl⟩ | ⟨ts, v, _, _, _, _, rfl⟩ | ⟨ts, _, _, _, rfl⟩ | ⟨_, rfl⟩ <;>
      exact seq_frame s _ c _ hs rfl rfl rfl nofun nofun
  | cReturn c => obtain ⟨ts, _, _, rfl⟩ := step_cReturn h; exact seq_frame s _ c _ hs rfl rfl rfl nofun nofun
  | dStop c => obtain ⟨_, rfl⟩ := step_dStop h; exact seq_frame s _ c _ hs rfl rfl rfl nofun nofun
  | dJoined c => obtain ⟨_, _, rfl⟩ := step_dJoined h; exact seq_frame s _ c _ hs rfl rfl rfl nofun nofun
  | sReturn c => obtain ⟨n, err, _, rfl⟩ := step_sReturn h; exact seq_frame s _ c _ hs rfl rfl rfl nofun nofun
  | sStart c n =>
    obtain ⟨hpc, rfl⟩ := step_sStart h
    have hz := hs.idle_zero c hpc
    refine seq_upd s _ c _ hs rfl (fun _ _ _ => ⟨rfl, rfl⟩) nofun fun n' i b err hx => ?_
    cases hx
    exact ⟨Nat.zero_le _, nofun, fun k => by simp [seqCount, (hz k).1], fun k _ => (hz k).2, rfl⟩
  | sOpBegin c =>
    obtain ⟨n, i, err, hpc, hi, rfl⟩ := step_sOpBegin h
    obtain ⟨hle, _, hcnt, hthr, herr⟩ := hs.seq_ok c n i false err hpc
    refine seq_upd s _ c _ hs rfl (fun c' k hcc => ⟨if_neg fun hck => hcc hck.1, rfl⟩) nofun fun n' i' b err' hx => ?_
    cases hx
    refine ⟨hle, fun _ => hi, fun k => ?_, hthr, herr⟩
    show (if c = c ∧ k = i then s.sexec c i + 1 else s.sexec c k) = seqCount i true k
    by_cases hk : k = i
    · subst hk; simp [seqCount, hcnt k]
    · simp [seqCount, hcnt k, hk]
  | sOpEnd c b =>
    obtain ⟨n, i, err, hpc, rfl⟩ := step_sOpEnd h
    obtain ⟨hle, hlt, hcnt, hthr, herr⟩ := hs.seq_ok c n i true err hpc
    refine seq_upd s _ c _ hs rfl (fun c' k hcc => ⟨rfl, if_neg fun hck => hcc hck.1⟩) nofun fun n' i' b' err' hx => ?_
    cases hx
    refine ⟨hlt rfl, nofun, fun k => ?_, fun k hk => ?_, ?_⟩
    · exact (hcnt k).trans (seqCount_succ i k).symm
    · show (if c = c ∧ k = i then b else s.sthrew c k) = false
      rw [if_neg fun hck => by omega]
      exact hthr k (by omega)
    · show firstErr err i b = (List.range (i + 1)).find? (fun k => if c = c ∧ k = i then b else s.sthrew c k)
      -- below `i` the outcomes are the old ones, so the search over `range i` gives `err`; position `i` holds `b`
      have h1 : (List.range i).find? (fun k => if c = c ∧ k = i then b else s.sthrew c k) = err := by
        rw [herr]
        exact find?_ext _ _ _ fun x hx => if_neg fun hck => Nat.ne_of_lt (List.mem_range.mp hx) hck.2
      rw [List.range_succ, List.find?_append, h1]
      cases err with
      | some p => simp [firstErr]
      | none => cases b <;> simp [firstErr]

/-! ### chunks -/

theorem chunksFrom_nil_of_ge (n c fuel b : Nat) (h : n ≤ b) : chunksFrom n c fuel b = [] := by
  cases fuel with
  | zero => rfl
  | succ f => exact if_neg (Nat.not_lt.mpr h)

theorem chunksFrom_succ (n c fuel b : Nat) (h : b < n) :
    chunksFrom n c (fuel + 1) b = (b, min (b + c) n) :: chunksFrom n c fuel (b + c) := if_pos h

/-- `Model/Objective.lean` hands out the same ranges to the ML objectives -/
theorem chunksFrom_eq (n c : Nat) : ∀ fuel b, chunksFrom n c fuel b = Objective.chunksFrom n c fuel b
  | 0, _ => rfl
  | fuel + 1, b => by rw [chunksFrom, Objective.chunksFrom, chunksFrom_eq n c fuel]

/-- so they tile `[0, n)`: `Objective.chunks_tile`, the chain argument of `Proofs/ObjectiveSkeleton.lean` -/
theorem chunks_flatten (n c : Nat) (hc : 0 < c) :
    ((chunks n c).map fun p => rangeList p.1 p.2).flatten = List.range n := by
  rw [chunks, chunksFrom_eq]
  exact Objective.chunks_tile n c hc

theorem chunksFrom_get (n c fuel b k : Nat) (h : n ≤ b + fuel * c) :
    (chunksFrom n c fuel b)[k]? = if b + k * c < n then some (b + k * c, min (b + k * c + c) n) else none := by
  fun_induction chunksFrom n c fuel b generalizing k with
  | case1 b => rw [if_neg (by omega)]; rfl
  | case2 fuel b hlt ih =>
    cases k with
    | zero => rw [Nat.zero_mul, Nat.add_zero, if_pos hlt]; rfl
    | succ k =>
      rw [List.getElem?_cons_succ, ih k (by rw [Nat.succ_mul] at h; omega), Nat.succ_mul, Nat.add_assoc, Nat.add_comm c]
  | case3 fuel b hge => rw [if_neg (by omega)]; rfl

theorem chunks_get' (n c k : Nat) (hc : 0 < c) :
    (chunks n c)[k]? = if k * c < n then some (k * c, min (k * c + c) n) else none := by
  rw [chunks, chunksFrom_get n c n 0 k (by rw [Nat.zero_add]; exact Nat.le_mul_of_pos_right n hc), Nat.zero_add]

theorem elemRanges_get (n k : Nat) : (elemRanges n)[k]? = if k < n then some (k, k + 1) else none := by
  unfold elemRanges
  by_cases hk : k < n <;> simp [hk]

theorem chunks_length (n c : Nat) (hc : 0 < c) : (chunks n c).length = (n + c - 1) / c := by
  -- `k` is past the end of the list exactly when `n ≤ k * c`
  have key : ∀ k, (chunks n c).length ≤ k ↔ n ≤ k * c := fun k => by
    rw [← List.getElem?_eq_none_iff, chunks_get' n c k hc]
    split
    · exact ⟨nofun, fun h => absurd h (Nat.not_le.mpr ‹_›)⟩
    · exact ⟨fun _ => Nat.not_lt.mp ‹_›, fun _ => rfl⟩
  have h1 := (key _).mp (Nat.le_refl _)
  refine ((Nat.div_eq_iff hc).mpr ?_).symm
  cases hL : (chunks n c).length with
  | zero => rw [hL] at h1; omega
  | succ m =>
    have h2 : ¬ n ≤ m * c := fun h => by have := (key m).mpr h; omega
    rw [hL] at h1
    rw [Nat.succ_mul] at h1 ⊢
    omega

theorem chunk_of_index (n c i k : Nat) (hc : 0 < c) (hi : i < n) :
    (∃ p, (chunks n c)[k]? = some p ∧ p.1 ≤ i ∧ i < p.2) ↔ k = i / c := by
  rw [chunks_get' n c k hc]
  constructor
  · rintro ⟨p, hp, h1, h2⟩
    by_cases hlt : k * c < n
    · rw [if_pos hlt] at hp
      cases hp
      simp only at h1 h2
      have a : k ≤ i / c := (Nat.le_div_iff_mul_le hc).mpr h1
      have h3 : i < (k + 1) * c := by
        have : i < k * c + c := by omega
        rw [Nat.succ_mul]; exact this
      have b : i / c < k + 1 := (Nat.div_lt_iff_lt_mul hc).mpr h3
      omega
    · rw [if_neg hlt] at hp; cases hp
  · intro hk
    subst hk
    have h1 : i / c * c ≤ i := Nat.div_mul_le_self i c
    have h2 : i < (i / c + 1) * c := Nat.lt_mul_of_div_lt (Nat.lt_succ_self _) hc
    rw [Nat.succ_mul] at h2
    have hlt : i / c * c < n := by omega
    rw [if_pos hlt]
    exact ⟨_, rfl, h1, by simp only; omega⟩

theorem elem_of_index (n i k : Nat) (hi : i < n) :
    (∃ p, (elemRanges n)[k]? = some p ∧ p.1 ≤ i ∧ i < p.2) ↔ k = i := by
  rw [elemRanges_get]
  constructor
  · rintro ⟨p, hp, h1, h2⟩
    split at hp
    · cases hp; simp only at h1 h2; omega
    · cases hp
  · rintro rfl
    exact ⟨(k, k + 1), if_pos hi, Nat.le_refl _, Nat.lt_succ_self _⟩

end NanoVerif.Pool
