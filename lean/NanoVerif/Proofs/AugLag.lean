import NanoVerif.Proofs.Penalty
/-!
  C05 — helper lemmas about the outer loop of the augmented-Lagrangian solver (`alStep`, `alLoop` of
  `Model/Penalty.lean`) in exact arithmetic: the criterion dominates the feasibility residual, and the loop invariant
  the property theorems of `Props/C05.lean` are assembled from. The inner solver is universally quantified.
-/
namespace NanoVerif.Penalty
open NanoVerif.Constraint
set_option linter.unusedSectionVars false

variable {α : Type} [Field α] [LinearOrder α] [IsStrictOrderedRing α]

/-! ### `lpNorm<Infinity>` -/

/-- `maxL` is the maximum of `0` and the entries, taken from the right -/
theorem maxL_eq (l : List α) : maxL l = l.foldr max 0 := by
  induction l with
  | nil => rfl
  | cons x xs ih => rw [maxL, cmax_eq_max, ih, List.foldr_cons]

theorem maxL_le_iff' {l : List α} {b : α} : maxL l ≤ b ↔ 0 ≤ b ∧ ∀ x ∈ l, x ≤ b := by
  rw [maxL_eq]; exact Cxx.foldr_max_le_iff

theorem maxL_nonneg (l : List α) : 0 ≤ maxL l := (maxL_le_iff'.mp le_rfl).1

theorem le_maxL {l : List α} {x : α} (h : x ∈ l) : x ≤ maxL l := (maxL_le_iff'.mp le_rfl).2 x h

theorem maxL_map_le {β : Type} {f : β → α} {l : List β} {b : α} (h : maxL (l.map f) ≤ b) (x : β) (hx : x ∈ l) :
    f x ≤ b :=
  le_trans (le_maxL (List.mem_map_of_mem hx)) h

theorem maxL_le {l : List α} {b : α} (hb : 0 ≤ b) (h : ∀ x ∈ l, x ≤ b) : maxL l ≤ b := maxL_le_iff'.mpr ⟨hb, h⟩

/-! ### the criterion dominates the feasibility residual -/

theorem cmax_le_cmax {a b a' b' : α} (h1 : a ≤ a') (h2 : b ≤ b') : cmax a b ≤ cmax a' b' := by
  rw [cmax_eq_max, cmax_eq_max]; exact max_le_max h1 h2

theorem hinge_le_abs_shifted (g x : α) : cmax g 0 ≤ absv (cmax g x) := by
  rw [cmax_eq_max, cmax_eq_max, absv_eq_abs]
  exact max_le (le_trans (le_max_left g x) (le_abs_self _)) (abs_nonneg _)

theorem maxL_map_le_zipWith {β : Type} {f : α → α} {k : α → β → α} (h : ∀ g m, f g ≤ k g m) :
    ∀ (gs : List α) (ms : List β), ms.length = gs.length → maxL (gs.map f) ≤ maxL (List.zipWith k gs ms)
  | [], _, _ => le_refl _
  | _ :: _, [], hl => absurd hl.symm (Nat.succ_ne_zero _)
  | g :: gs, m :: ms, hl => cmax_le_cmax (h g m) (maxL_map_le_zipWith h gs ms (Nat.succ.inj hl))

/-- `criterion_ge_violation` at the level of one state; neither `ro > 0` nor `miu ≥ 0` is needed -/
theorem criterion_ge_violation_st (c : St α) (miu : List α) (ro : α) (hlen : miu.length = c.cineq.length) :
    violation c ≤ criterion c miu ro :=
  cmax_le_cmax (le_refl _) (maxL_map_le_zipWith (fun g m => hinge_le_abs_shifted g (-m / ro)) c.cineq miu hlen)

theorem bounds_of_violation_le (c : St α) (eps : α) (h : violation c ≤ eps) :
    (∀ v ∈ c.ceq, |v| ≤ eps) ∧ (∀ g ∈ c.cineq, max 0 g ≤ eps) := by
  unfold violation at h
  rw [cmax_eq_max, max_le_iff] at h
  constructor
  · intro v hv
    rw [← absv_eq_abs]; exact maxL_map_le h.1 v hv
  · intro g hg
    rw [max_comm, ← cmax_eq_max]; exact maxL_map_le h.2 g hg

/-! ### one step of the outer loop, field by field -/

theorem evalIneq_length (cs : List (C α)) (x : List α) : (evalIneq cs x).length = countIneq cs := by
  simp [evalIneq, countIneq]

theorem evalEq_length (cs : List (C α)) (x : List α) : (evalEq cs x).length = countEq cs := by
  simp [evalEq, countEq]

theorem alLoop_isLoop (cs : List (C α)) (p : Params α) (inner : Nat → ALState α → Answer α) :
    IsLoop (alLoop cs p inner) (fun s => alStep cs p s (inner s.iters s)) :=
  ⟨fun _ => rfl, fun _ _ => rfl⟩

section Step
variable (cs : List (C α)) (p : Params α) (s : ALState α) (a : Answer α)

theorem alStep_stop
    (h : (alConverged p s a || !(a.iterOk && a.bvalid)) = true) :
    alStep cs p s a =
      ({ s with best := if alImproved s a then mkState cs a.cstate.x else s.best,
                bmeq := if alImproved s a then storeMult s.bmeq s.lambda else s.bmeq,
                bmineq := if alImproved s a then storeMult s.bmineq s.miu else s.bmineq,
                iters := s.iters + 1, status := if alConverged p s a then 1 else 2 }, true) := by
  unfold alStep
  dsimp only
  rw [if_pos h]

theorem alStep_go
    (h : (alConverged p s a || !(a.iterOk && a.bvalid)) = false) :
    alStep cs p s a =
      ({ best := if alImproved s a then mkState cs a.cstate.x else s.best,
         bmeq := if alImproved s a then storeMult s.bmeq s.lambda else s.bmeq,
         bmineq := if alImproved s a then storeMult s.bmineq s.miu else s.bmineq,
         ro := if 0 < s.iters ∧ p.tau * s.oldCrit < criterion a.cstate s.miu s.ro then p.gamma * s.ro else s.ro,
         lambda := List.zipWith (fun l h => cmin (cmax (l + s.ro * h) p.lambdaMin) p.lambdaMax) s.lambda a.cstate.ceq,
         miu := List.zipWith (fun m g => cmin (cmax (m + s.ro * g) 0) p.miuMax) s.miu a.cstate.cineq,
         oldCrit := criterion a.cstate s.miu s.ro, iters := s.iters + 1, status := s.status }, false) := by
  unfold alStep
  dsimp only
  rw [if_neg (ne_true_of_eq_false h)]

theorem alStep_kept :
    (alStep cs p s a).1.best = (if alImproved s a then mkState cs a.cstate.x else s.best) ∧
    (alStep cs p s a).1.bmeq = (if alImproved s a then storeMult s.bmeq s.lambda else s.bmeq) ∧
    (alStep cs p s a).1.bmineq = (if alImproved s a then storeMult s.bmineq s.miu else s.bmineq) ∧
    (alStep cs p s a).1.iters = s.iters + 1 := by
  cases h : (alConverged p s a || !(a.iterOk && a.bvalid))
  · rw [alStep_go cs p s a h]; exact ⟨rfl, rfl, rfl, rfl⟩
  · rw [alStep_stop cs p s a h]; exact ⟨rfl, rfl, rfl, rfl⟩

theorem alImproved_iff :
    alImproved s a = true ↔ a.iterOk = true ∧ criterion a.cstate s.miu s.ro < s.oldCrit := by
  rw [alImproved, Bool.and_eq_true, decide_eq_true_eq]

theorem map_zero_nonneg {β : Type} (l : List β) : ∀ m ∈ l.map (fun _ => (0 : α)), 0 ≤ m := by
  intro m hm
  obtain ⟨_, _, rfl⟩ := List.mem_map.mp hm
  exact le_refl _

theorem alStep_miu_nonneg (hmiuMax : 0 ≤ p.miuMax)
    (hs : ∀ m ∈ s.miu, 0 ≤ m) : ∀ m ∈ (alStep cs p s a).1.miu, 0 ≤ m := by
  cases h : (alConverged p s a || !(a.iterOk && a.bvalid))
  · rw [alStep_go cs p s a h]
    intro m hm
    obtain ⟨i, hi, rfl⟩ := List.mem_iff_getElem.mp hm
    rw [List.getElem_zipWith, cmin_eq_min]
    exact le_min (by rw [cmax_eq_max]; exact le_max_right _ _) hmiuMax
  · rw [alStep_stop cs p s a h]; exact hs

theorem alStep_ro_schedule (ro1 : α)
    (h : ∃ j, j ≤ s.iters ∧ s.ro = ro1 * p.gamma ^ j) :
    ∃ j, j ≤ (alStep cs p s a).1.iters ∧ (alStep cs p s a).1.ro = ro1 * p.gamma ^ j := by
  obtain ⟨j, hj, hro⟩ := h
  cases hstop : (alConverged p s a || !(a.iterOk && a.bvalid))
  · rw [alStep_go cs p s a hstop]
    by_cases hgrow : 0 < s.iters ∧ p.tau * s.oldCrit < criterion a.cstate s.miu s.ro
    · exact ⟨j + 1, Nat.succ_le_succ hj, by simp only [if_pos hgrow]; rw [hro, pow_succ', mul_left_comm]⟩
    · exact ⟨j, Nat.le_succ_of_le hj, by simp only [if_neg hgrow]; exact hro⟩
  · rw [alStep_stop cs p s a hstop]
    exact ⟨j, Nat.le_succ_of_le hj, hro⟩

end Step

/-! ### the loop invariant -/

/-- the answer of the oracle is a `solver_state_t` of the constrained function: its constraint values are those of
    the function's constraints at its point (the class invariant kept by `update_constraints`) -/
def Consistent (cs : List (C α)) (a : Answer α) : Prop := a.cstate = mkState cs a.cstate.x

structure ALInv (cs : List (C α)) (s : ALState α) : Prop where
  miu_len : s.miu.length = countIneq cs
  viol_le : violation s.best ≤ s.oldCrit
  not_conv : s.status ≠ 1

structure ALFin (p : Params α) (r : ALState α) : Prop where
  conv_le : r.status = 1 → violation r.best ≤ p.eps
  viol_le : violation r.best ≤ r.oldCrit

theorem alInit_inv (cs : List (C α)) (x0 : List α) (ro1 : α) : ALInv cs (alInit cs x0 ro1) :=
  ⟨(List.length_map _).trans (evalIneq_length cs x0), criterion_ge_violation_st _ _ _ (List.length_map _), Nat.zero_ne_one⟩

/-- One step from a state with the invariant, given an answer that is a state of the constrained function. The new
    `bstate` is the answer (when its criterion improved on `old_criterion`, so lies below it) or the old one: its residual is
    at most `old_criterion` either way, and at most the answer's criterion when the answer is valid, because the criterion
    dominates the residual (`criterion_ge_violation_st`). No hypothesis on the parameters. -/
theorem alStep_inv (cs : List (C α)) (p : Params α) (s : ALState α) (a : Answer α) (ha : Consistent cs a)
    (hinv : ALInv cs s) :
    ((alStep cs p s a).2 = false → ALInv cs (alStep cs p s a).1) ∧
    ((alStep cs p s a).2 = true → ALFin p (alStep cs p s a).1) := by
  have hclen : a.cstate.cineq.length = countIneq cs := by
    rw [ha]; exact evalIneq_length cs _
  have hcrit : violation a.cstate ≤ criterion a.cstate s.miu s.ro :=
    criterion_ge_violation_st _ _ _ (hinv.miu_len.trans hclen.symm)
  have hbest : violation (if alImproved s a then mkState cs a.cstate.x else s.best) ≤ s.oldCrit ∧
      (a.iterOk = true →
        violation (if alImproved s a then mkState cs a.cstate.x else s.best) ≤ criterion a.cstate s.miu s.ro) := by
    by_cases himp : alImproved s a = true
    · rw [if_pos himp, ← ha]
      exact ⟨le_trans hcrit (le_of_lt ((alImproved_iff s a).mp himp).2), fun _ => hcrit⟩
    · rw [if_neg himp]
      exact ⟨hinv.viol_le, fun hok => le_trans hinv.viol_le (not_lt.mp fun hlt => himp ((alImproved_iff s a).mpr ⟨hok, hlt⟩))⟩
  cases hstop : (alConverged p s a || !(a.iterOk && a.bvalid))
  · have hok : a.iterOk = true := by
      cases h : a.iterOk
      · simp [h] at hstop
      · rfl
    rw [alStep_go cs p s a hstop]
    refine ⟨fun _ => ⟨?_, hbest.2 hok, hinv.not_conv⟩, fun h => Bool.noConfusion h⟩
    show (List.zipWith _ _ _).length = _
    rw [List.length_zipWith, hinv.miu_len, hclen, Nat.min_self]
  · rw [alStep_stop cs p s a hstop]
    refine ⟨fun h => Bool.noConfusion h, fun _ => ⟨fun h => ?_, hbest.1⟩⟩
    have hconv : alConverged p s a = true := by
      by_contra hc
      rw [if_neg hc] at h
      exact absurd h (by decide : (2 : Nat) ≠ 1)
    simp only [alConverged, Bool.and_eq_true, decide_eq_true_eq] at hconv
    exact le_trans (hbest.2 hconv.1.1) hconv.1.2

theorem alLoop_inv (cs : List (C α)) (p : Params α) (inner : Nat → ALState α → Answer α)
    (hinner : ∀ k s, Consistent cs (inner k s)) (fuel : Nat) (s : ALState α) (hinv : ALInv cs s) :
    ALFin p (alLoop cs p inner fuel s) :=
  (alLoop_isLoop cs p inner).result (fun _ => ALInv cs) (ALFin p) (fun _ s hs => (alStep_inv cs p s _ (hinner _ _) hs).1)
    (fun _ s hs => (alStep_inv cs p s _ (hinner _ _) hs).2) (fun _ hs => ⟨fun h1 => absurd h1 hs.not_conv, hs.viol_le⟩) fuel s hinv

end NanoVerif.Penalty
