import NanoVerif.Proofs.ObjectiveSkeleton
import NanoVerif.Proofs.CxxOrder
import Mathlib.Algebra.Order.Field.Basic
/-!
  C09 — the accumulators of `linear::function_t` and of the gradient-boosting objectives are commutative monoids, the
  coordinates of a sum of accumulators are the sums of the coordinates, and hence (with `mapReduce_eq`) the reduced
  accumulators are the plain per-coordinate sums over all samples. Exact arithmetic: any linear ordered field.
-/
set_option linter.unusedSectionVars false

namespace NanoVerif.Objective
variable {α : Type} [Field α] [LinearOrder α] [IsStrictOrderedRing α]

/-! ### scalar sums -/

theorem laws_scalar : Laws (fun a b : α => a + b) 0 := ⟨add_assoc, add_comm, add_zero⟩

theorem fsum_nil : fsum ([] : List α) = 0 := rfl

theorem fsum_cons (x : α) (l : List α) : fsum (x :: l) = x + fsum l := msum_cons laws_scalar x l

theorem fsum_append (l1 l2 : List α) : fsum (l1 ++ l2) = fsum l1 + fsum l2 := msum_append laws_scalar l1 l2

theorem fsum_eq_sum : ∀ l : List α, fsum l = l.sum
  | [] => rfl
  | x :: l => by rw [fsum_cons, List.sum_cons, fsum_eq_sum l]

theorem fsum_map_mul_left {β : Type} (c : α) (f : β → α) : ∀ l : List β,
    fsum (l.map fun w => c * f w) = c * fsum (l.map f)
  | [] => by simp [fsum_nil]
  | x :: l => by rw [List.map_cons, List.map_cons, fsum_cons, fsum_cons, fsum_map_mul_left c f l, mul_add]

theorem fsum_map_zero {β : Type} (l : List β) (f : β → α) (hf : ∀ x ∈ l, f x = 0) : fsum (l.map f) = 0 := by
  induction l with
  | nil => rfl
  | cons x l ih =>
    rw [List.map_cons, fsum_cons, hf x (by simp), ih (fun y hy => hf y (by simp [hy])), add_zero]

theorem absF_eq (x : α) : absF x = |x| := Cxx.ite_abs x

/-! ### vectors -/

theorem vadd_get {k : Nat} (a b : Vector α k) (i : Nat) (h : i < k) : (vadd a b)[i] = a[i] + b[i] := by
  simp [vadd]

theorem vzero_get {k : Nat} (i : Nat) (h : i < k) : (vzero k : Vector α k)[i] = 0 := by
  simp [vzero]

theorem vdivN_get {k : Nat} (a : Vector α k) (n : Nat) (i : Nat) (h : i < k) : (vdivN a n)[i] = a[i] / (n : α) := by
  simp [vdivN]

theorem vadd_assoc {k : Nat} (a b c : Vector α k) : vadd (vadd a b) c = vadd a (vadd b c) := by
  apply Vector.ext; intro i h; simp only [vadd_get, add_assoc]

theorem vadd_comm {k : Nat} (a b : Vector α k) : vadd a b = vadd b a := by
  apply Vector.ext; intro i h; simp only [vadd_get, add_comm]

theorem vadd_vzero {k : Nat} (a : Vector α k) : vadd a (vzero k) = a := by
  apply Vector.ext; intro i h; simp only [vadd_get, vzero_get, add_zero]

theorem msum_getElem {M : Type} {add : M → M → M} {zero : M} {k : Nat} (π : M → Vector α k)
    (hadd : ∀ a b, π (add a b) = vadd (π a) (π b)) (hzero : π zero = vzero k) (l : List M) (i : Nat) (h : i < k) :
    (π (msum add zero l))[i] = fsum (l.map fun a => (π a)[i]) := by
  have := foldl_proj (add := add) (fun a b : α => a + b) (fun a => (π a)[i])
    (fun a b => by rw [hadd, vadd_get]) l zero
  rwa [hzero, vzero_get] at this

/-! ### `linear::accumulator_t` -/

theorem LinAcc.ext' {t s : Nat} {a b : LinAcc α t s} (h1 : a.vm1 = b.vm1) (h2 : a.gb1 = b.gb1) (h3 : a.gW1 = b.gW1) :
    a = b := by
  cases a; cases b; simp_all

theorem laws_lin {t s : Nat} : Laws (LinAcc.add (α := α) (t := t) (s := s)) LinAcc.zero :=
  ⟨fun _ _ _ => LinAcc.ext' (add_assoc _ _ _) (vadd_assoc _ _ _) (vadd_assoc _ _ _),
   fun _ _ => LinAcc.ext' (add_comm _ _) (vadd_comm _ _) (vadd_comm _ _),
   fun _ => LinAcc.ext' (add_zero _) (vadd_vzero _) (vadd_vzero _)⟩

theorem lin_msum_vm1 {t s : Nat} (l : List (LinAcc α t s)) :
    (msum LinAcc.add LinAcc.zero l).vm1 = fsum (l.map fun a => a.vm1) :=
  foldl_proj (add := LinAcc.add) (fun a b : α => a + b) (fun a : LinAcc α t s => a.vm1) (fun _ _ => rfl) l LinAcc.zero

theorem lin_msum_gb1 {t s : Nat} (l : List (LinAcc α t s)) (k : Nat) (h : k < t) :
    (msum LinAcc.add LinAcc.zero l).gb1[k] = fsum (l.map fun a => a.gb1[k]) :=
  msum_getElem (·.gb1) (fun _ _ => rfl) rfl l k h

theorem lin_msum_gW1 {t s : Nat} (l : List (LinAcc α t s)) (k : Nat) (h : k < t * s) :
    (msum LinAcc.add LinAcc.zero l).gW1[k] = fsum (l.map fun a => a.gW1[k]) :=
  msum_getElem (·.gW1) (fun _ _ => rfl) rfl l k h

/-- the reduced accumulator of `linear::function_t::do_vgrad` is the sum over all samples divided by `n` -/
theorem linear_acc_canonical {t s : Nat} (W : Nat → Nat → α) (b : Nat → α) (L : Nat → Vector α t → α)
    (dL : Nat → Vector α t → Vector α t) (x : Nat → Nat → α) (workers n batch : Nat) (asg : List Nat)
    (hw : 0 < workers) (hb : 0 < batch) (hasg : ValidAsg workers n batch asg) :
    mapReduce LinAcc.add LinAcc.zero LinAcc.divN (linStep (s := s) W b L dL x) workers n batch asg
      = some (LinAcc.divN (msum LinAcc.add LinAcc.zero ((List.range n).map (linTerm W b L dL x))) n) :=
  mapReduce_eq laws_lin LinAcc.divN (linTerm W b L dL x) (fun _ _ _ => rfl) workers n batch asg hw hb hasg

/-! ### `gboost::accumulator_t` -/

theorem GbAcc.ext' {d : Nat} {a b : GbAcc α d} (h1 : a.vm1 = b.vm1) (h2 : a.gb1 = b.gb1) : a = b := by
  cases a; cases b; simp_all

theorem laws_gb {d : Nat} : Laws (GbAcc.add (α := α) (d := d)) GbAcc.zero :=
  ⟨fun _ _ _ => GbAcc.ext' (add_assoc _ _ _) (vadd_assoc _ _ _),
   fun _ _ => GbAcc.ext' (add_comm _ _) (vadd_comm _ _),
   fun _ => GbAcc.ext' (add_zero _) (vadd_vzero _)⟩

theorem gb_msum_vm1 {d : Nat} (l : List (GbAcc α d)) :
    (msum GbAcc.add GbAcc.zero l).vm1 = fsum (l.map fun a => a.vm1) :=
  foldl_proj (add := GbAcc.add) (fun a b : α => a + b) (fun a : GbAcc α d => a.vm1) (fun _ _ => rfl) l GbAcc.zero

theorem gb_msum_gb1 {d : Nat} (l : List (GbAcc α d)) (k : Nat) (h : k < d) :
    (msum GbAcc.add GbAcc.zero l).gb1[k] = fsum (l.map fun a => a.gb1[k]) :=
  msum_getElem (·.gb1) (fun _ _ => rfl) rfl l k h

theorem bias_acc_canonical {t : Nat} (L : Nat → Vector α t → α) (dL : Nat → Vector α t → Vector α t) (x : Vector α t)
    (workers n batch : Nat) (asg : List Nat) (hw : 0 < workers) (hb : 0 < batch)
    (hasg : ValidAsg workers n batch asg) :
    mapReduce GbAcc.add GbAcc.zero GbAcc.divN (biasStep L dL x) workers n batch asg
      = some (GbAcc.divN (msum GbAcc.add GbAcc.zero ((List.range n).map (biasTerm L dL x))) n) :=
  mapReduce_eq laws_gb GbAcc.divN (biasTerm L dL x) (fun _ _ _ => rfl) workers n batch asg hw hb hasg

/-! ### the scale objective: the two per-sample loops of the callback add the per-sample term -/

/-- what the sample at position `i` adds: its loss value, and `∇ℓ_i · w_i` in the coordinate of its group (nothing when
    it is unassigned: a negative group never equals a coordinate index) -/
def scaleTerm {t G : Nat} (L : Nat → Vector α t → α) (dL : Nat → Vector α t → Vector α t) (x : Vector α G)
    (grp : Nat → Int) (so wo : Nat → Vector α t) (i : Nat) : GbAcc α G :=
  ⟨L i (scaleOutput x grp so wo i),
   Vector.ofFn fun q => if (q.val : Int) = grp i then dot (dL i (scaleOutput x grp so wo i)) (wo i) else 0⟩

theorem scaleGradUpdate_get {t G : Nat} (dL : Nat → Vector α t → Vector α t) (x : Vector α G) (grp : Nat → Int)
    (so wo : Nat → Vector α t) (L : Nat → Vector α t → α) (gb : Vector α G) (i q : Nat) (hq : q < G) :
    (scaleGradUpdate dL x grp so wo gb i)[q] = gb[q] + (scaleTerm L dL x grp so wo i).gb1[q] := by
  unfold scaleGradUpdate scaleTerm
  by_cases hg : grp i < 0
  · have hne : ¬ ((q : Int) = grp i) := by omega
    simp [hg, hne]
  · by_cases he : (q : Int) = grp i
    · simp [hg, he]
    · simp [hg, he]

theorem scaleGrad_foldl_get {t G : Nat} (dL : Nat → Vector α t → Vector α t) (x : Vector α G) (grp : Nat → Int)
    (so wo : Nat → Vector α t) (L : Nat → Vector α t → α) (q : Nat) (hq : q < G) :
    ∀ (l : List Nat) (gb : Vector α G),
      (l.foldl (scaleGradUpdate dL x grp so wo) gb)[q]
        = gb[q] + fsum (l.map fun i => (scaleTerm L dL x grp so wo i).gb1[q])
  | [], gb => by simp [fsum_nil]
  | i :: l, gb => by
    rw [List.foldl_cons, scaleGrad_foldl_get dL x grp so wo L q hq l, scaleGradUpdate_get dL x grp so wo L gb i q hq,
      List.map_cons, fsum_cons, add_assoc]

theorem scaleStep_eq {t G : Nat} (L : Nat → Vector α t → α) (dL : Nat → Vector α t → Vector α t) (x : Vector α G)
    (grp : Nat → Int) (so wo : Nat → Vector α t) (acc : GbAcc α G) (bg en : Nat) :
    scaleStep L dL x grp so wo acc bg en
      = acc.add (msum GbAcc.add GbAcc.zero ((rangeList bg en).map (scaleTerm L dL x grp so wo))) := by
  apply GbAcc.ext'
  · simp only [scaleStep, GbAcc.add, gb_msum_vm1, List.map_map]
    rfl
  · apply Vector.ext
    intro q hq
    simp only [scaleStep, GbAcc.add]
    rw [scaleGrad_foldl_get dL x grp so wo L q hq, vadd_get, gb_msum_gb1 _ q hq, List.map_map]
    rfl

theorem scale_acc_canonical {t G : Nat} (L : Nat → Vector α t → α) (dL : Nat → Vector α t → Vector α t)
    (x : Vector α G) (grp : Nat → Int) (so wo : Nat → Vector α t) (workers n batch : Nat) (asg : List Nat)
    (hw : 0 < workers) (hb : 0 < batch) (hasg : ValidAsg workers n batch asg) :
    mapReduce GbAcc.add GbAcc.zero GbAcc.divN (scaleStep L dL x grp so wo) workers n batch asg
      = some (GbAcc.divN (msum GbAcc.add GbAcc.zero ((List.range n).map (scaleTerm L dL x grp so wo))) n) :=
  mapReduce_eq laws_gb GbAcc.divN (scaleTerm L dL x grp so wo) (scaleStep_eq L dL x grp so wo) workers n batch asg
    hw hb hasg

end NanoVerif.Objective
