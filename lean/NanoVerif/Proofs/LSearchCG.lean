import NanoVerif.Proofs.LSearch
/-!
  C07 — helper lemmas, CG_DESCENT: what a `return {state.valid(), interval.step_size}` of `lsearchk_cgdescent_t::do_get`
  with a valid state implies.

  `interval_t::done` (cgdescent.cpp:48-72) answers `true` in three ways:
    (i)   `bracketed && (a.f > f0 + epsilon_k || b.g < 0)`   "bracketing failed or diverged"  — or the state is invalid,
    (ii)  `a.t <= step_size <= b.t` and Armijo + Wolfe,
    (iii) `a.t <= step_size <= b.t` and approximate Armijo + approximate Wolfe.
  The lemmas below carry an invariant through `bracket`, `update`, `updateU`, `move_update_and_check_done` and the main loop:
    * `a.f <= f0 + epsilon_k`, `a.g < 0`, `0 <= a.t`, `0 < b.t`, `a` and `b` are the origin or evaluated trial points,
    * every decrement of the shared budget `params.m_max_iterations` is paid for by one evaluation,
    * at every call of `done(bracketed = true)`: the state is invalid, or `b.g >= 0`, or the shared budget is exhausted,
      or the interval has collapsed below `stpmin()` — and in the last two cases the current trial step is positive.
  Hence (i) with a valid state can only happen with `b.g < 0` and (budget exhausted or interval collapsed): `CgBracketFailed`.
-/
namespace NanoVerif.LSearch
open NanoVerif.Gen.LsPredicates

set_option linter.unusedSectionVars false

variable {α : Type} [Field α] [LinearOrder α] [IsStrictOrderedRing α]

/-- the parameter domains the lemmas use (registered domains: `0 < epsilon`, `1 < ro`, `0 < theta < 1`) -/
structure CgDom (cfg : Cfg α) : Prop where
  eps : 0 ≤ cfg.cgEpsilon
  ro : 0 < cfg.cgRo
  theta0 : 0 < cfg.cgTheta
  theta1 : cfg.cgTheta < 1

def Evald (φ : Oracle α) (ctx : Ctx α) (s : Step α) : Prop :=
  ∃ pre post, ctx.trace = pre ++ s.t :: post ∧ s.f = (φ post.length s.t).f ∧ s.g = (φ post.length s.t).g

def CgPoint (φ : Oracle α) (s0 : Eval α) (ctx : Ctx α) (s : Step α) : Prop :=
  s = ⟨0, s0.f, s0.g⟩ ∨ Evald φ ctx s

theorem evald_ask {φ : Oracle α} {ctx : Ctx α} {s : Step α} (t : α) (h : Evald φ ctx s) : Evald φ (ask φ ctx t) s := by
  obtain ⟨pre, post, h1, h2, h3⟩ := h
  exact ⟨t :: pre, post, by simp [ask, h1], h2, h3⟩

theorem cgPoint_ask {φ : Oracle α} {s0 : Eval α} {ctx : Ctx α} {s : Step α} (t : α) (h : CgPoint φ s0 ctx s) :
    CgPoint φ s0 (ask φ ctx t) s := by
  rcases h with h | h
  · exact Or.inl h
  · exact Or.inr (evald_ask t h)

theorem evald_stepOf {φ : Oracle α} {ctx : Ctx α} {t : α} (h : Cons φ ctx t) : Evald φ ctx (stepOf ctx t) := by
  obtain ⟨rest, h1, h2⟩ := h
  exact ⟨[], rest, by simp [stepOf, h1], by simp [stepOf, h2], by simp [stepOf, h2]⟩

def CgWolfe (cfg : Cfg α) (s0 : Eval α) (r : Res α) : Prop :=
  hasArmijo s0.f s0.g r.ctx.cur.f r.t cfg.c1 = true ∧ hasWolfe s0.g r.ctx.cur.g cfg.c2 = true

/-- `epsilon_k = lsearchk::cgdescent::epsilon · |f0|` -/
def CgApprox (cfg : Cfg α) (s0 : Eval α) (r : Res α) : Prop :=
  hasApproxArmijo s0.f r.ctx.cur.f (cfg.cgEpsilon * absv s0.f) = true ∧
    hasApproxWolfe s0.g r.ctx.cur.g cfg.c1 cfg.c2 = true

/-- "bracketing failed" exit with a valid state: the upper end `b` of the interval is an evaluated point that still has a
    negative slope, and either at least `K` evaluations were made (`K` = evaluations before `do_get` + `max_iterations`:
    the shared budget is exhausted) or the interval `[a, b]` is not wider than `stpmin()`.
    Nothing was tested on the returned state. -/
def CgBracketFailed (cfg : Cfg α) (φ : Oracle α) (s0 : Eval α) (K : Nat) (r : Res α) : Prop :=
  ∃ a b : Step α, CgPoint φ s0 r.ctx a ∧ CgPoint φ s0 r.ctx b ∧ b.g < 0 ∧
    (K ≤ r.ctx.trace.length ∨ b.t - a.t ≤ stpmin cfg.macheps)

/-- what a success of CG_DESCENT guarantees: a valid state; one of the three exits; a positive step unless the step is `0`
    and the Wolfe inequality `g ≥ c2·g0` holds of the answer at `0` -/
def CgQ (cfg : Cfg α) (φ : Oracle α) (s0 : Eval α) (K : Nat) (r : Res α) : Prop :=
  r.ctx.cur.ok = true ∧
  (CgWolfe cfg s0 r ∨ CgApprox cfg s0 r ∨ CgBracketFailed cfg φ s0 K r) ∧
  (0 < r.t ∨ (r.t = 0 ∧ hasWolfe s0.g r.ctx.cur.g cfg.c2 = true))

theorem CgQ.mono {cfg : Cfg α} {φ : Oracle α} {s0 : Eval α} {K K' : Nat} {r : Res α} (hK : K' ≤ K)
    (h : CgQ cfg φ s0 K r) : CgQ cfg φ s0 K' r :=
  ⟨h.1, h.2.1.imp_right (Or.imp_right fun ⟨a, b, b1, b2, b3, b4⟩ => ⟨a, b, b1, b2, b3, b4.imp_left (le_trans hK)⟩), h.2.2⟩

structure CgInv (φ : Oracle α) (s0 : Eval α) (epsk : α) (K : Nat) (s : CGS α) : Prop where
  budget : K ≤ s.ctx.trace.length + s.m
  cons : Cons φ s.ctx s.iv.t
  a_pt : CgPoint φ s0 s.ctx s.iv.a
  b_pt : CgPoint φ s0 s.ctx s.iv.b
  a_f : s.iv.a.f ≤ s0.f + epsk
  a_g : s.iv.a.g < 0
  a_t : 0 ≤ s.iv.a.t
  b_t : 0 < s.iv.b.t

/-- what holds whenever `done(bracketed = true)` is called -/
def CgG (cfg : Cfg α) (s : CGS α) : Prop :=
  s.ctx.cur.ok = false ∨ 0 ≤ s.iv.b.g ∨ ((s.m = 0 ∨ s.iv.b.t - s.iv.a.t ≤ stpmin cfg.macheps) ∧ 0 < s.iv.t)

def CgOK (cfg : Cfg α) (φ : Oracle α) (s0 : Eval α) (epsk : α) (K : Nat) (s : CGS α) : Prop :=
  CgInv φ s0 epsk K s ∧ CgG cfg s

theorem cgInv_move {φ : Oracle α} {s0 : Eval α} {epsk : α} {K m : Nat} {iv : CG α} {ctx : Ctx α}
    (h : CgInv φ s0 epsk K ⟨m, iv, ctx⟩) (m' : Nat) (t : α) (hm : K ≤ ctx.trace.length + 1 + m') :
    CgInv φ s0 epsk K ⟨m', { iv with t := t }, ask φ ctx t⟩ :=
  ⟨by simpa using hm, cons_ask φ ctx t, cgPoint_ask t h.a_pt, cgPoint_ask t h.b_pt, h.a_f, h.a_g, h.a_t, h.b_t⟩

theorem cgInv_updateB {φ : Oracle α} {s0 : Eval α} {epsk : α} {K m : Nat} {iv : CG α} {ctx : Ctx α}
    (h : CgInv φ s0 epsk K ⟨m, iv, ctx⟩) (ht : 0 < iv.t) :
    CgInv φ s0 epsk K ⟨m, { iv with b := stepOf ctx iv.t }, ctx⟩ :=
  ⟨h.budget, h.cons, h.a_pt, Or.inr (evald_stepOf h.cons), h.a_f, h.a_g, h.a_t, ht⟩

theorem cgInv_updateA {φ : Oracle α} {s0 : Eval α} {epsk : α} {K m : Nat} {iv : CG α} {ctx : Ctx α}
    (h : CgInv φ s0 epsk K ⟨m, iv, ctx⟩) (ht : 0 ≤ iv.t) (hg : ctx.cur.g < 0) (hf : ctx.cur.f ≤ s0.f + epsk) :
    CgInv φ s0 epsk K ⟨m, { iv with a := stepOf ctx iv.t }, ctx⟩ :=
  ⟨h.budget, h.cons, Or.inr (evald_stepOf h.cons), h.b_pt, hf, hg, ht, h.b_t⟩

theorem not_descent {g : α} (h : ¬ hasDescent g = false) : g < 0 :=
  not_le.1 (mt (descent_false_iff g).2 h)

section
variable (cfg : Cfg α) (φ : Oracle α) (s0 : Eval α) (epsk : α) (K : Nat)

/-! ### `updateU` -/

theorem cgUpdateU_ok (hd : CgDom cfg) :
    ∀ (m : Nat) (iv : CG α) (ctx : Ctx α), CgInv φ s0 epsk K ⟨m, iv, ctx⟩ → 0 < iv.t →
      CgOK cfg φ s0 epsk K (cgUpdateU cfg φ s0 epsk m iv ctx) := by
  intro m
  induction m with
  | zero => intro iv ctx h ht; exact ⟨h, Or.inr (Or.inr ⟨Or.inl rfl, ht⟩)⟩
  | succ m ih =>
    intro iv ctx h ht
    have htheta : 0 < (1 - cfg.cgTheta) * iv.a.t + cfg.cgTheta * iv.b.t :=
      add_pos_of_nonneg_of_pos (mul_nonneg (sub_nonneg.mpr hd.theta1.le) h.a_t) (mul_pos hd.theta0 h.b_t)
    have hb := h.budget
    simp only at hb
    have hmove := cgInv_move h (m + 1) ((1 - cfg.cgTheta) * iv.a.t + cfg.cgTheta * iv.b.t) (by omega)
    simp only [cgUpdateU, cgMove]
    refine ite_post (fun _ => ite_post (fun hok => ⟨hmove, Or.inl hok⟩) (fun _ => ite_post (fun hnd => ?_)
      (fun hdesc => ite_post (fun hA => ?_) (fun _ => ?_)))) (fun hw => ⟨h, Or.inr (Or.inr ⟨Or.inr (not_lt.mp hw), ht⟩)⟩)
    · exact ⟨cgInv_updateB hmove htheta, Or.inr (Or.inl ((descent_false_iff _).1 hnd))⟩
    · have hmove' := cgInv_move h m ((1 - cfg.cgTheta) * iv.a.t + cfg.cgTheta * iv.b.t) (by omega)
      exact ih _ _ (cgInv_updateA hmove' (le_of_lt htheta) (not_descent hdesc) ((approxArmijo_iff ..).1 hA)) htheta
    · have hmove' := cgInv_move h m ((1 - cfg.cgTheta) * iv.a.t + cfg.cgTheta * iv.b.t) (by omega)
      exact ih _ _ (cgInv_updateB hmove' htheta) htheta

/-! ### `update` (called after `done` answered `false`, hence with `0 ≤ b.g`) -/

theorem cgUpdate_ok (hd : CgDom cfg)
    (m : Nat) (iv : CG α) (ctx : Ctx α) (h : CgInv φ s0 epsk K ⟨m, iv, ctx⟩) (hb : 0 ≤ iv.b.g) :
    CgOK cfg φ s0 epsk K (cgUpdate cfg φ s0 epsk m iv ctx) := by
  simp only [cgUpdate]
  refine ite_post (fun _ => ⟨h, Or.inr (Or.inl hb)⟩) (fun hin => ?_)
  have ht : 0 < iv.t := by
    have : iv.a.t < iv.t := by
      rcases lt_or_ge iv.a.t iv.t with h' | h'
      · exact h'
      · exact absurd (Or.inl h') hin
    exact lt_of_le_of_lt h.a_t this
  refine ite_post (fun hnd => ⟨cgInv_updateB h ht, Or.inr (Or.inl ((descent_false_iff _).1 hnd))⟩)
    (fun hdesc => ite_post (fun hA => ⟨cgInv_updateA h (le_of_lt ht) (not_descent hdesc) ((approxArmijo_iff ..).1 hA),
      Or.inr (Or.inl hb)⟩) (fun _ => cgUpdateU_ok cfg φ s0 epsk K hd m _ ctx (cgInv_updateB h ht) ht))

/-! ### `bracket` -/

theorem cgBracket_ok (hd : CgDom cfg) (he : 0 ≤ epsk)
    (hg0 : s0.g < 0) :
    ∀ (m : Nat) (lastA : Step α) (iv : CG α) (ctx : Ctx α), CgInv φ s0 epsk K ⟨m, iv, ctx⟩ → 0 < iv.t →
      CgPoint φ s0 ctx lastA → lastA.f ≤ s0.f + epsk → lastA.g < 0 → 0 ≤ lastA.t →
      CgOK cfg φ s0 epsk K (cgBracket cfg φ s0 epsk m lastA iv ctx) := by
  intro m
  induction m with
  | zero => intro lastA iv ctx h ht _ _ _ _; exact ⟨h, Or.inr (Or.inr ⟨Or.inl rfl, ht⟩)⟩
  | succ m ih =>
    intro lastA iv ctx h ht l1 l2 l3 l4
    have hb := h.budget
    simp only at hb
    simp only [cgBracket, cgMove]
    refine ite_post (fun hok => ite_post (fun hnd => ?_) (fun hdesc => ite_post (fun hnA => ?_) (fun hA => ?_)))
      (fun hok => ⟨h, Or.inl (by simpa using hok)⟩)
    · exact ⟨⟨h.budget, h.cons, l1, Or.inr (evald_stepOf h.cons), l2, l3, l4, ht⟩,
        Or.inr (Or.inl ((descent_false_iff _).1 hnd))⟩
    · refine cgUpdateU_ok cfg φ s0 epsk K hd (m + 1) _ ctx ?_ ht
      exact ⟨h.budget, h.cons, Or.inl rfl, Or.inr (evald_stepOf h.cons), le_add_of_nonneg_right he, hg0, le_refl _, ht⟩
    · have hA' : hasApproxArmijo s0.f ctx.cur.f epsk = true := by simpa using hA
      have hro : 0 < cfg.cgRo * iv.t := mul_pos hd.ro ht
      refine ih _ _ _ (cgInv_move h m (cfg.cgRo * iv.t) (by omega)) hro ?_ ((approxArmijo_iff ..).1 hA') (not_descent hdesc)
        (le_of_lt ht)
      exact cgPoint_ask _ (Or.inr (evald_stepOf h.cons))

/-! ### `done` -/

/-- `interval_t::done` answers `true` exactly when bracketing failed (asked only once `bracketed`) or the state is invalid, or
    the step lies in `[a.t, b.t]` and passes Wolfe or approximate Wolfe -/
theorem cgDone_iff (br : Bool) (iv : CG α) (ctx : Ctx α) :
    cgDone cfg s0 epsk br iv ctx = true ↔
      ((br = true ∧ (iv.a.f > s0.f + epsk ∨ iv.b.g < 0)) ∨ ctx.cur.ok = false) ∨
      ((iv.a.t ≤ iv.t ∧ iv.t ≤ iv.b.t) ∧
        ((hasArmijo s0.f s0.g ctx.cur.f iv.t cfg.c1 = true ∧ hasWolfe s0.g ctx.cur.g cfg.c2 = true) ∨
         (hasApproxArmijo s0.f ctx.cur.f epsk = true ∧ hasApproxWolfe s0.g ctx.cur.g cfg.c1 cfg.c2 = true))) := by
  unfold cgDone
  split
  · exact iff_of_true rfl (Or.inl ‹_›)
  · rename_i h1
    split
    · rename_i h2
      exact iff_of_false Bool.false_ne_true fun h => h.elim h1 fun h =>
        h2.elim (fun h' => not_lt.2 h.1.1 h') (fun h' => not_lt.2 h.1.2 h')
    · rename_i h2
      rw [Bool.or_eq_true, Bool.and_eq_true, Bool.and_eq_true]
      exact ⟨fun h => Or.inr ⟨⟨not_lt.1 fun h' => h2 (Or.inl h'), not_lt.1 fun h' => h2 (Or.inr h')⟩, h⟩,
        fun h => h.elim (fun h => absurd h h1) fun h => h.2⟩

theorem cgDone_false (iv : CG α) (ctx : Ctx α)
    (h : ¬ cgDone cfg s0 epsk true iv ctx = true) : 0 ≤ iv.b.g :=
  not_lt.1 fun hb => h ((cgDone_iff cfg s0 epsk true iv ctx).2 (Or.inl (Or.inl ⟨rfl, Or.inr hb⟩)))

theorem cgDone_true (s : CGS α)
    (hi : CgInv φ s0 (cfg.cgEpsilon * absv s0.f) K s) (hG : CgG cfg s)
    (h : cgDone cfg s0 (cfg.cgEpsilon * absv s0.f) true s.iv s.ctx = true) (hok : s.ctx.cur.ok = true) :
    CgQ cfg φ s0 K (cgResult s) := by
  by_cases hb : s.iv.b.g < 0
  · -- bracketing failed
    rcases hG with hG | hG | ⟨hG, ht⟩
    · rw [hok] at hG; cases hG
    · exact absurd hb (not_lt.mpr hG)
    · refine ⟨hok, Or.inr (Or.inr ⟨s.iv.a, s.iv.b, hi.a_pt, hi.b_pt, hb, ?_⟩), Or.inl ht⟩
      rcases hG with hG | hG
      · left; have := hi.budget; simp only [cgResult]; omega
      · exact Or.inr hG
  · have hnf : ¬ ((true = true ∧ (s.iv.a.f > s0.f + cfg.cgEpsilon * absv s0.f ∨ s.iv.b.g < 0)) ∨ s.ctx.cur.ok = false) := by
      rintro (⟨_, h1 | h1⟩ | h1)
      · exact absurd hi.a_f (not_le.mpr h1)
      · exact hb h1
      · rw [hok] at h1; cases h1
    obtain ⟨⟨h1, -⟩, h2⟩ := ((cgDone_iff cfg s0 _ true s.iv s.ctx).1 h).resolve_left hnf
    have ht : 0 ≤ s.iv.t := le_trans hi.a_t h1
    have hw : hasWolfe s0.g s.ctx.cur.g cfg.c2 = true := by
      rcases h2 with h2 | h2
      · exact h2.2
      · exact (wolfe_iff ..).2 ((approxWolfe_iff ..).1 h2.2).2
    refine ⟨hok, ?_, ?_⟩
    · rcases h2 with h2 | h2
      · exact Or.inl h2
      · exact Or.inr (Or.inl h2)
    · rcases lt_or_eq_of_le ht with h' | h'
      · exact Or.inl h'
      · exact Or.inr ⟨h'.symm, hw⟩

/-! ### `move_update_and_check_done` and the main loop -/

/-- outcome of `move_update_and_check_done` entered with `0 ≤ b.g` -/
def CgTryPost (r : Bool × CGS α) : Prop :=
  CgInv φ s0 (cfg.cgEpsilon * absv s0.f) K r.2 ∧ (r.1 = false → 0 ≤ r.2.iv.b.g) ∧
    (r.1 = true → r.2.ctx.cur.ok = true → CgQ cfg φ s0 K (cgResult r.2))

theorem cgTry_ok (hd : CgDom cfg) (m : Nat) (iv : CG α) (ctx : Ctx α)
    (t : α) (h : CgInv φ s0 (cfg.cgEpsilon * absv s0.f) K ⟨m, iv, ctx⟩) (hb : 0 ≤ iv.b.g) :
    CgTryPost cfg φ s0 K (cgTry cfg φ s0 (cfg.cgEpsilon * absv s0.f) m iv ctx t) := by
  simp only [cgTry, cgMove]
  refine ite_post (fun _ => ⟨h, fun _ => hb, fun h' => by cases h'⟩) (fun _ => ?_)
  have hbud := h.budget
  simp only at hbud
  have hmove := cgInv_move h m t (by omega)
  refine ite_post (fun hdone => ⟨hmove, fun h' => (by cases h'), fun _ hok => ?_⟩) (fun hnd => ?_)
  · exact cgDone_true cfg φ s0 K _ hmove (Or.inr (Or.inl hb)) hdone hok
  · have hb' := cgDone_false cfg s0 _ _ _ hnd
    obtain ⟨u1, u2⟩ := cgUpdate_ok cfg φ s0 _ K hd m { iv with t := t } (ask φ ctx t) hmove hb'
    refine ⟨u1, fun h' => ?_, fun h' hok => ?_⟩
    · exact cgDone_false cfg s0 _ _ _ (by simpa using h')
    · exact cgDone_true cfg φ s0 K _ u1 u2 h' hok

theorem cgSecond_ok (hd : CgDom cfg) (a0 b0 : Step α) (tc : α)
    (s : CGS α) (h : CgInv φ s0 (cfg.cgEpsilon * absv s0.f) K s) (hb : 0 ≤ s.iv.b.g) :
    CgTryPost cfg φ s0 K (cgSecond cfg φ s0 (cfg.cgEpsilon * absv s0.f) a0 b0 tc s) := by
  simp only [cgSecond]
  exact ite_post (fun _ => cgTry_ok cfg φ s0 K hd s.m s.iv s.ctx _ h hb)
    (fun _ => ite_post (fun _ => cgTry_ok cfg φ s0 K hd s.m s.iv s.ctx _ h hb)
      (fun _ => ⟨h, fun _ => hb, fun h' => by cases h'⟩))

theorem cgLoop_ok (hd : CgDom cfg) :
    ∀ (fuel i m : Nat) (iv : CG α) (ctx : Ctx α), CgInv φ s0 (cfg.cgEpsilon * absv s0.f) K ⟨m, iv, ctx⟩ → 0 ≤ iv.b.g →
      (cgLoop cfg φ s0 (cfg.cgEpsilon * absv s0.f) fuel i m iv ctx).ok = true →
      CgQ cfg φ s0 K (cgLoop cfg φ s0 (cfg.cgEpsilon * absv s0.f) fuel i m iv ctx) := by
  intro fuel
  induction fuel with
  | zero => intro i m iv ctx _ _ h; simp [cgLoop] at h
  | succ fuel ih =>
    intro i m iv ctx h hb
    simp only [cgLoop]
    refine ite_ok (fun _ => ?_) (fun _ h' => by cases h')
    obtain ⟨a1, a2, a3⟩ := cgTry_ok cfg φ s0 K hd m iv ctx (secant iv.a iv.b) h hb
    generalize cgTry cfg φ s0 (cfg.cgEpsilon * absv s0.f) m iv ctx (secant iv.a iv.b) = r1 at a1 a2 a3 ⊢
    refine ite_ok (fun h1 hok => a3 h1 hok) (fun h1 => ?_)
    have h1' : r1.1 = false := by simpa using h1
    obtain ⟨b1, b2, b3⟩ := cgSecond_ok cfg φ s0 K hd iv.a iv.b (secant iv.a iv.b) r1.2 a1 (a2 h1')
    generalize cgSecond cfg φ s0 (cfg.cgEpsilon * absv s0.f) iv.a iv.b (secant iv.a iv.b) r1.2 = r2 at b1 b2 b3 ⊢
    refine ite_ok (fun h2 hok => b3 h2 hok) (fun h2 => ?_)
    have h2' : r2.1 = false := by simpa using h2
    refine ite_ok (fun _ => ?_)
      (fun _ => ih (i + 1) r2.2.m r2.2.iv r2.2.ctx b1 (b2 h2'))
    obtain ⟨c1, c2, c3⟩ := cgTry_ok cfg φ s0 K hd r2.2.m r2.2.iv r2.2.ctx ((r2.2.iv.a.t + r2.2.iv.b.t) / 2) b1 (b2 h2')
    generalize cgTry cfg φ s0 (cfg.cgEpsilon * absv s0.f) r2.2.m r2.2.iv r2.2.ctx ((r2.2.iv.a.t + r2.2.iv.b.t) / 2) = r3
      at c1 c2 c3 ⊢
    refine ite_ok (fun h3 hok => c3 h3 hok) (fun h3 => ?_)
    have h3' : r3.1 = false := by simpa using h3
    exact ih (i + 1) r3.2.m r3.2.iv r3.2.ctx c1 (c2 h3')

/-- `lsearchk_cgdescent_t::do_get` entered with a positive step `t`, the state being the evaluation at `t`, along a descent
    direction: on success, the exact disjunction `CgQ` with `K = evaluations so far + max_iterations` -/
theorem cgdescent_cases (t : α) (ctx : Ctx α) (hd : CgDom cfg) (hg0 : s0.g < 0)
    (ht : 0 < t) (hc : Cons φ ctx t) (h : (cgdescent cfg φ s0 t ctx).ok = true) :
    CgQ cfg φ s0 (ctx.trace.length + cfg.maxIter) (cgdescent cfg φ s0 t ctx) := by
  have he : 0 ≤ cfg.cgEpsilon * absv s0.f := by
    apply mul_nonneg hd.eps
    rw [absv_eq_abs]; exact abs_nonneg _
  have hinit : CgInv φ s0 (cfg.cgEpsilon * absv s0.f) (ctx.trace.length + cfg.maxIter)
      ⟨cfg.maxIter, ⟨⟨0, s0.f, s0.g⟩, stepOf ctx t, t⟩, ctx⟩ :=
    ⟨le_refl _, hc, Or.inl rfl, Or.inr (evald_stepOf hc), le_add_of_nonneg_right he, hg0, le_refl _, ht⟩
  revert h
  simp only [cgdescent]
  refine ite_ok (fun hdone hok => ?_) (fun _ => ?_)
  · -- the initial trial step is accepted at once
    have hnf : ¬ ((false = true ∧ ((⟨0, s0.f, s0.g⟩ : Step α).f > s0.f + cfg.cgEpsilon * absv s0.f ∨
        (stepOf ctx t).g < 0)) ∨ ctx.cur.ok = false) := by
      rintro (⟨h1, _⟩ | h1)
      · cases h1
      · simp only at hok; rw [hok] at h1; cases h1
    obtain ⟨-, h2⟩ := ((cgDone_iff cfg s0 _ false ⟨⟨0, s0.f, s0.g⟩, stepOf ctx t, t⟩ ctx).1 hdone).resolve_left hnf
    refine ⟨hok, ?_, Or.inl ht⟩
    rcases h2 with h2 | h2
    · exact Or.inl h2
    · exact Or.inr (Or.inl h2)
  · obtain ⟨b1, b2⟩ := cgBracket_ok cfg φ s0 _ _ hd he hg0 cfg.maxIter ⟨0, s0.f, s0.g⟩
      ⟨⟨0, s0.f, s0.g⟩, stepOf ctx t, t⟩ ctx hinit ht (Or.inl rfl) (le_add_of_nonneg_right he) hg0 (le_refl _)
    generalize cgBracket cfg φ s0 (cfg.cgEpsilon * absv s0.f) cfg.maxIter ⟨0, s0.f, s0.g⟩
      ⟨⟨0, s0.f, s0.g⟩, stepOf ctx t, t⟩ ctx = s at b1 b2 ⊢
    refine ite_ok
      (fun hdone hok => cgDone_true cfg φ s0 _ s b1 b2 hdone hok) (fun hnd => ?_)
    exact cgLoop_ok cfg φ s0 _ hd s.m 0 s.m s.iv s.ctx b1 (cgDone_false cfg s0 _ _ _ hnd)

end

end NanoVerif.LSearch
