import NanoVerif.Model.Wire
import NanoVerif.Gen.CodecLayout
/-!
  C15 — the FIELD LAYOUTS of the serialised classes, regenerated from the source (`Gen/CodecLayout.lean`, by
  `tools/props/c15_translate.py`) and tied to what `Model/Wire.lean` encodes.

  `modelLayouts` is the hand-written table: for every class the base-class codec that comes first and the fields in
  stream order, each with the cast applied on the wire and the declared member type. `wireOf` maps (cast, declared type)
  to the on-the-wire kind `Wire` — the codec of `Model/Wire.lean` that the model uses at that position — and `modelWire`
  lists, codec by codec, the `seq` structure of `Model/Wire.lean` (`configurable`, `feature`, `learner`, `linear`, `gboost`,
  `single`, `wbodyOf 1 … 4`, `dnode`).
-/
namespace NanoVerif.Codec.Layout
open NanoVerif.Gen.CodecLayout

/-- what `Model/Wire.lean` encodes, class by class (same shape as the generated tables) -/
def modelLayouts : List Layout := [
  ⟨"configurable_t", "", [("major_version", "", "int32_t"), ("minor_version", "", "int32_t"), ("patch_version", "", "int32_t"), ("parameters", "", "parameters_t")]⟩,
  ⟨"feature_t", "", [("type", "string", "feature_type"), ("dims", "", "tensor3d_dims_t"), ("name", "", "string_t"), ("labels", "", "strings_t")]⟩,
  ⟨"learner_t", "configurable_t", [("inputs", "", "features_t"), ("target", "", "feature_t")]⟩,
  ⟨"linear_t", "learner_t", [("bias", "", "tensor1d_t"), ("weights", "", "tensor2d_t")]⟩,
  ⟨"gboost_model_t", "learner_t", [("bias", "", "tensor1d_t"), ("wlearners", "", "rwlearners_t"), ("prototypes", "", "rwlearners_t")]⟩,
  ⟨"single_feature_wlearner_t", "wlearner_t", [("feature", "int64_t", "tensor_size_t"), ("tables", "", "tensor4d_t")]⟩,
  ⟨"stump_wlearner_t", "single_feature_wlearner_t", [("threshold", "", "scalar_t")]⟩,
  ⟨"hinge_wlearner_t", "single_feature_wlearner_t", [("threshold", "", "scalar_t"), ("hinge", "uint32_t", "hinge_type")]⟩,
  ⟨"table_wlearner_t", "single_feature_wlearner_t", [("hashes", "", "hashes_t"), ("hash2tables", "", "indices_t")]⟩,
  ⟨"dtree_wlearner_t", "wlearner_t", [("nodes", "", "dtree_nodes_t"), ("features", "", "indices_t"), ("tables", "", "tensor4d_t")]⟩,
  ⟨"dtree_node_t", "", [("feature", "int32_t", "tensor_size_t"), ("threshold", "", "scalar_t"), ("next", "uint32_t", "size_t"), ("table", "int32_t", "tensor_size_t")]⟩]

/-- the aliases as `wireOf` assumes them -/
def modelTypedefs : List (String × String) := [
  ("scalar_t", "double"),
  ("tensor_size_t", "Eigen::Index"),
  ("string_t", "std::string"),
  ("strings_t", "std::vector<string_t>"),
  ("tensor1d_t", "tensor_mem_t<scalar_t, 1>"),
  ("tensor2d_t", "tensor_mem_t<scalar_t, 2>"),
  ("tensor3d_t", "tensor_mem_t<scalar_t, 3>"),
  ("tensor4d_t", "tensor_mem_t<scalar_t, 4>"),
  ("tensor3d_dims_t", "tensor3d_t::tdims"),
  ("indices_t", "tensor_mem_t<tensor_size_t, 1>"),
  ("hashes_t", "tensor_mem_t<uint64_t, 1>"),
  ("features_t", "std::vector<feature_t>"),
  ("parameters_t", "std::vector<parameter_t>"),
  ("rwlearner_t", "std::unique_ptr<wlearner_t>"),
  ("rwlearners_t", "std::vector<rwlearner_t>"),
  ("dtree_nodes_t", "std::vector<dtree_node_t>")]

/-- on-the-wire kinds = the codecs of `Model/Codec.lean` / `Model/Wire.lean` used at a position -/
inductive Wire
  | i32 | i64 | u32            -- `Codec.i32`, `Codec.i64`, `Codec.u32` (little endian, fixed width)
  | f64                        -- 8 raw bytes of a double (`Codec.u64` on the bit pattern)
  | str | strs                 -- `Codec.str`, `vec str`
  | typeName                   -- `featureType` (the enum's name as a string)
  | dims3                      -- `seq i64 (seq i64 i64)`
  | params | features | feature | wlearners | dnodes   -- `vec parameter`, `vec feature`, `feature`, `vec wlearner`, `vec dnode`
  | tensorF64 (rank : Nat) | tensorU64 (rank : Nat) | tensorI64 (rank : Nat)   -- `tensor .f64 r`, `tensor .u64 r`, `tensor .i64 r`
  deriving DecidableEq, Repr

/-- (cast, declared type) ↦ wire kind; `none` for a combination the model has no codec for -/
def wireOf (cast decl : String) : Option Wire :=
  if cast = "int32_t" then some .i32
  else if cast = "int64_t" then some .i64
  else if cast = "uint32_t" then some .u32
  else if cast = "string" then (if decl = "feature_type" then some .typeName else none)
  else if cast ≠ "" then none
  else if decl = "int32_t" then some .i32
  else if decl = "scalar_t" then some .f64
  else if decl = "string_t" then some .str
  else if decl = "strings_t" then some .strs
  else if decl = "tensor3d_dims_t" then some .dims3
  else if decl = "parameters_t" then some .params
  else if decl = "features_t" then some .features
  else if decl = "feature_t" then some .feature
  else if decl = "rwlearners_t" then some .wlearners
  else if decl = "dtree_nodes_t" then some .dnodes
  else if decl = "tensor1d_t" then some (.tensorF64 1)
  else if decl = "tensor2d_t" then some (.tensorF64 2)
  else if decl = "tensor4d_t" then some (.tensorF64 4)
  else if decl = "hashes_t" then some (.tensorU64 1)
  else if decl = "indices_t" then some (.tensorI64 1)
  else none

def wiresOf (l : Layout) : String × String × List (Option Wire) :=
  (l.cls, l.base, l.items.map (fun it => wireOf it.2.1 it.2.2))

/-- the `seq` structure of the codecs of `Model/Wire.lean`, in its order:
    `configurable` = `seq version (vec parameter)` with `version` = `seq i32 (seq i32 i32)`; `feature`; `learner` = `seq configurable …`;
    `linear` = `seq learner (seq (tensor .f64 1) (tensor .f64 2))`; `gboost` = `seq learner (seq (tensor .f64 1) (seq (vec wlearner) (vec wlearner)))`;
    `single` = `seq learner (seq i64 (tensor .f64 4))`; `wbodyOf 1` = `seq single u64`; `wbodyOf 2` = `seq single (seq u64 u32…)`;
    `wbodyOf 3` = `seq single (seq (tensor .u64 1) (tensor .i64 1))`; `wbodyOf 4` = `seq learner (seq (vec dnode) (seq (tensor .i64 1) (tensor .f64 4)))`;
    `dnode` = `seq i32 (seq u64 (seq u32 i32))` -/
def modelWire : List (String × String × List (Option Wire)) := [
  ("configurable_t", "", [some .i32, some .i32, some .i32, some .params]),
  ("feature_t", "", [some .typeName, some .dims3, some .str, some .strs]),
  ("learner_t", "configurable_t", [some .features, some .feature]),
  ("linear_t", "learner_t", [some (.tensorF64 1), some (.tensorF64 2)]),
  ("gboost_model_t", "learner_t", [some (.tensorF64 1), some .wlearners, some .wlearners]),
  ("single_feature_wlearner_t", "wlearner_t", [some .i64, some (.tensorF64 4)]),
  ("stump_wlearner_t", "single_feature_wlearner_t", [some .f64]),
  ("hinge_wlearner_t", "single_feature_wlearner_t", [some .f64, some .u32]),
  ("table_wlearner_t", "single_feature_wlearner_t", [some (.tensorU64 1), some (.tensorI64 1)]),
  ("dtree_wlearner_t", "wlearner_t", [some .dnodes, some (.tensorI64 1), some (.tensorF64 4)]),
  ("dtree_node_t", "", [some .i32, some .f64, some .u32, some .i32])]

/-- classes without read / write of their own (the translator checks that they still define none): the name resolves to
    the functions of the next class up -/
def inherited : List (String × String) := [("wlearner_t", "learner_t")]

theorem model_read_layout_is_generated : readLayouts = modelLayouts := rfl

theorem model_write_layout_is_generated : writeLayouts = modelLayouts := rfl

theorem model_typedefs_are_generated : typedefs = modelTypedefs := rfl

/-- every class reads exactly what it writes: same base-class call first, same fields, same order, same casts — what
    stating ONE codec per class (every `…_roundtrip` theorem) presupposes -/
theorem read_layout_eq_write_layout : readLayouts = writeLayouts :=
  model_read_layout_is_generated.trans model_write_layout_is_generated.symm

/-- field by field, the on-the-wire kinds of what the source reads and writes are the codecs `Model/Wire.lean` is built from;
    in particular no field falls outside the kinds the model has a codec for (`none` nowhere) -/
theorem model_wire_is_generated :
    readLayouts.map wiresOf = modelWire ∧ writeLayouts.map wiresOf = modelWire ∧
    ∀ c ∈ modelWire, ∀ w ∈ c.2.2, w ≠ none := by
  have h : modelLayouts.map wiresOf = modelWire := by decide +kernel
  exact ⟨h, h, by decide +kernel⟩

theorem layout_bases_closed :
    ∀ l ∈ readLayouts, l.base = "" ∨ l.base ∈ readLayouts.map (·.cls) ∨
      ∃ p ∈ inherited, p.1 = l.base ∧ p.2 ∈ readLayouts.map (·.cls) := by
  decide +kernel

end NanoVerif.Codec.Layout
