import NanoVerif.Model.Tensor
/-!
  C16 — helper lemmas for the matrix form of `stack`. Core Lean only.
-/
namespace NanoVerif.Tensor

theorem cell_div_mod (cols R C : Nat) (hC : C < cols) :
    (R * cols + C) / cols = R ∧ (R * cols + C) % cols = C := by
  have hpos : 0 < cols := by omega
  constructor
  · rw [Nat.mul_comm, Nat.mul_add_div hpos, Nat.div_eq_of_lt hC, Nat.add_zero]
  · rw [Nat.mul_comm, Nat.mul_add_mod, Nat.mod_eq_of_lt hC]

theorem mul_add_le {i d : Nat} (n : Nat) (h : i < d) : i * n + n ≤ d * n := by
  rw [← Nat.succ_mul]
  exact Nat.mul_le_mul_right n h

theorem cell_lt (rows cols R C : Nat) (hR : R < rows) (hC : C < cols) : R * cols + C < rows * cols := by
  have := mul_add_le cols hR
  omega

theorem cell_lt_iff {n a b : Nat} (i j : Nat) (ha : a < n) (hb : b < n) :
    i * n + a < j * n + b ↔ i < j ∨ (i = j ∧ a < b) := by
  constructor
  · intro h
    rcases Nat.lt_trichotomy i j with hij | hij | hij
    · exact Or.inl hij
    · subst hij
      exact Or.inr ⟨rfl, by omega⟩
    · have := mul_add_le n hij
      omega
  · rintro (h | ⟨rfl, h⟩)
    · have := mul_add_le n h
      omega
    · omega

theorem placeBlock_length {α} (cols : Nat) (m : List α) (row col br bc : Nat) (blk : List α) :
    (placeBlock cols m row col br bc blk).length = m.length := by
  simp [placeBlock]

theorem placeBlock_outside {α} (cols : Nat) (m : List α) (row col br bc : Nat) (blk : List α) (R C : Nat)
    (hC : C < cols) (hout : ¬ (row ≤ R ∧ R < row + br ∧ col ≤ C ∧ C < col + bc)) :
    (placeBlock cols m row col br bc blk)[R * cols + C]? = m[R * cols + C]? := by
  obtain ⟨h1, h2⟩ := cell_div_mod cols R C hC
  simp only [placeBlock, List.getElem?_mapIdx, h1, h2, if_neg hout]
  cases m[R * cols + C]? <;> rfl

theorem placeBlock_inside {α} (cols : Nat) (m : List α) (row col br bc : Nat) (blk : List α) (r c : Nat)
    (hblk : blk.length = br * bc) (hr : r < br) (hc : c < bc) (hcol : col + bc ≤ cols)
    (hm : (row + r) * cols + (col + c) < m.length) :
    (placeBlock cols m row col br bc blk)[(row + r) * cols + (col + c)]? = blk[r * bc + c]? := by
  obtain ⟨h1, h2⟩ := cell_div_mod cols (row + r) (col + c) (by omega)
  have hin : row ≤ row + r ∧ row + r < row + br ∧ col ≤ col + c ∧ col + c < col + bc := by omega
  have hlt : r * bc + c < blk.length := by rw [hblk]; exact cell_lt br bc r c hr hc
  simp only [placeBlock, List.getElem?_mapIdx, h1, h2, if_pos hin, List.getElem?_eq_getElem hm,
    Option.map_some, Nat.add_sub_cancel_left, List.getD, List.getElem?_eq_getElem hlt, Option.getD_some]

/-- block `bk` sits at `(rk, ck)` of the `rows × cols` buffer `M`, inside the matrix -/
def PlacedAt {α} (rows cols : Nat) (M : List α) (bk : Block α) (rk ck : Nat) : Prop :=
  ∀ r c, r < bk.rows → c < bk.cols →
    M[(rk + r) * cols + (ck + c)]? = bk.data[r * bk.cols + c]? ∧ rk + r < rows ∧ ck + c < cols

theorem placeBlock_placedAt {α} {rows cols row col : Nat} {m : List α} {b : Block α} (hm : m.length = rows * cols)
    (g1 : b.data.length = b.rows * b.cols) (g2 : col + b.cols ≤ cols) (g3 : row + b.rows ≤ rows) :
    PlacedAt rows cols (placeBlock cols m row col b.rows b.cols b.data) b row col := by
  intro r c hr hc
  have hlt := cell_lt rows cols (row + r) (col + c) (by omega) (by omega)
  exact ⟨placeBlock_inside cols m row col b.rows b.cols b.data r c g1 hr hc g2 (by omega), by omega, by omega⟩

/-- where the block after `b` goes: the wrap rule of `detail::stack` -/
def nextRow {α} (cols : Nat) (b : Block α) (row col : Nat) : Nat := if col + b.cols ≥ cols then row + b.rows else row
def nextCol {α} (cols : Nat) (b : Block α) (col : Nat) : Nat := if col + b.cols ≥ cols then 0 else col + b.cols

theorem stackPos_cons {α} (cols : Nat) (b : Block α) (bs : List (Block α)) (row col : Nat) :
    stackPos cols (b :: bs) row col = (row, col) :: stackPos cols bs (nextRow cols b row col) (nextCol cols b col) := by
  unfold nextRow nextCol
  rw [stackPos]
  split <;> rfl

theorem stackMatGo_cons_some {α} {rows cols : Nat} {b : Block α} {bs : List (Block α)} {row col : Nat} {m M : List α}
    (hgo : stackMatGo rows cols (b :: bs) row col m = some M) :
    (b.data.length = b.rows * b.cols ∧ col + b.cols ≤ cols ∧ row + b.rows ≤ rows) ∧
    stackMatGo rows cols bs (nextRow cols b row col) (nextCol cols b col)
      (placeBlock cols m row col b.rows b.cols b.data) = some M := by
  rw [stackMatGo] at hgo
  split at hgo
  · refine ⟨‹_›, ?_⟩
    unfold nextRow nextCol
    cases bs with
    | nil =>
      simp only at hgo
      split at hgo
      · exact hgo
      · cases hgo
    | cons b' rest =>
      simp only at hgo
      split at hgo
      · rw [if_pos ‹_›, if_pos ‹_›]
        exact hgo
      · rw [if_neg ‹_›, if_neg ‹_›]
        exact hgo
  · cases hgo

/-- the part of the matrix the blocks from `(row, col)` on may still write, when the current block-row has
    height `h`: the rest of the block-row and everything below it -/
def InReg (row col h R C : Nat) : Prop := (row ≤ R ∧ R < row + h ∧ col ≤ C) ∨ row + h ≤ R

/-- the next block (of the height of `b` if it continues the block-row) writes inside the region `b` could write … -/
theorem inReg_next {α} {cols row col R C : Nat} {b b' : Block α} (hal : col + b.cols < cols → b'.rows = b.rows)
    (h : InReg (nextRow cols b row col) (nextCol cols b col) b'.rows R C) : InReg row col b.rows R C := by
  unfold nextRow nextCol at h
  by_cases hw : col + b.cols ≥ cols
  · simp only [hw, if_true] at h
    rcases h with h | h
    · exact Or.inr (by omega)
    · exact Or.inr (by omega)
  · simp only [hw, if_false] at h
    rw [hal (by omega)] at h
    rcases h with h | h
    · exact Or.inl (by omega)
    · exact Or.inr h

/-- … and outside `b` itself -/
theorem not_inReg_next {α} {cols row col r c : Nat} {b b' : Block α} (hal : col + b.cols < cols → b'.rows = b.rows)
    (hr : r < b.rows) (hc : c < b.cols) :
    ¬ InReg (nextRow cols b row col) (nextCol cols b col) b'.rows (row + r) (col + c) := by
  unfold nextRow nextCol
  intro h
  by_cases hw : col + b.cols ≥ cols
  · simp only [hw, if_true] at h
    rcases h with h | h <;> omega
  · simp only [hw, if_false] at h
    rw [hal (by omega)] at h
    rcases h with h | h <;> omega

theorem stackMatGo_spec {α} (rows cols : Nat) (bs : List (Block α)) : ∀ (b : Block α) (row col : Nat)
    (m M : List α), StackAligned cols (b :: bs) col → stackMatGo rows cols (b :: bs) row col m = some M →
    m.length = rows * cols →
    M.length = rows * cols ∧
    (∀ R C, C < cols → ¬ InReg row col b.rows R C → M[R * cols + C]? = m[R * cols + C]?) ∧
    (∀ (k : Nat) (bk : Block α) (rk ck : Nat), (b :: bs)[k]? = some bk →
      (stackPos cols (b :: bs) row col)[k]? = some (rk, ck) → PlacedAt rows cols M bk rk ck) := by
  induction bs with
  | nil =>
    intro b row col m M _ hgo hm
    obtain ⟨⟨g1, g2, g3⟩, hgo'⟩ := stackMatGo_cons_some hgo
    cases hgo'
    refine ⟨by rw [placeBlock_length, hm], fun R C hC hout => ?_, fun k bk rk ck hk hp => ?_⟩
    · exact placeBlock_outside cols m row col b.rows b.cols b.data R C hC
        (fun h => hout (Or.inl ⟨h.1, h.2.1, h.2.2.1⟩))
    · cases k with
      | zero =>
        cases hk
        cases hp
        exact placeBlock_placedAt hm g1 g2 g3
      | succ k => cases hk
  | cons b' rest ih =>
    intro b row col m M hal hgo hm
    obtain ⟨⟨g1, g2, g3⟩, hgo'⟩ := stackMatGo_cons_some hgo
    obtain ⟨i1, i2, i3⟩ := ih b' _ _ _ M hal.2 hgo' (by rw [placeBlock_length, hm])
    refine ⟨i1, fun R C hC hout => ?_, fun k bk rk ck hk hp => ?_⟩
    · rw [i2 R C hC (fun h => hout (inReg_next hal.1 h))]
      exact placeBlock_outside cols m row col b.rows b.cols b.data R C hC
        (fun h => hout (Or.inl ⟨h.1, h.2.1, h.2.2.1⟩))
    · rw [stackPos_cons] at hp
      cases k with
      | zero =>
        cases hk
        cases hp
        intro r c hr hc
        -- the later blocks leave the cells of `b` alone
        rw [i2 (row + r) (col + c) (by omega) (not_inReg_next hal.1 hr hc)]
        exact placeBlock_placedAt hm g1 g2 g3 r c hr hc
      | succ k => exact i3 k bk rk ck hk hp

end NanoVerif.Tensor
