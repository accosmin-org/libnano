import NanoVerif.Proofs.DatasetFlatten
import NanoVerif.Proofs.Iterator
/-!
  C09 ↔ C08 — the contract the iterator model (`Model/Iterator.lean`, `Data.flat` / `Data.targ`) makes about the dataset,
  PROVED for the C08 dataset model (`Model/Dataset.lean`): `dataset_t::flatten(samples, buffer)` and
  `dataset_t::targets(samples, buffer)` are SAMPLE-WISE — row `r` of the result depends on `samples[r]` only, it is the row
  `flatRow ds samples[r]` / `targetRow desc (stored t samples[r])`, whatever the other samples of the batch, the batch's
  size and the previous contents of the (reused) buffer. Hence slicing the sample list per batch and flattening the
  slices (what the iterators and `make_*_stats` do) yields the slices of the rows of the whole list (`flatten_slice`).
  `dataOfDataset` is the `Data` of a C08 dataset (cells: `fin x` ⇒ `some x`, else missing — the NaN of `Scalar.nan`).
  Core Lean only.
-/
set_option linter.unusedSectionVars false

namespace NanoVerif.Iterator
open NanoVerif.Dataset

section
variable {α : Type} [Scalar α]

/-- the per-sample segment writers of the dataset, in generator and feature order: `F s` is the block of columns feature
    `(g, i)` writes for stored sample `s` -/
def segFns (ds : Dataset) : List (Nat → List α) :=
  ds.gens.flatMap fun g => (List.range g.features).map fun i s => (g.segments (α := α) ds.st i [s]).headD []

/-- the flattened row of ONE stored sample -/
def flatRow (ds : Dataset) (s : Nat) : List α := ((segFns (α := α) ds).map (· s)).flatten

theorem derived_eq_map (st : Storage) (c : Custom) (m : FMap) (sh : List Nat) :
    ∃ F, ∀ ss, derived st c m sh ss = ss.map F := by
  unfold derived
  split
  · exact ⟨_, fun ss => List.map_map ..⟩
  · exact ⟨_, fun ss => List.map_map ..⟩

/-- every generator writes its block of columns sample by sample: a NaN block, or an encoder mapped over the per-sample
    iterator -/
theorem segments_eq_map (st : Storage) (g : Gen) (i : Nat) :
    ∃ F : Nat → List α, ∀ ss, g.segments (α := α) st i ss = ss.map F := by
  unfold Gen.segments
  split
  · exact ⟨_, fun _ => rfl⟩
  · split
    case h_7 c _ =>
      obtain ⟨F, hF⟩ := derived_eq_map st c (g.mapping.getD i default) (g.shuffledAll i)
      exact ⟨_, fun ss => (congrArg (List.map _) (hF ss)).trans (List.map_map ..)⟩
    all_goals exact ⟨_, fun ss => List.map_map ..⟩

theorem segments_samplewise (st : Storage) (g : Gen) (i : Nat) (ss : List Nat) :
    g.segments (α := α) st i ss = ss.map fun s => (g.segments (α := α) st i [s]).headD [] := by
  obtain ⟨F, hF⟩ := segments_eq_map (α := α) st g i
  rw [hF]
  exact List.map_congr_left fun s _ => by rw [hF]; rfl

theorem hcatRows_samplewise {ι : Type} (ss : List ι) : ∀ (Fs : List (ι → List α)),
    hcatRows ss.length (Fs.map fun F => ss.map F) = ss.map fun s => (Fs.map (· s)).flatten
  | [] => by
    simp only [List.map_nil, hcatRows, List.flatten_nil]
    induction ss with
    | nil => rfl
    | cons s ss ih => simp [List.replicate_succ, ih]
  | F :: Fs => by
    simp only [List.map_cons, hcatRows, hcatRows_samplewise ss Fs, List.flatten_cons, List.zipWith_map, List.zipWith_self]

/-- **`dataset_t::flatten` is sample-wise** (C08 model): for any sample list (any order, repetitions) and any buffer of the
    right shape, row `r` of the flattened view is `flatRow ds samples[r]` -/
theorem flatten_samplewise (ds : Dataset) (hwf : ds.WF) (samples : List Int) (ss : List Nat)
    (hs : ds.checkSamples samples = some ss) (buf0 : List (List α)) (hlen : buf0.length = ss.length)
    (hrows : ∀ r ∈ buf0, r.length = ds.columns) :
    ds.flattenInto samples buf0 = some (ss.map (flatRow (α := α) ds)) := by
  rw [flatten_blocks ds hwf samples ss hs buf0 hlen hrows]
  have h : (ds.gens.flatMap fun g => (List.range g.features).map fun i => g.segments (α := α) ds.st i ss)
      = (segFns (α := α) ds).map fun F => ss.map F := by
    unfold segFns
    rw [List.map_flatMap]
    congr 1
    funext g
    rw [List.map_map]
    apply List.map_congr_left
    intro i _
    exact segments_samplewise ds.st g i ss
  rw [h, hcatRows_samplewise]
  rfl

theorem checkSamples_slice (ds : Dataset) (samples : List Int) (ss : List Nat) (hs : ds.checkSamples samples = some ss)
    (b e : Nat) : ds.checkSamples (sliceOf samples b e) = some (sliceOf ss b e) := by
  unfold Dataset.checkSamples at hs ⊢
  split at hs
  · rename_i hall
    have hall' : (sliceOf samples b e).all (fun s => decide (0 ≤ s ∧ s < Int.ofNat ds.st.samples)) = true := by
      rw [List.all_eq_true] at hall ⊢
      intro x hx
      exact hall x (mem_sliceOf samples b e x hx)
    rw [if_pos hall']
    cases hs
    rw [sliceOf_map]
  · cases hs

/-- **batching commutes with flattening**: what `dataset.flatten(samples.slice(range), buffer)` returns is rows `[b, e)` of
    what `dataset.flatten(samples, …)` returns, whatever the buffer held -/
theorem flatten_slice (ds : Dataset) (hwf : ds.WF) (samples : List Int) (ss : List Nat)
    (hs : ds.checkSamples samples = some ss) (b e : Nat) (buf0 : List (List α))
    (hlen : buf0.length = (sliceOf ss b e).length) (hrows : ∀ r ∈ buf0, r.length = ds.columns) :
    ds.flattenInto (sliceOf samples b e) buf0 = some (sliceOf (ss.map (flatRow (α := α) ds)) b e) := by
  rw [flatten_samplewise ds hwf _ _ (checkSamples_slice ds samples ss hs b e) buf0 hlen hrows, sliceOf_map]

/-- **`dataset_t::targets` is sample-wise** (restating C08's `targets_spec`) -/
theorem targets_samplewise (ds : Dataset) (samples : List Int) (ss : List Nat) (hs : ds.checkSamples samples = some ss)
    (t : Nat) (desc : Feature) (ht : ds.st.target = some t) (hd : ds.target = some desc) :
    ds.targets (α := α) samples = some (ds.targetDims, ss.map fun s => targetRow desc (ds.st.stored t s)) := by
  simp [Dataset.targets, hs, ht, hd]

/-- a cell of the dense views as the statistics / scaling see it: a non-finite value is a missing one -/
def cellOf (fin : α → Bool) (x : α) : Option α := if fin x then some x else none

/-- the `Data` of a C08 dataset with target `t` described by `desc` -/
def dataOfDataset (fin : α → Bool) (ds : Dataset) (t : Nat) (desc : Feature) (enF enT : List Bool) : Data α :=
  ⟨fun s => (flatRow (α := α) ds s).map (cellOf fin), fun s => (targetRow desc (ds.st.stored t s)).map (cellOf fin), enF, enT⟩

/-- the rows `Data.flat` hands to the iterator model are, cell by cell, the rows C08's `flatten` produces for the batch -/
theorem data_flat_is_dataset_flatten (fin : α → Bool) (ds : Dataset) (hwf : ds.WF) (t : Nat) (desc : Feature)
    (enF enT : List Bool) (samples : List Int) (ss : List Nat) (hs : ds.checkSamples samples = some ss) (b e : Nat)
    (buf0 : List (List α)) (hlen : buf0.length = (sliceOf ss b e).length) (hrows : ∀ r ∈ buf0, r.length = ds.columns) :
    (ds.flattenInto (sliceOf samples b e) buf0).map (fun rows => rows.map fun r => r.map (cellOf fin))
      = some ((sliceOf ss b e).map (dataOfDataset fin ds t desc enF enT).flat) := by
  rw [flatten_slice ds hwf samples ss hs b e buf0 hlen hrows, sliceOf_map, Option.map_some, List.map_map]
  rfl

end

-- the hypotheses are satisfiable: a well-formed (feature-less) dataset of two samples, the sample list `[0, 1]` is accepted
example : ∃ ds : Dataset, ds.WF ∧ ds.checkSamples [0, 1] = some [0, 1] :=
  ⟨⟨resize 2 [] 0, []⟩, ⟨resize_wf 2 [] 0 (by decide), by simp⟩, by decide⟩
-- the cell view: a finite value is given, a non-finite one (the NaN of the dense views) is missing
example : cellOf (fun x : Option Int => x.isSome) (some 3) = some (some 3) ∧
    cellOf (fun x : Option Int => x.isSome) none = none := by decide

end NanoVerif.Iterator
