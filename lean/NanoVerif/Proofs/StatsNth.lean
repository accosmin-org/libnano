import NanoVerif.Proofs.Stats
import NanoVerif.Model.StatsTyped
/-!
  C20 — `nano::percentile` (the unsorted variant) proved from the PARTIAL-ORDER contract of `std::nth_element`, not from
  a full sort; containers whose value type differs from the scalar (`static_cast<double>` at the read).

  `NthSpec nth`: after `nth_element(begin, begin + k, end)` the range is a permutation of what it was, and the element
  at position `k` splits it: everything before is `≤` it, everything after is `≥` it. (The C++ standard promises more —
  every element before is `≤` every element from `k` on — so the theorems hold a fortiori for the real function.)
-/
namespace NanoVerif.Stats

variable {β : Type} [LinearOrder β]

/-- the contract of `std::nth_element` used by the theorems (take / drop form) -/
def NthSpec (nth : List β → ℕ → List β) : Prop :=
  ∀ xs k, k < xs.length →
    (nth xs k).Perm xs ∧
    ∃ v, (nth xs k)[k]? = some v ∧ (∀ a ∈ (nth xs k).take k, a ≤ v) ∧ (∀ b ∈ (nth xs k).drop (k + 1), v ≤ b)

omit [LinearOrder β] in
theorem take_getElem_drop {l : List β} {k : ℕ} (hk : k < l.length) : l.take k ++ l[k] :: l.drop (k + 1) = l := by
  rw [← List.drop_eq_getElem_cons hk, List.take_append_drop]

/-- **the element that splits a range is its `k`-th order statistic**: if `ys` is a rearrangement of the sorted list `s`
    and `ys[k] = v` has only elements `≤ v` before it and only elements `≥ v` after it, then `s[k] = v`. -/
theorem order_statistic_of_split {ys s : List β} {k : ℕ} {v : β} (hp : ys.Perm s) (hs : s.Pairwise (· ≤ ·))
    (hv : ys[k]? = some v) (hL : ∀ a ∈ ys.take k, a ≤ v) (hR : ∀ b ∈ ys.drop (k + 1), v ≤ b) :
    s[k]? = some v := by
  obtain ⟨hk, hvk⟩ := List.getElem?_eq_some_iff.mp hv
  -- sorting the two sides of the split gives a sorted rearrangement of `ys`, which is `s`, with `v` at position `k`
  have hR' : ∀ b ∈ msort (ys.drop (k + 1)), v ≤ b := fun b hb => hR b ((msort_perm _).mem_iff.mp hb)
  have hs' : s = msort (ys.take k) ++ v :: msort (ys.drop (k + 1)) := by
    refine sorted_perm_unique ?_ hs (List.pairwise_append.mpr ⟨msort_sorted _,
      List.pairwise_cons.mpr ⟨hR', msort_sorted _⟩, fun a ha b hb => ?_⟩)
    · exact hp.symm.trans ((List.Perm.of_eq (hvk ▸ (take_getElem_drop hk).symm)).trans
        ((msort_perm _).symm.append ((msort_perm _).symm.cons _)))
    · have hav : a ≤ v := hL a ((msort_perm _).mem_iff.mp ha)
      rcases List.mem_cons.mp hb with rfl | hb
      · exact hav
      · exact hav.trans (hR' b hb)
  have hlen : (msort (ys.take k)).length = k := by
    rw [(msort_perm _).length_eq, List.length_take, Nat.min_eq_left hk.le]
  rw [hs', List.getElem?_append_right hlen.le, hlen, Nat.sub_self, List.getElem?_cons_zero]

/-- in a sorted list the element at position `k` splits it (the converse of `order_statistic_of_split`, by the same
    decomposition `take k ++ l[k] :: drop (k + 1)`) -/
theorem sorted_split {l : List β} (hs : l.Pairwise (· ≤ ·)) {k : ℕ} (hk : k < l.length) :
    (∀ a ∈ l.take k, a ≤ l[k]) ∧ ∀ b ∈ l.drop (k + 1), l[k] ≤ b := by
  obtain ⟨-, h2, h3⟩ := List.pairwise_append.mp ((take_getElem_drop hk).symm ▸ hs)
  exact ⟨fun a ha => h3 a ha _ List.mem_cons_self, (List.pairwise_cons.mp h2).1⟩

/-- a full sort meets the contract (the instance the driver runs) -/
theorem nthBySort_spec : NthSpec (nthBySort : List β → ℕ → List β) := fun xs k hk =>
  have hk' : k < (msort xs).length := (msort_perm xs).length_eq ▸ hk
  ⟨msort_perm xs, (msort xs)[k], List.getElem?_eq_getElem hk', sorted_split (msort_sorted xs) hk'⟩

section scalar
variable {α : Type} [Field α] [LinearOrder α] [IsStrictOrderedRing α] [FloorRing α]

omit [LinearOrder β] [Field α] [LinearOrder α] [IsStrictOrderedRing α] [FloorRing α] in
theorem getC_eq_getI_map (cast : β → α) (xs : List β) (i : ℤ) : getC cast xs i = getI (xs.map cast) i := by
  unfold getC getI
  split
  · rfl
  · rw [List.getElem?_map]

set_option linter.unusedSectionVars false
/-- **a container of another value type**: the values are converted one by one and the whole computation (the midpoint
    included) happens in the scalar type — nothing is truncated back to the container's type. -/
theorem percentileSortedC_eq_map (cast : β → α) (xs : List β) (p : α) :
    percentileSortedC cast xs p = percentileSorted (xs.map cast) p := by
  unfold percentileSortedC percentileSorted
  simp only [List.isEmpty_map, List.length_map, getC_eq_getI_map]
  generalize getI (List.map cast xs) (FloorI.floor (position xs.length p)) = A
  generalize getI (List.map cast xs) (FloorI.ceil (position xs.length p)) = B
  cases A <;> cases B <;> rfl

/-- one `from_position` call of the unsorted variant: the value is the order statistic, the range stays a permutation -/
theorem fromPosNth_spec (cast : β → α) (nth : List β → ℕ → List β) (hn : NthSpec nth) (xs : List β) (i : ℤ) :
    (fromPosNth cast nth xs i).map Prod.fst = getC cast (msort xs) i ∧
    ∀ a ys, fromPosNth cast nth xs i = some (a, ys) → ys.Perm xs := by
  unfold fromPosNth getC
  have hlen : (msort xs).length = xs.length := (msort_perm xs).length_eq
  by_cases hi : i < 0
  · simp [hi]
  · simp only [hi, if_false]
    by_cases hk : i.toNat < xs.length
    · simp only [hk, if_true]
      obtain ⟨hp, v, hv, hL, hR⟩ := hn xs i.toNat hk
      have hs := order_statistic_of_split (hp.trans (msort_perm xs).symm) (msort_sorted xs) hv hL hR
      rw [hv, hs]
      refine ⟨rfl, ?_⟩
      intro a ys h
      simp only [Option.map_some, Option.some.injEq, Prod.mk.injEq] at h
      rw [← h.2]; exact hp
    · simp only [hk, if_false]
      have : (msort xs)[i.toNat]? = none := by rw [List.getElem?_eq_none_iff]; omega
      simp [this]

/-- **percentile (unsorted) from the nth_element contract.** For every `nth_element` that meets `NthSpec` — called once
    or twice, the second time on the range as the first call left it — `nano::percentile` returns what
    `percentile_sorted` returns on the sorted rearrangement, and the caller's range ends as a permutation of the input. -/
theorem percentileNthC_spec (cast : β → α) (nth : List β → ℕ → List β) (hn : NthSpec nth) (xs : List β) (p : α) :
    (percentileNthC cast nth xs p).map Prod.fst = percentileSortedC cast (msort xs) p ∧
    ∀ v zs, percentileNthC cast nth xs p = some (v, zs) → zs.Perm xs := by
  unfold percentileNthC percentileSortedC
  have hlen : (msort xs).length = xs.length := (msort_perm xs).length_eq
  have hemp : (msort xs).isEmpty = xs.isEmpty := by
    rw [Bool.eq_iff_iff, List.isEmpty_iff_length_eq_zero, List.isEmpty_iff_length_eq_zero, hlen]
  rw [hemp, hlen]
  by_cases he : xs.isEmpty = true
  · simp [he]
  · simp only [he, Bool.false_eq_true, if_false]
    by_cases hp : (0 ≤ p ∧ p ≤ 100)
    · rw [if_neg (not_not.mpr hp), if_neg (not_not.mpr hp)]
      set l := FloorI.floor (position xs.length p) with hl
      set r := FloorI.ceil (position xs.length p) with hr
      by_cases hlr : l = r
      · simp only [hlr, if_true]
        exact fromPosNth_spec cast nth hn xs r
      · simp only [hlr, if_false]
        obtain ⟨h1, h1p⟩ := fromPosNth_spec cast nth hn xs l
        cases hf : fromPosNth cast nth xs l with
        | none =>
          rw [hf] at h1
          simp only [Option.map_none] at h1
          rw [← h1]
          simp
        | some ay =>
          obtain ⟨a, ys⟩ := ay
          rw [hf] at h1
          simp only [Option.map_some] at h1
          have hys : ys.Perm xs := h1p a ys hf
          obtain ⟨h2, h2p⟩ := fromPosNth_spec cast nth hn ys r
          rw [msort_congr hys] at h2
          rw [← h1]
          cases hg : fromPosNth cast nth ys r with
          | none =>
            rw [hg] at h2
            simp only [Option.map_none] at h2
            rw [← h2]
            simp [hg]
          | some bz =>
            obtain ⟨b, zs⟩ := bz
            rw [hg] at h2
            simp only [Option.map_some] at h2
            rw [← h2]
            simp only [hg]
            refine ⟨rfl, ?_⟩
            intro v zs' h
            simp only [Option.some.injEq, Prod.mk.injEq] at h
            rw [← h.2]
            exact (h2p b zs hg).trans hys
    · simp [hp]

/-- a monotone conversion (`int → double`, `float → double`) keeps the sorted order, so `percentile_sorted`'s view of a
    sorted container is a sorted list of scalars and the theorems of `percentile_spec` apply to it -/
theorem map_cast_sorted (cast : β → α) (hc : ∀ a b, a ≤ b → cast a ≤ cast b) (xs : List β)
    (hs : xs.Pairwise (· ≤ ·)) : (xs.map cast).Pairwise (· ≤ ·) := by
  rw [List.pairwise_map]
  exact hs.imp (fun {a b} hab => hc a b hab)

end scalar
end NanoVerif.Stats
