import NanoVerif.Model.SolverNM
import NanoVerif.Proofs.SolverSkeleton
/-!
  C02 — lemmas about the modelled non-monotonic bodies (`Model/SolverNM.lean`), valid for EVERY scalar type (core classes only,
  no axioms about them), every objective oracle, every parameter value. Core Lean only.

  Generic part: a `Body` in the oracle slot of `nmLoop` (`stepOf`) — the threaded loop `nmLoopM` computes the same thing; an
  invariant of all candidates is an invariant of the result; a bound on the evaluations of one body is the budget overshoot;
  `converged` is only reached through the flag of the last iteration.
-/
namespace NanoVerif.Solver
open NanoVerif.Gen.DoneLogic
set_option linter.unusedSectionVars false

section
variable {α : Type} [Add α] [Sub α] [Mul α] [Div α] [Neg α] [LT α] [LE α] [DecidableLT α] [DecidableLE α] [∀ n, OfNat α n]
variable (env : Env α)

/-! ### `stepOf` / `nmLoopM` -/

theorem nmLoopM_eq {M : Type} (body : Body α M) (m0 : M) (c0 : Nat) (patience : Nat) (eps : α) (maxEvals : Nat) :
    ∀ (fuel k gf gg : Nat) (b : BState α),
      (nmLoopM env body patience eps maxEvals fuel (memAt body m0 c0 k).1 (memAt body m0 c0 k).2 gf gg b).1 =
        (nmLoop env (stepOf env body m0 c0) patience eps maxEvals fuel k gf gg b).1 ∧
      (nmLoopM env body patience eps maxEvals fuel (memAt body m0 c0 k).1 (memAt body m0 c0 k).2 gf gg b).2.map (·.1) =
        (nmLoop env (stepOf env body m0 c0) patience eps maxEvals fuel k gf gg b).2 := by
  intro fuel
  induction fuel with
  | zero => intro k gf gg b; exact ⟨rfl, rfl⟩
  | succ fuel ih =>
    intro k gf gg b
    -- `stepOf … k` is `stepOfBody` of the body at `memAt … k`, and `memAt … (k + 1)` is what that body leaves: both by `rfl`
    simp only [nmLoopM, nmLoop, stepOf]
    split
    · split
      · next hs => simp only [hs, if_true, List.map_cons, List.map_nil, and_self]
      · next hs =>
        simp only [hs, List.map_cons]
        exact ⟨(ih (k + 1) _ _ _).1, congrArg _ (ih (k + 1) _ _ _).2⟩
    · exact ⟨rfl, rfl⟩

/-! ### the three skeleton theorems with a body in the oracle slot -/

theorem nmMinimize_inv_mem {M : Type} (Inv : M → Prop) (P : Vec α → Vec α → α → Prop) (body : Body α M) (m0 : M)
    (patience : Nat) (eps : α) (maxEvals fuel : Nat) (b0 : BState α) (h0 : P b0.st.x b0.st.gx b0.st.fx) (hm0 : Inv m0)
    (hbody : ∀ c m, Inv m → (∀ cand ∈ (body c m).cands, P cand.1 cand.2.1 cand.2.2) ∧ Inv (body c m).mem) :
    P (nmMinimize env body m0 patience eps maxEvals fuel b0).st.x (nmMinimize env body m0 patience eps maxEvals fuel b0).st.gx
      (nmMinimize env body m0 patience eps maxEvals fuel b0).st.fx := by
  have hk : ∀ k, Inv (memAt body m0 1 k).1 := by
    intro k
    induction k with
    | zero => exact hm0
    | succ k ih => exact (hbody _ _ ih).2
  exact nmLoop_inv env (stepOf env body m0 1) patience eps maxEvals P (fun k _ _ => (hbody _ _ (hk k)).1) fuel 0 _ _ b0 h0

theorem nmMinimize_inv {M : Type} (P : Vec α → Vec α → α → Prop) (body : Body α M) (m0 : M) (patience : Nat)
    (eps : α) (maxEvals fuel : Nat) (b0 : BState α) (h0 : P b0.st.x b0.st.gx b0.st.fx)
    (hbody : ∀ c m, ∀ cand ∈ (body c m).cands, P cand.1 cand.2.1 cand.2.2) :
    P (nmMinimize env body m0 patience eps maxEvals fuel b0).st.x (nmMinimize env body m0 patience eps maxEvals fuel b0).st.gx
      (nmMinimize env body m0 patience eps maxEvals fuel b0).st.fx :=
  nmMinimize_inv_mem env (fun _ => True) P body m0 patience eps maxEvals fuel b0 h0 trivial fun c m _ => ⟨hbody c m, trivial⟩

theorem nmMinimize_budget {M : Type} (body : Body α M) (m0 : M) (patience : Nat) (eps : α)
    (maxEvals K fuel : Nat) (b0 : BState α) (hK : ∀ c m, (body c m).nf + (body c m).ng ≤ K)
    (h0 : evals b0.st < maxEvals + K) :
    evals (nmMinimize env body m0 patience eps maxEvals fuel b0).st < maxEvals + K := by
  apply nmLoop_budget env (stepOf env body m0 1) patience eps maxEvals K _ fuel 0 _ _ b0 h0
  intro k g b
  have h := hK (memAt body m0 1 k).2 (memAt body m0 1 k).1
  refine ⟨Nat.le_refl _, ?_⟩
  show g.1 + (body (memAt body m0 1 k).2 (memAt body m0 1 k).1).nf +
      (g.2 + (body (memAt body m0 1 k).2 (memAt body m0 1 k).1).ng) ≤ g.1 + g.2 + K
  omega

theorem nmMinimize_tri {M : Type} (body : Body α M) (m0 : M) (patience : Nat) (eps : α)
    (maxEvals fuel : Nat) (b0 : BState α) (h0 : Tri b0.st.status) :
    Tri (nmMinimize env body m0 patience eps maxEvals fuel b0).st.status :=
  nmLoop_tri env (stepOf env body m0 1) patience eps maxEvals fuel 0 _ _ b0 h0

/-! ### `converged` only through the flag handed to the last `done` -/

theorem nmIter_conv_eq (patience : Nat) (eps : α) (b : BState α) (r : NmStep α) :
    (nmIter env patience eps b r).conv =
      (match r.conv with
       | some c => c
       | none => decide (valueTest env patience (nmIter env patience eps b r).b < eps)) := by
  cases h : r.conv <;> simp [nmIter, h, valueTest]

theorem nmIter_status_converged (patience : Nat) (eps : α) (b : BState α) (r : NmStep α)
    (hb : b.st.status ≠ Status.converged) (h : (nmIter env patience eps b r).b.st.status = Status.converged) :
    (nmIter env patience eps b r).conv = true := by
  have hs := applyCands_status env r.cands b
  simp only [nmIter] at h ⊢
  rcases done_converged env _ _ _ h with hc | hc
  · exact hc
  · exact absurd (hs ▸ hc) hb

theorem nmIter_status_go (patience : Nat) (eps : α) (b : BState α) (r : NmStep α)
    (h : (nmIter env patience eps b r).stop = false) : (nmIter env patience eps b r).b.st.status = b.st.status := by
  have hs := applyCands_status env r.cands b
  simp only [nmIter] at h ⊢
  rw [(done_go env _ _ _ h).1]
  exact hs

/-! ### the start -/

variable (nm : EnvNM α) (f : Objective α) (F : ObjectiveI α)

theorem initBState_eval (x0 : Vec α) :
    (initBState (fun _ => f) x0).st.fx = (f (initBState (fun _ => f) x0).st.x).1 ∧
    (initBState (fun _ => f) x0).st.gx = (f (initBState (fun _ => f) x0).st.x).2 := ⟨rfl, rfl⟩

theorem initBState_status (x0 : Vec α) : (initBState F x0).st.status = Status.max_iters := rfl

theorem initBState_evals (x0 : Vec α) : evals (initBState F x0).st = 2 := rfl

/-- the predicate of the property statement: the triple is an evaluation of `f` (value and gradient) -/
def IsEval (f : Objective α) (x gx : Vec α) (fx : α) : Prop := fx = (f x).1 ∧ gx = (f x).2

/-- the three clauses every `<solver>_honest` states of what `minimize` returns: the triple is an evaluation of `f`, the reported
    evaluations stay below `max_evals + K`, the status is one of the three -/
def Honest (f : Objective α) (maxEvals K : Nat) (b : BState α) : Prop :=
  IsEval f b.st.x b.st.gx b.st.fx ∧ (1 ≤ maxEvals → evals b.st < maxEvals + K) ∧ Tri b.st.status

/-- what one call of a body hands over, for ANY indexed oracle `F` (the drivers replay logged answers by position): every candidate
    is the answer of some call of `F` at the candidate's point, and the call made at most `K` evaluations -/
structure BodySpec {M : Type} (F : ObjectiveI α) (K : Nat) (r : NmBody α M) : Prop where
  cands : ∀ cand ∈ r.cands, ∃ i, cand.2.2 = (F i cand.1).1 ∧ cand.2.1 = (F i cand.1).2
  evals : r.nf + r.ng ≤ K

theorem BodySpec.isEval {M : Type} {K : Nat} {r : NmBody α M} (h : BodySpec (fun _ => f) K r) :
    ∀ cand ∈ r.cands, IsEval f cand.1 cand.2.1 cand.2.2 :=
  fun cand hc => (h.cands cand hc).elim fun _ h => h

/-- `solver_state_t{function, x0}` itself (what asga2 / asga4 return at a stationary start) -/
theorem initBState_honest (maxEvals K : Nat) (x0 : Vec α) (h2 : 2 ≤ K) : Honest f maxEvals K (initBState (fun _ => f) x0) :=
  ⟨initBState_eval f x0, fun _ => Nat.lt_of_lt_of_le (Nat.lt_add_of_pos_left (by omega)) (Nat.add_le_add_left h2 maxEvals),
    Or.inl rfl⟩

/-- a run from `solver_state_t{function, x0}` reports `converged` only through `value_test(patience) < epsilon` on the history of
    the returned state, or through the body's own flag: whatever `T` a flag `some true` implies holds of the private variables
    before some iteration. (The loop only goes on from a status other than `converged`; the iteration that sets it handed
    `converged = true` to `solver_t::done`, and that flag is the body's or, for `none`, the value test on what the iteration left.) -/
theorem nmMinimize_converged_by {M : Type} (T : Nat → M → Prop) (body : Body α M) (m0 : M) (patience : Nat) (eps : α)
    (maxEvals fuel : Nat) (x0 : Vec α) (hT : ∀ c m, (body c m).conv = some true → T c m)
    (h : (nmMinimize env body m0 patience eps maxEvals fuel (initBState F x0)).st.status = Status.converged) :
    valueTest env patience (nmMinimize env body m0 patience eps maxEvals fuel (initBState F x0)) < eps ∨
    ∃ k, T (memAt body m0 1 k).2 (memAt body m0 1 k).1 := by
  refine nmLoop_ind env (stepOf env body m0 1) patience eps maxEvals
    (fun r => r.st.status = Status.converged →
      valueTest env patience r < eps ∨ ∃ k, T (memAt body m0 1 k).2 (memAt body m0 1 k).1)
    (fun b => b.st.status ≠ Status.converged) (fun _ hJ hc => absurd hc hJ)
    (fun k gf gg b _ hJ => ⟨fun hc => ?_, fun hgo => by rw [nmIter_status_go env patience eps b _ hgo]; exact hJ⟩)
    fuel 0 _ _ _ (by rw [initBState_status]; decide) h
  have hconv := nmIter_status_converged env patience eps b _ hJ hc
  rw [nmIter_conv_eq, show (stepOf env body m0 1 k (gf, gg) b).conv = (body _ _).conv from rfl] at hconv
  cases hcv : (body (memAt body m0 1 k).2 (memAt body m0 1 k).1).conv with
  | none => rw [hcv] at hconv; exact Or.inl (of_decide_eq_true hconv)
  | some c => rw [hcv] at hconv; exact Or.inr ⟨k, hT _ _ (hcv.trans (congrArg some hconv))⟩

/-- … and only through `value_test` when the body never hands over `converged = true` itself -/
theorem nmMinimize_converged_valueTest {M : Type} (body : Body α M) (m0 : M) (patience : Nat) (eps : α)
    (maxEvals fuel : Nat) (x0 : Vec α) (hn : ∀ c m, (body c m).conv ≠ some true)
    (h : (nmMinimize env body m0 patience eps maxEvals fuel (initBState F x0)).st.status = Status.converged) :
    valueTest env patience (nmMinimize env body m0 patience eps maxEvals fuel (initBState F x0)) < eps :=
  (nmMinimize_converged_by env F (fun _ _ => False) body m0 patience eps maxEvals fuel x0 hn h).resolve_right fun ⟨_, hf⟩ => hf

/-! ### sgm -/

theorem sgmBody_spec (power : α) (c : Nat) (m : SgmMem α) :
    BodySpec F 2 (sgmBody env nm F power c m) ∧
    ((sgmBody env nm F power c m).cands.length = (sgmBody env nm F power c m).nf) ∧
    ((sgmBody env nm F power c m).conv = some true ↔ infNorm m.g < nm.epsMach) ∧
    ((sgmBody env nm F power c m).conv = none ↔ ¬ infNorm m.g < nm.epsMach) := by
  unfold sgmBody
  split <;> rename_i h
  · exact ⟨⟨fun _ hc => (nomatch hc), Nat.zero_le _⟩, by simp [h]⟩
  · exact ⟨⟨fun cand hc => (List.mem_singleton.mp hc) ▸ ⟨c, rfl, rfl⟩, Nat.le_refl _⟩, by simp [h]⟩

/-! ### cocob -/

theorem cocobBody_spec (x0 : Vec α) (c : Nat) (m : CocobMem α) :
    BodySpec F 2 (cocobBody env nm F x0 c m) ∧ (cocobBody env nm F x0 c m).nf + (cocobBody env nm F x0 c m).ng = 2 ∧
    (cocobBody env nm F x0 c m).conv = none ∧ (cocobBody env nm F x0 c m).cands.length = 1 :=
  ⟨⟨fun _ hc => (List.mem_singleton.mp hc) ▸ ⟨c, rfl, rfl⟩, Nat.le_refl 2⟩, rfl, rfl, rfl⟩

/-! ### sda / wda -/

theorem pdsgmBody_cands (wda : Bool) (D : α) (x0 : Vec α) (c : Nat)
    (m : PdsgmMem α) :
    ∀ cand ∈ (pdsgmBody env nm (fun _ => f) wda D x0 c m).cands, IsEval f cand.1 cand.2.1 cand.2.2 := by
  intro cand h
  by_cases hc : infNorm m.gx < nm.epsMach
  · rw [show pdsgmBody env nm (fun _ => f) wda D x0 c m = _ from if_pos hc] at h
    nomatch h
  · rw [show pdsgmBody env nm (fun _ => f) wda D x0 c m = _ from if_neg hc] at h
    obtain rfl := List.mem_singleton.mp h
    exact ⟨rfl, rfl⟩

theorem pdsgmBody_evals (wda : Bool) (D : α) (x0 : Vec α) (c : Nat)
    (m : PdsgmMem α) :
    (pdsgmBody env nm F wda D x0 c m).nf + (pdsgmBody env nm F wda D x0 c m).ng ≤ 2 ∧
    ((pdsgmBody env nm F wda D x0 c m).cands.length = (pdsgmBody env nm F wda D x0 c m).nf) ∧
    ((pdsgmBody env nm F wda D x0 c m).conv = some true ↔ infNorm m.gx < nm.epsMach) ∧
    ((pdsgmBody env nm F wda D x0 c m).conv = none ↔ ¬ infNorm m.gx < nm.epsMach) := by
  by_cases h : infNorm m.gx < nm.epsMach
  · rw [show pdsgmBody env nm F wda D x0 c m = _ from if_pos h]
    exact ⟨Nat.zero_le _, rfl, ⟨fun _ => h, fun _ => rfl⟩, ⟨(fun h' => nomatch h'), fun h' => absurd h h'⟩⟩
  · rw [show pdsgmBody env nm F wda D x0 c m = _ from if_neg h]
    exact ⟨Nat.le_refl _, rfl, ⟨(fun h' => nomatch h'), fun h' => absurd h' h⟩, ⟨fun _ => h, fun _ => rfl⟩⟩

/-! ### pgm / dgm / fgm -/

section
variable (t : Trial α) (nf ng : Nat) (a : List (Vec α)) (ts : List (α × α))
theorem Trial.after_ok : (t.after nf ng a ts).ok = t.ok := rfl
theorem Trial.after_x1 : (t.after nf ng a ts).x1 = t.x1 := rfl
theorem Trial.after_g1 : (t.after nf ng a ts).g1 = t.g1 := rfl
theorem Trial.after_f1 : (t.after nf ng a ts).f1 = t.f1 := rfl
theorem Trial.after_nf : (t.after nf ng a ts).nf = t.nf + nf := rfl
theorem Trial.after_ng : (t.after nf ng a ts).ng = t.ng + ng := rfl
end

/-- the inner line search of pgm makes at most `fuel` calls, each with the gradient, and a trial it accepts is the answer of
    one of them -/
theorem pgmSearch_spec (eps : α) (xk gxk : Vec α) (fxk : α) :
    ∀ (j c : Nat) (M : α) (x1 g1 : Vec α) (f1 : α),
      let t := pgmSearch env F eps xk gxk fxk j c M x1 g1 f1
      t.nf ≤ j ∧ t.ng ≤ j ∧ (t.ok = true → ∃ i, t.f1 = (F i t.x1).1 ∧ t.g1 = (F i t.x1).2) := by
  intro j
  induction j with
  | zero => intro c M x1 g1 f1; exact ⟨Nat.le_refl 0, Nat.le_refl 0, fun h => nomatch h⟩
  | succ j ih =>
    intro c M x1 g1 f1
    rw [pgmSearch]
    split
    · extract_lets +onlyGivenNames x r d rhs
      split
      · exact ⟨Nat.le_add_left 1 j, Nat.le_add_left 1 j, fun _ => ⟨c, rfl, rfl⟩⟩
      · obtain ⟨h1, h2, h3⟩ := ih (c + 1) (M * 2) x r.2 r.1
        exact ⟨Nat.succ_le_succ h1, Nat.succ_le_succ h2, h3⟩
    · exact ⟨Nat.zero_le _, Nat.zero_le _, fun h => nomatch h⟩

theorem pgmBody_spec (eps : α) (lsmax c : Nat) (m : PgmMem α) :
    BodySpec F (2 * lsmax) (pgmBody env F eps lsmax c m) ∧ (pgmBody env F eps lsmax c m).conv ≠ some true := by
  have h := pgmSearch_spec env F eps m.xk m.gxk m.fxk lsmax c m.L m.xk1 m.gxk1 m.fxk1
  simp only [pgmBody]
  split
  · next hok =>
    exact ⟨⟨fun cand hc => (List.mem_singleton.mp hc) ▸ h.2.2 hok, by simp only []; omega⟩, by simp⟩
  · exact ⟨⟨fun _ hc => (nomatch hc), by simp only []; omega⟩, by simp⟩

/-- the inner line search of dgm makes at most `2 fuel` calls, at most `fuel` of them with the gradient, and a trial it
    accepts is the answer of one of them -/
theorem dgmSearch_spec (eps : α) (gphi gxk : Vec α) :
    ∀ (j c : Nat) (M : α) (x1 g1 : Vec α) (f1 : α),
      let t := dgmSearch env F eps gphi gxk j c M x1 g1 f1
      t.nf ≤ 2 * j ∧ t.ng ≤ j ∧ (t.ok = true → ∃ i, t.f1 = (F i t.x1).1 ∧ t.g1 = (F i t.x1).2) := by
  intro j
  induction j with
  | zero => intro c M x1 g1 f1; exact ⟨Nat.le_refl 0, Nat.le_refl 0, fun h => nomatch h⟩
  | succ j ih =>
    intro c M x1 g1 f1
    rw [dgmSearch]
    split
    · extract_lets +onlyGivenNames x r
      split
      · extract_lets +onlyGivenNames y fy rhs
        split
        · exact ⟨(show 2 ≤ 2 * (j + 1) by omega), Nat.le_add_left 1 j, fun _ => ⟨c, rfl, rfl⟩⟩
        · obtain ⟨h1, h2, h3⟩ := ih (c + 2) (M * 2) x r.2 r.1
          exact ⟨(show _ + 2 ≤ 2 * (j + 1) by omega), Nat.succ_le_succ h2, h3⟩
      · obtain ⟨h1, h2, h3⟩ := ih (c + 1) (M * 2) x r.2 r.1
        exact ⟨(show _ + 1 ≤ 2 * (j + 1) by omega), Nat.succ_le_succ h2, h3⟩
    · exact ⟨Nat.zero_le _, Nat.zero_le _, fun h => nomatch h⟩

theorem dgmBody_cands (eps : α) (lsmax c : Nat) (m : DgmMem α) :
    ∀ cand ∈ (dgmBody env (fun _ => f) eps lsmax c m).cands, IsEval f cand.1 cand.2.1 cand.2.2 := by
  intro cand h
  simp only [dgmBody] at h
  split at h
  · rename_i hok
    simp only [List.mem_singleton] at h
    subst h
    exact ((dgmSearch_spec env (fun _ => f) eps _ _ _ _ _ _ _ _).2.2 hok).elim fun _ h => h
  · simp at h

theorem dgmBody_evals (eps : α) (lsmax c : Nat) (m : DgmMem α) :
    (dgmBody env F eps lsmax c m).nf + (dgmBody env F eps lsmax c m).ng ≤ 3 * lsmax ∧
    (dgmBody env F eps lsmax c m).conv ≠ some true := by
  have h := dgmSearch_spec env F eps m.gphi m.gxk lsmax c m.L m.xk1 m.gxk1 m.fxk1
  simp only [dgmBody]
  split
  · exact ⟨by simp only []; omega, by simp⟩
  · exact ⟨by simp only []; omega, by simp⟩

/-- the inner line search of fgm makes at most `2 fuel` calls, all with the gradient, and a trial it accepts is the answer of
    one of them -/
theorem fgmSearch_spec (eps Ak : α) (vk yk : Vec α) :
    ∀ (j c : Nat) (M fx1 fy1 : α),
      let t := fgmSearch env F eps Ak vk yk j c M fx1 fy1
      t.nf ≤ 2 * j ∧ t.ng ≤ 2 * j ∧ (t.ok = true → ∃ i, t.f1 = (F i t.x1).1 ∧ t.g1 = (F i t.x1).2) := by
  intro j
  induction j with
  | zero => intro c M fx1 fy1; exact ⟨Nat.le_refl 0, Nat.le_refl 0, fun h => nomatch h⟩
  | succ j ih =>
    intro c M fx1 fy1
    rw [fgmSearch]
    split
    · extract_lets +onlyGivenNames ak1 tau x rx y ry d rhs
      split
      · exact ⟨(show 2 ≤ 2 * (j + 1) by omega), (show 2 ≤ 2 * (j + 1) by omega), fun _ => ⟨c + 1, rfl, rfl⟩⟩
      · obtain ⟨h1, h2, h3⟩ := ih (c + 2) (M * 2) rx.1 ry.1
        exact ⟨(show _ + 2 ≤ 2 * (j + 1) by omega), (show _ + 2 ≤ 2 * (j + 1) by omega), h3⟩
    · exact ⟨Nat.zero_le _, Nat.zero_le _, fun h => nomatch h⟩

theorem fgmBody_cands (eps : α) (lsmax c : Nat) (m : FgmMem α) :
    ∀ cand ∈ (fgmBody env (fun _ => f) eps lsmax c m).cands, IsEval f cand.1 cand.2.1 cand.2.2 := by
  intro cand h
  simp only [fgmBody] at h
  split at h
  · rename_i hok
    simp only [List.mem_singleton] at h
    subst h
    exact ((fgmSearch_spec env (fun _ => f) eps _ _ _ _ _ _ _ _).2.2 hok).elim fun _ h => h
  · simp at h

theorem fgmBody_evals (eps : α) (lsmax c : Nat) (m : FgmMem α) :
    (fgmBody env F eps lsmax c m).nf + (fgmBody env F eps lsmax c m).ng ≤ 4 * lsmax ∧
    (fgmBody env F eps lsmax c m).conv ≠ some true := by
  have h := fgmSearch_spec env F eps m.Ak m.vk m.yk lsmax c m.L m.fxk1 m.fyk1
  simp only [fgmBody]
  split
  · exact ⟨by simp only []; omega, by simp⟩
  · exact ⟨by simp only []; omega, by simp⟩

/-! ### asga2 / asga4 -/

section
variable (t : AsgaTrial α) (a : List (Vec α)) (ts : α × α)
theorem AsgaTrial.after_x : (t.after a ts).x = t.x := rfl
theorem AsgaTrial.after_gx : (t.after a ts).gx = t.gx := rfl
theorem AsgaTrial.after_fx : (t.after a ts).fx = t.fx := rfl
theorem AsgaTrial.after_n : (t.after a ts).n = t.n + 1 := rfl
end

/-- the inner loop of asga2 makes at most `fuel` trials (two calls with the gradient each); with at least one trial allowed,
    what it leaves behind is the answer of one of the calls -/
theorem asga2Search_spec (eps miu gamma1 : α) (x0 sum : Vec α) (Sk fxk : α) (xk zk : Vec α) :
    ∀ (j c : Nat) (L : α),
      let t := asga2Search env F eps miu gamma1 x0 sum Sk fxk xk zk j c L
      t.n ≤ j ∧ (0 < j → ∃ i, t.fx = (F i t.x).1 ∧ t.gx = (F i t.x).2) := by
  intro j
  induction j with
  | zero => intro c L; exact ⟨Nat.le_refl 0, fun h => nomatch h⟩
  | succ j ih =>
    intro c L
    rw [asga2Search]
    split
    · exact ⟨Nat.le_add_left 1 j, fun _ => ⟨c + 1, rfl, rfl⟩⟩
    · next hc =>
      have hj : 0 < j := Nat.pos_of_ne_zero fun h0 => hc (by rw [h0]; exact Bool.or_true _)
      obtain ⟨h1, h2⟩ := ih (c + 2) (L * gamma1)
      exact ⟨Nat.succ_le_succ h1, fun _ => h2 hj⟩

theorem asga2Body_spec (eps miu gamma1 gamma2 : α) (lsmax : Nat) (x0 : Vec α) (c : Nat) (m : Asga2Mem α) :
    (1 ≤ lsmax → BodySpec F (4 * lsmax) (asga2Body env F eps miu gamma1 gamma2 lsmax x0 c m)) ∧
    (asga2Body env F eps miu gamma1 gamma2 lsmax x0 c m).nf + (asga2Body env F eps miu gamma1 gamma2 lsmax x0 c m).ng ≤ 4 * lsmax ∧
    (asga2Body env F eps miu gamma1 gamma2 lsmax x0 c m).conv = none := by
  have h := asga2Search_spec env F eps miu gamma1 x0 m.sum m.Sk m.fxk m.xk m.zk lsmax c (m.Lk / gamma1)
  have hn : 2 * (asga2Search env F eps miu gamma1 x0 m.sum m.Sk m.fxk m.xk m.zk lsmax c (m.Lk / gamma1)).n +
      2 * (asga2Search env F eps miu gamma1 x0 m.sum m.Sk m.fxk m.xk m.zk lsmax c (m.Lk / gamma1)).n ≤ 4 * lsmax := by
    have := h.1; omega
  exact ⟨fun hls => ⟨fun _ hc => (List.mem_singleton.mp hc) ▸ h.2 hls, hn⟩, hn, rfl⟩

theorem asga4Search_spec (eps miu gamma1 : α) (Sk fyk : α) (vk yk : Vec α) :
    ∀ (j c : Nat) (L : α),
      let t := asga4Search env F eps miu gamma1 Sk fyk vk yk j c L
      t.n ≤ j ∧ (0 < j → ∃ i, t.fx = (F i t.x).1 ∧ t.gx = (F i t.x).2) := by
  intro j
  induction j with
  | zero => intro c L; exact ⟨Nat.le_refl 0, fun h => nomatch h⟩
  | succ j ih =>
    intro c L
    rw [asga4Search]
    split
    · exact ⟨Nat.le_add_left 1 j, fun _ => ⟨c + 1, rfl, rfl⟩⟩
    · next hc =>
      have hj : 0 < j := Nat.pos_of_ne_zero fun h0 => hc (by rw [h0]; exact Bool.or_true _)
      obtain ⟨h1, h2⟩ := ih (c + 2) (L * gamma1)
      exact ⟨Nat.succ_le_succ h1, fun _ => h2 hj⟩

theorem asga4Body_cands (eps miu gamma1 gamma2 : α) (lsmax : Nat) (x0 : Vec α)
    (hls : 1 ≤ lsmax) (c : Nat) (m : Asga4Mem α) :
    ∀ cand ∈ (asga4Body env (fun _ => f) eps miu gamma1 gamma2 lsmax x0 c m).cands, IsEval f cand.1 cand.2.1 cand.2.2 := by
  intro cand h
  simp only [asga4Body, List.mem_singleton] at h
  subst h
  exact ((asga4Search_spec env (fun _ => f) eps miu gamma1 _ _ _ _ lsmax c _).2 hls).elim fun _ h => h

theorem asga4Body_evals (eps miu gamma1 gamma2 : α) (lsmax : Nat) (x0 : Vec α) (c : Nat)
    (m : Asga4Mem α) :
    (asga4Body env F eps miu gamma1 gamma2 lsmax x0 c m).nf + (asga4Body env F eps miu gamma1 gamma2 lsmax x0 c m).ng ≤ 4 * lsmax ∧
    (asga4Body env F eps miu gamma1 gamma2 lsmax x0 c m).conv = none := by
  have h := (asga4Search_spec env F eps miu gamma1 m.Sk m.fyk m.vk m.yk lsmax c (m.Lk / gamma1)).1
  simp only [asga4Body]
  exact ⟨by omega, trivial⟩

/-! ### a body whose candidates are evaluations only for the private variables it can really reach (osga) -/

theorem ite_value (c : Prop) [Decidable c] (x y : Vec α) (fx fy : α) (hx : fx = (f x).1)
    (hy : fy = (f y).1) : (if c then fx else fy) = (f (if c then x else y)).1 := by
  split <;> assumption

/-- what osga hands over and keeps: `fb_hat` is the value of `f` at `xb_hat` whenever `fb` is the value at `xb` (the better of
    `x_prime` and the better of `x` and `xb`) -/
theorem osgaIter_best (miu q0 : α) (z0 : Vec α) (c : Nat) (m : OsgaMem α)
    (h : m.fb = (f m.xb).1) :
    (osgaIter env (fun _ => f) miu q0 z0 c m).fbHat = (f (osgaIter env (fun _ => f) miu q0 z0 c m).xbHat).1 :=
  ite_value f _ _ _ _ _ rfl (ite_value f _ _ _ _ _ rfl h)

theorem osgaBody_cands (eps miu lambda alphaMax kappaP kappa : α)
    (z0 g0 : Vec α) (c : Nat) (m : OsgaMem α) (h : m.fb = (f m.xb).1) :
    (∀ cand ∈ (osgaBody env nm (fun _ => f) eps miu lambda alphaMax kappaP kappa z0 g0 c m).cands,
      cand.2.2 = (f cand.1).1 ∧ cand.2.1 = g0) ∧
    (osgaBody env nm (fun _ => f) eps miu lambda alphaMax kappaP kappa z0 g0 c m).mem.fb =
      (f (osgaBody env nm (fun _ => f) eps miu lambda alphaMax kappaP kappa z0 g0 c m).mem.xb).1 := by
  by_cases hc : infNorm g0 < nm.eps0
  · rw [show osgaBody env nm (fun _ => f) eps miu lambda alphaMax kappaP kappa z0 g0 c m = _ from if_pos hc]
    exact ⟨(fun _ hm => nomatch hm), h⟩
  · rw [show osgaBody env nm (fun _ => f) eps miu lambda alphaMax kappaP kappa z0 g0 c m = _ from if_neg hc]
    refine ⟨fun cand hm => ?_, osgaIter_best env f miu _ z0 c m h⟩
    obtain rfl := List.mem_singleton.mp hm
    exact ⟨osgaIter_best env f miu _ z0 c m h, rfl⟩

theorem osgaBody_evals (eps miu lambda alphaMax kappaP kappa : α)
    (z0 g0 : Vec α) (c : Nat) (m : OsgaMem α) :
    (osgaBody env nm F eps miu lambda alphaMax kappaP kappa z0 g0 c m).nf +
      (osgaBody env nm F eps miu lambda alphaMax kappaP kappa z0 g0 c m).ng ≤ 3 ∧
    ((osgaBody env nm F eps miu lambda alphaMax kappaP kappa z0 g0 c m).conv = some true →
      infNorm g0 < nm.eps0 ∨ (osgaIter env F miu (osgaQ0 env nm z0) z0 c m).etaHat < eps) := by
  by_cases hc : infNorm g0 < nm.eps0
  · rw [show osgaBody env nm F eps miu lambda alphaMax kappaP kappa z0 g0 c m = _ from if_pos hc]
    exact ⟨Nat.zero_le _, fun _ => Or.inl hc⟩
  · rw [show osgaBody env nm F eps miu lambda alphaMax kappaP kappa z0 g0 c m = _ from if_neg hc]
    refine ⟨Nat.le_refl _, fun hcv => ?_⟩
    by_cases he : (osgaIter env F miu (osgaQ0 env nm z0) z0 c m).etaHat < eps
    · exact Or.inr he
    · have hcv' : (if (osgaIter env F miu (osgaQ0 env nm z0) z0 c m).etaHat < eps then some true else none) = some true :=
        hcv
      rw [if_neg he] at hcv'
      nomatch hcv'

/-- the clauses of the statement for a body in the oracle slot, started from `solver_state_t{function, x0}`: if every candidate of
    every body call is an evaluation of `f` and no body call makes more than `K ≥ 2` evaluations, then the returned triple is an
    evaluation of `f`, the reported evaluations stay below `max_evals + K`, and the status is one of the three -/
theorem nmMinimize_honest {M : Type} (body : Body α M) (m0 : M) (patience : Nat) (eps : α)
    (maxEvals K fuel : Nat) (x0 : Vec α)
    (hc : ∀ c m, ∀ cand ∈ (body c m).cands, IsEval f cand.1 cand.2.1 cand.2.2)
    (hK : ∀ c m, (body c m).nf + (body c m).ng ≤ K) (h2 : 2 ≤ K) :
    Honest f maxEvals K (nmMinimize env body m0 patience eps maxEvals fuel (initBState (fun _ => f) x0)) := by
  refine ⟨?_, fun h1 => ?_, ?_⟩
  · exact nmMinimize_inv env (IsEval f) body m0 patience eps maxEvals fuel _ (initBState_eval f x0) hc
  · apply nmMinimize_budget env body m0 patience eps maxEvals K fuel _ hK
    rw [initBState_evals]; omega
  · exact nmMinimize_tri env body m0 patience eps maxEvals fuel _ (Or.inl rfl)

/-- the same from the interface `BodySpec` -/
theorem nmMinimize_honest_spec {M : Type} (body : Body α M) (m0 : M) (patience : Nat) (eps : α)
    (maxEvals K fuel : Nat) (x0 : Vec α) (hs : ∀ c m, BodySpec (fun _ => f) K (body c m)) (h2 : 2 ≤ K) :
    Honest f maxEvals K (nmMinimize env body m0 patience eps maxEvals fuel (initBState (fun _ => f) x0)) :=
  nmMinimize_honest env f body m0 patience eps maxEvals K fuel x0 (fun c m => (hs c m).isEval) (fun c m => (hs c m).evals) h2

end
end NanoVerif.Solver
