import NanoVerif.Proofs.Tune
import Mathlib.Algebra.Order.Field.Basic
/-!
  C13 — `result_t::closest_trial` as `ml::tune` uses it (warm starts): the scan only ever looks at the trials before
  `max_trials` = `old_trials`, so a (trial, fold) task of the batch in flight is handed the model data of a trial of an
  EARLIER batch — a slot nobody writes while the batch runs. Kept apart from `Proofs/Tune.lean` because the property
  theorem is stated over an ordered field and that import must not stand in front of the statements there.
-/
namespace NanoVerif.Tune

section
variable {α π : Type} [LinearOrder α]

/-- frame: `closest_trial` depends on the first `maxTrials` rows only — the rows of the batch in flight (appended by
    `result.add` before the tasks start) are never read -/
theorem closestTrial_frame (top : α) (dist : π → π → α) (rows rows' : List π) (p : π) (k : Nat)
    (h : rows.take k = rows'.take k) : closestTrial top dist rows p k = closestTrial top dist rows' p k := by
  unfold closestTrial; rw [h]

theorem closestTrial_lt (top : α) (dist : π → π → α) (rows : List π) (p : π) (k : Nat) (hk : 0 < k)
    (hle : k ≤ rows.length) : closestTrial top dist rows p k < k := by
  have hlen : (rows.take k).length = k := List.length_take_of_le hle
  have := argminScan_lt top ((rows.take k).map fun row => dist row p)
    (mt List.map_eq_nil_iff.mp (List.ne_nil_of_length_pos (hk.trans_eq hlen.symm)))
  rwa [List.length_map, hlen] at this

theorem add_get?_old {σ : Type} (r : Result σ) (hwf : r.wf) (k t f : Nat) (ht : t < r.trials) :
    (r.add k).get? t f = r.get? t f := by
  unfold Result.get? Result.add
  simp only
  by_cases hf : f < r.folds
  · have hslot : slot r.folds t f < r.slots.length := by
      rw [hwf]; exact slot_lt r.folds r.trials t f ht hf
    rw [if_pos ⟨hf, by omega⟩, if_pos ⟨hf, ht⟩, List.getElem?_append_left hslot]
  · rw [if_neg (fun h => hf h.1), if_neg (fun h => hf h.1)]

end

section
variable {α π : Type} [Field α] [LinearOrder α] [IsStrictOrderedRing α]

set_option linter.unusedSectionVars false
/-- **warm starts read completed batches only**: in `ml::tune` (rows of the batch in flight already appended, `max_trials`
    = `old_trials` > 0) the closest trial of every new trial is an OLD one, it is the same whatever the batch in flight
    looks like, and its (trial, fold) slot holds after `add` what it held before — the tasks of the batch never write it
    (`batch_keeps_old`) -/
theorem tune_reads_only_earlier {σ : Type} (top : α) (dist : π → π → α) (r0 : Result σ) (hwf : r0.wf) (old new : List π)
    (hold : old.length = r0.trials) (hpos : 0 < r0.trials) (p : π) (f : Nat) :
    closestTrial top dist (old ++ new) p r0.trials < r0.trials ∧
    closestTrial top dist (old ++ new) p r0.trials = closestTrial top dist old p r0.trials ∧
    (r0.add new.length).get? (closestTrial top dist (old ++ new) p r0.trials) f =
      r0.get? (closestTrial top dist (old ++ new) p r0.trials) f := by
  have hlt : closestTrial top dist (old ++ new) p r0.trials < r0.trials :=
    closestTrial_lt top dist _ p _ hpos (hold ▸ List.length_append ▸ Nat.le_add_right _ _)
  refine ⟨hlt, ?_, add_get?_old r0 hwf _ _ f hlt⟩
  rw [← hold]
  exact closestTrial_frame top dist _ _ p _ (by rw [List.take_left, List.take_length])
end

example : closestTrial (100 : Int) (fun a b => (a - b) * (a - b)) [5, 1, 9, 2] 2 3 = 1 := by decide
-- the in-flight row `2` (distance 0) is not looked at with `maxTrials = 3`; it would be with 4
example : closestTrial (100 : Int) (fun a b => (a - b) * (a - b)) [5, 1, 9, 2] 2 4 = 3 := by decide

end NanoVerif.Tune
