import NanoVerif.Model.Dataset
import NanoVerif.Proofs.ListIndex
/-!
  C08 — the storage layer of `Model/Dataset.lean`: bit mask, row ranges of the typed pools, the view handed out by `visit`
  (slice + reshape of the C16 tensor model), `set`. Core Lean only; no Mathlib.
-/
namespace NanoVerif.Dataset
open NanoVerif.Tensor NanoVerif.Mask

/-! ### lists -/

theorem mul_add_le_of_lt {s n : Nat} (c : Nat) (h : s < n) : s * c + c ≤ n * c := by
  rw [← Nat.succ_mul]; exact Nat.mul_le_mul_right c h

/-! ### kinds of features -/

theorem Feature.comps_cont (f : Feature) (h1 : f.type ≠ .sclass) (h2 : f.type ≠ .mclass) : f.comps = f.dimSize := by
  unfold Feature.comps
  split <;> first | contradiction | rfl

theorem Feature.comps_mclass (f : Feature) (h : f.isMclass = true) : f.comps = f.classes := by
  rw [Feature.comps, of_decide_eq_true h]

theorem Feature.isScalar_iff (f : Feature) :
    f.isScalar = true ↔ f.type ≠ .sclass ∧ f.type ≠ .mclass ∧ f.dimSize = 1 := by
  simp [Feature.isScalar, Feature.isClass, and_assoc]

theorem Feature.isStruct_iff (f : Feature) :
    f.isStruct = true ↔ f.type ≠ .sclass ∧ f.type ≠ .mclass ∧ 1 < f.dimSize := by
  simp [Feature.isStruct, Feature.isClass, and_assoc]

/-! ### bit mask -/

theorem and_bitOf_ne_zero (x s : Nat) : ((x &&& bitOf s) != 0) = x.testBit (7 - s % 8) := by
  have h : x &&& 2 ^ (7 - s % 8) = if x.testBit (7 - s % 8) then 2 ^ (7 - s % 8) else 0 := by
    apply Nat.eq_of_testBit_eq
    intro i
    rw [Nat.testBit_and, apply_ite (Nat.testBit · i), Nat.testBit_two_pow, Nat.zero_testBit]
    by_cases hi : 7 - s % 8 = i
    · subst hi; simp
    · simp [hi]
  rw [bitOf, Nat.one_shiftLeft, h]
  cases x.testBit (7 - s % 8)
  · rfl
  · simp

theorem getbit_setbit' (m : List Nat) (s s' : Nat) (hs : s / 8 < m.length) :
    getbit (setbit m s) s' = (decide (s = s') || getbit m s') := by
  unfold getbit setbit
  rw [and_bitOf_ne_zero, and_bitOf_ne_zero, Lst.getD_set hs]
  by_cases hb : s / 8 = s' / 8
  · have : (7 - s % 8 = 7 - s' % 8) ↔ s = s' := by omega
    rw [if_pos hb, hb, Nat.testBit_or, bitOf, Nat.one_shiftLeft, Nat.testBit_two_pow, Bool.or_comm, decide_eq_decide.2 this]
  · have : s ≠ s' := fun e => hb (by rw [e])
    rw [if_neg hb, decide_eq_false this, Bool.false_or]

/-! ### ranges -/

theorem ofCode_code (a : FType) : FType.ofCode a.code = some a := by cases a <;> rfl

theorem code_inj (a b : FType) (h : a.code = b.code) : a = b :=
  Option.some.inj (by rw [← ofCode_code a, h, ofCode_code b])

theorem pool_code_lt (f : Feature) : f.pool.code < 10 := by
  unfold Feature.pool
  cases f.type <;> dsimp only
  case sclass =>
    split
    · decide
    split
    · decide
    split <;> decide
  all_goals decide

/-- the ranges handed out to the features stored in pool `p`, in feature order -/
def poolRanges (p : Nat) : List Feature → List (Nat × Nat) → List (Nat × Nat)
  | f :: fs, r :: rs => if f.pool.code = p then r :: poolRanges p fs rs else poolRanges p fs rs
  | _, _ => []

/-- `[a, b)` is tiled by the consecutive ranges -/
def Tile : Nat → Nat → List (Nat × Nat) → Prop
  | a, b, [] => a = b
  | a, b, r :: rs => r.1 = a ∧ r.1 ≤ r.2 ∧ Tile r.2 b rs

theorem assignRanges_spec (feats : List Feature) : ∀ (sizes : List Nat),
    (∀ f ∈ feats, f.pool.code < sizes.length) →
    (assignRanges sizes feats).1.length = feats.length ∧
    (assignRanges sizes feats).2.length = sizes.length ∧
    (∀ q, sizes.getD q 0 ≤ (assignRanges sizes feats).2.getD q 0) ∧
    (∀ (i : Nat) (f : Feature) (r : Nat × Nat), feats[i]? = some f → (assignRanges sizes feats).1[i]? = some r →
      sizes.getD f.pool.code 0 ≤ r.1 ∧ r.2 = r.1 + f.comps ∧
      r.2 ≤ (assignRanges sizes feats).2.getD f.pool.code 0) ∧
    (∀ (i j : Nat) (fi fj : Feature) (ri rj : Nat × Nat), i < j → feats[i]? = some fi → feats[j]? = some fj →
      fi.pool.code = fj.pool.code → (assignRanges sizes feats).1[i]? = some ri →
      (assignRanges sizes feats).1[j]? = some rj → ri.2 ≤ rj.1) := by
  induction feats with
  | nil => intro sizes _; simp [assignRanges]
  | cons f fs ih =>
    intro sizes hp
    have hpf : f.pool.code < sizes.length := hp f List.mem_cons_self
    obtain ⟨ih1, ih2, ih3, ih4, ih5⟩ := ih (sizes.set f.pool.code (sizes.getD f.pool.code 0 + f.comps))
      (fun g hg => by rw [List.length_set]; exact hp g (List.mem_cons_of_mem _ hg))
    -- the sizes after the first feature: its pool has grown by `comps`, the others are as before
    have hset := fun q => Lst.getD_set hpf q (sizes.getD f.pool.code 0 + f.comps) 0
    have hmono : ∀ q, sizes.getD q 0 ≤ (sizes.set f.pool.code (sizes.getD f.pool.code 0 + f.comps)).getD q 0 := by
      intro q
      rw [hset]
      split
      · subst_vars; exact Nat.le_add_right _ _
      · exact Nat.le_refl _
    have hfirst : sizes.getD f.pool.code 0 + f.comps ≤
        (assignRanges (sizes.set f.pool.code (sizes.getD f.pool.code 0 + f.comps)) fs).2.getD f.pool.code 0 := by
      have := ih3 f.pool.code
      rwa [hset, if_pos rfl] at this
    simp only [assignRanges]
    refine ⟨by rw [List.length_cons, ih1, List.length_cons], by rw [ih2, List.length_set],
      fun q => Nat.le_trans (hmono q) (ih3 q), ?_, ?_⟩
    · intro i g r hg hr
      cases i with
      | zero =>
        cases hg; cases hr
        exact ⟨Nat.le_refl _, rfl, hfirst⟩
      | succ i =>
        obtain ⟨a, b, c⟩ := ih4 i g r hg hr
        exact ⟨Nat.le_trans (hmono _) a, b, c⟩
    · intro i j fi fj ri rj hij hfi hfj hcode hri hrj
      cases j with
      | zero => omega
      | succ j =>
        cases i with
        | zero =>
          cases hfi; cases hri
          have a := (ih4 j fj rj hfj hrj).1
          rwa [hset, if_pos hcode] at a
        | succ i => exact ih5 i j fi fj ri rj (by omega) hfi hfj hcode hri hrj

theorem assignRanges_tile (p : Nat) (feats : List Feature) : ∀ (sizes : List Nat),
    (∀ f ∈ feats, f.pool.code < sizes.length) →
    Tile (sizes.getD p 0) ((assignRanges sizes feats).2.getD p 0) (poolRanges p feats (assignRanges sizes feats).1) := by
  induction feats with
  | nil => intro sizes _; rfl
  | cons f fs ih =>
    intro sizes hp
    have hpf : f.pool.code < sizes.length := hp f List.mem_cons_self
    have := ih (sizes.set f.pool.code (sizes.getD f.pool.code 0 + f.comps))
      (fun g hg => by rw [List.length_set]; exact hp g (List.mem_cons_of_mem _ hg))
    rw [Lst.getD_set hpf] at this
    simp only [assignRanges, poolRanges]
    by_cases hc : f.pool.code = p
    · rw [if_pos hc] at this ⊢
      subst hc
      exact ⟨rfl, Nat.le_add_right _ _, this⟩
    · rwa [if_neg hc] at this ⊢

/-! ### list windows, `writeAt` -/

theorem writeAt_length {α} (xs : List α) (off : Nat) (v : List α) (h : off + v.length ≤ xs.length) :
    (writeAt xs off v).length = xs.length := Lst.splice_length xs off v h

theorem writeAt_getElem? {α} (xs : List α) (off : Nat) (v : List α) (h : off + v.length ≤ xs.length) (i : Nat) :
    (writeAt xs off v)[i]? = if i < off then xs[i]? else if i < off + v.length then v[i - off]? else xs[i]? := by
  have hl : (List.take off xs).length = off := by rw [List.length_take]; omega
  simp only [writeAt, List.getElem?_append, List.length_append, hl, List.getElem?_take, List.getElem?_drop]
  by_cases h1 : i < off
  · rw [if_pos h1, if_pos h1, if_pos h1, if_pos (by omega)]
  · rw [if_neg h1, if_neg h1]
    split
    · rfl
    · congr 1; omega

theorem drop_take_getElem? {α} (l : List α) (a n i : Nat) :
    ((l.drop a).take n)[i]? = if i < n then l[a + i]? else none := by
  rw [List.getElem?_take, List.getElem?_drop]
theorem writeAt_window_same {α} (xs : List α) (off : Nat) (v : List α) (h : off + v.length ≤ xs.length) :
    ((writeAt xs off v).drop off).take v.length = v := by
  rw [writeAt, List.append_assoc, List.drop_left' (by rw [List.length_take]; omega), List.take_left' rfl]

theorem writeAt_window_other {α} (xs : List α) (off : Nat) (v : List α) (h : off + v.length ≤ xs.length)
    (o m : Nat) (hd : o + m ≤ off ∨ off + v.length ≤ o) :
    ((writeAt xs off v).drop o).take m = (xs.drop o).take m := by
  apply List.ext_getElem?
  intro i
  rw [drop_take_getElem?, drop_take_getElem?, writeAt_getElem? _ _ _ h]
  split
  · rcases hd with hd | hd
    · rw [if_pos (by omega)]
    · rw [if_neg (by omega), if_neg (by omega)]
  · rfl

theorem drop_take_drop_take {α} (l : List α) (a n i m : Nat) (h : i + m ≤ n) :
    (((l.drop a).take n).drop i).take m = (l.drop (a + i)).take m := by
  rw [List.drop_take, List.take_take, List.drop_drop, Nat.min_eq_left (by omega)]

/-! ### well-formed storages -/

/-- invariant of a storage built by `resize` and updated by `set` -/
structure Storage.WF (st : Storage) : Prop where
  samples_pos : 0 < st.samples
  ranges_len : st.ranges.length = st.feats.length
  masks_len : st.masks.length = st.feats.length
  mask_size : ∀ (f : Nat) (m : List Nat), st.masks[f]? = some m → m.length = (st.samples + 7) / 8
  pools : ∀ (f : Nat) (feat : Feature) (r : Nat × Nat), st.feats[f]? = some feat → st.ranges[f]? = some r →
    r.2 = r.1 + feat.comps ∧
    ∃ t rows, st.pools[feat.pool.code]? = some t ∧ t.dims = [rows, st.samples] ∧
      t.data.length = rows * st.samples ∧ r.2 ≤ rows
  disjoint : ∀ (f g : Nat) (ff fg : Feature) (rf rg : Nat × Nat), f ≠ g → st.feats[f]? = some ff → st.feats[g]? = some fg → ff.pool = fg.pool →
    st.ranges[f]? = some rf → st.ranges[g]? = some rg → rf.2 ≤ rg.1 ∨ rg.2 ≤ rf.1

theorem ranges_some (st : Storage) (h : st.WF) (f : Nat) (feat : Feature) (hf : st.feats[f]? = some feat) :
    ∃ r, st.ranges[f]? = some r := by
  have hlt : f < st.ranges.length := h.ranges_len ▸ (List.getElem?_eq_some_iff.1 hf).1
  exact ⟨st.ranges[f], List.getElem?_eq_getElem hlt⟩

theorem pool_some (st : Storage) (h : st.WF) (f : Nat) (feat : Feature) (hf : st.feats[f]? = some feat) :
    ∃ t, st.pools[feat.pool.code]? = some t := by
  obtain ⟨r, hr⟩ := ranges_some st h f feat hf
  obtain ⟨_, t, _, ht, _⟩ := h.pools f feat r hf hr
  exact ⟨t, ht⟩

theorem offset_window (st : Storage) (h : st.WF) (f s : Nat) (feat : Feature) (r : Nat × Nat)
    (hf : st.feats[f]? = some feat) (hr : st.ranges[f]? = some r) (hs : s < st.samples) :
    st.offset f s = r.1 * st.samples + s * feat.comps ∧
    r.1 * st.samples ≤ st.offset f s ∧ st.offset f s + feat.comps ≤ r.2 * st.samples := by
  have ho : st.offset f s = r.1 * st.samples + s * feat.comps := by
    simp [Storage.offset, List.getD_eq_getElem?_getD, hf, hr]
  have e1 := mul_add_le_of_lt feat.comps hs
  have e2 : r.2 * st.samples = r.1 * st.samples + st.samples * feat.comps := by
    rw [(h.pools f feat r hf hr).1, Nat.add_mul, Nat.mul_comm feat.comps]
  exact ⟨ho, by omega, by omega⟩

theorem offset_bound (st : Storage) (h : st.WF) (f s : Nat) (feat : Feature) (t : T Int)
    (hf : st.feats[f]? = some feat) (hp : st.pools[feat.pool.code]? = some t) (hs : s < st.samples) :
    st.offset f s + feat.comps ≤ t.data.length := by
  obtain ⟨r, hr⟩ := ranges_some st h f feat hf
  obtain ⟨_, _, hw⟩ := offset_window st h f s feat r hf hr hs
  obtain ⟨_, t', rows, ht', _, hlen, hle⟩ := h.pools f feat r hf hr
  rw [hp] at ht'; cases ht'
  have : r.2 * st.samples ≤ rows * st.samples := Nat.mul_le_mul_right _ hle
  omega

theorem set_eq (st st' : Storage) (s f : Nat) (v : List Int) (hset : st.set s f v = some st') :
    ∃ feat, st.feats[f]? = some feat ∧ s < st.samples ∧ v.length = feat.comps ∧
      st' = { st with
        pools := st.pools.modify feat.pool.code (fun t => ⟨t.dims, writeAt t.data (st.offset f s) v⟩)
        masks := st.masks.modify f (fun m => setbit m s) } := by
  unfold Storage.set at hset
  cases hf : st.feats[f]? with
  | none => rw [hf] at hset; cases hset
  | some feat =>
    rw [hf] at hset
    simp only at hset
    split at hset
    · rename_i hg
      cases hset
      exact ⟨feat, rfl, hg.1, hg.2.1, rfl⟩
    · cases hset

theorem set_schema (st st' : Storage) (s f : Nat) (v : List Int) (hset : st.set s f v = some st') :
    st'.samples = st.samples ∧ st'.feats = st.feats ∧ st'.ranges = st.ranges ∧ st'.target = st.target := by
  obtain ⟨feat, _, _, _, rfl⟩ := set_eq st st' s f v hset
  exact ⟨rfl, rfl, rfl, rfl⟩

theorem resize_wf (n : Nat) (feats : List Feature) (target : Nat) (hn : 0 < n) : (resize n feats target).WF := by
  have hp : ∀ f ∈ feats, f.pool.code < (List.replicate 10 0).length := by
    intro f _; rw [List.length_replicate]; exact pool_code_lt f
  obtain ⟨h1, h2, _, h4, h5⟩ := assignRanges_spec feats (List.replicate 10 0) hp
  rw [List.length_replicate] at h2
  refine ⟨hn, h1, by simp [resize], ?_, ?_, ?_⟩
  · intro f m hm
    simp only [resize, List.getElem?_map] at hm
    cases hf : feats[f]? with
    | none => simp [hf] at hm
    | some g => simp [hf] at hm; subst hm; simp [zeros, resize]
  · intro f feat r hf hr
    simp only [resize] at hf hr ⊢
    obtain ⟨_, b, c⟩ := h4 f feat r hf hr
    refine ⟨b, ?_⟩
    have hlt : feat.pool.code < (assignRanges (List.replicate 10 0) feats).2.length := by
      rw [h2]; exact pool_code_lt feat
    refine ⟨⟨[(assignRanges (List.replicate 10 0) feats).2[feat.pool.code], n], List.replicate ((assignRanges (List.replicate 10 0) feats).2[feat.pool.code] * n) 0⟩, (assignRanges (List.replicate 10 0) feats).2[feat.pool.code], ?_, rfl, ?_, ?_⟩
    · rw [List.getElem?_map, List.getElem?_eq_getElem hlt]; rfl
    · simp
    · rw [List.getD_eq_getElem?_getD, List.getElem?_eq_getElem hlt] at c; simpa using c
  · intro f g ff fg rf rg hfg hff hfg' hpool hrf hrg
    simp only [resize] at hff hfg' hrf hrg
    rcases Nat.lt_or_gt_of_ne hfg with hlt | hlt
    · exact Or.inl (h5 f g ff fg rf rg hlt hff hfg' (by rw [hpool]) hrf hrg)
    · exact Or.inr (h5 g f fg ff rg rf hlt hfg' hff (by rw [hpool]) hrg hrf)

theorem setbit_length (m : List Nat) (s : Nat) : (setbit m s).length = m.length := by
  simp [setbit]

theorem set_wf (st st' : Storage) (h : st.WF) (s f : Nat) (v : List Int) (hset : st.set s f v = some st') : st'.WF := by
  obtain ⟨feat, hf, hs, hv, rfl⟩ := set_eq st st' s f v hset
  refine ⟨h.samples_pos, h.ranges_len, ?_, ?_, ?_, h.disjoint⟩
  · simp only [List.length_modify]; exact h.masks_len
  · intro g m hm
    simp only [List.getElem?_modify] at hm
    cases hg : st.masks[g]? with
    | none => rw [hg] at hm; cases hm
    | some m0 =>
      rw [hg] at hm
      simp only [Option.map_eq_map, Option.map_some, Option.some.injEq] at hm
      have := h.mask_size g m0 hg
      subst hm
      split
      · rw [setbit_length]; exact this
      · exact this
  · intro g feat' r hg hr
    obtain ⟨h2, t, rows, ht, hd, hlen, hle⟩ := h.pools g feat' r hg hr
    refine ⟨h2, ?_⟩
    simp only [List.getElem?_modify, ht]
    by_cases hc : feat.pool.code = feat'.pool.code
    · refine ⟨⟨t.dims, writeAt t.data (st.offset f s) v⟩, rows, by simp [hc], hd, ?_, hle⟩
      have hb := offset_bound st h f s feat t hf (by rw [hc]; exact ht) hs
      simp only
      rw [writeAt_length _ _ _ (by omega)]; exact hlen
    · exact ⟨t, rows, by simp [hc], hd, hlen, hle⟩

/-! ### the view -/

theorem reshapeDims_infer1 (total : Nat) : reshapeDims total [-1] = some [total] := by
  simp [reshapeDims, reshapeInfer, iprod]

theorem reshapeDims_infer2 (N C total : Nat) (hN : 0 < N) (ht : total = C * N) :
    reshapeDims total [Int.ofNat N, -1] = some [N, C] := by
  have h1 : ¬ ((N : Int) = -1) := by omega
  have h2 : ¬ (N = 0) := by omega
  subst ht
  simp [reshapeDims, reshapeInfer, iprod, h1, h2, Int.mul_comm]

theorem reshapeDims_full (N a b c total : Nat) (ht : total = N * (a * b * c)) :
    reshapeDims total [Int.ofNat N, Int.ofNat a, Int.ofNat b, Int.ofNat c] = some [N, a, b, c] := by
  have h1 : ∀ n : Nat, ¬ ((n : Int) = -1) := by intro n; omega
  subst ht
  simp [reshapeDims, reshapeInfer, iprod, h1, Int.mul_assoc]

theorem slice_two {α} (t : T α) (rows N b e : Nat) (hd : t.dims = [rows, N]) (hbe : b ≤ e) (he : e ≤ rows) :
    t.slice b e = some ⟨[e - b, N], (t.data.drop (b * N)).take ((e - b) * N)⟩ := by
  simp [T.slice, hd, hbe, he, index, size]

theorem sub_one {α} (N : Nat) (ds : List Nat) (data : List α) (s : Nat) (hs : s < N) :
    (T.mk (N :: ds) data).sub [s] = some ⟨ds, (data.drop (s * size ds)).take (size ds)⟩ := by
  simp [T.sub, ValidPrefix, hs, dims0, index]

theorem view_eq (st : Storage) (h : st.WF) (f : Nat) (feat : Feature) (r : Nat × Nat) (t : T Int)
    (hf : st.feats[f]? = some feat) (hr : st.ranges[f]? = some r) (hp : st.pools[feat.pool.code]? = some t) :
    ∃ ds, size ds = feat.comps ∧
      st.view f = some ⟨st.samples :: ds, (t.data.drop (r.1 * st.samples)).take (feat.comps * st.samples)⟩ := by
  obtain ⟨h2, t', rows, ht', hd, hlen, hle⟩ := h.pools f feat r hf hr
  rw [hp] at ht'; cases ht'
  have hsl := slice_two t rows st.samples r.1 r.2 hd (by omega) hle
  rw [show r.2 - r.1 = feat.comps by omega] at hsl
  have hsz : size [feat.comps, st.samples] = feat.comps * st.samples := by simp [size]
  unfold Storage.view
  simp only [hf, hr, hp, hsl, Option.bind_eq_bind, Option.bind_some, T.reshape, hsz]
  split
  · rename_i hty
    have hc : feat.comps = 1 := by simp [Feature.comps, hty]
    refine ⟨[], hc.symm, ?_⟩
    rw [reshapeDims_infer1, hc, Nat.one_mul]; rfl
  · rename_i hty
    have hc : feat.comps = feat.classes := by simp [Feature.comps, hty]
    refine ⟨[feat.classes], by rw [hc]; simp [size], ?_⟩
    rw [reshapeDims_infer2 st.samples feat.classes _ h.samples_pos (by rw [hc])]; rfl
  · rename_i h1 h2
    have hc := feat.comps_cont h1 h2
    refine ⟨[feat.d0, feat.d1, feat.d2], by rw [hc]; simp [size, Feature.dimSize, Nat.mul_assoc], ?_⟩
    rw [reshapeDims_full st.samples feat.d0 feat.d1 feat.d2 _ (by rw [hc, Nat.mul_comm]; rfl)]; rfl

/-- the view handed out by `visit` (slice of the pool, reshaped — through the C16 model) aliases the pool from
    `offset f s`: the row of sample `s` is the window of `comps` elements starting there -/
theorem row_eq (st : Storage) (h : st.WF) (f s : Nat) (feat : Feature) (t : T Int)
    (hf : st.feats[f]? = some feat) (hp : st.pools[feat.pool.code]? = some t) (hs : s < st.samples) :
    st.row f s = some ((t.data.drop (st.offset f s)).take feat.comps) ∧
    st.offset f s + feat.comps ≤ t.data.length := by
  refine ⟨?_, offset_bound st h f s feat t hf hp hs⟩
  obtain ⟨r, hr⟩ := ranges_some st h f feat hf
  obtain ⟨ds, hds, hv⟩ := view_eq st h f feat r t hf hr hp
  obtain ⟨ho, _, _⟩ := offset_window st h f s feat r hf hr hs
  unfold Storage.row
  simp only [hv, Option.bind_eq_bind, Option.bind_some, sub_one _ _ _ _ hs, hds, Option.pure_def]
  rw [ho]
  rw [drop_take_drop_take _ _ _ _ _ (by rw [Nat.mul_comm feat.comps]; exact mul_add_le_of_lt _ hs)]

theorem stored_lt (st : Storage) (h : st.WF) (f s : Nat) (feat : Feature) (v : List Int)
    (hf : st.feats[f]? = some feat) (hv : st.stored f s = some v) : s < st.samples := by
  apply Decidable.byContradiction
  intro hs
  obtain ⟨t, ht⟩ := pool_some st h f feat hf
  obtain ⟨r, hr⟩ := ranges_some st h f feat hf
  obtain ⟨ds, _, hview⟩ := view_eq st h f feat r t hf hr ht
  have hrow : st.row f s = none := by simp [Storage.row, hview, T.sub, ValidPrefix, hs]
  rw [Storage.stored, hrow] at hv
  split at hv <;> cases hv

theorem stored_length (st : Storage) (h : st.WF) (f s : Nat) (feat : Feature) (v : List Int)
    (hf : st.feats[f]? = some feat) (hv : st.stored f s = some v) : v.length = feat.comps := by
  obtain ⟨t, ht⟩ := pool_some st h f feat hf
  obtain ⟨hrow, hb⟩ := row_eq st h f s feat t hf ht (stored_lt st h f s feat v hf hv)
  unfold Storage.stored at hv
  split at hv
  · rw [hrow] at hv
    cases hv
    rw [List.length_take, List.length_drop]; omega
  · cases hv

theorem windows_disjoint (st : Storage) (h : st.WF) (f s f' s' : Nat) (feat feat' : Feature)
    (hf : st.feats[f]? = some feat) (hf' : st.feats[f']? = some feat') (hs : s < st.samples) (hs' : s' < st.samples)
    (hpool : feat.pool = feat'.pool) (hne : ¬ (f' = f ∧ s' = s)) :
    st.offset f' s' + feat'.comps ≤ st.offset f s ∨ st.offset f s + feat.comps ≤ st.offset f' s' := by
  obtain ⟨r, hr⟩ := ranges_some st h f feat hf
  obtain ⟨r', hr'⟩ := ranges_some st h f' feat' hf'
  obtain ⟨ho, hlo, hhi⟩ := offset_window st h f s feat r hf hr hs
  obtain ⟨ho', hlo', hhi'⟩ := offset_window st h f' s' feat' r' hf' hr' hs'
  by_cases hff : f' = f
  · subst hff
    rw [hf] at hf'; cases hf'
    rw [hr] at hr'; cases hr'
    rw [ho, ho', Nat.add_assoc, Nat.add_assoc]
    rcases Nat.lt_or_gt_of_ne (fun e : s' = s => hne ⟨rfl, e⟩) with hlt | hlt
    · exact Or.inl (Nat.add_le_add_left (mul_add_le_of_lt _ hlt) _)
    · exact Or.inr (Nat.add_le_add_left (mul_add_le_of_lt _ hlt) _)
  · rcases h.disjoint f f' feat feat' r r' (fun e => hff e.symm) hf hf' hpool hr hr' with hd | hd
    · exact Or.inr (Nat.le_trans hhi (Nat.le_trans (Nat.mul_le_mul_right _ hd) hlo'))
    · exact Or.inl (Nat.le_trans hhi' (Nat.le_trans (Nat.mul_le_mul_right _ hd) hlo))

theorem set_given (st st' : Storage) (h : st.WF) (s f : Nat) (v : List Int) (hset : st.set s f v = some st')
    (f' s' : Nat) :
    st'.given f' s' = (decide (f' = f ∧ s' = s) || st.given f' s') := by
  obtain ⟨feat, hf, hs, hv, rfl⟩ := set_eq st st' s f v hset
  simp only [Storage.given, List.getD_eq_getElem?_getD, List.getElem?_modify]
  by_cases hff : f = f'
  · subst hff
    have hlt : f < st.masks.length := h.masks_len ▸ (List.getElem?_eq_some_iff.1 hf).1
    have hm : st.masks[f]? = some st.masks[f] := List.getElem?_eq_getElem hlt
    have hlen := h.mask_size f _ hm
    rw [hm]
    simp only [if_true, Option.map_eq_map, Option.map_some, Option.getD_some, true_and]
    rw [getbit_setbit' _ _ _ (by omega)]
    by_cases hss : s = s'
    · subst hss; simp
    · have : ¬ s' = s := fun e => hss e.symm
      simp [hss, this]
  · have : ¬ f' = f := fun e => hff e.symm
    simp [hff, this]

theorem set_row (st st' : Storage) (h : st.WF) (s f : Nat) (v : List Int) (hset : st.set s f v = some st')
    (f' s' : Nat) (hf' : f' < st.feats.length) (hs' : s' < st.samples) :
    st'.row f' s' = if f' = f ∧ s' = s then some v else st.row f' s' := by
  have h' := set_wf st st' h s f v hset
  obtain ⟨feat, hf, hs, hv, hst'⟩ := set_eq st st' s f v hset
  have hfeats : st'.feats = st.feats := by rw [hst']
  have hsamples : st'.samples = st.samples := by rw [hst']
  have hoff : ∀ a b, st'.offset a b = st.offset a b := by intro a b; rw [hst']; rfl
  have hpools : st'.pools = st.pools.modify feat.pool.code (fun t => ⟨t.dims, writeAt t.data (st.offset f s) v⟩) := by
    rw [hst']
  have hfeat' : st.feats[f']? = some st.feats[f'] := List.getElem?_eq_getElem hf'
  generalize st.feats[f'] = feat' at hfeat'
  obtain ⟨t', ht'⟩ := pool_some st h f' feat' hfeat'
  obtain ⟨hrow, hb'⟩ := row_eq st h f' s' feat' t' hfeat' ht' hs'
  have hpool' : st'.pools[feat'.pool.code]? =
      some (if feat.pool.code = feat'.pool.code then ⟨t'.dims, writeAt t'.data (st.offset f s) v⟩ else t') := by
    rw [hpools, List.getElem?_modify, ht']
    by_cases hc : feat.pool.code = feat'.pool.code <;> simp [hc]
  obtain ⟨hrow', _⟩ := row_eq st' h' f' s' feat' _ (by rw [hfeats]; exact hfeat') hpool' (by rw [hsamples]; exact hs')
  rw [hrow', hrow, hoff]
  by_cases hc : feat.pool.code = feat'.pool.code
  · have ht : st.pools[feat.pool.code]? = some t' := by rw [hc]; exact ht'
    have hb := offset_bound st h f s feat t' hf ht hs
    rw [← hv] at hb
    simp only [hc, if_true]
    by_cases hsame : f' = f ∧ s' = s
    · obtain ⟨rfl, rfl⟩ := hsame
      rw [hf] at hfeat'; cases hfeat'
      simp only [and_self, if_true]
      rw [← hv, writeAt_window_same _ _ _ hb]
    · simp only [hsame, if_false]
      rw [writeAt_window_other _ _ _ hb]
      have := windows_disjoint st h f s f' s' feat feat' hf hfeat' hs hs' (code_inj _ _ hc) hsame
      rw [hv]; exact this
  · have hsame : ¬ (f' = f ∧ s' = s) := by
      rintro ⟨rfl, _⟩
      rw [hf] at hfeat'; cases hfeat'
      exact hc rfl
    simp only [hc, hsame, if_false]

theorem stored_feat (st : Storage) (f s : Nat) (v : List Int) (hv : st.stored f s = some v) :
    ∃ feat, st.feats[f]? = some feat := by
  cases hf : st.feats[f]? with
  | some feat => exact ⟨feat, rfl⟩
  | none => simp [Storage.stored, Storage.row, Storage.view, hf] at hv

theorem stored_eq_none_of_out (st : Storage) (h : st.WF) (f s : Nat) (hout : ¬ (f < st.feats.length ∧ s < st.samples)) :
    st.stored f s = none := by
  cases hv : st.stored f s with
  | none => rfl
  | some v =>
    obtain ⟨feat, hf⟩ := stored_feat st f s v hv
    exact absurd ⟨(List.getElem?_eq_some_iff.1 hf).1, stored_lt st h f s feat v hf hv⟩ hout

/-- **storage refines the abstract map** `D : feature → sample → Option value`: `set` is a point update of `D`, for every
    `(f', s')` — outside the storage nothing is stored before or after -/
theorem set_stored (st st' : Storage) (h : st.WF) (s f : Nat) (v : List Int) (hset : st.set s f v = some st') (f' s' : Nat) :
    st'.stored f' s' = if f' = f ∧ s' = s then some v else st.stored f' s' := by
  by_cases hin : f' < st.feats.length ∧ s' < st.samples
  · unfold Storage.stored
    rw [set_given st st' h s f v hset f' s', set_row st st' h s f v hset f' s' hin.1 hin.2]
    by_cases hsame : f' = f ∧ s' = s
    · simp [hsame]
    · simp [hsame]
  · obtain ⟨hsamp, hfeats, _, _⟩ := set_schema st st' s f v hset
    obtain ⟨feat, hf, hs, _, _⟩ := set_eq st st' s f v hset
    rw [stored_eq_none_of_out st' (set_wf st st' h s f v hset) f' s' (by rw [hfeats, hsamp]; exact hin), if_neg,
      stored_eq_none_of_out st h f' s' hin]
    rintro ⟨rfl, rfl⟩
    exact hin ⟨(List.getElem?_eq_some_iff.1 hf).1, hs⟩

theorem resize_given (n : Nat) (feats : List Feature) (target f s : Nat) : (resize n feats target).given f s = false := by
  simp only [Storage.given, resize, getbit, List.getD_eq_getElem?_getD, List.getElem?_map]
  cases feats[f]? with
  | none => simp
  | some g =>
    simp only [Option.map_some, Option.getD_some, zeros, List.getElem?_replicate]
    split <;> simp

end NanoVerif.Dataset
