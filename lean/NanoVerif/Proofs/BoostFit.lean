import NanoVerif.Model.BoostFit
import NanoVerif.Proofs.Boost
/-!
  C11 — the invariant of the fold fit with its data flow (`Model/BoostFit.lean`): at every call of `optimum.done` the tracked
  predictions are bias + Σ predictions of the learners stored so far, and the statistics row written for the call is made of the
  means of `loss.error` / `loss.value` of exactly these predictions. `Good` is what holds whenever the loop is left, `Run` what
  holds while it goes on (the scaling-failure exit appends a learner without touching predictions or history).
-/
set_option linter.unusedSectionVars false

namespace NanoVerif.BoostFit
open NanoVerif.Gen.EarlyStopping NanoVerif.EarlyStopping NanoVerif.Boost

variable {W X S α : Type} [Field α] [LinearOrder α] [IsStrictOrderedRing α]

/-- contract of `wlearner_t::scale` with a one-element vector (C10 `scale_scales`: proved for the modelled learners):
    every prediction is multiplied by the factor -/
def ScaleLaw (env : Env W X S α) : Prop := ∀ (c : α) (w : W) (x : X), env.pred (env.scaleW [c] w) x = env.pred w x * c

/-- contract of `wlearner::merge` (C10 `merge_preserves_sum`): the sum of the predictions is unchanged -/
def MergeLaw (env : Env W X S α) : Prop :=
  ∀ (ws : List W) (x : X), ((env.merge ws).map (fun w => env.pred w x)).sum = (ws.map (fun w => env.pred w x)).sum

theorem modelOut_eq (env : Env W X S α) (b : X → α) (ws : List W) (c : X) :
    modelOut env b ws c = b c + (ws.map (fun w => env.pred w c)).sum := by
  unfold modelOut predict; rw [foldl_add_map, List.map_map]; rfl

theorem modelOut_snoc (env : Env W X S α) (b : X → α) (ws : List W) (w : W) :
    modelOut env b (ws ++ [w]) = fun c => modelOut env b ws c + env.pred w c := by
  funext c
  unfold modelOut; rw [List.map_append, List.map_singleton, predict_snoc]

theorem modelOut_merge (env : Env W X S α) (hm : MergeLaw env) (b : X → α) (ws : List W) :
    modelOut env b (env.merge ws) = modelOut env b ws := by
  funext c
  rw [modelOut_eq, modelOut_eq, hm ws c]

/-- what is added to the predictions is the prediction of the learner as it is stored (in `local` mode by the scale law) -/
theorem shrunk_pred (cfg : Cfg α) (env : Env W X S α) (hs : cfg.shrinkage = .local_ → ScaleLaw env) (valid : List S)
    (out : X → α) (ratio : α) (x : List α) (w : W) :
    (shrunk cfg env valid out ratio x w).2.2 = env.pred (shrunk cfg env valid out ratio x w).2.1 := by
  unfold shrunk
  cases h : cfg.shrinkage with
  | off => rfl
  | global => rfl
  | local_ => exact funext fun c => (hs h _ _ c).symm

theorem forall_getElem?_concat {β : Type} {P : Nat → β → Prop} (l : List β) (a : β) :
    (∀ k h, (l ++ [a])[k]? = some h → P k h) ↔ (∀ k h, l[k]? = some h → P k h) ∧ P l.length a := by
  constructor
  · intro H
    exact ⟨fun k h hk => H k h (by rw [List.getElem?_append_left (List.getElem?_eq_some_iff.mp hk).1]; exact hk),
      H _ _ (by simp)⟩
  · rintro ⟨H1, H2⟩ k h hk
    rcases Nat.lt_or_ge k l.length with hlt | hge
    · rw [List.getElem?_append_left hlt] at hk; exact H1 k h hk
    · have hlen := (List.getElem?_eq_some_iff.mp hk).1
      rw [List.length_append, List.length_singleton] at hlen
      obtain rfl : k = l.length := by omega
      rw [List.getElem?_concat_length] at hk
      exact Option.some.inj hk ▸ H2

section invariant
variable (cfg : Cfg α) (env : Env W X S α) (train valid : List S) (b : X → α)

/-- holds whenever the loop is left (and while it runs): `hist[k]` is the prediction of the bias and the first `k` stored
    learners, row `k` is its statistics row, the tracked predictions are the last entry, and the monitor's round and
    snapshot name an entry -/
structure Good (st : FitSt W X α) : Prop where
  hist_le : st.hist.length ≤ st.ws.length + 1
  ws_le : st.ws.length ≤ st.hist.length
  rows_ge : st.hist.length ≤ st.rows.length
  outs : ∀ (k : Nat) (h : X → α), st.hist[k]? = some h → h = modelOut env b (st.ws.take k)
  rows : ∀ (k : Nat) (h : X → α), st.hist[k]? = some h → ∃ r : α, st.rows[k]? = some (statsRow cfg env train valid h r)
  out_last : st.hist[st.hist.length - 1]? = some st.out
  round_lt : st.es.round < st.hist.length
  snap : st.es.snap - 1 = st.es.round

/-- holds while the loop goes on -/
structure Run (st : FitSt W X α) : Prop where
  good : Good cfg env train valid b st
  hist_eq : st.hist.length = st.ws.length + 1
  rows_eq : st.rows.length = st.ws.length + 1

variable {cfg env train valid b}

theorem Run.le_of_hist {st : FitSt W X α} (hr : Run cfg env train valid b st) {k : Nat} {h : X → α}
    (hk : st.hist[k]? = some h) : k ≤ st.ws.length := by
  have := (List.getElem?_eq_some_iff.mp hk).1
  have := hr.hist_eq
  omega

/-- a regular round: the learner `w`, whose prediction is `add`, is stored, `add` is added to the tracked predictions, their
    row is written, and the monitor moves to a state `es` that names an entry of the longer history -/
theorem Run.snoc {st : FitSt W X α} (hr : Run cfg env train valid b st) (w : W) (add : X → α) (r : α) (es : State α)
    (hadd : add = env.pred w) (hround : es.round ≤ st.ws.length + 1) (hsnap : es.snap - 1 = es.round) :
    Run cfg env train valid b
      { out := fun c => st.out c + add c, ws := st.ws ++ [w], ratio := r,
        rows := st.rows ++ [statsRow cfg env train valid (fun c => st.out c + add c) r], es := es,
        hist := st.hist ++ [fun c => st.out c + add c] } := by
  have ⟨g, he, hre⟩ := hr
  have hout : st.out = modelOut env b st.ws := by
    have := g.outs _ _ g.out_last
    rwa [he, Nat.add_sub_cancel, List.take_length] at this
  refine ⟨⟨?_, ?_, ?_, ?_, ?_, ?_, ?_, hsnap⟩, ?_, ?_⟩
  · exact Nat.le_of_eq (by simp [he])
  · exact Nat.le_of_lt (by simp [he])
  · exact Nat.le_of_eq (by simp [he, hre])
  · refine (forall_getElem?_concat _ _).mpr ⟨fun k h hk' => ?_, ?_⟩
    · show h = modelOut env b ((st.ws ++ [w]).take k)
      rw [List.take_append_of_le_length (hr.le_of_hist hk')]
      exact g.outs k h hk'
    · show _ = modelOut env b ((st.ws ++ [w]).take st.hist.length)
      rw [List.take_of_length_le (by simp [he]), modelOut_snoc, hout, hadd]
  · refine (forall_getElem?_concat _ _).mpr ⟨fun k h hk' => ?_, r, ?_⟩
    · show ∃ r, (st.rows ++ [_])[k]? = some (statsRow cfg env train valid h r)
      rw [List.getElem?_append_left (by have := hr.le_of_hist hk'; omega)]
      exact g.rows k h hk'
    · show (st.rows ++ [_])[st.hist.length]? = _
      rw [he, ← hre, List.getElem?_concat_length]
  · show (st.hist ++ [_])[(st.hist ++ [_]).length - 1]? = _
    rw [List.length_append, List.length_singleton, Nat.add_sub_cancel, List.getElem?_concat_length]
  · show es.round < (st.hist ++ [_]).length
    rw [List.length_append, List.length_singleton, he]; omega
  · show (st.hist ++ [_]).length = (st.ws ++ [w]).length + 1
    simp [he]
  · show (st.rows ++ [_]).length = (st.ws ++ [w]).length + 1
    simp [hre]

variable (cfg env train valid b)

theorem run_start (params : List α) :
    Run cfg env train valid b (fitStart cfg env train valid params b).1 :=
  ⟨⟨Nat.le_refl 1, Nat.zero_le 1, Nat.le_refl 1,
    (forall_getElem?_concat [] b).mpr ⟨fun _ _ hk => absurd hk (by simp), rfl⟩,
    (forall_getElem?_concat [] b).mpr ⟨fun _ _ hk => absurd hk (by simp), _, rfl⟩,
    rfl,
    done_state_ind (P := fun s => s.round < 1) cfg.eps cfg.pat Nat.zero_lt_one Nat.zero_lt_one,
    done_state_ind (P := fun s => s.snap - 1 = s.round) cfg.eps cfg.pat rfl rfl⟩, rfl, rfl⟩

/-- the scaling-failure exit: a learner and a row are appended, predictions, history and monitor are untouched -/
theorem good_scaleFail (st : FitSt W X α) (hr : Run cfg env train valid b st) (w : W) (row : Row α) :
    Good cfg env train valid b { st with ws := st.ws ++ [w], rows := st.rows ++ [row] } := by
  have ⟨g, he, hre⟩ := hr
  refine ⟨?_, ?_, ?_, fun k h hk' => ?_, fun k h hk' => ?_, g.out_last, g.round_lt, g.snap⟩
  · exact Nat.le_trans g.hist_le (by simp)
  · exact Nat.le_of_eq (by simp [he])
  · exact Nat.le_trans g.rows_ge (by simp)
  · show h = modelOut env b ((st.ws ++ [w]).take k)
    rw [List.take_append_of_le_length (hr.le_of_hist hk')]
    exact g.outs k h hk'
  · show ∃ r, (st.rows ++ [row])[k]? = some (statsRow cfg env train valid h r)
    rw [List.getElem?_append_left (by have := hr.le_of_hist hk'; omega)]
    exact g.rows k h hk'

theorem step_good (hs : cfg.shrinkage = .local_ → ScaleLaw env) (st : FitSt W X α) (hr : Run cfg env train valid b st)
    (o : RoundOr W S α) :
    Good cfg env train valid b (roundStep cfg env train valid st o).1 ∧
    ((roundStep cfg env train valid st o).2 = false → Run cfg env train valid b (roundStep cfg env train valid st o).1) := by
  unfold roundStep
  cases (pickBest cfg.noFit o.cands).2 with
  | none => exact ⟨hr.good, fun h => absurd h (by simp)⟩
  | some w =>
    by_cases hx : o.xmin < cfg.epsMach
    · simp only [hx, if_true]
      exact ⟨good_scaleFail cfg env train valid b st hr w _, fun h => absurd h (by simp)⟩
    · simp only [hx, if_false]
      -- the monitor keeps its state or records this call, which sees `|ws| + 1` learners and names its tensor one higher
      suffices h : Run cfg env train valid b _ from ⟨h.good, fun _ => h⟩
      exact hr.snoc _ _ _ _ (shrunk_pred cfg env hs valid st.out st.ratio o.x w)
        (done_state_ind (P := fun s => s.round ≤ st.ws.length + 1) cfg.eps cfg.pat
          (by have := hr.good.round_lt; have := hr.hist_eq; omega) (Nat.le_of_eq (by simp [record])))
        (done_state_ind (P := fun s => s.snap - 1 = s.round) cfg.eps cfg.pat hr.good.snap rfl)

theorem loop_good (hs : cfg.shrinkage = .local_ → ScaleLaw env) (ors : List (RoundOr W S α)) :
    ∀ st : FitSt W X α, Run cfg env train valid b st → Good cfg env train valid b (roundLoop cfg env train valid st ors) := by
  induction ors with
  | nil => intro st hr; exact hr.good
  | cons o rest ih =>
    intro st hr
    have hstep := step_good cfg env train valid b hs st hr o
    unfold roundLoop
    by_cases hf : (roundStep cfg env train valid st o).2 = true
    · rw [if_pos hf]; exact hstep.1
    · rw [if_neg hf]; exact ih _ (hstep.2 ((Bool.not_eq_true _).mp hf))

theorem fitRun_good (hs : cfg.shrinkage = .local_ → ScaleLaw env) (params : List α) (ors : List (RoundOr W S α)) :
    Good cfg env train valid b (fitRun cfg env train valid params b ors) := by
  unfold fitRun
  have h0 := run_start cfg env train valid b params
  by_cases hf : (fitStart cfg env train valid params b).2 = true
  · simp only [hf, if_true]; exact h0.good
  · simp only [hf]; exact loop_good cfg env train valid b hs _ _ h0

end invariant

/-! ### the last stage of `gboost_model_t::fit` -/

theorem foldl_gmodel (folds : List (GModel W X α)) (c : X) :
    ∀ m0 : GModel W X α,
      (folds.foldl (fun (m : GModel W X α) f => { bias := fun c => m.bias c + f.bias c, ws := m.ws ++ f.ws }) m0).bias c =
        m0.bias c + (folds.map (fun f => f.bias c)).sum ∧
      (folds.foldl (fun (m : GModel W X α) f => { bias := fun c => m.bias c + f.bias c, ws := m.ws ++ f.ws }) m0).ws =
        m0.ws ++ folds.flatMap (·.ws) := by
  induction folds with
  | nil => intro m0; simp
  | cons f fs ih =>
    intro m0
    simp only [List.foldl_cons, List.map_cons, List.sum_cons, List.flatMap_cons]
    obtain ⟨h1, h2⟩ := ih { bias := fun c => m0.bias c + f.bias c, ws := m0.ws ++ f.ws }
    rw [h1, h2]
    exact ⟨by ring, by simp⟩

/-! ### refinement of the control skeleton of `Model/Boost.lean` -/

/-- the events of the iterations, each seen from the state it starts in -/
def evsOf (cfg : Cfg α) (env : Env W X S α) (train valid : List S) : FitSt W X α → List (RoundOr W S α) → List (RoundEv W α)
  | _, [] => []
  | st, o :: rest => evOf cfg env train valid st o :: evsOf cfg env train valid (roundStep cfg env train valid st o).1 rest

theorem step_refines (cfg : Cfg α) (env : Env W X S α) (train valid : List S) (st : FitSt W X α) (o : RoundOr W S α) :
    step cfg.eps cfg.pat train.length valid.length st.ctl (evOf cfg env train valid st o) =
      ((roundStep cfg env train valid st o).1.ctl, (roundStep cfg env train valid st o).2) := by
  unfold roundStep evOf
  cases (pickBest cfg.noFit o.cands).2 with
  | none => rfl
  | some w =>
    by_cases hx : o.xmin < cfg.epsMach
    · simp only [hx, if_true]; rfl
    · simp only [hx, if_false]; rfl

theorem loop_refines (cfg : Cfg α) (env : Env W X S α) (train valid : List S) (ors : List (RoundOr W S α)) :
    ∀ st : FitSt W X α, (roundLoop cfg env train valid st ors).ctl =
      loop cfg.eps cfg.pat train.length valid.length st.ctl (evsOf cfg env train valid st ors) := by
  induction ors with
  | nil => intro st; rfl
  | cons o rest ih =>
    intro st
    unfold roundLoop evsOf loop
    rw [step_refines]
    by_cases hf : (roundStep cfg env train valid st o).2 = true
    · simp only [hf, if_true]
    · simp only [hf]; exact ih _

theorem evsOf_take (cfg : Cfg α) (env : Env W X S α) (train valid : List S) (n : Nat) :
    ∀ (st : FitSt W X α) (ors : List (RoundOr W S α)),
      evsOf cfg env train valid st (ors.take n) = (evsOf cfg env train valid st ors).take n := by
  induction n with
  | zero => intro st ors; simp [evsOf]
  | succ n ih =>
    intro st ors
    cases ors with
    | nil => simp [evsOf]
    | cons o rest => simp only [List.take_succ_cons, evsOf]; rw [ih]

/-- the control part of the fold fit is the round loop of `Model/Boost.lean` on the events its iterations are -/
theorem fitRun_ctl (cfg : Cfg α) (env : Env W X S α) (train valid : List S) (params : List α) (b : X → α)
    (ors : List (RoundOr W S α)) :
    (fitRun cfg env train valid params b ors).ctl =
      fitLoop cfg.eps cfg.pat train.length valid.length cfg.maxRounds cfg.vmax
        (statsRow cfg env train valid b (startRatio cfg params)).trainErr
        (statsRow cfg env train valid b (startRatio cfg params)).validErr
        (evsOf cfg env train valid (fitStart cfg env train valid params b).1 ors) := by
  unfold fitRun fitLoop
  show (if (fitStart cfg env train valid params b).2 = true then _ else _ : FitSt W X α).ctl =
    if (fitStart cfg env train valid params b).2 = true then _ else _
  split
  · rfl
  · rw [loop_refines, evsOf_take]; rfl

end NanoVerif.BoostFit
