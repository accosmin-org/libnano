import NanoVerif.Model.PoolSection
import NanoVerif.Proofs.PoolStep
/-!
  C17 — the fine-grained wait (`stepF`: predicate evaluation and blocking are two events, the mutex is held in
  between) refines the atomic model as long as `m_stop` is written under the mutex: every state of a fine-grained run
  without `stopNoLock` is a reachable state of `step` (the pair `predFalse w … block w` IS the atomic `wSleep w`, because
  nothing that needs the mutex can happen in between). So the invariants of the atomic model — `no_lost_wakeup` in
  particular — hold of the fine-grained one; `stop_without_lock_loses_wakeup` shows that the proviso is needed.
  Core Lean only.
-/
namespace NanoVerif.Pool

def usesStopNoLock : EvF → Bool
  | .stopNoLock _ => true
  | _ => false

/-- a pending worker is still where its predicate evaluation left it -/
def PendInv (f : StF) : Prop :=
  ∀ w, f.pend w = true → w < f.s.nw ∧ f.s.wpc w = .ready ∧ f.s.stop = false ∧ f.s.queue = []

theorem upd_ready {wpc : Nat → WPc} {w v : Nat} (hv : wpc v = .ready) : upd wpc w .ready v = .ready := by
  unfold upd; split
  · rfl
  · exact hv

/-- an event that does not take the mutex leaves `m_stop`, `m_tasks` and every `ready` worker alone -/
theorem nolock_preserves {s s' : St} {e : Ev} (hn : needsLock e = false) (h : step s e = some s') :
    s'.stop = s.stop ∧ s'.queue = s.queue ∧ ∀ w, s.wpc w = .ready → s'.wpc w = .ready := by
  cases e with
  | wTake _ | wSleep _ | wExit _ | wWake _ | cPush _ _ _ | dStop _ => cases hn
  | wRunEnd w b =>
    obtain ⟨_, t, _, rfl⟩ := step_wRunEnd h
    exact ⟨rfl, rfl, fun v hv => upd_ready hv⟩
  | cNotify c w =>
    rcases step_cNotify h with ⟨ts, _, rfl⟩ | ⟨ts, v, _, _, _, _, rfl⟩ | ⟨ts, _, _, _, rfl⟩ | ⟨_, rfl⟩
    · exact ⟨rfl, rfl, fun v hv => by show wake (s.wpc v) = .ready; rw [hv]; rfl⟩
    · exact ⟨rfl, rfl, fun u hu => upd_ready hu⟩
    · exact ⟨rfl, rfl, fun v hv => hv⟩
    · exact ⟨rfl, rfl, fun v hv => by show wake (s.wpc v) = .ready; rw [hv]; rfl⟩
  | _ => obtain ⟨c, x, sx, st, rfl, _⟩ := step_clientOnly rfl h; exact ⟨rfl, rfl, fun v hv => hv⟩

theorem fine_step (nw : Nat) (f f' : StF) (e : EvF) (hr : Reachable f.s) (hnw : f.s.nw = nw) (hp : PendInv f)
    (hne : usesStopNoLock e = false) (h : stepF nw f e = some f') : Reachable f'.s ∧ f'.s.nw = nw ∧ PendInv f' := by
  cases e with
  | stopNoLock c => cases hne
  | atom e =>
    simp only [stepF] at h
    split at h
    · cases h
    · rename_i hg
      split at h
      · rename_i s' hs'
        obtain rfl := Option.some.inj h
        refine ⟨reachable_step hr hs', (step_nw hs').trans hnw, fun w hw => ?_⟩
        obtain ⟨h1, h2, h3, h4⟩ := hp w hw
        cases hl : needsLock e with
        | true =>
          -- the mutex is free: nobody is pending
          exact absurd ⟨hl, List.any_eq_true.mpr ⟨w, List.mem_range.mpr (hnw ▸ h1), hw⟩⟩ hg
        | false =>
          obtain ⟨a, b, c⟩ := nolock_preserves hl hs'
          exact ⟨(step_nw hs').symm ▸ h1, c w h2, a.trans h3, b.trans h4⟩
      · cases h
  | predFalse w =>
    obtain ⟨hg, h⟩ := of_ite h
    obtain rfl := Option.some.inj h
    refine ⟨hr, hnw, fun w' hw' => ?_⟩
    by_cases hww : w' = w
    · subst hww; exact hg.2
    · exact hp w' ((upd_other _ _ _ _ hww).symm.trans hw')
  | block w =>
    -- `predFalse w … block w` is the atomic `wSleep w`: the guard of `wSleep` still holds of the pending worker
    obtain ⟨hg, h⟩ := of_ite h
    obtain rfl := Option.some.inj h
    have hstep : step f.s (.wSleep w) = some { f.s with wpc := upd f.s.wpc w .sleeping } := if_pos (hp w hg)
    refine ⟨reachable_step hr hstep, hnw, fun w' hw' => ?_⟩
    obtain ⟨hww, hw2⟩ := of_upd_eq (x := true) hw' nofun
    obtain ⟨a1, a2, a3, a4⟩ := hp w' hw2
    exact ⟨a1, (upd_other _ _ _ _ hww).trans a2, a3, a4⟩

/-- every state of a fine-grained run in which `m_stop` is only written under the mutex is a reachable state of the
    atomic model -/
theorem fine_refines_atomic (nw : Nat) : ∀ (es : List EvF) (f f' : StF), Reachable f.s → f.s.nw = nw → PendInv f →
    (∀ e ∈ es, usesStopNoLock e = false) → runF nw f es = some f' → Reachable f'.s ∧ PendInv f'
  | [], f, f', hr, _, hp, _, h => by simp [runF] at h; subst h; exact ⟨hr, hp⟩
  | e :: es, f, f', hr, hnw, hp, hne, h => by
    simp only [runF] at h
    split at h
    · cases h
    · rename_i f1 hf1
      obtain ⟨a, b, c⟩ := fine_step nw f f1 e hr hnw hp (hne e (by simp)) hf1
      exact fine_refines_atomic nw es f1 f' a b c (fun e' he' => hne e' (by simp [he'])) h

end NanoVerif.Pool
