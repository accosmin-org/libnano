import NanoVerif.Proofs.Program
/-!
  C04 — the duality-gap inequality of a primal-dual point: `f(x) − f(x*) ≤ eta + |rdual·(x − x*)| + |v·rprim|`, its norm
  form, and the bound in the caller's units when the `done` test passes on the normalised program.
-/
set_option linter.unusedSectionVars false

namespace NanoVerif.Program
variable {α : Type} [Field α] [LinearOrder α] [IsStrictOrderedRing α]

/-! ### convexity -/

/-- first-order inequality of a convex quadratic: `f(x) − f(y) ≤ ∇f(x)·(x − y)` with `∇f(x) = Q x + c`
    (the difference of the two sides is `½ (x − y)·Q(x − y)`) -/
theorem convex_grad_ineq (P : Prog α) (wf : WF P) (cvx : Convex P) (x xs : List α)
    (hx : x.length = P.n) (hxs : xs.length = P.n) :
    objective P x - objective P xs ≤ dot (gradObj P x) (vsub x xs) := by
  have hl : x.length = xs.length := hx.trans hxs.symm
  have hm : (mv P.Q x).length = (mv P.Q xs).length := by rw [mv_length, mv_length]
  have psd := cvx.psd (vsub x xs) (by rw [vsub_length, hx, hxs, min_self])
  have sym := cvx.symm x xs hx hxs
  rw [mv_vsub _ _ _ hl, dot_vsub_left _ _ _ hl, dot_vsub_right _ _ _ hm, dot_vsub_right _ _ _ hm] at psd
  rw [objective_eq, objective_eq, dot_gradObj P wf, dot_vsub_right _ x xs hl, dot_vsub_right _ x xs hl,
    dot_comm (mv P.Q x) x, dot_comm (mv P.Q x) xs, dot_comm P.c x, dot_comm P.c xs]
  linarith only [psd, sym]

/-- the equalities: `A (x − x*) = A x − b = rprim` for a feasible `x*` (nothing at all without equalities) -/
theorem neg_dot_eq_le_rprim (P : Prog α) (mufx miu : α) (x u v xs : List α) (st : St α) (hl : x.length = xs.length)
    (hfeas : mv P.A xs = P.b) :
    -(dot v (mv P.A (vsub x xs))) ≤ |dot v (update P mufx miu x u v st).rprim| := by
  rw [update_rprim, mv_vsub _ _ _ hl, hfeas]
  split
  · rename_i he
    rw [List.isEmpty_iff.1 he]
    simp [mv, vsub]
  · exact neg_le_abs _

/-- the inequalities: `−u·G(x − x*) = −u·(G x − h) + u·(G x* − h) ≤ eta` for `u ≥ 0` and a feasible `x*` -/
theorem neg_dot_ineq_le_eta (P : Prog α) (mufx miu : α) (x u v xs : List α) (st : St α) (hl : x.length = xs.length)
    (hG : P.G = [] → st.eta = 0) (hupos : ∀ a ∈ u, 0 ≤ a) (hfeas : LeV (mv P.G xs) P.h) :
    -(dot u (mv P.G (vsub x xs))) ≤ (update P mufx miu x u v st).eta := by
  rw [update_eta]
  split
  · rename_i he
    rw [hG (List.isEmpty_iff.1 he), List.isEmpty_iff.1 he]
    simp [mv]
  · have hGl : (mv P.G xs).length = P.h.length := LeV_length _ _ hfeas
    have hGl' : (mv P.G x).length = P.h.length := by rw [mv_length, ← hGl, mv_length]
    have hs := dot_slack_nonpos u (mv P.G xs) P.h hupos hfeas
    rw [dot_vsub_right _ _ _ hGl] at hs
    unfold slack
    rw [mv_vsub _ _ _ hl, dot_vsub_right _ _ _ (by rw [mv_length, mv_length]), dot_vsub_right _ _ _ hGl']
    linarith only [hs]

/-! ### norms (all that is used of `sqrt`: `sqrt y ≥ 0` and `sqrt y · sqrt y = y` for `y ≥ 0`) -/

section
variable [Sqrt α] (hsqrt : ∀ y : α, 0 ≤ y → 0 ≤ Sqrt.sqrt y ∧ Sqrt.sqrt y * Sqrt.sqrt y = y)
include hsqrt

theorem norm2_nonneg (x : List α) : 0 ≤ norm2 x := (hsqrt _ (sumsq_nonneg x)).1

theorem norm2_sq (x : List α) : norm2 x * norm2 x = sumsq x := (hsqrt _ (sumsq_nonneg x)).2

/-- Cauchy–Schwarz -/
theorem abs_dot_le_norm2 (a b : List α) : |dot a b| ≤ norm2 a * norm2 b := by
  apply abs_le_of_mul_self_le _ _ (mul_nonneg (norm2_nonneg hsqrt a) (norm2_nonneg hsqrt b))
  rw [mul_mul_mul_comm, norm2_sq hsqrt a, norm2_sq hsqrt b]
  exact dot_sq_le a b

/-- `‖r‖∞ ≤ ‖r‖₂` -/
theorem abs_le_norm2 (r : List α) (a : α) (ha : a ∈ r) : |a| ≤ norm2 r := by
  apply abs_le_of_mul_self_le _ _ (norm2_nonneg hsqrt r)
  rw [norm2_sq hsqrt r]
  exact sq_le_sumsq r a ha

end

/-! ### the normalised program inherits shapes and convexity -/

@[simp] theorem normalize_n [Sqrt α] (minNorm : α) (P : Prog α) : (normalize minNorm P).2.n = P.n :=
  vdivs_length _ _

@[simp] theorem normalize_A_length [Sqrt α] (minNorm : α) (P : Prog α) : (normalize minNorm P).2.A.length = P.A.length :=
  List.length_map _

@[simp] theorem normalize_G_length [Sqrt α] (minNorm : α) (P : Prog α) : (normalize minNorm P).2.G.length = P.G.length :=
  List.length_map _

@[simp] theorem normalize_h_length [Sqrt α] (minNorm : α) (P : Prog α) : (normalize minNorm P).2.h.length = P.h.length :=
  vdivs_length _ _

theorem rows_vdivs_length (n : Nat) (d : α) (M : List (List α)) (h : ∀ r ∈ M, r.length = n) :
    ∀ r ∈ M.map (fun r => vdivs r d), r.length = n :=
  List.forall_mem_map.2 fun r hr => (vdivs_length r d).trans (h r hr)

theorem normalize_wf [Sqrt α] (minNorm : α) (P : Prog α) (wf : WF P) : WF (normalize minNorm P).2 where
  Qrows := fun r hr => (rows_vdivs_length P.n _ P.Q wf.Qrows r hr).trans (normalize_n minNorm P).symm
  Qlen := wf.Qlen.imp (fun h => List.map_eq_nil_iff.2 h)
    (fun h => (List.length_map _).trans (h.trans (normalize_n minNorm P).symm))
  Arows := fun r hr => (rows_vdivs_length P.n _ P.A wf.Arows r hr).trans (normalize_n minNorm P).symm
  Grows := fun r hr => (rows_vdivs_length P.n _ P.G wf.Grows r hr).trans (normalize_n minNorm P).symm

theorem normalize_convex [Sqrt α] (minNorm : α) (hmin : 0 < minNorm) (P : Prog α) (cvx : Convex P) :
    Convex (normalize minNorm P).2 := by
  have hq : ∀ a b : List α, dot a (mv (normalize minNorm P).2.Q b) = dot a (mv P.Q b) / normDenom minNorm P.Q P.c :=
    fun a b => (congrArg (dot a) (mv_rows_vdivs _ P.Q b)).trans (dot_vdivs_right _ _ _)
  constructor
  · intro a b ha hb
    rw [normalize_n] at ha hb
    rw [hq, hq, cvx.symm a b ha hb]
  · intro d hd
    rw [normalize_n] at hd
    rw [hq]
    exact div_nonneg (cvx.psd d hd) (le_of_lt (normDenom_pos minNorm hmin P.Q P.c))

end NanoVerif.Program
