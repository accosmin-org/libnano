import NanoVerif.Model.Penalty
import NanoVerif.Proofs.CxxOrder
import Mathlib.Algebra.Order.Field.Basic
import Mathlib.Tactic.Ring
import Mathlib.Tactic.Linarith
/-!
  C05 — helper lemmas and specification-side definitions for `Props/C05.lean`: the model of `Model/Constraint.lean` and
  `Model/Penalty.lean` instantiated at an arbitrary linear ordered field.

  The specification side is written from the header comments of `include/nano/function/penalty.h`:
    linear    q(c, x) = f(x) + c * sum(|h_j(x)|, j) + c * sum(max(0, g_i(x)), i)
    quadratic q(c, x) = f(x) + c * sum(h_j(x)^2, j) + c * sum(max(0, g_i(x))^2, i)
    AL        q(c, x) = f(x) + ro/2 * sum((h_j(x) + lambda_j/ro)^2, j) + ro/2 * sum(max(0, g_i(x) + miu_i/ro)^2, i)
  with `List.sum`, `|·|`, `max` of Mathlib, and the gradients obtained from them by the chain rule, component by
  component (`gradient i = ∂f/∂x_i + Σ_k φ_k'(c_k(x)) ∂c_k/∂x_i`).
-/
namespace NanoVerif.Penalty
open NanoVerif.Constraint
set_option linter.unusedSectionVars false

variable {α : Type} [Field α] [LinearOrder α] [IsStrictOrderedRing α]

/-! ### the model's comparisons in exact arithmetic -/

theorem cmax_eq_max (a b : α) : cmax a b = max a b := Cxx.ite_max a b

theorem cmin_eq_min (a b : α) : cmin a b = min a b := Cxx.ite_min a b

theorem absv_eq_abs (x : α) : absv x = |x| := Cxx.ite_abs x

/-! ### specification-side definitions -/

def eqs (es : List (Eval α)) : List (Eval α) := es.filter (fun e => e.isEq)

def ineqs (es : List (Eval α)) : List (Eval α) := es.filter (fun e => !e.isEq)

/-- the sub-gradient of `|·|` chosen by the code: `+1` at `0` -/
def sgn (y : α) : α := if 0 ≤ y then 1 else -1

/-- the sub-gradient of `max(0, ·)` chosen by the code: `0` at `0` -/
def step (y : α) : α := if 0 < y then 1 else 0

/-- `q(c, x) = f(x) + c * sum(|h_j(x)|, j) + c * sum(max(0, g_i(x)), i)` -/
def linearDef (c fx : α) (es : List (Eval α)) : α :=
  fx + c * ((eqs es).map (fun e => |e.fc|)).sum + c * ((ineqs es).map (fun e => max 0 e.fc)).sum

/-- component `i` of `∇f + c * sum(sgn(h_j) ∇h_j, j) + c * sum(step(g_i) ∇g_i, i)` -/
def linearDefGrad (c : α) (gf : List α) (es : List (Eval α)) (i : Nat) : α :=
  gf.getD i 0 + c * ((eqs es).map (fun e => sgn e.fc * e.gc.getD i 0)).sum
    + c * ((ineqs es).map (fun e => step e.fc * e.gc.getD i 0)).sum

/-- `q(c, x) = f(x) + c * sum(h_j(x)^2, j) + c * sum(max(0, g_i(x))^2, i)` -/
def quadraticDef (c fx : α) (es : List (Eval α)) : α :=
  fx + c * ((eqs es).map (fun e => e.fc ^ 2)).sum + c * ((ineqs es).map (fun e => (max 0 e.fc) ^ 2)).sum

/-- component `i` of `∇f + c * sum(2 h_j ∇h_j, j) + c * sum(2 max(0, g_i) ∇g_i, i)` -/
def quadraticDefGrad (c : α) (gf : List α) (es : List (Eval α)) (i : Nat) : α :=
  gf.getD i 0 + c * ((eqs es).map (fun e => 2 * e.fc * e.gc.getD i 0)).sum
    + c * ((ineqs es).map (fun e => 2 * max 0 e.fc * e.gc.getD i 0)).sum

/-- `q(c, x) = f(x) + ro/2 * sum((h_j(x) + lambda_j/ro)^2, j) + ro/2 * sum(max(0, g_i(x) + miu_i/ro)^2, i)` -/
def alDef (ro : α) (lambda miu : List α) (fx : α) (es : List (Eval α)) : α :=
  fx + ro / 2 * (List.zipWith (fun e l => (e.fc + l / ro) ^ 2) (eqs es) lambda).sum
    + ro / 2 * (List.zipWith (fun e m => (max 0 (e.fc + m / ro)) ^ 2) (ineqs es) miu).sum

/-- component `i` of `∇f + ro * sum((h_j + lambda_j/ro) ∇h_j, j) + ro * sum(max(0, g_i + miu_i/ro) ∇g_i, i)` -/
def alDefGrad (ro : α) (lambda miu : List α) (gf : List α) (es : List (Eval α)) (i : Nat) : α :=
  gf.getD i 0 + ro * (List.zipWith (fun e l => (e.fc + l / ro) * e.gc.getD i 0) (eqs es) lambda).sum
    + ro * (List.zipWith (fun e m => max 0 (e.fc + m / ro) * e.gc.getD i 0) (ineqs es) miu).sum

def Feasible (es : List (Eval α)) : Prop := ∀ e ∈ es, if e.isEq then e.fc = 0 else e.fc ≤ 0

/-! ### `gx += s * gc` -/

theorem axpy_length (s : α) (gc gx : List α) (h : gc.length = gx.length) : (axpy s gc gx).length = gx.length := by
  simp [axpy, h]

theorem axpy_getD (s : α) : ∀ (gx gc : List α) (i : Nat), gc.length = gx.length →
    (axpy s gc gx).getD i 0 = gx.getD i 0 + s * gc.getD i 0
  | [], [], i, _ => by rw [axpy, List.zipWith_nil_left, List.getD_nil, mul_zero, add_zero]
  | [], _ :: _, _, h => absurd h (Nat.succ_ne_zero _)
  | _ :: _, [], _, h => absurd h.symm (Nat.succ_ne_zero _)
  | g :: gx, c :: gc, 0, _ => rfl
  | g :: gx, c :: gc, i + 1, h => axpy_getD s gx gc i (Nat.succ.inj h)

/-! ### the fold of `penalty_vgrad` -/

theorem eqs_cons (e : Eval α) (es : List (Eval α)) :
    eqs (e :: es) = if e.isEq then e :: eqs es else eqs es := by
  unfold eqs; rw [List.filter_cons]

theorem ineqs_cons (e : Eval α) (es : List (Eval α)) :
    ineqs (e :: es) = if e.isEq then ineqs es else e :: ineqs es := by
  unfold ineqs; rw [List.filter_cons]; cases e.isEq <;> simp

/-- a new term `k a` moved from the accumulator into the first (second) of two sums with the common factor `k` -/
theorem acc_first (x k a S T : α) : x + k * a + k * S + k * T = x + k * (a + S) + k * T := by ring

theorem acc_second (x k a S T : α) : x + k * a + k * S + k * T = x + k * S + k * (a + T) := by ring

theorem penaltyVgrad_cons (op : α → List α → List α → α × List α) (fx : α) (gx : List α) (e : Eval α)
    (es : List (Eval α)) :
    penaltyVgrad op fx gx (e :: es) =
      if e.isEq || decide (0 < e.fc) then penaltyVgrad op (fx + (op e.fc e.gc gx).1) (op e.fc e.gc gx).2 es
      else penaltyVgrad op fx gx es := rfl

/-- `penalty_vgrad` with `op(fc, gc) = (v fc, gx += s fc * gc)`, where `v = c A` and `s = c A'` and, on the violated
    inequalities, also `v = c B` and `s = c B'`, with `B` and `B'` vanishing on the satisfied ones: the value is
    `f + c Σ_j A(h_j) + c Σ_i B(g_i)`, the gradient `∇f + c Σ_j A'(h_j) ∇h_j + c Σ_i B'(g_i) ∇g_i`, component by component. -/
theorem penaltyVgrad_def (c : α) (v s A B A' B' : α → α) (hA : ∀ y, v y = c * A y)
    (hB : ∀ y, (if 0 < y then v y else 0) = c * B y) (hA' : ∀ y, s y = c * A' y)
    (hB' : ∀ y, (if 0 < y then s y else 0) = c * B' y) (n : Nat) :
    ∀ (es : List (Eval α)) (fx : α) (gx : List α), gx.length = n → (∀ e ∈ es, e.gc.length = n) →
    let r := penaltyVgrad (fun fc gc gx => (v fc, axpy (s fc) gc gx)) fx gx es
    r.1 = fx + c * ((eqs es).map (fun e => A e.fc)).sum + c * ((ineqs es).map (fun e => B e.fc)).sum ∧
    r.2.length = n ∧
    ∀ i, r.2.getD i 0 = gx.getD i 0 + c * ((eqs es).map (fun e => A' e.fc * e.gc.getD i 0)).sum
          + c * ((ineqs es).map (fun e => B' e.fc * e.gc.getD i 0)).sum := by
  intro es
  induction es with
  | nil =>
    intro fx gx hgx _
    refine ⟨?_, hgx, fun i => ?_⟩
    · show fx = fx + c * 0 + c * 0
      rw [mul_zero, add_zero, add_zero]
    · show gx.getD i 0 = gx.getD i 0 + c * 0 + c * 0
      rw [mul_zero, add_zero, add_zero]
  | cons e es ih =>
    intro fx gx hgx hes
    have hel : e.gc.length = gx.length := (hes e List.mem_cons_self).trans hgx.symm
    -- the constraint contributes: the rest of the fold starts from `fx + v`, `gx + s gc`
    obtain ⟨h1, h2, h3⟩ := ih (fx + v e.fc) (axpy (s e.fc) e.gc gx)
      ((axpy_length _ _ _ hel).trans hgx) (fun e' he' => hes e' (List.mem_cons_of_mem _ he'))
    rw [penaltyVgrad_cons, eqs_cons, ineqs_cons]
    cases heq : e.isEq
    · by_cases hpos : 0 < e.fc
      · have hv := hB e.fc
        have hs := hB' e.fc
        rw [if_pos hpos] at hv hs
        rw [Bool.false_or, decide_eq_true hpos, if_pos rfl, if_neg Bool.false_ne_true, if_neg Bool.false_ne_true]
        simp only [List.map_cons, List.sum_cons]
        rw [h1]
        exact ⟨by rw [hv, acc_second], h2, fun i => by rw [h3 i, axpy_getD _ _ _ _ hel, hs, mul_assoc, acc_second]⟩
      · -- a satisfied inequality: skipped, and `B`, `B'` vanish there
        have hv := hB e.fc
        have hs := hB' e.fc
        rw [if_neg hpos] at hv hs
        obtain ⟨k1, k2, k3⟩ := ih fx gx hgx
          (fun e' he' => hes e' (List.mem_cons_of_mem _ he'))
        rw [Bool.false_or, decide_eq_false hpos, if_neg Bool.false_ne_true, if_neg Bool.false_ne_true,
          if_neg Bool.false_ne_true]
        simp only [List.map_cons, List.sum_cons]
        exact ⟨by rw [k1, mul_add, ← hv, zero_add], k2,
          fun i => by rw [k3 i, mul_add, ← mul_assoc, ← hs, zero_mul, zero_add]⟩
    · rw [Bool.true_or, if_pos rfl, if_pos rfl, if_pos rfl]
      simp only [List.map_cons, List.sum_cons]
      rw [h1]
      exact ⟨by rw [hA, acc_first], h2, fun i => by rw [h3 i, axpy_getD _ _ _ _ hel, hA', mul_assoc, acc_first]⟩

/-! ### a loop that runs a step until the step says stop or the fuel is spent (the shape of `alLoop` and `penLoop`) -/

structure IsLoop {S : Type} (loop : Nat → S → S) (step : S → S × Bool) : Prop where
  zero : ∀ s, loop 0 s = s
  succ : ∀ n s, loop (n + 1) s = if (step s).2 then (step s).1 else loop n (step s).1

variable {S : Type} {loop : Nat → S → S} {step : S → S × Bool}

/-- `P n`, the invariant with `n` steps of fuel left, is passed on by the steps that go on; `Q` holds after a step that
    stops, and of a state with `P 0`, which is returned because the fuel is spent -/
theorem IsLoop.result (h : IsLoop loop step) (P : Nat → S → Prop) (Q : S → Prop)
    (hgo : ∀ n s, P (n + 1) s → (step s).2 = false → P n (step s).1)
    (hstop : ∀ n s, P (n + 1) s → (step s).2 = true → Q (step s).1) (hend : ∀ s, P 0 s → Q s) :
    ∀ (n : Nat) (s : S), P n s → Q (loop n s)
  | 0, s, hs => by rw [h.zero]; exact hend s hs
  | n + 1, s, hs => by
    rw [h.succ]
    cases hf : (step s).2
    · rw [if_neg Bool.false_ne_true]
      exact h.result P Q hgo hstop hend n _ (hgo n s hs hf)
    · rw [if_pos rfl]
      exact hstop n s hs hf

theorem IsLoop.invariant (h : IsLoop loop step) (P : S → Prop)
    (hstep : ∀ s, P s → P (step s).1) (n : Nat) (s : S) (hs : P s) : P (loop n s) :=
  h.result (fun _ => P) P (fun _ s hs _ => hstep s hs) (fun _ s hs _ => hstep s hs) (fun _ hs => hs) n s hs

theorem IsLoop.iters_le (h : IsLoop loop step) (it : S → Nat)
    (hit : ∀ s, it (step s).1 = it s + 1) (n : Nat) (s : S) : it (loop n s) ≤ it s + n :=
  h.result (fun k t => it t + k ≤ it s + n) (fun r => it r ≤ it s + n)
    (fun k t ht _ => by have := hit t; omega) (fun k t ht _ => by have := hit t; omega) (fun _ ht => ht) n s (le_refl _)

end NanoVerif.Penalty
