import NanoVerif.Proofs.Tuner
import NanoVerif.Proofs.TunerSpace
/-!
  C13 — one iteration of the loop of `surrogate_tuner_t::do_optimize` with the centre derived as in the code
  (`Tuner.surrogateCentre`): the only oracle left is the pair of L-BFGS runs (`Tuner.Solver`).
-/

namespace NanoVerif.Tuner

section
variable {α : Type} [Field α] [LinearOrder α] [IsStrictOrderedRing α] [Log10 α]

omit [IsStrictOrderedRing α] in
theorem surrogateCentre_some (top : α) (spaces : List (Space α)) (solver : Solver α) (steps : List (Step α))
    (centre : IGrid) (h : surrogateCentre top spaces solver steps = some centre) :
    ∃ x0 ps ys m x, fitData spaces steps = some (x0 :: ps, ys) ∧ ys = steps.map (·.value) ∧
      solver.fit ((x0 :: ps).map quadTerms) ys = some m ∧ solver.opt m x0 = some x ∧
      centreOf top spaces x = some centre := by
  unfold surrogateCentre at h
  split at h
  · rename_i x0 ps ys hfd
    split at h
    · rename_i m hm
      split at h
      · rename_i x hx
        refine ⟨x0, ps, ys, m, x, hfd, ?_, hm, hx, h⟩
        obtain ⟨v, _, hv⟩ := Option.map_eq_some_iff.mp hfd
        exact (Prod.mk.inj hv).2.symm
      · cases h
    · cases h
  · cases h

/-- **the surrogate tuner's batch**: when an iteration of the main loop hands a batch to the callback, the two solver
    runs succeeded (fit `m` on the quadratic features of the evaluated steps and their values, minimiser `x` started at
    the best step), the centre is the image of the minimiser (per coordinate the closest grid point in surrogate
    coordinates), it lies in the grid box, and the batch is its radius-1 neighbourhood minus the evaluated points -/
theorem surrogate_step_centre (c : Cfg α) (top : α) (spaces : List (Space α)) (solver : Solver α)
    (hkind : c.kind = .surrogate) (horacle : c.oracle = surrogateCentre top spaces solver)
    (hne : ∀ s ∈ spaces, s.grid ≠ []) (st st' : St α) (hmain : st.phase = .main) (batch : List IGrid)
    (hb : batch ≠ []) (h : step c st = .next st' batch) :
    ∃ x0 ps m x centre,
      fitData spaces st.steps = some (x0 :: ps, st.steps.map (·.value)) ∧
      solver.fit ((x0 :: ps).map quadTerms) (st.steps.map (·.value)) = some m ∧ solver.opt m x0 = some x ∧
      centreOf top spaces x = some centre ∧
      inGrid (minOf (spaces.map (·.grid.length))) (maxOf (spaces.map (·.grid.length))) centre = true ∧
      batch = freshOf (localSearch c.mn c.mx centre 1) st.steps := by
  unfold step at h
  rw [hmain] at h
  simp only at h
  split at h
  · simp only [Out.next.injEq] at h; exact absurd h.2.symm hb
  · rename_i s rest hsteps
    split at h
    · rw [hkind, horacle] at h
      simp only at h
      split at h
      · cases h
      · rename_i centre hc
        obtain ⟨x0, ps, ys, m, x, hfd, hys, hm, hx, hcen⟩ :=
          surrogateCentre_some top spaces solver st.steps centre hc
        subst hys
        split at h
        · simp only [Out.next.injEq] at h; exact absurd h.2.symm hb
        · rename_i steps' b hev
          simp only [Out.next.injEq] at h
          obtain ⟨hbatch, _⟩ := evaluate_ok hev
          refine ⟨x0, ps, m, x, centre, hfd, hm, hx, hcen, centreOf_inGrid top spaces x centre hne hcen, ?_⟩
          rw [← h.2, hbatch]
        · cases h
    · simp only [Out.next.injEq] at h; exact absurd h.2.symm hb

end

end NanoVerif.Tuner
