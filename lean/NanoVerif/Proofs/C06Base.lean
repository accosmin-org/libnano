import NanoVerif.Model.FunctionsBase
import Mathlib.Tactic.Linarith
/-!
  C06 — the `function_t` base class (`Model/FunctionsBase.lean`): which constraints a function accepts, what it stores, what
  `valid` answers and what the call counters count, for every history of operations; the size rules of `make(dims, summands)`.
-/
set_option linter.unusedSectionVars false

namespace NanoVerif.C06
open NanoVerif.FnBase NanoVerif.Constraint

/-! ### `size()` of `make(dims, summands)` -/

theorem atLeast2_size_spec (d : Nat) : 2 ≤ sizeBy .atLeast2 d ∧ (2 ≤ d → sizeBy .atLeast2 d = d) := by
  simp only [sizeBy]
  omega

/-- whatever the rule, a prototype asked for `dims ≥ 1` has at least one dimension -/
theorem size_pos (r : SizeRule) (d : Nat) (hd : 1 ≤ d) : 1 ≤ sizeBy r d := by
  cases r <;> simp only [sizeBy] <;> omega

section
variable {α : Type} [Add α] [Sub α] [Mul α] [Div α] [Neg α] [LT α] [DecidableLT α]
  [OfNat α 0] [OfNat α 1] [OfNat α 2]

/-- the class invariant: every stored constraint is compatible with the function (so `vgrad` / `valid` of a stored
    constraint at a point of the function's size is well-defined: dimensions in range, coefficient sizes right) -/
def BaseInv (s : St α) : Prop := ∀ c ∈ s.cons, c.compatible s.size = true

theorem boxFrom_compatible (lo hi : α) (n : Nat) : ∀ (k i : Nat), i + k ≤ n → ∀ c ∈ boxFrom lo hi k i, c.compatible n = true
  | 0, _, _, c, hc => by simp [boxFrom] at hc
  | k + 1, i, h, c, hc => by
    simp only [boxFrom, List.mem_cons] at hc
    rcases hc with rfl | rfl | hc
    · simp [C.compatible]; omega
    · simp [C.compatible]; omega
    · exact boxFrom_compatible lo hi n k (i + 1) (by omega) c hc

theorem boxVec_compatible (n : Nat) : ∀ (lo hi : List α) (i : Nat), i + lo.length ≤ n →
    ∀ c ∈ boxVec lo hi i, c.compatible n = true
  | [], _, _, _, c, hc => by simp [boxVec] at hc
  | _ :: _, [], _, _, c, hc => by simp [boxVec] at hc
  | l :: ls, h :: hs, i, hl, c, hc => by
    simp only [boxVec, List.mem_cons] at hc
    simp only [List.length_cons] at hl
    rcases hc with rfl | rfl | hc
    · simp [C.compatible]; omega
    · simp [C.compatible]; omega
    · exact boxVec_compatible n ls hs (i + 1) (by omega) c hc

theorem boxFrom_length (lo hi : α) : ∀ (k i : Nat), (boxFrom lo hi k i).length = 2 * k
  | 0, _ => rfl
  | k + 1, i => by simp [boxFrom, boxFrom_length lo hi k (i + 1)]; omega

theorem boxFrom_isEq (lo hi : α) : ∀ (k i : Nat), ∀ c ∈ boxFrom lo hi k i, c.isEq = false
  | 0, _, c, hc => by simp [boxFrom] at hc
  | k + 1, i, c, hc => by
    simp only [boxFrom, List.mem_cons] at hc
    rcases hc with rfl | rfl | hc
    · rfl
    · rfl
    · exact boxFrom_isEq lo hi k (i + 1) c hc

/-- `count_equalities + count_inequalities` = the number of stored constraints -/
theorem count_total (cs : List (C α)) : countEq cs + countIneq cs = cs.length := by
  unfold countEq countIneq
  induction cs with
  | nil => rfl
  | cons c cs ih =>
    simp only [List.filter_cons, List.length_cons]
    cases c.isEq <;> simp <;> omega

/-- what the operations of the base class can do to a state, one at a time or a whole history: the size stays; constraints
    compatible with it are appended, none is dropped or changed; the gradient calls never overtake the calls -/
structure Reach (s s' : St α) : Prop where
  size : s'.size = s.size
  cons : ∃ added, s'.cons = s.cons ++ added ∧ ∀ c ∈ added, c.compatible s.size = true
  calls : s.gcalls ≤ s.fcalls → s'.gcalls ≤ s'.fcalls

theorem Reach.refl (s : St α) : Reach s s :=
  ⟨rfl, ⟨[], (List.append_nil _).symm, fun _ hc => nomatch hc⟩, id⟩

theorem Reach.trans {s s' s'' : St α} (h : Reach s s') (h' : Reach s' s'') : Reach s s'' := by
  obtain ⟨a, ha, hca⟩ := h.cons
  obtain ⟨b, hb, hcb⟩ := h'.cons
  refine ⟨h'.size.trans h.size, ⟨a ++ b, by rw [hb, ha, List.append_assoc], fun c hc => ?_⟩, fun hl => h'.calls (h.calls hl)⟩
  exact (List.mem_append.1 hc).elim (hca c) fun hc' => h.size ▸ hcb c hc'

theorem Reach.append (s : St α) {added : List (C α)} (ha : ∀ c ∈ added, c.compatible s.size = true) :
    Reach s { s with cons := s.cons ++ added } :=
  ⟨rfl, ⟨added, rfl, ha⟩, id⟩

/-- every operation, accepted or refused -/
theorem step_reach (eps : α) (s : St α) (op : Op α) : Reach s (step eps s op).1 := by
  cases op with
  | cg c =>
    simp only [step]
    split
    · rename_i hc
      exact Reach.append s fun c' hc' => by rw [List.mem_singleton.1 hc']; exact hc
    · exact Reach.refl s
  | cb lo hi =>
    simp only [step]
    split
    · exact Reach.append s (boxFrom_compatible lo hi s.size s.size 0 (by omega))
    · exact Reach.refl s
  | cd lo hi dim =>
    simp only [step]
    split
    · rename_i hc
      have hd : dim.toNat < s.size := by omega
      refine Reach.append s fun c hc' => ?_
      simp only [List.mem_cons, List.mem_nil_iff, or_false] at hc'
      rcases hc' with rfl | rfl
      · simp [C.compatible, hd]
      · simp [C.compatible, hd]
    · exact Reach.refl s
  | cv lo hi =>
    simp only [step]
    split
    · rename_i hc
      exact Reach.append s (boxVec_compatible s.size lo hi 0 (by omega))
    · exact Reach.refl s
  | valid x => exact Reach.refl s
  | eval k =>
    refine ⟨rfl, (Reach.refl s).cons, fun h => ?_⟩
    simp only [step]
    split <;> omega
  | clr => exact ⟨rfl, (Reach.refl s).cons, fun _ => Nat.le_refl 0⟩

/-- every history -/
theorem run_reach (eps : α) : ∀ (ops : List (Op α)) (s : St α), Reach s (run eps s ops).1
  | [], s => Reach.refl s
  | op :: ops, s => (step_reach eps s op).trans (run_reach eps ops _)

theorem Reach.inv {s s' : St α} (h : Reach s s') (hs : BaseInv s) : BaseInv s' := by
  obtain ⟨a, ha, hca⟩ := h.cons
  intro c hc
  rw [ha] at hc
  rw [h.size]
  exact (List.mem_append.1 hc).elim (hs c) (hca c)

theorem step_size (eps : α) (s : St α) (op : Op α) : (step eps s op).1.size = s.size := (step_reach eps s op).size

theorem step_inv (eps : α) (s : St α) (op : Op α) (h : BaseInv s) : BaseInv (step eps s op).1 :=
  (step_reach eps s op).inv h

theorem run_size (eps : α) (ops : List (Op α)) (s : St α) : (run eps s ops).1.size = s.size := (run_reach eps ops s).size

/-- for EVERY history of operations on a fresh function: every stored constraint is compatible with it -/
theorem run_inv (eps : α) : ∀ (ops : List (Op α)) (s : St α), BaseInv s → BaseInv (run eps s ops).1 :=
  fun ops s h => (run_reach eps ops s).inv h

theorem fresh_inv (n : Nat) : BaseInv (fresh n : St α) := by intro c hc; simp [fresh] at hc

theorem run_cons_append (eps : α) : ∀ (ops : List (Op α)) (s : St α), ∃ added, (run eps s ops).1.cons = s.cons ++ added :=
  fun ops s => (run_reach eps ops s).cons.imp fun _ h => h.1

/-! ### acceptance rules of the four `constrain` overloads -/

/-- the shape of the four overloads: a guard; the new state and `true` if it holds, the old state and `false` if not -/
theorem guarded_accept {σ : Type} (c : Prop) [Decidable c] (s s' : σ) {r : σ × Option Bool}
    (hr : r = if c then (s', some true) else (s, some false)) :
    (r.2 = some true ↔ c) ∧ (r.2 = some true → r.1 = s') ∧ (r.2 ≠ some true → r.1 = s) := by
  subst hr
  by_cases h : c <;> simp [h]

theorem cg_accepted_iff (eps : α) (s : St α) (c : C α) :
    ((step eps s (.cg c)).2 = some true ↔ c.compatible s.size = true) ∧
    ((step eps s (.cg c)).2 = some true → (step eps s (.cg c)).1 = { s with cons := s.cons ++ [c] }) ∧
    ((step eps s (.cg c)).2 ≠ some true → (step eps s (.cg c)).1 = s) :=
  guarded_accept _ s _ rfl

theorem cb_accepted_iff (eps : α) (s : St α) (lo hi : α) :
    ((step eps s (.cb lo hi)).2 = some true ↔ lo < hi) ∧
    ((step eps s (.cb lo hi)).2 = some true →
      (step eps s (.cb lo hi)).1 = { s with cons := s.cons ++ boxFrom lo hi s.size 0 }) ∧
    ((step eps s (.cb lo hi)).2 ≠ some true → (step eps s (.cb lo hi)).1 = s) :=
  guarded_accept _ s _ rfl

theorem cd_accepted_iff (eps : α) (s : St α) (lo hi : α) (dim : Int) :
    ((step eps s (.cd lo hi dim)).2 = some true ↔ (lo < hi ∧ 0 ≤ dim ∧ dim < (s.size : Int))) ∧
    ((step eps s (.cd lo hi dim)).2 = some true →
      (step eps s (.cd lo hi dim)).1 = { s with cons := s.cons ++ [C.minimum lo dim.toNat, C.maximum hi dim.toNat] }) ∧
    ((step eps s (.cd lo hi dim)).2 ≠ some true → (step eps s (.cd lo hi dim)).1 = s) :=
  guarded_accept _ s _ rfl

theorem cv_accepted_iff (eps : α) (s : St α) (lo hi : List α) :
    ((step eps s (.cv lo hi)).2 = some true ↔ (lo.length = s.size ∧ hi.length = s.size ∧ allPos lo hi = true)) ∧
    ((step eps s (.cv lo hi)).2 = some true → (step eps s (.cv lo hi)).1 = { s with cons := s.cons ++ boxVec lo hi 0 }) ∧
    ((step eps s (.cv lo hi)).2 ≠ some true → (step eps s (.cv lo hi)).1 = s) :=
  guarded_accept _ s _ rfl

/-! ### the call counters -/

/-- `vgrad` calls of a history -/
def evalCount : List (Op α) → Nat
  | [] => 0
  | .eval _ :: ops => evalCount ops + 1
  | _ :: ops => evalCount ops

/-- `vgrad` calls of a history that asked for the gradient (`gx.size() == size()`) -/
def gradCount (n : Nat) : List (Op α) → Nat
  | [] => 0
  | .eval k :: ops => gradCount n ops + (if k = n then 1 else 0)
  | _ :: ops => gradCount n ops

def noClr : List (Op α) → Bool
  | [] => true
  | .clr :: _ => false
  | _ :: ops => noClr ops

/-- between two `clear_statistics`: `fcalls` counts every `vgrad` call, `gcalls` those with a gradient buffer of the
    function's size -/
theorem run_calls (eps : α) : ∀ (ops : List (Op α)) (s : St α), noClr ops = true →
    (run eps s ops).1.fcalls = s.fcalls + evalCount ops ∧ (run eps s ops).1.gcalls = s.gcalls + gradCount s.size ops
  | [], s, _ => by simp [run, evalCount, gradCount]
  | op :: ops, s, h => by
    cases op with
    | clr => simp [noClr] at h
    | eval k =>
      have ih := run_calls eps ops (step eps s (.eval k)).1 (by simpa [noClr] using h)
      simp only [run]
      rw [ih.1, ih.2, step_size]
      simp only [step, evalCount, gradCount]
      constructor <;> omega
    | valid x =>
      have ih := run_calls eps ops (step eps s (.valid x)).1 (by simpa [noClr] using h)
      simp only [run]; rw [ih.1, ih.2, step_size]
      exact ⟨rfl, rfl⟩
    | _ =>
      -- the four `constrain` overloads: accepted or not, the counters stay
      have ih := fun s' => run_calls eps ops s' (by simpa [noClr] using h)
      simp only [run]; rw [(ih _).1, (ih _).2, step_size]
      simp only [step, evalCount, gradCount]
      split <;> exact ⟨rfl, rfl⟩

theorem run_calls_le (eps : α) (ops : List (Op α)) (s : St α) (h : s.gcalls ≤ s.fcalls) :
    (run eps s ops).1.gcalls ≤ (run eps s ops).1.fcalls := (run_reach eps ops s).calls h

end
end NanoVerif.C06
