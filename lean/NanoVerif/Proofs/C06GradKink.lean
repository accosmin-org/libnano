import NanoVerif.Proofs.C06Line
import Mathlib.Order.Filter.Finite
/-!
  C06 — objects NOT declared smooth, off their ties: the maximum of functions of `t` where one of them is the strict
  maximum (chained_lq, chained_cb3I, chained_cb3II: the selected piece; maxq, maxhilb, maxquad: `maxCoeff` / `argmax` at
  an index that attains the maximum alone), and the derivatives of the pieces along a line.
-/

namespace NanoVerif.C06
open NanoVerif.Loss NanoVerif.Fn

/-! ### two or three pieces (chained_lq, chained_cb3) -/

/-- near a point where `v` is strictly larger, the maximum is `v`; `u` need only be continuous there, so `u` may
    itself be a maximum with a tie -/
theorem max_deriv_right {u v : ℝ → ℝ} {v' : ℝ} (hu : ContinuousAt u 0) (hv : HasDerivAt v v' 0) (h : u 0 < v 0) :
    HasDerivAt (fun t : ℝ => max (u t) (v t)) v' 0 :=
  hv.congr_of_eventuallyEq ((hu.eventually_lt hv.continuousAt h).mono fun _ ht => max_eq_right ht.le)

/-- the piece selected by the `>=` chain is the strict maximum -/
def strictMax3 (v1 v2 v3 : ℝ) : Prop :=
  (v2 < v1 ∧ v3 < v1) ∨ (v1 < v2 ∧ v3 < v2) ∨ (v1 < v3 ∧ v2 < v3)

theorem cmax3_select_deriv {u v w : ℝ → ℝ} {u' v' w' : ℝ} (hu : HasDerivAt u u' 0) (hv : HasDerivAt v v' 0)
    (hw : HasDerivAt w w' 0) (hs : strictMax3 (u 0) (v 0) (w 0)) :
    HasDerivAt (fun t : ℝ => cmax (cmax (u t) (v t)) (w t))
      (if u 0 ≥ cmax (v 0) (w 0) then u' else if v 0 ≥ cmax (u 0) (w 0) then v' else w') 0 := by
  simp only [cmax_eq_max, ge_iff_le]
  rcases hs with ⟨h12, h13⟩ | ⟨h21, h23⟩ | ⟨h31, h32⟩
  · rw [if_pos (max_le h12.le h13.le)]
    refine deriv_of_eq (max_deriv_right (hv.continuousAt.max hw.continuousAt) hu (max_lt h12 h13)) (fun t => ?_) rfl
    rw [max_assoc, max_comm]
  · rw [if_neg (not_le.2 (lt_max_of_lt_left h21)), if_pos (max_le h21.le h23.le)]
    exact deriv_of_eq (max_deriv_right (hu.continuousAt.max hw.continuousAt) hv (max_lt h21 h23))
      (fun t => max_right_comm _ _ _) rfl
  · rw [if_neg (not_le.2 (lt_max_of_lt_right h31)), if_neg (not_le.2 (lt_max_of_lt_right h32))]
    exact max_deriv_right (hu.continuousAt.max hv.continuousAt) hw (max_lt h31 h32)

theorem lqV1_deriv (a b da db : ℝ) :
    HasDerivAt (fun t : ℝ => lqV1 (a + t * da) (b + t * db)) (-da - db) 0 :=
  (coord_deriv a da).fun_neg.fun_sub (coord_deriv b db)

theorem lqV2_deriv (a b da db : ℝ) :
    HasDerivAt (fun t : ℝ => lqV2 (a + t * da) (b + t * db)) ((-1 + 2 * a) * da + (-1 + 2 * b) * db) 0 := by
  have A := coord_deriv a da
  have B := coord_deriv b db
  have h := (((lqV1_deriv a b da db).fun_add (A.fun_mul A)).fun_add (B.fun_mul B)).sub_const 1
  exact h.congr_deriv (by ring)

theorem cbV1_deriv (a b da db : ℝ) :
    HasDerivAt (fun t : ℝ => cbV1 (a + t * da) (b + t * db)) ((cbG1 a b).1 * da + (cbG1 a b).2 * db) 0 := by
  have A := coord_deriv a da
  have B := coord_deriv b db
  refine (((A.fun_mul A).fun_mul (A.fun_mul A)).fun_add (B.fun_mul B)).congr_deriv ?_
  simp only [cbG1, zero_mul, add_zero]; ring

theorem cbV2_deriv (a b da db : ℝ) :
    HasDerivAt (fun t : ℝ => cbV2 (a + t * da) (b + t * db)) ((cbG2 a b).1 * da + (cbG2 a b).2 * db) 0 := by
  have A := (coord_deriv a da).const_sub 2
  have B := (coord_deriv b db).const_sub 2
  refine ((A.fun_mul A).fun_add (B.fun_mul B)).congr_deriv ?_
  simp only [cbG2, zero_mul, add_zero]; ring

theorem cbV3_deriv (a b da db : ℝ) :
    HasDerivAt (fun t : ℝ => cbV3 (a + t * da) (b + t * db)) ((cbG3 a b).1 * da + (cbG3 a b).2 * db) 0 := by
  refine (((coord_deriv a da).fun_neg.fun_add (coord_deriv b db)).exp.const_mul 2).congr_deriv ?_
  simp only [cbG3, texp_eq, zero_mul, add_zero, neg_add_eq_sub]; ring

/-! ### `maxCoeff` of a list of functions of `t` -/

section field
variable {α : Type} [Field α] [LinearOrder α] [IsStrictOrderedRing α]

/-- `maxCoeff(&idx)` when entry `idx` is strictly larger than all others -/
theorem strict_max_spec (o : List α) (idx : Nat) (hidx : idx < o.length)
    (hs : ∀ j, j < o.length → j ≠ idx → o.getD j 0 < o.getD idx 0) :
    maxCoeff o = o.getD idx 0 ∧ argmax o = idx := by
  have hne : o ≠ [] := List.ne_nil_of_length_pos (Nat.zero_lt_of_lt hidx)
  have hv := maxCoeff_eq_getD_argmax o hne
  have hki : argmax o = idx := by
    by_contra h
    have hlt := hs _ (argmax_lt o hne) h
    rw [← hv] at hlt
    exact absurd (maxCoeff_ge o _ (Lst.getD_mem hidx 0)) (not_le.2 hlt)
  exact ⟨hki ▸ hv, hki⟩

end field

/-- entries that are continuous functions of `t` with a strict unique maximum at `t = 0`, in entry `idx`: `argmax`
    selects `idx` there, and for small `t` the maximum follows that entry, so it has the derivative of that entry -/
theorem maxCoeff_deriv (L : ℝ → List ℝ) (l0 : List ℝ) (h0 : L 0 = l0) (n idx : Nat) (hn : ∀ t, (L t).length = n)
    (hidx : idx < n) (hc : ∀ j, j < n → ContinuousAt (fun t => (L t).getD j 0) 0)
    (hs : ∀ j, j < n → j ≠ idx → l0.getD j 0 < l0.getD idx 0) :
    argmax l0 = idx ∧
      ∀ g' : ℝ, HasDerivAt (fun t => (L t).getD idx 0) g' 0 → HasDerivAt (fun t => maxCoeff (L t)) g' 0 := by
  subst h0
  refine ⟨(strict_max_spec (L 0) idx (by rwa [hn]) fun j hj => hs j (by rwa [hn] at hj)).2, fun g' hg => ?_⟩
  have hev : ∀ᶠ t in nhds (0 : ℝ), ∀ j ∈ Finset.range n, j ≠ idx → (L t).getD j 0 < (L t).getD idx 0 := by
    rw [Filter.eventually_all_finset]
    intro j hj
    have hjn : j < n := Finset.mem_range.1 hj
    by_cases hji : j = idx
    · exact Filter.Eventually.of_forall (fun t h => absurd hji h)
    · exact ((hc j hjn).eventually_lt (hc idx hidx) (hs j hjn hji)).mono (fun t ht _ => ht)
  refine hg.congr_of_eventuallyEq (hev.mono fun t ht => ?_)
  exact (strict_max_spec (L t) idx (by rwa [hn]) fun j hj => ht j (Finset.mem_range.2 (by rwa [hn] at hj))).1

/-! ### `max_i |W_i·x|` (maxhilb) -/

theorem maxabs_grad_off (W : List (List ℝ)) (x d : List ℝ) (hd : d.length = x.length) (idx : Nat)
    (hidx : idx < W.length) (hnz : dot x (W.getD idx []) ≠ 0)
    (hs : ∀ j, j < W.length → j ≠ idx → abs' (dot (W.getD j []) x) < abs' (dot (W.getD idx []) x)) :
    HasDerivAt (fun t : ℝ => maxCoeff ((mulVec W (line x d t)).map abs'))
      (dot (smul (if dot x (W.getD (argmax ((mulVec W x).map abs')) []) < 0 then -1 else 1)
        (W.getD (argmax ((mulVec W x).map abs')) [])) d) 0 := by
  have e := getD_abs_mulVec W
  obtain ⟨hi, hder⟩ := maxCoeff_deriv (fun t => (mulVec W (line x d t)).map abs') ((mulVec W x).map abs')
    (by rw [line_zero x d hd]) W.length idx (fun t => by rw [List.length_map, mulVec_length]) hidx
    (fun j _ => by
      simp only [e, abs'_eq, dot_line_right _ x d _ hd]
      exact (coord_deriv _ _).continuousAt.abs)
    (fun j hj hji => by rw [e, e]; exact hs j hj hji)
  rw [hi, dot_smul_left]
  refine hder _ ?_
  simp only [e, dot_line_right _ x d _ hd]
  rw [dot_comm] at hnz
  refine (comp_coord _ _ (abs_deriv_off hnz)).congr_deriv ?_
  rw [dot_comm x]
  rcases lt_or_gt_of_ne hnz with hn | hp
  · rw [sign'_of_neg hn, if_pos hn]
  · rw [sign'_of_pos hp, if_neg hp.le.not_gt]

theorem hilbert_length (n : Nat) : (hilbert n : List (List ℝ)).length = n := by
  rw [hilbert, List.length_map, List.length_range]

/-! ### maxquad -/

/-- one quadratic along a line (no symmetry needed) -/
theorem mq_piece_deriv (A : List (List ℝ)) (b x d : List ℝ) (hAb : A.length = b.length) (hd : d.length = x.length) :
    HasDerivAt (fun t : ℝ => dot (line x d t) (vsub (mulVec A (line x d t)) b))
      (dot x (mulVec A d) + dot d (mulVec A x) - dot b d) 0 :=
  deriv_of_eq ((bilin_line_deriv A x d hd).fun_sub (dot_const_line_deriv x d b hd))
    (fun t => dot_vsub_right _ _ _ (by rw [mulVec_length, hAb])) rfl

end NanoVerif.C06
