import NanoVerif.Model.WLearner
import NanoVerif.Proofs.CxxOrder
import NanoVerif.Proofs.CxxSum
import NanoVerif.Proofs.ListIndex
import Mathlib.Algebra.Order.Field.Basic
import Mathlib.Algebra.BigOperators.Group.List.Basic
import Mathlib.Algebra.Order.BigOperators.Group.List
import Mathlib.Tactic.Ring
import Mathlib.Tactic.Linarith
/-!
  C10 — helper lemmas about `Model/WLearner.lean` over an arbitrary linear ordered field (exact arithmetic):
  sums over the outputs and over the samples, the accumulators as sums, the one-dimensional least-squares facts.
  The property theorems are in `Props/C10.lean`.
-/
set_option linter.unusedSectionVars false

namespace NanoVerif.WLearner
variable {α : Type} [Field α] [LinearOrder α] [IsStrictOrderedRing α]

/-! ### `vsum`, `lsum`, `sumL` -/

@[simp] theorem vsum_zero_dim (v : Vec α) : vsum v 0 = 0 := rfl
theorem vsum_succ (v : Vec α) (T : Nat) : vsum v (T + 1) = vsum v T + v T := rfl

theorem vsum_congr {u v : Vec α} (T : Nat) (h : ∀ o, o < T → u o = v o) : vsum u T = vsum v T := by
  induction T with
  | zero => rfl
  | succ T ih =>
    rw [vsum_succ, vsum_succ, ih (fun o ho => h o (Nat.lt_succ_of_lt ho)), h T (Nat.lt_succ_self T)]

theorem vsum_add (u v : Vec α) (T : Nat) : vsum (fun o => u o + v o) T = vsum u T + vsum v T := by
  induction T with
  | zero => exact (add_zero 0).symm
  | succ T ih => rw [vsum_succ, vsum_succ, vsum_succ, ih]; ring

theorem vsum_sub (u v : Vec α) (T : Nat) : vsum (fun o => u o - v o) T = vsum u T - vsum v T := by
  induction T with
  | zero => exact (sub_zero 0).symm
  | succ T ih => rw [vsum_succ, vsum_succ, vsum_succ, ih]; ring

theorem vsum_const_zero (T : Nat) : vsum (fun _ => (0 : α)) T = 0 := by
  induction T with
  | zero => rfl
  | succ T ih => rw [vsum_succ, ih, add_zero]

theorem vsum_div (b : Vec α) (x : α) (T : Nat) : vsum (fun o => b o / x) T = vsum b T / x := by
  induction T with
  | zero => simp
  | succ T ih => rw [vsum_succ, vsum_succ, ih]; ring

theorem vsum_le {u v : Vec α} (T : Nat) (h : ∀ o, o < T → u o ≤ v o) : vsum u T ≤ vsum v T := by
  induction T with
  | zero => exact le_refl _
  | succ T ih => exact add_le_add (ih fun o ho => h o (Nat.lt_succ_of_lt ho)) (h T (Nat.lt_succ_self T))

theorem vsum_nonneg {u : Vec α} (T : Nat) (h : ∀ o, o < T → 0 ≤ u o) : 0 ≤ vsum u T := by
  have := vsum_le (u := fun _ => 0) (v := u) T h
  rwa [vsum_const_zero] at this

@[simp] theorem lsum_nil : lsum ([] : List α) = 0 := rfl
@[simp] theorem lsum_cons (a : α) (l : List α) : lsum (a :: l) = a + lsum l := rfl

/-- `lsum` is the library's `List.sum`: the facts about sums over the samples come from there -/
theorem lsum_eq_sum (l : List α) : lsum l = l.sum := by
  induction l with
  | nil => rfl
  | cons a l ih => exact congrArg (a + ·) ih

theorem lsum_append (a b : List α) : lsum (a ++ b) = lsum a + lsum b := by
  rw [lsum_eq_sum, lsum_eq_sum, lsum_eq_sum, List.sum_append]

theorem lsum_map_add {β : Type} (f g : β → α) (l : List β) :
    lsum (l.map fun x => f x + g x) = lsum (l.map f) + lsum (l.map g) := by
  rw [lsum_eq_sum, lsum_eq_sum, lsum_eq_sum, List.sum_map_add]

theorem lsum_map_le {β : Type} (f g : β → α) (l : List β) (h : ∀ x ∈ l, f x ≤ g x) :
    lsum (l.map f) ≤ lsum (l.map g) := by
  rw [lsum_eq_sum, lsum_eq_sum]; exact List.sum_le_sum h

theorem lsum_map_nonneg {β : Type} (f : β → α) (l : List β) (h : ∀ x ∈ l, 0 ≤ f x) : 0 ≤ lsum (l.map f) := by
  rw [lsum_eq_sum]; exact List.sum_nonneg (List.forall_mem_map.mpr h)

theorem lsum_map_congr {β : Type} (f g : β → α) (l : List β) (h : ∀ x ∈ l, f x = g x) :
    lsum (l.map f) = lsum (l.map g) :=
  congrArg lsum (List.map_congr_left h)

theorem lsum_map_zero {β : Type} (l : List β) : lsum (l.map fun _ => (0 : α)) = 0 := by
  rw [lsum_eq_sum, List.sum_map_zero]

theorem lsum_nonpos (l : List α) (h : ∀ x ∈ l, x ≤ 0) : lsum l ≤ 0 := by
  have := lsum_map_le id (fun _ => (0 : α)) l h
  rwa [List.map_id, lsum_map_zero] at this

theorem lsum_ite_eq (hs : List Nat) (hnd : hs.Nodup) (h0 : Nat) (hm : h0 ∈ hs) (a : α) :
    lsum (hs.map fun h => if h = h0 then a else 0) = a := by
  induction hs with
  | nil => exact absurd hm List.not_mem_nil
  | cons x xs ih =>
    obtain ⟨hx, hnd'⟩ := List.nodup_cons.mp hnd
    rw [List.map_cons, lsum_cons]
    rcases List.mem_cons.mp hm with rfl | hm'
    · rw [if_pos rfl, lsum_map_congr _ (fun _ => (0 : α)) xs fun y hy => if_neg fun e : y = h0 => hx (e ▸ hy), lsum_map_zero,
        add_zero]
    · rw [if_neg fun e : x = h0 => hx (e ▸ hm'), ih hnd' hm', zero_add]

theorem lsum_perm {a b : List α} (h : a.Perm b) : lsum a = lsum b := by
  rw [lsum_eq_sum, lsum_eq_sum, h.sum_eq]

theorem vsum_lsum {β : Type} (f : β → Vec α) (l : List β) (T : Nat) :
    vsum (fun o => lsum (l.map fun x => f x o)) T = lsum (l.map fun x => vsum (f x) T) := by
  induction l with
  | nil => exact vsum_const_zero T
  | cons x xs ih =>
    simp only [List.map_cons, lsum_cons]
    rw [vsum_add, ih]

/-- every `+=` loop of the C++ code (`Cxx.foldl_add_eq`), with the sum written as `lsum` -/
theorem foldl_add_eq {σ β : Type} (step : σ → β → σ) (g : σ → α) (f : β → α) (h : ∀ s b, g (step s b) = g s + f b)
    (l : List β) (s : σ) : g (l.foldl step s) = g s + lsum (l.map f) := by
  rw [lsum_eq_sum]; exact Cxx.foldl_add_eq step g f h l s

theorem sumL_eq {β : Type} (f : β → α) (l : List β) (a : α) : sumL f l a = a + lsum (l.map f) :=
  foldl_add_eq (fun acc x => acc + f x) id f (fun _ _ => rfl) l a

theorem countOf_nil {β : Type} : countOf ([] : List β) = (0 : α) := rfl
theorem countOf_cons {β : Type} (x : β) (l : List β) : countOf (x :: l) = (1 : α) + countOf l := rfl

theorem countOf_nonneg {β : Type} (l : List β) : (0 : α) ≤ countOf l :=
  lsum_map_nonneg _ l fun _ _ => zero_le_one

theorem countOf_pos {β : Type} (l : List β) (h : l ≠ []) : (0 : α) < countOf l := by
  cases l with
  | nil => exact absurd rfl h
  | cons x xs => rw [countOf_cons]; exact add_pos_of_pos_of_nonneg one_pos (countOf_nonneg xs)

theorem countOf_append {β : Type} (a b : List β) : (countOf (a ++ b) : α) = countOf a + countOf b := by
  unfold countOf; rw [List.map_append, lsum_append]

theorem countOf_map {β γ : Type} (f : β → γ) (l : List β) : (countOf (l.map f) : α) = countOf l := by
  unfold countOf; rw [List.map_map]; rfl

/-! ### `cmax` -/

theorem cmax_eq_max (a b : α) : cmax a b = max a b := Cxx.ite_max a b

theorem cmax_mono {a b : α} (K : α) (h : a ≤ b) : cmax a K ≤ cmax b K := by
  rw [cmax_eq_max, cmax_eq_max]; exact max_le_max h (le_refl _)

/-- the divisor `max(1, x0)` of `fit_constant` is the count of a non-empty bin -/
theorem cmax_one_count {β : Type} (l : List β) (h : l ≠ []) : cmax (1 : α) (countOf l) = countOf l := by
  rw [cmax_eq_max]
  apply max_eq_right
  cases l with
  | nil => exact absurd rfl h
  | cons x xs => rw [countOf_cons]; exact le_add_of_nonneg_right (countOf_nonneg xs)

/-! ### the accumulators are sums -/

theorem Mom.eq_of_fields {a b : Mom α} (hn : a.n = b.n) (h0 : a.x0 = b.x0) (h1 : a.x1 = b.x1) (h2 : a.x2 = b.x2)
    (hr1 : ∀ o, a.r1 o = b.r1 o) (hrx : ∀ o, a.rx o = b.rx o) (hr2 : ∀ o, a.r2 o = b.r2 o) : a = b := by
  cases a; cases b
  simp only [Mom.mk.injEq]
  exact ⟨hn, h0, h1, h2, funext hr1, funext hrx, funext hr2⟩

theorem foldl_upd0_x1 (rs : List (Vec α)) (m : Mom α) : (rs.foldl Mom.upd0 m).x1 = m.x1 :=
  Cxx.foldl_keep_eq Mom.upd0 (·.x1) (fun _ _ => rfl) rs m

theorem foldl_upd0_x2 (rs : List (Vec α)) (m : Mom α) : (rs.foldl Mom.upd0 m).x2 = m.x2 :=
  Cxx.foldl_keep_eq Mom.upd0 (·.x2) (fun _ _ => rfl) rs m

theorem foldl_upd0_rx (rs : List (Vec α)) (m : Mom α) : (rs.foldl Mom.upd0 m).rx = m.rx :=
  Cxx.foldl_keep_eq Mom.upd0 (·.rx) (fun _ _ => rfl) rs m

/-- the moments of a list of residual vectors (`x0` = count, `r1` = sums, `r2` = sums of squares) -/
def momOf (rs : List (Vec α)) : Mom α := rs.foldl Mom.upd0 Mom.zero

theorem momOf_x0 (rs : List (Vec α)) : (momOf rs).x0 = countOf rs :=
  (foldl_add_eq Mom.upd0 (·.x0) (fun _ => 1) (fun _ _ => rfl) rs Mom.zero).trans (zero_add _)
theorem momOf_r1 (rs : List (Vec α)) (o : Nat) : (momOf rs).r1 o = lsum (rs.map fun r => r o) :=
  (foldl_add_eq Mom.upd0 (·.r1 o) (fun r => r o) (fun _ _ => rfl) rs Mom.zero).trans (zero_add _)
theorem momOf_r2 (rs : List (Vec α)) (o : Nat) : (momOf rs).r2 o = lsum (rs.map fun r => r o * r o) :=
  (foldl_add_eq Mom.upd0 (·.r2 o) (fun r => r o * r o) (fun _ _ => rfl) rs Mom.zero).trans (zero_add _)
theorem momOf_n (rs : List (Vec α)) : (momOf rs).n = rs.length :=
  (Cxx.foldl_count_eq Mom.upd0 (·.n) (fun _ _ => rfl) rs Mom.zero).trans (Nat.zero_add _)

theorem foldl_itemUpd0 (items : List (Item α)) (m : Mom α) :
    items.foldl Item.upd0 m = (items.map (·.r)).foldl Mom.upd0 m := by
  rw [List.foldl_map]; rfl

/-! ### least squares in one dimension -/

/-- Least squares in one parameter. Where `den·β = num` (the normal equation) and `0 ≤ den`, `β` minimises
    `r2 + β'²·den − 2β'·num`: the excess of any other `β'` is `den·(β' − β)²`. -/
theorem lsq1_optimal {r2 num den β : α} (hn : den * β = num) (hden : 0 ≤ den) (β' : α) :
    r2 + β * β * den - 2 * β * num ≤ r2 + β' * β' * den - 2 * β' * num := by
  have e : den * ((β' - β) * (β' - β))
      = (r2 + β' * β' * den - 2 * β' * num) - (r2 + β * β * den - 2 * β * num) := by rw [← hn]; ring
  exact sub_nonneg.mp (e ▸ mul_nonneg hden (mul_self_nonneg _))

theorem lsum_sq_dev (l : List α) (c : α) :
    lsum (l.map fun r => (r - c) * (r - c)) = lsum (l.map fun r => r * r) - 2 * c * lsum l + c * c * countOf l := by
  induction l with
  | nil => simp [countOf_nil]
  | cons r rs ih => simp only [List.map_cons, lsum_cons, countOf_cons, ih]; ring

theorem quadratic_at_mean {Q S n : α} (hn : n ≠ 0) : Q + S / n * (S / n) * n - 2 * (S / n) * S = Q - S * S / n := by
  rw [mul_assoc (S / n), mul_comm (S / n) n, mul_div_cancel₀ _ hn, mul_div_right_comm, two_mul, add_mul,
    add_sub_add_right_eq_sub]

theorem mean_quadratic {Q S n : α} (hn : 0 < n) (c : α) :
    Q - S * S / n ≤ Q - 2 * c * S + c * c * n ∧ Q - S * S / n = Q - 2 * (S / n) * S + S / n * (S / n) * n := by
  rw [sub_add_eq_add_sub, sub_add_eq_add_sub, ← quadratic_at_mean hn.ne']
  -- the mean solves the normal equation `n·β = S`
  exact ⟨lsq1_optimal (mul_div_cancel₀ _ hn.ne') hn.le c, rfl⟩

theorem scalar_const_fit (l : List α) (hl : l ≠ []) (c : α) :
    lsum (l.map fun r => r * r) - lsum l * lsum l / countOf l ≤ lsum (l.map fun r => (r - c) * (r - c)) ∧
    lsum (l.map fun r => r * r) - lsum l * lsum l / countOf l =
      lsum (l.map fun r => (r - lsum l / countOf l) * (r - lsum l / countOf l)) := by
  rw [lsum_sq_dev, lsum_sq_dev]
  exact mean_quadratic (countOf_pos l hl) c

end NanoVerif.WLearner
