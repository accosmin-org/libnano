import NanoVerif.Proofs.Parameter
/-!
  C19 — helper lemmas about configuration trees (objects that own other objects) and the histories over
  variables holding them (`Model/Configurable.lean`: `Tree`, `Tree.clone`, `Tree.setChild`, `Tree.setParam`, `ostep`);
  core Lean only.
-/
namespace NanoVerif.Param

namespace Tree
variable {α : Type}

mutual
theorem clone_eq : ∀ t : Tree α, t.clone = t
  | .node ty ps ks => by rw [Tree.clone, cloneKids_eq ks]
theorem cloneKids_eq : ∀ ks : List (String × Tree α), Tree.cloneKids ks = ks
  | [] => by rw [Tree.cloneKids]
  | k :: ks => by rw [Tree.cloneKids, clone_eq k.2, cloneKids_eq ks]
end

theorem eta (t : Tree α) : node t.typeId t.params t.kids = t := by cases t; rfl

theorem findKid_replaceKid_same (c : String) (s : Tree α) (ks : List (String × Tree α))
    (h : (findKid c ks).isSome = true) : findKid c (replaceKid c s ks) = some s := by
  induction ks with
  | nil => simp [findKid] at h
  | cons k ks ih =>
    by_cases hk : (k.1 == c) = true
    · simp [replaceKid, findKid, hk]
    · have h' : (findKid c ks).isSome = true := by simpa [findKid, hk] using h
      simpa [replaceKid, findKid, hk] using ih h'

theorem findKid_replaceKid_ne (c c' : String) (s : Tree α) (ks : List (String × Tree α)) (hne : c' ≠ c) :
    findKid c' (replaceKid c s ks) = findKid c' ks := by
  induction ks with
  | nil => rfl
  | cons k ks ih =>
    by_cases hk : (k.1 == c) = true
    · have hkc : k.1 = c := by simpa using hk
      have hk' : ¬ (k.1 == c') = true := by
        intro h'
        have : k.1 = c' := by simpa using h'
        exact hne (this.symm.trans hkc)
      simp [replaceKid, findKid, hk, hk']
    · by_cases hk' : (k.1 == c') = true
      · simp [replaceKid, findKid, hk, hk']
      · simpa [replaceKid, findKid, hk, hk'] using ih

theorem replaceKid_self (c : String) (k : Tree α) (ks : List (String × Tree α)) (h : findKid c ks = some k) :
    replaceKid c k ks = ks := by
  induction ks with
  | nil => rfl
  | cons q qs ih =>
    simp only [findKid] at h
    simp only [replaceKid]
    by_cases hq : (q.1 == c) = true
    · simp only [hq, if_true] at h ⊢
      cases h
      rfl
    · simp only [hq] at h ⊢
      rw [ih h]
      rfl

theorem child?_setChild_same (t : Tree α) (c : String) (s : Tree α) (h : (t.child? c).isSome = true) :
    (t.setChild c s).child? c = some s := findKid_replaceKid_same c s t.kids h

theorem child?_setChild_ne (t : Tree α) (c c' : String) (s : Tree α) (hne : c' ≠ c) :
    (t.setChild c s).child? c' = t.child? c' := findKid_replaceKid_ne c c' s t.kids hne

theorem setChild_self (t : Tree α) (c : String) (k : Tree α) (h : t.child? c = some k) : t.setChild c k = t := by
  unfold setChild
  rw [replaceKid_self c k t.kids h]
  exact eta t

theorem allKidsB_findKid (p : Storage α → Bool) (c : String) (k : Tree α) (ks : List (String × Tree α))
    (h : allKidsB p ks = true) (hf : findKid c ks = some k) : allB p k = true := by
  induction ks with
  | nil => simp [findKid] at hf
  | cons q qs ih =>
    rw [allKidsB] at h
    simp only [Bool.and_eq_true] at h
    simp only [findKid] at hf
    by_cases hq : (q.1 == c) = true
    · simp only [hq, if_true] at hf
      cases hf
      exact h.1
    · simp only [hq] at hf
      exact ih h.2 hf

/-- a Boolean check of the whole tree covers the registered parameters of every object reachable by a path -/
theorem allB_sub (p : Storage α → Bool) (path : List String) :
    ∀ (t n : Tree α), allB p t = true → t.sub? path = some n → n.params.all (fun q => p q.2) = true := by
  induction path with
  | nil =>
    intro t n h hs
    simp only [sub?] at hs
    cases hs
    cases t with
    | node ty ps ks =>
      rw [allB] at h
      simp only [Bool.and_eq_true] at h
      exact h.1
  | cons c path ih =>
    intro t n h hs
    simp only [sub?] at hs
    cases hc : t.child? c with
    | none => rw [hc] at hs; cases hs
    | some k =>
      rw [hc] at hs
      refine ih k n ?_ hs
      cases t with
      | node ty ps ks =>
        rw [allB] at h
        simp only [Bool.and_eq_true] at h
        exact allKidsB_findKid p c k ks h.2 hc

end Tree

theorem setFirst_self {α : Type} (name : String) (s : Storage α) (ps : List (String × Storage α))
    (h : (Config.mk ps).find? name = some s) : Config.setFirst name s ps = ps := by
  induction ps with
  | nil => rfl
  | cons q qs ih =>
    simp only [Config.setFirst]
    unfold Config.find? at h
    simp only [List.find?] at h
    by_cases hq : (q.1 == name) = true
    · simp only [hq] at h ⊢
      cases h
      rfl
    · simp only [hq] at h ⊢
      have : (Config.mk qs).find? name = some s := by
        unfold Config.find?
        exact h
      rw [ih this]
      rfl

/-! ### histories over variables -/

section
variable {α : Type} [LT α] [LE α] [DecidableLT α] [DecidableLE α] [FOps α]

/-- variables are never removed -/
theorem ostep_length_le (lookup : String → String → Option (Tree α)) (env : Env α) (op : OOp α) :
    env.length ≤ (ostep lookup env op).1.length := by
  cases op <;> simp only [ostep] <;> repeat' split
  all_goals simp

/-- an operation changes no variable but the one it is applied to -/
theorem ostep_frame (lookup : String → String → Option (Tree α)) (env : Env α) (op : OOp α) (i : Nat)
    (hi : i < env.length) (ht : op.target ≠ some i) : (ostep lookup env op).1[i]? = env[i]? := by
  cases op <;> simp only [ostep] <;> repeat' split
  all_goals first
    | rfl
    | exact List.getElem?_append_left hi
    | (simp only [OOp.target, ne_eq, Option.some.injEq] at ht
       exact List.getElem?_set_ne ht)

end

end NanoVerif.Param
