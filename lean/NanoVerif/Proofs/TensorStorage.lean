import NanoVerif.Model.TensorStorage
import NanoVerif.Proofs.TensorView
/-!
  C16 — the primitives of the heap model (`Model/TensorStorage.lean`): what `read`, `write`, `alloc`, `free` and the ascending
  in-place copy do to every buffer and to every cell. Core Lean only.
-/
namespace NanoVerif.Tensor.Store
open NanoVerif.Tensor

variable {α : Type}

/-! ### buffers after `set` / `++` -/

theorem buf_lt {h : Heap α} {b : Nat} {buf : List α} (hb : h.buf b = some buf) : b < h.length := by
  unfold Heap.buf at hb
  cases hg : h[b]? with
  | none => simp [hg] at hb
  | some x => exact (List.getElem?_eq_some_iff.mp hg).1

theorem buf_set_same (h : Heap α) (b : Nat) (x : Option (List α)) (hb : b < h.length) : Heap.buf (h.set b x) b = x := by
  unfold Heap.buf
  rw [List.getElem?_set_self hb]
  rfl

theorem buf_set_other (h : Heap α) (b c : Nat) (x : Option (List α)) (hne : c ≠ b) :
    Heap.buf (h.set b x) c = h.buf c := by
  unfold Heap.buf
  rw [List.getElem?_set_ne (Ne.symm hne)]

theorem buf_append_old (h : Heap α) (x : Option (List α)) (b : Nat) (hb : b < h.length) :
    Heap.buf (h ++ [x]) b = h.buf b := by
  unfold Heap.buf
  rw [List.getElem?_append_left hb]

theorem buf_append_new (h : Heap α) (x : Option (List α)) : Heap.buf (h ++ [x]) h.length = x := by
  unfold Heap.buf
  rw [List.getElem?_append_right (Nat.le_refl _)]
  simp

theorem buf_ge (h : Heap α) (b : Nat) (hb : h.length ≤ b) : h.buf b = none := by
  unfold Heap.buf
  rw [List.getElem?_eq_none hb]
  rfl

/-! ### `read` -/

theorem read_congr {h h' : Heap α} {b : Nat} (hb : h.buf b = h'.buf b) (off n : Nat) :
    h.read (some (b, off)) n = h'.read (some (b, off)) n := by
  simp only [Heap.read, hb]

theorem read_zero (h : Heap α) (p : Ptr) : h.read p 0 = some [] := by
  simp [Heap.read]

theorem read_null (h : Heap α) (n : Nat) (hn : 0 < n) : h.read none n = none := by
  unfold Heap.read
  rw [if_neg (by omega)]

theorem read_some {h : Heap α} {b off n : Nat} {xs : List α} (hn : 0 < n) (hr : h.read (some (b, off)) n = some xs) :
    ∃ buf, h.buf b = some buf ∧ off + n ≤ buf.length ∧ xs = (buf.drop off).take n := by
  unfold Heap.read at hr
  rw [if_neg (by omega)] at hr
  cases hb : h.buf b with
  | none => simp [hb] at hr
  | some buf =>
    simp only [hb] at hr
    split at hr
    · exact ⟨buf, rfl, ‹_›, (Option.some.inj hr).symm⟩
    · cases hr

theorem read_cases {h : Heap α} {p : Ptr} {n : Nat} {xs : List α} (hr : h.read p n = some xs) :
    (n = 0 ∧ xs = []) ∨ ∃ b off buf, p = some (b, off) ∧ h.buf b = some buf ∧ off + n ≤ buf.length ∧ 0 < n ∧
      xs = (buf.drop off).take n := by
  by_cases hn : n = 0
  · subst hn
    rw [read_zero] at hr
    exact Or.inl ⟨rfl, (Option.some.inj hr).symm⟩
  · have hpos := Nat.pos_of_ne_zero hn
    match p, hr with
    | none, hr => rw [read_null h n hpos] at hr; cases hr
    | some (b, off), hr =>
      obtain ⟨buf, hb, hle, hx⟩ := read_some hpos hr
      exact Or.inr ⟨b, off, buf, rfl, hb, hle, hpos, hx⟩

/-- a successful read looks at one live allocation at most: it reads the same in every heap that holds that allocation
    unchanged (nothing is asked of the other heap when nothing is read) -/
theorem read_keep {h h' : Heap α} {p : Ptr} {n : Nat} {xs : List α} (hr : h.read p n = some xs)
    (hb : ∀ b off, p = some (b, off) → b < h.length → h'.buf b = h.buf b) : h'.read p n = some xs := by
  rcases read_cases hr with ⟨rfl, rfl⟩ | ⟨b, off, buf, rfl, hbuf, _, _, _⟩
  · exact read_zero _ _
  · rw [read_congr (hb b off rfl (buf_lt hbuf))]
    exact hr

theorem read_of_buf {h : Heap α} {b off n : Nat} {buf : List α} (hb : h.buf b = some buf) (hle : off + n ≤ buf.length) :
    h.read (some (b, off)) n = some ((buf.drop off).take n) := by
  unfold Heap.read
  by_cases hn : n = 0
  · subst hn; simp
  · rw [if_neg hn]
    simp only [hb]
    rw [if_pos hle]

/-- the access stays inside the addressed allocation: a successful read of `n > 0` elements proves the allocation is live
    and holds at least `off + n` elements -/
theorem read_in_bounds {h : Heap α} {b off n : Nat} {xs : List α} (hn : 0 < n) (hr : h.read (some (b, off)) n = some xs) :
    off + n ≤ h.len (some (b, off)) := by
  obtain ⟨buf, hb, hle, _⟩ := read_some hn hr
  simp [Heap.len, hb, hle]

theorem read_length {h : Heap α} {p : Ptr} {n : Nat} {xs : List α} (hr : h.read p n = some xs) : xs.length = n := by
  rcases read_cases hr with ⟨rfl, rfl⟩ | ⟨_, _, buf, _, _, hle, _, rfl⟩
  · rfl
  · rw [List.length_take, List.length_drop]
    omega

theorem read_getElem? {h : Heap α} {b off n : Nat} {xs : List α} (hr : h.read (some (b, off)) n = some xs) (j : Nat)
    (hj : j < n) : xs[j]? = h.cell b (off + j) := by
  obtain ⟨buf, hb, hle, hx⟩ := read_some (by omega) hr
  subst hx
  unfold Heap.cell
  rw [hb]
  simp only [Option.bind_some]
  rw [List.getElem?_take, if_pos hj, List.getElem?_drop]

theorem read_isSome_iff (h : Heap α) (b off n : Nat) :
    (h.read (some (b, off)) n).isSome ↔ n = 0 ∨ off + n ≤ h.len (some (b, off)) := by
  by_cases hn : n = 0
  · simp [hn, read_zero]
  · cases hb : h.buf b with
    | none => simp [Heap.read, Heap.len, hb, hn]
    | some buf =>
      by_cases hle : off + n ≤ buf.length
      · simp [read_of_buf hb hle, Heap.len, hb, hle]
      · simp [Heap.read, Heap.len, hb, hn, hle]

/-- reads are determined by the length of the addressed allocation and by its cells: two heaps that agree on both, on the
    range read, read the same -/
theorem read_ext {h h' : Heap α} {c o n : Nat} (hl : h'.len (some (c, o)) = h.len (some (c, o)))
    (hc : ∀ j, j < n → h'.cell c (o + j) = h.cell c (o + j)) : h'.read (some (c, o)) n = h.read (some (c, o)) n := by
  have hs : (h'.read (some (c, o)) n).isSome ↔ (h.read (some (c, o)) n).isSome := by
    rw [read_isSome_iff, read_isSome_iff, hl]
  cases hr : h.read (some (c, o)) n with
  | none =>
    rw [hr] at hs
    exact Option.not_isSome_iff_eq_none.mp (fun hx => Bool.false_ne_true (hs.mp hx))
  | some xs =>
    rw [hr] at hs
    obtain ⟨ys, hys⟩ := Option.isSome_iff_exists.mp (hs.mpr rfl)
    rw [hys]
    congr 1
    apply List.ext_getElem?
    intro j
    by_cases hj : j < n
    · rw [read_getElem? hys j hj, read_getElem? hr j hj, hc j hj]
    · rw [List.getElem?_eq_none (by rw [read_length hys]; omega), List.getElem?_eq_none (by rw [read_length hr]; omega)]

/-! ### `write` -/

theorem write_nil (h : Heap α) (p : Ptr) : h.write p [] = some h := by
  simp [Heap.write]

theorem write_cases {h h' : Heap α} {p : Ptr} {vals : List α} (hw : h.write p vals = some h') :
    (vals = [] ∧ h' = h) ∨ ∃ b off buf, p = some (b, off) ∧ h.buf b = some buf ∧ off + vals.length ≤ buf.length ∧
      0 < vals.length ∧ h' = h.set b (some (splice buf off vals)) := by
  by_cases hv : vals.length = 0
  · have := List.eq_nil_of_length_eq_zero hv
    subst this
    rw [write_nil] at hw
    exact Or.inl ⟨rfl, (Option.some.inj hw).symm⟩
  · unfold Heap.write at hw
    rw [if_neg hv] at hw
    match p, hw with
    | none, hw => cases hw
    | some (b, off), hw =>
      cases hb : h.buf b with
      | none => simp [hb] at hw
      | some buf =>
        simp only [hb] at hw
        split at hw
        · exact Or.inr ⟨b, off, buf, rfl, hb, ‹_›, Nat.pos_of_ne_zero hv, (Option.some.inj hw).symm⟩
        · cases hw

theorem write_of_buf {h : Heap α} {b off : Nat} {buf vals : List α} (hb : h.buf b = some buf)
    (hle : off + vals.length ≤ buf.length) (hv : 0 < vals.length) :
    h.write (some (b, off)) vals = some (h.set b (some (splice buf off vals))) := by
  unfold Heap.write
  rw [if_neg (by omega)]
  simp only [hb]
  rw [if_pos hle]

theorem write_of_read {h : Heap α} {p : Ptr} {xs vals : List α} (hr : h.read p vals.length = some xs) :
    ∃ h', h.write p vals = some h' := by
  rcases read_cases hr with ⟨h0, _⟩ | ⟨b, off, buf, rfl, hb, hle, hpos, _⟩
  · rw [List.eq_nil_of_length_eq_zero h0]
    exact ⟨h, write_nil h p⟩
  · exact ⟨_, write_of_buf hb hle hpos⟩

theorem write_length {h h' : Heap α} {p : Ptr} {vals : List α} (hw : h.write p vals = some h') : h'.length = h.length := by
  rcases write_cases hw with ⟨_, rfl⟩ | ⟨_, _, _, _, _, _, _, rfl⟩
  · rfl
  · exact List.length_set

theorem buf_write_other {h h' : Heap α} {p : Ptr} {vals : List α} (hw : h.write p vals = some h')
    (c : Nat) (hne : ∀ off, p ≠ some (c, off)) : h'.buf c = h.buf c := by
  rcases write_cases hw with ⟨_, rfl⟩ | ⟨b, off, _, rfl, _, _, _, rfl⟩
  · rfl
  · exact buf_set_other _ _ _ _ (fun hx => hne off (by rw [hx]))

theorem len_write {h h' : Heap α} {p : Ptr} {vals : List α} (hw : h.write p vals = some h') (q : Ptr) :
    h'.len q = h.len q := by
  rcases write_cases hw with ⟨_, rfl⟩ | ⟨b, off, buf, _, hb, hle, _, rfl⟩
  · rfl
  · match q with
    | none => rfl
    | some (c, _) =>
      simp only [Heap.len]
      by_cases hc : c = b
      · subst hc
        rw [buf_set_same _ _ _ (buf_lt hb), hb]
        simp [splice_length _ _ _ hle]
      · rw [buf_set_other _ _ _ _ hc]

/-- FRAME of a write, cell by cell: exactly the cells `[off, off + |vals|)` of the addressed buffer take the new values;
    every other cell of every buffer keeps its content -/
theorem cell_write {h h' : Heap α} {b off : Nat} {vals : List α} (hw : h.write (some (b, off)) vals = some h')
    (c i : Nat) :
    h'.cell c i = if c = b ∧ off ≤ i ∧ i < off + vals.length then vals[i - off]? else h.cell c i := by
  rcases write_cases hw with ⟨rfl, rfl⟩ | ⟨_, _, buf, hp, hb, hle, _, rfl⟩
  · rw [if_neg (by simp)]
  · cases hp
    unfold Heap.cell
    by_cases hc : c = b
    · subst hc
      rw [buf_set_same _ _ _ (buf_lt hb), hb]
      simp only [Option.bind_some, true_and]
      exact splice_getElem? buf off vals (by omega) i
    · rw [buf_set_other _ _ _ _ hc, if_neg (fun hx => hc hx.1)]

theorem read_write_same {h h' : Heap α} {p : Ptr} {vals : List α} (hw : h.write p vals = some h') :
    h'.read p vals.length = some vals := by
  rcases write_cases hw with ⟨rfl, rfl⟩ | ⟨b, off, buf, rfl, hb, hle, _, rfl⟩
  · exact read_zero _ _
  · rw [read_of_buf (buf_set_same _ _ _ (buf_lt hb)) (by rw [splice_length _ _ _ hle]; exact hle)]
    congr 1
    unfold splice
    rw [List.append_assoc, List.drop_left' (by rw [List.length_take]; omega), List.take_left' rfl]

/-- FRAME of a write for reads: a range that does not meet the written range reads as before -/
theorem read_write_disjoint {h h' : Heap α} {b off : Nat} {vals : List α} (hw : h.write (some (b, off)) vals = some h')
    (c o2 n : Nat) (hd : c ≠ b ∨ o2 + n ≤ off ∨ off + vals.length ≤ o2) :
    h'.read (some (c, o2)) n = h.read (some (c, o2)) n :=
  read_ext (len_write hw _) (fun j hj => by rw [cell_write hw, if_neg (by omega)])

theorem read_write_some {h h' : Heap α} {b off : Nat} {vals : List α} (hw : h.write (some (b, off)) vals = some h')
    {c o2 n : Nat} {xs : List α} (hr : h.read (some (c, o2)) n = some xs) : ∃ ys, h'.read (some (c, o2)) n = some ys := by
  apply Option.isSome_iff_exists.mp
  rw [read_isSome_iff, len_write hw, ← read_isSome_iff, hr]
  rfl

/-- VIEWS ALIAS EXACTLY THEIR INDEX SET: after `vals` has been written at `(b, off)`, what is read at `(c, o2)` differs from
    what was read there before exactly at the positions whose cell lies in the written range — where it is the written value -/
theorem read_after_write {h h' : Heap α} {b off : Nat} {vals : List α} (hw : h.write (some (b, off)) vals = some h')
    {c o2 n : Nat} {xs : List α} (hr : h.read (some (c, o2)) n = some xs) :
    ∃ ys, h'.read (some (c, o2)) n = some ys ∧ ∀ j, j < n →
      ys[j]? = if c = b ∧ off ≤ o2 + j ∧ o2 + j < off + vals.length then vals[o2 + j - off]? else xs[j]? := by
  obtain ⟨ys, hys⟩ := read_write_some hw hr
  refine ⟨ys, hys, ?_⟩
  intro j hj
  rw [read_getElem? hys j hj, read_getElem? hr j hj, cell_write hw c (o2 + j)]

/-! ### `alloc` -/

/-- a fresh allocation never coincides with an allocation some existing pointer addresses: its identity is the first
    unused one, its offset 0 -/
theorem alloc_ptr (h : Heap α) (xs : List α) :
    (xs.length = 0 ∧ h.alloc xs = (h, none)) ∨ (0 < xs.length ∧ h.alloc xs = (h ++ [some xs], some (h.length, 0))) := by
  unfold Heap.alloc
  by_cases hx : xs.length = 0
  · left; simp [hx]
  · right; simp [hx]; omega

theorem alloc_some {h : Heap α} {xs : List α} {b off : Nat} (hp : (h.alloc xs).2 = some (b, off)) :
    b = h.length ∧ off = 0 ∧ (h.alloc xs).1.buf b = some xs := by
  rcases alloc_ptr h xs with ⟨_, he⟩ | ⟨_, he⟩
  · rw [he] at hp; cases hp
  · rw [he] at hp ⊢
    cases hp
    exact ⟨rfl, rfl, buf_append_new h (some xs)⟩

theorem alloc_length_le (h : Heap α) (xs : List α) : h.length ≤ (h.alloc xs).1.length := by
  rcases alloc_ptr h xs with ⟨_, he⟩ | ⟨_, he⟩ <;> rw [he] <;> simp

theorem buf_alloc_old (h : Heap α) (xs : List α) (b : Nat) (hb : b < h.length) : (h.alloc xs).1.buf b = h.buf b := by
  rcases alloc_ptr h xs with ⟨_, he⟩ | ⟨_, he⟩ <;> rw [he]
  exact buf_append_old _ _ _ hb

theorem cell_alloc_old (h : Heap α) (xs : List α) (b i : Nat) (hb : b < h.length) :
    (h.alloc xs).1.cell b i = h.cell b i := by
  unfold Heap.cell
  rw [buf_alloc_old h xs b hb]

theorem read_alloc_new (h : Heap α) (xs : List α) : (h.alloc xs).1.read (h.alloc xs).2 xs.length = some xs := by
  rcases alloc_ptr h xs with ⟨h0, he⟩ | ⟨hpos, he⟩
  · rw [h0, read_zero, List.eq_nil_of_length_eq_zero h0]
  · rw [he, read_of_buf (buf_append_new h (some xs)) (by simp)]
    simp

theorem len_alloc_new (h : Heap α) (xs : List α) : (h.alloc xs).1.len (h.alloc xs).2 = xs.length := by
  rcases alloc_ptr h xs with ⟨h0, he⟩ | ⟨hpos, he⟩
  · rw [he]; simp [Heap.len, h0]
  · rw [he]; simp [Heap.len, buf_append_new]

theorem read_alloc_keep (h : Heap α) (xs : List α) (p : Ptr) (n : Nat) (ys : List α) (hr : h.read p n = some ys) :
    (h.alloc xs).1.read p n = some ys :=
  read_keep hr fun b _ _ hb => buf_alloc_old h xs b hb

/-! ### `free` -/

theorem free_length (h : Heap α) (p : Ptr) : (h.free p).length = h.length := by
  cases p with
  | none => rfl
  | some q => simp [Heap.free]

theorem buf_free_other (h : Heap α) (b o : Nat) (c : Nat) (hne : c ≠ b) : (h.free (some (b, o))).buf c = h.buf c := by
  unfold Heap.free
  exact buf_set_other _ _ _ _ hne

theorem buf_free_null (h : Heap α) (c : Nat) : (h.free none).buf c = h.buf c := rfl

/-- the released allocation is gone: nothing can be read there any more (identities are never re-used) -/
theorem buf_free_same (h : Heap α) (b o : Nat) : (h.free (some (b, o))).buf b = none := by
  unfold Heap.free
  by_cases hb : b < h.length
  · exact buf_set_same _ _ _ hb
  · rw [buf_ge _ _ (by simp; omega)]

theorem buf_free (h : Heap α) (p : Ptr) (c : Nat) : (h.free p).buf c = if p.inBuf c then none else h.buf c := by
  match p with
  | none => rfl
  | some (b, o) =>
    by_cases hc : c = b
    · subst hc
      rw [buf_free_same, if_pos (by simp [Ptr.inBuf])]
    · rw [buf_free_other h b o c hc, if_neg (by simp [Ptr.inBuf]; exact fun hx => hc hx.symm)]

theorem read_free_same (h : Heap α) (b o o2 n : Nat) (hn : 0 < n) : (h.free (some (b, o))).read (some (b, o2)) n = none := by
  unfold Heap.read
  rw [if_neg (by omega)]
  simp only [buf_free_same]

theorem read_free_other (h : Heap α) (p : Ptr) (c o2 n : Nat) (hne : ∀ b o, p = some (b, o) → c ≠ b) :
    (h.free p).read (some (c, o2)) n = h.read (some (c, o2)) n := by
  cases p with
  | none => rfl
  | some q =>
    obtain ⟨b, o⟩ := q
    exact read_congr (buf_free_other h b o c (hne b o rfl)) o2 n

theorem cell_free_other (h : Heap α) (b o c i : Nat) (hne : c ≠ b) : (h.free (some (b, o))).cell c i = h.cell c i := by
  unfold Heap.cell
  rw [buf_free_other h b o c hne]

/-! ### the ascending in-place copy -/

theorem fwd_length (buf : List α) : ∀ (n d s : Nat), (fwd buf d s n).length = buf.length := by
  intro n
  induction n generalizing buf with
  | zero => intro d s; rfl
  | succ n ih =>
    intro d s
    unfold fwd
    cases hs : buf[s]? with
    | none => rfl
    | some x => simp only; rw [ih]; simp

/-- one more element: the copy of `n + 1` elements is the copy of `n` elements followed by the copy of element `n`, read from
    the buffer as the first `n` steps left it -/
theorem fwd_succ : ∀ (n : Nat) (buf : List α) (d s : Nat), s + n < buf.length →
    ∃ x, (fwd buf d s n)[s + n]? = some x ∧ fwd buf d s (n + 1) = (fwd buf d s n).set (d + n) x
  | 0, buf, d, s, hs => by
    refine ⟨buf[s], List.getElem?_eq_getElem hs, ?_⟩
    simp only [fwd, List.getElem?_eq_getElem (show s < buf.length from hs)]
    rfl
  | n + 1, buf, d, s, hs => by
    have hslt : s < buf.length := by omega
    obtain ⟨x, hx, he⟩ := fwd_succ n (buf.set d buf[s]) (d + 1) (s + 1) (by rw [List.length_set]; omega)
    have hu : ∀ m, fwd buf d s (m + 1) = fwd (buf.set d buf[s]) (d + 1) (s + 1) m := by
      intro m
      rw [fwd, List.getElem?_eq_getElem hslt]
    rw [hu (n + 1), hu n, he]
    exact ⟨x, by rw [← hx]; congr 1; omega, by congr 1; omega⟩

/-- WHAT THE ASCENDING COPY DOES, cell by cell, for every position of source and destination: destination element `i`
    receives the ORIGINAL source element `i mod (d - s)`. When the destination starts inside or after the start of the source
    (`s < d`) that is the first `d - s` source elements repeated periodically — the plain copy if the ranges are disjoint
    (`n ≤ d - s`); when it does not (`d ≤ s`) the period `d - s` is `0`, `i mod 0 = i`, and it is the plain copy again.
    Every other cell is unchanged. -/
theorem fwd_getElem? : ∀ (n : Nat) (buf : List α) (d s : Nat), s + n ≤ buf.length → d + n ≤ buf.length →
    ∀ k, (fwd buf d s n)[k]? = if d ≤ k ∧ k < d + n then buf[s + (k - d) % (d - s)]? else buf[k]?
  | 0, buf, d, s, _, _, k => by
    rw [if_neg (by omega)]
    rfl
  | n + 1, buf, d, s, hs, hd, k => by
    obtain ⟨x, hx, he⟩ := fwd_succ n buf d s (by omega)
    have ih := fwd_getElem? n buf d s (by omega) (by omega)
    rw [he, List.getElem?_set, fwd_length]
    by_cases hk : d + n = k
    · rw [if_pos hk, if_pos (by omega), if_pos (by omega), ← hx, ih, ← hk, Nat.add_sub_cancel_left]
      -- source element `n`: the one written `d - s` steps ago if the copy has reached it, else an original one
      by_cases hr : d ≤ s + n ∧ s + n < d + n
      · rw [if_pos hr, Nat.mod_eq_sub_mod (a := n) (Nat.sub_le_of_le_add (by rw [Nat.add_comm]; exact hr.1))]
        congr 3
        omega
      · rw [if_neg hr]
        by_cases hsd : s < d
        · rw [Nat.mod_eq_of_lt (show n < d - s by omega)]
        · rw [Nat.sub_eq_zero_of_le (Nat.le_of_not_lt hsd), Nat.mod_zero]
    · rw [if_neg hk, ih]
      by_cases hin : d ≤ k ∧ k < d + n
      · rw [if_pos hin, if_pos (by omega)]
      · rw [if_neg hin, if_neg (by omega)]

theorem fwd_periodic (n : Nat) (buf : List α) (d s : Nat) (hsd : s < d) (hd : d + n ≤ buf.length) (k : Nat) :
    (fwd buf d s n)[k]? = if d ≤ k ∧ k < d + n then buf[s + (k - d) % (d - s)]? else buf[k]? :=
  fwd_getElem? n buf d s (by omega) hd k

/-- when the destination does not start INSIDE the source range (`d ≤ s`, or the ranges are disjoint) the ascending copy is
    the overwrite of the destination range by the source elements AS THEY WERE -/
theorem fwd_eq_splice (buf : List α) (d s n : Nat) (hds : d ≤ s ∨ s + n ≤ d) (hs : s + n ≤ buf.length)
    (hd : d + n ≤ buf.length) : fwd buf d s n = splice buf d ((buf.drop s).take n) := by
  have hlen : ((buf.drop s).take n).length = n := by rw [List.length_take, List.length_drop]; omega
  apply List.ext_getElem?
  intro k
  rw [fwd_getElem? n buf d s hs hd k, splice_getElem? buf d _ (by omega) k, hlen]
  split
  · rename_i hk
    rw [List.getElem?_take, if_pos (by omega), List.getElem?_drop]
    rcases hds with h | h
    · rw [Nat.sub_eq_zero_of_le h, Nat.mod_zero]
    · rw [Nat.mod_eq_of_lt (show k - d < d - s by omega)]
  · rfl

theorem succ_mod_cases (i p : Nat) (hp : 0 < p) : (i + 1) % p = if i % p + 1 = p then 0 else i % p + 1 := by
  have hdm := Nat.div_add_mod i p
  have hlt := Nat.mod_lt i hp
  split
  · rename_i he
    have h1 : i + 1 = p * (i / p + 1) := by rw [Nat.mul_add, Nat.mul_one]; omega
    rw [h1, Nat.mul_mod_right]
  · rename_i he
    have h1 : i + 1 = p * (i / p) + (i % p + 1) := by omega
    rw [h1, Nat.mul_add_mod, Nat.mod_eq_of_lt (by omega)]

end NanoVerif.Tensor.Store
