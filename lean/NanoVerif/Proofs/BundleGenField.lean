import NanoVerif.Model.Bundle
import NanoVerif.Gen.BundleStep
import Mathlib.Algebra.Order.Field.Basic
import Mathlib.Tactic.Ring
/-!
  C03 — the part of the tie between Model/Bundle.lean and the regenerated Gen/BundleStep.lean whose two sides differ
  in shape: the analytic two-row branch of `bundle_t::solve` writes `0.5 * x` where the model writes `x / 2`. Equal in every field
  (and bit for bit in IEEE arithmetic, where halving and multiplying by 0.5 are the same exact operation up to underflow).
-/
set_option linter.unusedSectionVars false
namespace NanoVerif.Bundle
open NanoVerif.Gen
variable {α : Type} [Field α] [LinearOrder α] [IsStrictOrderedRing α]

/-- bundle.cpp:37-40 -/
theorem model_solve1_is_generated : (solve1 : List α) = BundleStep.solve1 := rfl

/-- bundle.cpp:41-55: the minimiser of the two-row quadratic over the segment, with `Q(i,j)` the dot products of the rows and
    `c = miu * e` -/
theorem model_solve2_is_generated (fin : α → Bool) (miu : α) (p0 p1 : Pair α) :
    solve2 fin miu p0 p1 =
      BundleStep.solve2 fin miu (dot p0.s p0.s) (dot p0.s p1.s) (dot p1.s p0.s) (dot p1.s p1.s) p0.e p1.e := by
  have h : ∀ x : α, (1 : α) / 2 * x = x / 2 := fun x => by ring
  simp only [solve2, BundleStep.solve2, h]

end NanoVerif.Bundle
