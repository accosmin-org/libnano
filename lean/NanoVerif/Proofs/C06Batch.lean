import NanoVerif.Model.LossBatch
import NanoVerif.Proofs.C06Vec
/-!
  C06 — the tensor interface of the losses (`Model/LossBatch.lean`): the loop over the samples of a 4-D tensor
  (chunk recursion `batchMap` / `batchFlat`) against the indexed view `sampleAt n i` (= `tensor.array(i)`), and
  per-sample independence: entry `i` of values / errors / gradients is a function of sample `i` of the two tensors only,
  for every number of samples and every per-sample size (nothing has to divide anything).
-/

namespace NanoVerif.C06
open NanoVerif.Loss

section generic
variable {α β : Type}

theorem sampleAt_zero (n : Nat) (buf : List α) : sampleAt n 0 buf = buf.take n := by
  simp [sampleAt]

theorem sampleAt_succ (n i : Nat) (buf : List α) : sampleAt n (i + 1) buf = sampleAt n i (buf.drop n) := by
  unfold sampleAt
  rw [List.drop_drop]
  congr 2
  rw [Nat.succ_mul]; omega

theorem sampleAt_length (n i : Nat) (buf : List α) (h : (i + 1) * n ≤ buf.length) : (sampleAt n i buf).length = n := by
  unfold sampleAt
  rw [List.length_take, List.length_drop]
  rw [Nat.succ_mul] at h
  omega

/-- a sample handed over alone (a tensor with ONE sample) is read back unchanged -/
theorem sampleAt_take (n i : Nat) (buf : List α) : (sampleAt n i buf).take n = sampleAt n i buf := by
  unfold sampleAt
  rw [List.take_take, Nat.min_self]

theorem batchMap_length (f : List α → List α → β) (n : Nat) : ∀ (m : Nat) (T O : List α),
    (batchMap f n m T O).length = m
  | 0, _, _ => rfl
  | m + 1, T, O => by simp [batchMap, batchMap_length f n m]

theorem batchMap_getElem? (f : List α → List α → β) (n : Nat) : ∀ (m : Nat) (T O : List α) (i : Nat), i < m →
    (batchMap f n m T O)[i]? = some (f (sampleAt n i T) (sampleAt n i O))
  | 0, _, _, i, h => by omega
  | m + 1, T, O, 0, _ => by simp [batchMap, sampleAt_zero]
  | m + 1, T, O, i + 1, h => by
    rw [batchMap, List.getElem?_cons_succ, batchMap_getElem? f n m _ _ i (by omega), sampleAt_succ, sampleAt_succ]

theorem batchMap_eq_range (f : List α → List α → β) (n m : Nat) (T O : List α) :
    batchMap f n m T O = (List.range m).map (fun i => f (sampleAt n i T) (sampleAt n i O)) := by
  apply List.ext_getElem?
  intro i
  by_cases hi : i < m
  · rw [batchMap_getElem? f n m T O i hi, List.getElem?_map, List.getElem?_range hi]; rfl
  · rw [List.getElem?_eq_none (by rw [batchMap_length]; omega),
      List.getElem?_eq_none (by rw [List.length_map, List.length_range]; omega)]

theorem batchMap_entry_own_sample (f : List α → List α → β) (n m m' : Nat) (T O T' O' : List α) (i : Nat)
    (hi : i < m) (hi' : i < m') (hT : sampleAt n i T = sampleAt n i T') (hO : sampleAt n i O = sampleAt n i O') :
    (batchMap f n m T O)[i]? = (batchMap f n m' T' O')[i]? := by
  rw [batchMap_getElem? f n m T O i hi, batchMap_getElem? f n m' T' O' i hi', hT, hO]

theorem batchMap_each_alone (f : List α → List α → β) (n m : Nat) (T O : List α) (i : Nat) (hi : i < m) :
    batchMap f n 1 (sampleAt n i T) (sampleAt n i O) = [f (sampleAt n i T) (sampleAt n i O)] ∧
    (batchMap f n m T O)[i]? = (batchMap f n 1 (sampleAt n i T) (sampleAt n i O))[0]? := by
  have h1 : batchMap f n 1 (sampleAt n i T) (sampleAt n i O) = [f (sampleAt n i T) (sampleAt n i O)] := by
    simp [batchMap, sampleAt_take]
  exact ⟨h1, by rw [h1, batchMap_getElem? f n m T O i hi]; rfl⟩

theorem batchMap_append (f : List α → List α → β) (n : Nat) : ∀ (m1 m2 : Nat) (T1 O1 T2 O2 : List α),
    T1.length = m1 * n → O1.length = m1 * n →
    batchMap f n (m1 + m2) (T1 ++ T2) (O1 ++ O2) = batchMap f n m1 T1 O1 ++ batchMap f n m2 T2 O2
  | 0, m2, T1, O1, T2, O2, hT, hO => by
    have e1 : T1 = [] := List.eq_nil_of_length_eq_zero (by simpa using hT)
    have e2 : O1 = [] := List.eq_nil_of_length_eq_zero (by simpa using hO)
    subst e1; subst e2; simp [batchMap]
  | m1 + 1, m2, T1, O1, T2, O2, hT, hO => by
    have hn1 : n ≤ T1.length := by rw [hT, Nat.succ_mul]; omega
    have hn2 : n ≤ O1.length := by rw [hO, Nat.succ_mul]; omega
    have e : m1 + 1 + m2 = (m1 + m2) + 1 := by omega
    rw [e, batchMap, batchMap, List.take_append_of_le_length hn1, List.take_append_of_le_length hn2,
      List.drop_append_of_le_length hn1, List.drop_append_of_le_length hn2,
      batchMap_append f n m1 m2 _ _ _ _ (by rw [List.length_drop, hT, Nat.succ_mul]; omega)
        (by rw [List.length_drop, hO, Nat.succ_mul]; omega)]
    rfl

theorem succ_mul_le_length {n m : Nat} {T : List α} (h : (m + 1) * n ≤ T.length) :
    n ≤ T.length ∧ m * n ≤ (T.drop n).length := by
  rw [Nat.succ_mul] at h
  rw [List.length_drop]
  omega

theorem batchFlat_sampleAt (g : List α → List α → List α) (n : Nat)
    (hg : ∀ t o : List α, t.length = n → o.length = n → (g t o).length = n) : ∀ (m : Nat) (T O : List α) (i : Nat),
    i < m → m * n ≤ T.length → m * n ≤ O.length →
    sampleAt n i (batchFlat g n m T O) = g (sampleAt n i T) (sampleAt n i O)
  | 0, _, _, i, h, _, _ => by omega
  | m + 1, T, O, i, hi, hT, hO => by
    obtain ⟨hn1, hT'⟩ := succ_mul_le_length hT
    obtain ⟨hn2, hO'⟩ := succ_mul_le_length hO
    have hl : (g (T.take n) (O.take n)).length = n :=
      hg _ _ (by rw [List.length_take]; omega) (by rw [List.length_take]; omega)
    cases i with
    | zero =>
      rw [batchFlat, sampleAt_zero, sampleAt_zero, sampleAt_zero, List.take_left' hl]
    | succ i =>
      rw [batchFlat, sampleAt_succ, sampleAt_succ, sampleAt_succ, List.drop_left' hl]
      exact batchFlat_sampleAt g n hg m _ _ i (by omega) hT' hO'

theorem batchFlat_length (g : List α → List α → List α) (n : Nat)
    (hg : ∀ t o : List α, t.length = n → o.length = n → (g t o).length = n) : ∀ (m : Nat) (T O : List α),
    m * n ≤ T.length → m * n ≤ O.length → (batchFlat g n m T O).length = m * n
  | 0, _, _, _, _ => by simp [batchFlat]
  | m + 1, T, O, hT, hO => by
    obtain ⟨hn1, hT'⟩ := succ_mul_le_length hT
    obtain ⟨hn2, hO'⟩ := succ_mul_le_length hO
    rw [batchFlat, List.length_append, hg _ _ (by rw [List.length_take]; omega) (by rw [List.length_take]; omega),
      batchFlat_length g n hg m _ _ hT' hO', Nat.succ_mul]
    omega

end generic

section field
variable {α : Type} [Field α] [LinearOrder α] [IsStrictOrderedRing α] [Transc α]

/-- `loss_t::vgrad` of one sample writes one scalar per output -/
theorem vgrad_length (k : Kind) (a : α) (t o : List α) (h : t.length = o.length) : (vgrad k a t o).length = o.length := by
  cases k <;> simp only [vgrad, classnllG, classnllGShift] <;> exact map2_length _ t o h

end field
end NanoVerif.C06
