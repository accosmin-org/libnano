import NanoVerif.Proofs.Bundle
/-!
  C03 — the bundle never outgrows its buffers (`assert(m_size < capacity())`, bundle.cpp:160): counting lemmas behind
  `append_stays_below_capacity` (`Props/C03.lean`). The contract of `std::nth_element` is the hypothesis `NthElement`.
-/
set_option linter.unusedSectionVars false

namespace NanoVerif.Bundle
variable {α : Type} [Field α] [LinearOrder α] [IsStrictOrderedRing α]

/-- the threshold read at a position `p ≤ k` of the buffer reordered by `nth_element(first, first + k, last)` is not above
    any of the `length - k` elements from position `k` on, so at least `length - k` of the ORIGINAL errors (the `key`s of the
    rows) are `≥ thres` -/
theorem nth_element_removes {β : Type} (key : β → α) (orig : List β) (a : List α) (k p : Nat) (ak thres : α)
    (h : NthElement k (orig.map key) a ak) (hp : p ≤ k) (hthres : a[p]? = some thres) :
    orig.length - k ≤ (orig.filter fun b => decide (thres ≤ key b)).length := by
  obtain ⟨hperm, hk, hbefore, hafter⟩ := h
  have hle : thres ≤ ak := by
    rcases hp.lt_or_eq with hlt | rfl
    · exact hbefore _ (List.mem_of_getElem? ((List.getElem?_take_of_lt hlt).trans hthres))
    · exact (Option.some.inj (hk.symm.trans hthres)).ge
  have hall : ∀ y ∈ a.drop k, decide (thres ≤ y) = true := fun y hy => decide_eq_true (hle.trans (hafter y hy))
  have h1 := ((List.drop_sublist k a).filter fun e => decide (thres ≤ e)).length_le
  rwa [List.filter_eq_self.mpr hall, List.length_drop, hperm.length_eq, (hperm.filter _).length_eq, List.filter_map,
    List.length_map, List.length_map] at h1

theorem deleteFrom_length (thres : α) (act : List (Pair α × α)) :
    (deleteFrom thres act).length + (act.filter (fun pa => decide (thres ≤ pa.1.e))).length = act.length := by
  unfold deleteFrom
  rw [List.length_map]
  induction act with
  | nil => rfl
  | cons pa act ih =>
    simp only [List.filter_cons]
    by_cases h : thres ≤ pa.1.e
    · simp only [h, decide_true, Bool.not_true, Bool.false_eq_true, if_false, if_true, List.length_cons]; omega
    · simp only [h, decide_false, Bool.not_false, if_true, Bool.false_eq_true, if_false, List.length_cons]; omega

theorem active_length_le (eps0 : α) (pairs : List (Pair α)) (alphas : List α) :
    (active eps0 pairs alphas).length ≤ pairs.length :=
  (List.length_map (·.1)).ge.trans (active_fst_sublist eps0 pairs alphas).length_le

theorem appendStep_length (serious : Bool) (kept : List (Pair α)) (x : List α) (fx : α) (y gy : List α) (fy : α) :
    (appendStep serious kept x fx y gy fy).pairs.length = kept.length + 1 := by
  cases serious <;> simp [appendStep]

end NanoVerif.Bundle
