import NanoVerif.Proofs.DatasetFlatten
/-!
  C08 — drop / shuffle flags: the concrete operations implement the documented flag rule `absStep`, and `select` reads the
  generator's state only through the flag (`select_by_flag`); at the end, `resize` / `set` / `add` establish the hypotheses
  of the C08 theorems (`sets_wf`, `adds_wf`). Core Lean only; no Mathlib.
-/
namespace NanoVerif.Dataset
open NanoVerif.Tensor NanoVerif.Mask

/-! ### drop / shuffle flags -/

/-- the state of a generated feature as far as the views are concerned -/
inductive Flag
  | none
  | dropped
  | shuffled (p : List Nat)
deriving DecidableEq, Repr

/-- read the flag byte and the stored permutation of feature `i` (generator.cpp:65-82) -/
def Gen.flagOf (g : Gen) (i : Nat) : Flag :=
  if g.infos.getD i 0 = 1 then .dropped
  else if g.infos.getD i 0 = 2 then .shuffled ((g.shuffles.lookup i).getD [])
  else .none

def Dataset.flag (ds : Dataset) (f : Nat) : Flag :=
  match ds.featMap[f]? with
  | some (gi, i) => match ds.gens[gi]? with
    | some g => g.flagOf i
    | none => .none
  | none => .none

/-- **the documented effect of the history operations on the flags**: `drop f` / `shuffle f` set the flag of exactly feature
    `f` (one flag per feature: the last call wins), `undrop` and `unshuffle` clear every flag, an invalid feature index
    throws and changes nothing -/
def absStep (n : Nat) (F : Nat → Flag) : HOp → Nat → Flag
  | .drop f => if f < n then (fun x => if x = f then .dropped else F x) else F
  | .undrop => fun _ => .none
  | .shuffle f p => if f < n then (fun x => if x = f then .shuffled p else F x) else F
  | .unshuffle => fun _ => .none

def absRun (n : Nat) (F : Nat → Flag) (ops : List HOp) : Nat → Flag := ops.foldl (absStep n) F

theorem shouldDrop_flag (g : Gen) (i : Nat) : g.shouldDrop i = decide (g.flagOf i = .dropped) := by
  unfold Gen.shouldDrop Gen.flagOf
  generalize g.infos.getD i 0 = x
  by_cases h1 : x = 1
  · subst h1; simp
  · by_cases h2 : x = 2
    · subst h2; simp
    · simp [h1, h2]

theorem shuffledAll_flag (g : Gen) (i : Nat) :
    g.shuffledAll i = (match g.flagOf i with | .shuffled p => p | _ => []) := by
  unfold Gen.shuffledAll Gen.flagOf
  generalize g.infos.getD i 0 = x
  by_cases h1 : x = 1
  · subst h1; simp
  · by_cases h2 : x = 2
    · subst h2; simp
    · simp [h1, h2]

section
variable {α : Type} [Scalar α]

/-- the view of a harness-defined computer's feature whose results over the sample list are `vals` (`none` = missing):
    labels / hit rows / scalars / `(3, 1, 1)` tensors with the missing markers −1 / NaN -/
def customView (o : Overload) (vals : List (Option (List Int))) : View α :=
  match o with
  | .sclass => .sclass (vals.map encSclass)
  | .mclass => .mclass 2 (vals.map (encMclass 2))
  | .scalar => .scalar (vals.map encScalar)
  | .struct => .struct 3 1 1 (vals.map (encStruct 3))

def customDropped (o : Overload) (n : Nat) : View α :=
  match o with
  | .sclass => .sclass (List.replicate n (-1))
  | .mclass => .mclass 2 (List.replicate n (List.replicate 2 (-1)))
  | .scalar => .scalar (List.replicate n Scalar.nan)
  | .struct => .struct 3 1 1 (List.replicate n (List.replicate 3 Scalar.nan))

/-- the per-feature view without any flag: the stored values (resp. products) over the sample list -/
def plainView (st : Storage) (k : GKind) (m : FMap) (ss : List Nat) : View α :=
  match k with
  | .product => .scalar (ss.map (fun s =>
      productOf (st.stored (st.inputIndex m.orig) s) (st.stored (st.inputIndex m.orig2) s)))
  | .gradient kk => .struct m.d0 m.d1 m.d2 (ss.map (fun s =>
      encGradient kk ((st.inputFeature m.orig).getD default) m (st.stored (st.inputIndex m.orig) s)))
  | .custom c => customView c.out (derived st c m [] ss)
  | _ => viewOf k m (ss.map (fun s => st.stored (st.inputIndex m.orig) s))

/-- the view of a dropped feature: every entry is the missing marker -/
def droppedView (k : GKind) (m : FMap) (n : Nat) : View α :=
  match k with
  | .sclassId => .sclass (List.replicate n (-1))
  | .mclassId => .mclass m.classes (List.replicate n (List.replicate m.classes (-1)))
  | .scalarId => .scalar (List.replicate n Scalar.nan)
  | .structId => .struct m.d0 m.d1 m.d2 (List.replicate n (List.replicate (m.d0 * m.d1 * m.d2) Scalar.nan))
  | .product => .scalar (List.replicate n Scalar.nan)
  | .gradient _ => .struct m.d0 m.d1 m.d2 (List.replicate n (List.replicate (m.d0 * m.d1 * m.d2) Scalar.nan))
  | .custom c => customDropped c.out n

/-- **the spec view under a flag**: dropped → all missing; shuffled by `p` → the plain view of the samples `p[s]`;
    no flag → the plain view -/
def specSelect (st : Storage) (k : GKind) (m : FMap) (fl : Flag) (ss : List Nat) : View α :=
  match fl with
  | .dropped => droppedView k m ss.length
  | .shuffled p => plainView st k m (ss.map (iterSample p))
  | .none => plainView st k m ss

theorem iterate_eq (st : Storage) (orig : Nat) (sh ss : List Nat) :
    iterate st orig sh ss = (ss.map (iterSample sh)).map (fun s => st.stored (st.inputIndex orig) s) := by
  simp [iterate, List.map_map, Function.comp]

theorem map_iterSample_nil (ss : List Nat) : ss.map (iterSample []) = ss := by
  induction ss with
  | nil => rfl
  | cons s ss ih => simp [List.map_cons, ih, iterSample_nil]

/-- reading through a permutation = reading the permuted sample list -/
theorem derived_shuffled (st : Storage) (c : Custom) (m : FMap) (p ss : List Nat) :
    derived st c m p ss = derived st c m [] (ss.map (iterSample p)) := by
  unfold derived
  cases c.in2 <;> simp [iterate, iterate2, List.map_map, Function.comp, iterSample_nil]

theorem encProduct_pair (a b : Option (List Int)) :
    encProduct (α := α) (match a, b with | some x, some y => some (x, y) | _, _ => none) = productOf a b := by
  cases a <;> cases b <;> rfl

theorem iterate2_eq (st : Storage) (o1 o2 : Nat) (sh ss : List Nat) :
    iterate2 st o1 o2 sh ss = iterate2 st o1 o2 [] (ss.map (iterSample sh)) := by
  simp only [iterate2, List.map_map, iterSample_nil]
  rfl

/-- the generator's `select` reads its state only through `should_drop` and `shuffled`: a dropped feature is all markers,
    otherwise the plain view of the samples the iterator dereferences -/
theorem select_eq (st : Storage) (g : Gen) (i : Nat) (m : FMap) (hm : g.mapping[i]? = some m) (ss : List Nat) :
    g.select (α := α) st i ss = some (if g.shouldDrop i then droppedView g.kind m ss.length
      else plainView st g.kind m (ss.map (iterSample (g.shuffledAll i)))) := by
  unfold Gen.select
  simp only [hm, Option.bind_eq_bind, Option.bind_some, Option.pure_def, iterate_eq]
  cases hk : g.kind <;> simp only []
  case custom c =>
    rw [derived_shuffled]
    cases ho : c.out <;> simp only [] <;> split <;> simp only [droppedView, plainView, customDropped, customView, ho]
  all_goals split
  all_goals first | rfl | skip
  case product.isFalse =>
    rw [iterate2_eq, iterate2, List.map_map]
    exact congrArg (some ∘ View.scalar) (List.map_congr_left fun s _ => encProduct_pair _ _)
  case gradient.isFalse => rw [List.map_map]; rfl

/-- … that is, only through the flag of the feature -/
theorem select_by_flag (st : Storage) (g : Gen) (i : Nat) (m : FMap) (hm : g.mapping[i]? = some m) (ss : List Nat) :
    g.select (α := α) st i ss = some (specSelect st g.kind m (g.flagOf i) ss) := by
  rw [select_eq st g i m hm ss, shouldDrop_flag, shuffledAll_flag]
  cases g.flagOf i with
  | none => rw [if_neg (by simp), map_iterSample_nil]; rfl
  | dropped => rw [if_pos (by simp)]; rfl
  | shuffled p => rw [if_neg (by simp)]; rfl

end

/-! ### the concrete operations implement `absStep` -/

theorem flagOf_drop (g : Gen) (i0 i : Nat) (h : i0 < g.infos.length) :
    (g.drop i0).flagOf i = if i = i0 then .dropped else g.flagOf i := by
  unfold Gen.drop Gen.flagOf
  simp only [Lst.getD_set h, eq_comm (a := i0)]
  by_cases hi : i = i0 <;> simp [hi]

theorem flagOf_shuffle (g : Gen) (i0 i : Nat) (p : List Nat) (h : i0 < g.infos.length) :
    (g.shuffle i0 p).flagOf i = if i = i0 then .shuffled p else g.flagOf i := by
  unfold Gen.shuffle Gen.flagOf
  simp only [Lst.getD_set h, eq_comm (a := i0)]
  by_cases hi : i = i0
  · subst hi; simp [List.lookup]
  · have : (i == i0) = false := by simpa using hi
    simp [hi, List.lookup, this]

/-- a dataset straight after `add` has no flag set -/
theorem flag_fresh (ds : Dataset) (h : ∀ g ∈ ds.gens, ∀ i, g.infos.getD i 0 = 0) (f : Nat) : ds.flag f = .none := by
  unfold Dataset.flag
  cases hfm : ds.featMap[f]? with
  | none => rfl
  | some p =>
    cases hg : ds.gens[p.1]? with
    | none => simp [hg]
    | some g =>
      have := h g (List.mem_of_getElem? hg) p.2
      simp only [hg, Gen.flagOf]
      rw [this]
      rfl

/-- `undrop` and `unshuffle` zero every flag byte -/
theorem flag_cleared (ds : Dataset) (φ : Gen → Gen) (hφ : ∀ g, (φ g).infos = g.infos.map (fun _ => 0)) (f : Nat) :
    ({ ds with gens := ds.gens.map φ } : Dataset).flag f = .none := by
  apply flag_fresh
  intro g hg i
  obtain ⟨g0, _, rfl⟩ := List.mem_map.1 hg
  rw [hφ, List.getD_eq_getElem?_getD, List.getElem?_map]
  cases g0.infos[i]? <;> rfl

/-! ### the flag operations keep the schema of the generators -/

/-- the part of a generator the flag operations never touch -/
def Gen.shape (g : Gen) : GKind × List FMap := (g.kind, g.mapping)

theorem Gen.WF.of_shape {st : Storage} {g g' : Gen} (h : g.WF st) (hs : g'.shape = g.shape)
    (hi : g'.infos.length = g.infos.length) : g'.WF st := by
  have hk : g'.kind = g.kind := congrArg Prod.fst hs
  have hm : g'.mapping = g.mapping := congrArg Prod.snd hs
  exact ⟨by rw [hi, hm]; exact h.infos_len, by rw [hk, hm]; exact h.rows, by rw [hk, hm]; exact h.rows2⟩

theorem featMapFrom_congr : ∀ (k : Nat) (gens gens' : List Gen), gens'.map Gen.features = gens.map Gen.features →
    featMapFrom k gens' = featMapFrom k gens
  | _, [], [], _ => rfl
  | k, g :: gs, g' :: gs', h => by
    rw [List.map_cons, List.map_cons, List.cons.injEq] at h
    rw [featMapFrom, featMapFrom, h.1, featMapFrom_congr (k + 1) gs gs' h.2]
  | _, [], _ :: _, h => by cases h
  | _, _ :: _, [], h => by cases h

/-- `ds'` is `ds` with generator `j` replaced by `φ j` of it, of the same shape and with as many flag bytes: what every
    history operation does -/
def Reflagged (ds ds' : Dataset) (φ : Nat → Gen → Gen) : Prop :=
  ds'.st = ds.st ∧ (∀ gi, ds'.gens[gi]? = (ds.gens[gi]?).map (φ gi)) ∧
  ∀ j g, (φ j g).shape = g.shape ∧ (φ j g).infos.length = g.infos.length

theorem Reflagged.featMap {ds ds' : Dataset} {φ : Nat → Gen → Gen} (h : Reflagged ds ds' φ) : ds'.featMap = ds.featMap := by
  apply featMapFrom_congr
  apply List.ext_getElem?
  intro j
  rw [List.getElem?_map, List.getElem?_map, h.2.1 j, Option.map_map]
  cases ds.gens[j]? with
  | none => rfl
  | some g => exact congrArg (fun s => some s.2.length) (h.2.2 j g).1

theorem Reflagged.keeps {ds ds' : Dataset} {φ : Nat → Gen → Gen} (h : Reflagged ds ds' φ) (hwf : ds.WF) :
    ds'.st = ds.st ∧ ds'.WF ∧ ds'.featMap = ds.featMap ∧
    (∀ (gi : Nat) (g : Gen), ds.gens[gi]? = some g → ∃ g', ds'.gens[gi]? = some g' ∧ g'.shape = g.shape) := by
  refine ⟨h.1, ⟨h.1 ▸ hwf.st, ?_⟩, h.featMap, fun gi g hgi => ⟨φ gi g, by rw [h.2.1 gi, hgi]; rfl, (h.2.2 gi g).1⟩⟩
  intro g' hg'
  obtain ⟨j, hj⟩ := List.getElem?_of_mem hg'
  rw [h.2.1 j] at hj
  obtain ⟨g, hgj, rfl⟩ := Option.map_eq_some_iff.1 hj
  rw [h.1]
  exact (hwf.gens g (List.mem_of_getElem? hgj)).of_shape (h.2.2 j g).1 (h.2.2 j g).2

theorem Reflagged.flag {ds ds' : Dataset} {φ : Nat → Gen → Gen} (h : Reflagged ds ds' φ) (f : Nat) :
    ds'.flag f = match ds.featMap[f]? with
      | some (gi, i) => match ds.gens[gi]? with
        | some g => (φ gi g).flagOf i
        | none => .none
      | none => .none := by
  unfold Dataset.flag
  rw [h.featMap]
  cases ds.featMap[f]? with
  | none => rfl
  | some p =>
    simp only [h.2.1 p.1]
    cases ds.gens[p.1]? <;> rfl

theorem onFeature_reflagged (ds : Dataset) (f0 : Nat) (op : Gen → Nat → Gen)
    (hop : ∀ g i, (op g i).shape = g.shape ∧ (op g i).infos.length = g.infos.length) :
    Reflagged ds ((ds.onFeature (Int.ofNat f0) op).getD ds)
      (match ds.featMap[f0]? with
        | some (gi0, i0) => fun j g => if gi0 = j then op g i0 else g
        | none => fun _ g => g) := by
  have hid : Reflagged ds ds (fun _ g => g) := ⟨rfl, fun gi => Option.map_id'.symm, fun _ _ => ⟨rfl, rfl⟩⟩
  unfold Dataset.onFeature
  rw [checkFeature_ofNat]
  by_cases hf : f0 < ds.features
  · simp only [if_pos hf, Option.bind_eq_bind, Option.bind_some, Option.pure_def]
    cases ds.featMap[f0]? with
    | none => exact hid
    | some p =>
      refine ⟨rfl, fun gi => List.getElem?_modify _ _ _ _, fun j g => ?_⟩
      dsimp only
      split
      · exact hop g p.2
      · exact ⟨rfl, rfl⟩
  · rw [if_neg hf, List.getElem?_eq_none (Nat.le_of_not_lt hf)]
    exact hid

theorem featMap_owner (ds : Dataset) (hwf : ds.WF) (f0 : Nat) (hf : f0 < ds.features) :
    ∃ gi i g, ds.featMap[f0]? = some (gi, i) ∧ ds.gens[gi]? = some g ∧ i < g.infos.length := by
  have hfm : ds.featMap[f0]? = some ((ds.featMap[f0]'hf).1, (ds.featMap[f0]'hf).2) := List.getElem?_eq_getElem hf
  obtain ⟨_, g, hg, hi, _⟩ := featMapFrom_getElem? 0 ds.gens f0 _ _ hfm
  exact ⟨_, _, g, hfm, hg, (hwf.gens g (List.mem_of_getElem? hg)).infos_len ▸ hi⟩

theorem flag_onFeature (ds : Dataset) (hwf : ds.WF) (f0 : Nat) (op : Gen → Nat → Gen) (fl : Flag)
    (hshape : ∀ g i, (op g i).shape = g.shape ∧ (op g i).infos.length = g.infos.length)
    (hop : ∀ (g : Gen) (i0 i : Nat), i0 < g.infos.length → (op g i0).flagOf i = if i = i0 then fl else g.flagOf i)
    (f : Nat) :
    ((ds.onFeature (Int.ofNat f0) op).getD ds).flag f =
      (if f0 < ds.features then (fun x => if x = f0 then fl else ds.flag x) else ds.flag) f := by
  rw [(onFeature_reflagged ds f0 op hshape).flag f]
  by_cases hf0 : f0 < ds.features
  · obtain ⟨gi0, i0, g0, hfm0, hg0, hi0⟩ := featMap_owner ds hwf f0 hf0
    simp only [if_pos hf0, hfm0]
    unfold Dataset.flag
    by_cases hff : f = f0
    · subst hff
      simp [hfm0, hg0, hop _ _ _ hi0]
    · rw [if_neg hff]
      cases hfm : ds.featMap[f]? with
      | none => rfl
      | some p =>
        obtain ⟨gi, i⟩ := p
        dsimp only
        cases hg : ds.gens[gi]? with
        | none => rfl
        | some g =>
          dsimp only
          by_cases hgi : gi0 = gi
          · -- same generator: another of its features, since `(gi, i)` determines the dataset feature
            subst hgi
            rw [hg0] at hg
            cases hg
            rw [if_pos rfl, hop _ _ _ hi0, if_neg]
            intro hi
            rw [hi] at hfm
            obtain ⟨_, _, _, _, e⟩ := featMapFrom_getElem? 0 ds.gens f _ _ hfm
            obtain ⟨_, _, _, _, e0⟩ := featMapFrom_getElem? 0 ds.gens f0 _ _ hfm0
            exact hff (e.trans e0.symm)
          · rw [if_neg hgi]
  · rw [if_neg hf0, List.getElem?_eq_none (Nat.le_of_not_lt hf0)]
    rfl

/-- **one operation**: the flags after a concrete `drop / undrop / shuffle / unshuffle` are the documented ones -/
theorem step_flag (ds : Dataset) (hwf : ds.WF) (op : HOp) (f : Nat) :
    (ds.step op).flag f = absStep ds.features ds.flag op f := by
  cases op with
  | undrop => exact flag_cleared ds Gen.undrop (fun _ => rfl) f
  | unshuffle => exact flag_cleared ds Gen.unshuffle (fun _ => rfl) f
  | drop f0 =>
    exact flag_onFeature ds hwf f0 Gen.drop .dropped (fun _ _ => ⟨rfl, List.length_set⟩) flagOf_drop f
  | shuffle f0 p =>
    exact flag_onFeature ds hwf f0 (fun g i => g.shuffle i p) (.shuffled p) (fun _ _ => ⟨rfl, List.length_set⟩)
      (fun g i0 i => flagOf_shuffle g i0 i p) f

/-! ### histories -/

theorem step_reflagged (ds : Dataset) (op : HOp) : ∃ φ, Reflagged ds (ds.step op) φ := by
  cases op with
  | undrop => exact ⟨fun _ => Gen.undrop, rfl, fun _ => List.getElem?_map, fun _ _ => ⟨rfl, List.length_map _⟩⟩
  | unshuffle => exact ⟨fun _ => Gen.unshuffle, rfl, fun _ => List.getElem?_map, fun _ _ => ⟨rfl, List.length_map _⟩⟩
  | drop f0 => exact ⟨_, onFeature_reflagged ds f0 Gen.drop fun _ _ => ⟨rfl, List.length_set⟩⟩
  | shuffle f0 p => exact ⟨_, onFeature_reflagged ds f0 (fun g i => g.shuffle i p) fun _ _ => ⟨rfl, List.length_set⟩⟩

theorem step_keeps (ds : Dataset) (hwf : ds.WF) (op : HOp) :
    (ds.step op).st = ds.st ∧ (ds.step op).WF ∧ (ds.step op).featMap = ds.featMap ∧
    (∀ (gi : Nat) (g : Gen), ds.gens[gi]? = some g → ∃ g', (ds.step op).gens[gi]? = some g' ∧ g'.shape = g.shape) := by
  obtain ⟨φ, h⟩ := step_reflagged ds op
  exact h.keeps hwf

theorem run_keeps (ops : List HOp) : ∀ (ds : Dataset), ds.WF →
    (ds.run ops).st = ds.st ∧ (ds.run ops).WF ∧ (ds.run ops).featMap = ds.featMap ∧
    (∀ (gi : Nat) (g : Gen), ds.gens[gi]? = some g → ∃ g', (ds.run ops).gens[gi]? = some g' ∧ g'.shape = g.shape) ∧
    (∀ f, (ds.run ops).flag f = absRun ds.features ds.flag ops f) := by
  induction ops with
  | nil => intro ds hwf; exact ⟨rfl, hwf, rfl, fun gi g hg => ⟨g, hg, rfl⟩, fun f => rfl⟩
  | cons op ops ih =>
    intro ds hwf
    obtain ⟨h1, h2, h3, h4⟩ := step_keeps ds hwf op
    obtain ⟨i1, i2, i3, i4, i5⟩ := ih (ds.step op) h2
    have hfeat : (ds.step op).features = ds.features := by simp [Dataset.features, h3]
    refine ⟨by simpa [Dataset.run, h1] using i1, i2, by simpa [Dataset.run, h3] using i3, ?_, ?_⟩
    · intro gi g hg
      obtain ⟨g1, hg1, hs1⟩ := h4 gi g hg
      obtain ⟨g2, hg2, hs2⟩ := i4 gi g1 hg1
      exact ⟨g2, hg2, hs2.trans hs1⟩
    · intro f
      have := i5 f
      simp only [Dataset.run, List.foldl_cons, absRun] at this ⊢
      rw [this, hfeat]
      have hfun : (ds.step op).flag = absStep ds.features ds.flag op := by
        funext x
        exact step_flag ds hwf op x
      rw [hfun]

theorem getD_of_perm_range (p : List Nat) (N : Nat) (hp : p.Perm (List.range N)) :
    p.length = N ∧ (List.range N).map (fun s => p.getD s 0) = p := by
  have hl : p.length = N := by simpa using hp.length_eq
  refine ⟨hl, ?_⟩
  apply List.ext_getElem
  · simp [hl]
  · intro k h1 h2
    simp [List.getD_eq_getElem?_getD, List.getElem?_eq_getElem h2]

/-! ### the hypotheses of the theorems are what `resize` / `set` / `add` establish -/

theorem add_wf (ds ds' : Dataset) (k : GKind) (l1 l2 : List Nat) (h : ds.WF) (hadd : ds.add k l1 l2 = some ds') :
    ds'.WF ∧ ds'.st = ds.st ∧
    ((∀ g ∈ ds.gens, ∀ i, g.infos.getD i 0 = 0) → ∀ g ∈ ds'.gens, ∀ i, g.infos.getD i 0 = 0) := by
  unfold Dataset.add at hadd
  cases hfit : fit ds.st k l1 l2 with
  | none => simp [hfit] at hadd
  | some g =>
    simp only [hfit, Option.bind_eq_bind, Option.bind_some, Option.pure_def, Option.some.injEq] at hadd
    subst hadd
    refine ⟨⟨h.st, ?_⟩, rfl, ?_⟩
    · intro g' hg'
      rcases List.mem_append.1 hg' with hg' | hg'
      · exact h.gens g' hg'
      · simp only [List.mem_singleton] at hg'
        subst hg'
        exact fit_wf ds.st k l1 l2 _ hfit
    · intro hz g' hg' i
      rcases List.mem_append.1 hg' with hg' | hg'
      · exact hz g' hg' i
      · simp only [List.mem_singleton] at hg'
        subst hg'
        rw [(fit_inv ds.st k l1 l2 _ hfit).2.1, List.getD_eq_getElem?_getD, List.getElem?_replicate]
        split <;> rfl

theorem classValuesOk_resize (n : Nat) (feats : List Feature) (t : Nat) : ClassValuesOk (resize n feats t) := by
  intro f feat _ _ s v hv
  simp [Storage.stored, resize_given] at hv

theorem classValuesOk_set (st st' : Storage) (h : st.WF) (hok : ClassValuesOk st) (s f : Nat) (v : List Int)
    (hset : st.set s f v = some st')
    (hv : ∀ feat, st.feats[f]? = some feat → feat.isClass = true → ∀ x ∈ v, 0 ≤ x) : ClassValuesOk st' := by
  intro f' feat hf' hcls s' v' hv' x hx
  rw [(set_schema st st' s f v hset).2.1] at hf'
  rw [set_stored st st' h s f v hset f' s'] at hv'
  split at hv'
  · rename_i hsame
    cases hv'
    rw [hsame.1] at hf'
    exact hv feat hf' hcls x hx
  · exact hok f' feat hf' hcls s' v' hv' x hx

/-- a whole `do_load`: `set` after `set` keeps the invariants -/
theorem sets_wf : ∀ (writes : List (Nat × Nat × List Int)) (st st' : Storage), st.WF → ClassValuesOk st →
    writes.foldlM (fun st w => st.set w.1 w.2.1 w.2.2) st = some st' →
    (∀ w ∈ writes, ∀ feat, st.feats[w.2.1]? = some feat → feat.isClass = true → ∀ x ∈ w.2.2, 0 ≤ x) →
    st'.WF ∧ ClassValuesOk st' ∧ st'.feats = st.feats
  | [], st, st', h, hok, hf, _ => by
    simp only [List.foldlM_nil, Option.pure_def, Option.some.injEq] at hf
    subst hf; exact ⟨h, hok, rfl⟩
  | w :: ws, st, st', h, hok, hf, hv => by
    simp only [List.foldlM_cons, Option.bind_eq_bind] at hf
    cases hset : st.set w.1 w.2.1 w.2.2 with
    | none => simp [hset] at hf
    | some st1 =>
      simp only [hset, Option.bind_some] at hf
      have hfe := (set_schema st st1 _ _ _ hset).2.1
      have := sets_wf ws st1 st' (set_wf st st1 h _ _ _ hset)
        (classValuesOk_set st st1 h hok _ _ _ hset (hv w List.mem_cons_self)) hf
        (fun w' hw' feat hfeat => hv w' (List.mem_cons_of_mem _ hw') feat (by rw [← hfe]; exact hfeat))
      exact ⟨this.1, this.2.1, this.2.2.trans hfe⟩

/-- generator after generator: `add` keeps the invariants and leaves every flag cleared -/
theorem adds_wf : ∀ (gens : List (GKind × List Nat × List Nat)) (ds ds' : Dataset), ds.WF →
    (∀ g ∈ ds.gens, ∀ i, g.infos.getD i 0 = 0) →
    gens.foldlM (fun (ds : Dataset) k => ds.add k.1 k.2.1 k.2.2) ds = some ds' →
    ds'.WF ∧ ds'.st = ds.st ∧ ∀ g ∈ ds'.gens, ∀ i, g.infos.getD i 0 = 0
  | [], ds, ds', h, hz, hf => by
    simp only [List.foldlM_nil, Option.pure_def, Option.some.injEq] at hf
    subst hf; exact ⟨h, rfl, hz⟩
  | k :: ks, ds, ds', h, hz, hf => by
    simp only [List.foldlM_cons, Option.bind_eq_bind] at hf
    cases hadd : ds.add k.1 k.2.1 k.2.2 with
    | none => simp [hadd] at hf
    | some ds1 =>
      simp only [hadd, Option.bind_some] at hf
      obtain ⟨h1, h2, h3⟩ := add_wf ds ds1 _ _ _ h hadd
      obtain ⟨i1, i2, i3⟩ := adds_wf ks ds1 ds' h1 (h3 hz) hf
      exact ⟨i1, i2.trans h2, i3⟩

end NanoVerif.Dataset
