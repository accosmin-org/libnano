import NanoVerif.Model.ObjectiveIter
import NanoVerif.Proofs.Objective
import NanoVerif.Proofs.IteratorServe
/-!
  C09 — lemmas tying the objectives to the iterator: the row the callback of position `i` sees is row `i` of the served
  matrix, at every position and not only below the number of samples (`servedRow_zip`), so that the callbacks of a loop on an
  iterator without stale cache read the definition's data (`callback_reads_def`, for every scalar type); the value-only call of
  the linear objective accumulates the same values (`linearV_acc_canonical`).
-/
set_option linter.unusedSectionVars false

namespace NanoVerif.Objective
open NanoVerif.Iterator NanoVerif.Scaling

section core
variable {α : Type}

/-- the row the callback reads for position `i` is row `i` of the matrix the loop serves slices of — for EVERY `i` from the
    start of the chain on: past its end no call owns `i` and the callback's row is `[]`, and so is row `i` of a matrix of at
    most `n` rows. Hence what the callbacks read is a function of the matrix alone (no bound on `i` to carry along). -/
theorem servedRow_zip (X T Y : List (List α)) (sel : Served α → List (List α))
    (hsel : ∀ c w, sel (mkServed X T c w) = sliceOf Y c.1 c.2) {n : Nat} (hY : Y.length ≤ n) :
    ∀ (cs : List (Nat × Nat)) (b0 : Nat), Tiles b0 n cs → ∀ ws : List Nat, ws.length = cs.length → ∀ i, b0 ≤ i →
      servedRow sel (List.zipWith (mkServed X T) cs ws) i = Y.getD i [] :=
  Tiles.induction
    (fun _ _ i h1 => by rw [List.getD_eq_getElem?_getD, List.getElem?_eq_none (Nat.le_trans hY h1)]; rfl)
    fun cb ce cs _ _ _ ih ws hws i h1 => by
      cases ws with
      | nil => cases hws
      | cons w ws =>
        show (if cb ≤ i ∧ i < ce then (sel (mkServed X T (cb, ce) w)).getD (i - cb) [] else _) = _
        by_cases hi : i < ce
        · rw [if_pos ⟨h1, hi⟩, hsel]
          exact sliceOf_getD Y [] cb ce i h1 hi
        · rw [if_neg fun h => hi h.2]
          exact ih ws (Nat.succ.inj hws) i (Nat.le_of_not_lt hi)

end core

/-! ### what the callbacks of a loop read (every scalar type) -/
section reads
variable {α : Type} [Add α] [Sub α] [Mul α] [Div α] [Neg α] [LT α] [DecidableLT α]
  [OfNat α 0] [OfNat α 1] [OfNat α 2] [NatCast α] [Sqrt α] [FinTest α]
  {hi lo eps : α} {D : Data α} {samples : List Nat} {it : Iter α}
  (hinv : it.Inv hi lo eps D samples) (hf : it.Fresh) (hb : 0 < it.batch) {asg : List Nat}
  (hasg : ValidAsg it.workers samples.length it.batch asg)
include hinv hf hb hasg

/-- what the callbacks read is the definition's data, as FUNCTIONS of the position: below `samples.length` it is the row of the
    served matrix, and from there on both sides are the empty row (for any first block `X0`) -/
theorem callback_reads_def (X0 : List (List α)) :
    targetOf (List.zipWith (mkServed X0 (it.servedT D)) (chunks samples.length it.batch) asg)
        = (fun i => (scaledTargets hi lo eps D samples it.mode).getD i []) ∧
      (X0 = it.servedX D →
        inputsOf (List.zipWith (mkServed X0 (it.servedT D)) (chunks samples.length it.batch) asg)
          = fun i j => ((scaledInputs hi lo eps D samples it.mode).getD i []).getD j 0) := by
  have ht := chunks_tiles samples.length it.batch hb
  refine ⟨funext fun i => ?_, fun hx => funext fun i => ?_⟩
  · rw [servedT_eq hinv hf]
    exact servedRow_zip X0 _ _ Served.targets (fun _ _ => rfl) (Nat.le_of_eq (length_scaledTargets ..)) _ 0 ht asg hasg.1
      i (Nat.zero_le i)
  · subst hx
    rw [servedX_eq hinv hf]
    exact congrArg (fun (r : List α) j => r.getD j 0) (servedRow_zip _ _ _ Served.inputs (fun _ _ => rfl)
      (Nat.le_of_eq (length_scaledInputs ..)) _ 0 ht asg hasg.1 i (Nat.zero_le i))

theorem loopFT_reads_def :
    ∃ served, it.loopFT D asg = some served ∧
      targetOf served = (fun i => (scaledTargets hi lo eps D samples it.mode).getD i []) ∧
      inputsOf served = fun i j => ((scaledInputs hi lo eps D samples it.mode).getD i []).getD j 0 :=
  have h := callback_reads_def hinv hf hb hasg (it.servedX D)
  ⟨_, loopFT_eq hinv hb hasg, h.1, h.2 rfl⟩

theorem loopT_reads_def :
    ∃ served, it.loopT D asg = some served ∧
      targetOf served = fun i => (scaledTargets hi lo eps D samples it.mode).getD i [] :=
  ⟨_, loopT_eq hinv hb hasg, (callback_reads_def hinv hf hb hasg []).1⟩

end reads

variable {α : Type} [Field α] [LinearOrder α] [IsStrictOrderedRing α]

/-! ### the value-only call of the linear objective -/

theorem linearV_acc_canonical {t s : Nat} (W : Nat → Nat → α) (b : Nat → α) (L : Nat → Vector α t → α)
    (x : Nat → Nat → α) (workers n batch : Nat) (asg : List Nat)
    (hw : 0 < workers) (hb : 0 < batch) (hasg : ValidAsg workers n batch asg) :
    mapReduce LinAcc.add LinAcc.zero LinAcc.divN (linStepV (s := s) W b L x) workers n batch asg
      = some (LinAcc.divN (msum LinAcc.add LinAcc.zero ((List.range n).map (linTermV W b L x))) n) :=
  mapReduce_eq laws_lin LinAcc.divN (linTermV W b L x) (fun _ _ _ => rfl) workers n batch asg hw hb hasg

end NanoVerif.Objective
