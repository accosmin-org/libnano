import NanoVerif.Model.Wire
import NanoVerif.Proofs.Codec
/-!
  C15 — well-formedness predicates of the wire formats and the proof that every format is `Good`
  (round trip + every strict prefix refused) on its well-formed values. Core Lean only.
-/
namespace NanoVerif.Codec
open NanoVerif.Gen.CodecConsts

@[reducible] def I32 (i : Int) : Prop := -2147483648 ≤ i ∧ i < 2147483648
@[reducible] def I64 (i : Int) : Prop := -9223372036854775808 ≤ i ∧ i < 9223372036854775808
@[reducible] def U32 (n : Nat) : Prop := n < 4294967296
@[reducible] def U64 (n : Nat) : Prop := n < 18446744073709551616
@[reducible] def StrOk (s : Bytes) : Prop := s.length < 4294967296
@[reducible] def StrsOk (l : List Bytes) : Prop := l.length < 18446744073709551616 ∧ ∀ s ∈ l, StrOk s

/-! ### tensors -/

def Tensor.WF (k : Scalar) (rank : Nat) (t : Tensor) : Prop :=
  t.dims.length = rank ∧ (∀ d ∈ t.dims, I32 d) ∧ 0 ≤ dimsSize t.dims ∧
    t.payload.length = (dimsSize t.dims).toNat * k.size

instance (k : Scalar) (rank : Nat) (t : Tensor) : Decidable (Tensor.WF k rank t) := by
  unfold Tensor.WF; infer_instance

theorem scalar_size_lt (k : Scalar) : k.size < 4294967296 := by cases k <;> decide

theorem tensorHeader_good (k : Scalar) (rank : Nat) (hr : rank < 4294967296) :
    Good (tensorHeader k rank) (fun ds => ds.length = rank ∧ ∀ d ∈ ds, I32 d) := by
  have hv : hashVersion < 4294967296 := by decide
  refine (pmap_good (seq_good (const_good u32_good hashVersion hv) (seq_good (const_good u32_good rank hr)
    (seq_good (rep_good i32_good rank) (const_good u32_good k.size (scalar_size_lt k))))) _ _).mono ?_
  intro ds hds
  exact ⟨⟨trivial, trivial, hds, trivial⟩, rfl⟩

theorem tensorBody_good (k : Scalar) (n : Nat) : Good (tensorBody k n) (fun pl => pl.length = n * k.size) := by
  refine (pmap_good (seq_good u64_good (raw_good (n * k.size))) _ _).mono ?_
  intro pl hpl
  exact ⟨⟨(hashPayload k n pl).toNat_lt, hpl⟩, by simp⟩

theorem tensor_good (k : Scalar) (rank : Nat) (hr : rank < 4294967296) : Good (tensor k rank) (Tensor.WF k rank) := by
  have hb : ∀ ds : List Int, Good (if dimsSize ds < 0 then fail else tensorBody k (dimsSize ds).toNat)
      (fun pl => 0 ≤ dimsSize ds ∧ pl.length = (dimsSize ds).toNat * k.size) := by
    intro ds
    by_cases h : dimsSize ds < 0
    · simp only [h, if_true]; exact fail_good.mono (fun _ hx => by omega)
    · simp only [h, if_false]; exact (tensorBody_good k _).mono (fun _ hx => hx.2)
  refine (pmap_good (dseq_good (tensorHeader_good k rank hr) hb) _ _).mono ?_
  intro t ht
  exact ⟨⟨⟨ht.1, ht.2.1⟩, ht.2.2.1, ht.2.2.2⟩, rfl⟩

/-! ### parameters -/

def PStorage.WF : PStorage → Prop
  | .none => True
  | .enum v d => StrOk v ∧ StrsOk d
  | .irange v mn mx _ _ => I64 v ∧ I64 mn ∧ I64 mx
  | .frange v mn mx _ _ => U64 v ∧ U64 mn ∧ U64 mx
  | .iprange v1 v2 mn mx _ _ _ => I64 v1 ∧ I64 v2 ∧ I64 mn ∧ I64 mx
  | .fprange v1 v2 mn mx _ _ _ => U64 v1 ∧ U64 v2 ∧ U64 mn ∧ U64 mx
  | .str v => StrOk v

instance : (s : PStorage) → Decidable s.WF
  | .none => inferInstanceAs (Decidable True)
  | .enum v d => inferInstanceAs (Decidable (StrOk v ∧ StrsOk d))
  | .irange v mn mx _ _ => inferInstanceAs (Decidable (I64 v ∧ I64 mn ∧ I64 mx))
  | .frange v mn mx _ _ => inferInstanceAs (Decidable (U64 v ∧ U64 mn ∧ U64 mx))
  | .iprange v1 v2 mn mx _ _ _ => inferInstanceAs (Decidable (I64 v1 ∧ I64 v2 ∧ I64 mn ∧ I64 mx))
  | .fprange v1 v2 mn mx _ _ _ => inferInstanceAs (Decidable (U64 v1 ∧ U64 v2 ∧ U64 mn ∧ U64 mx))
  | .str v => inferInstanceAs (Decidable (StrOk v))

def Parameter.WF (p : Parameter) : Prop := StrOk p.name ∧ p.storage.WF

instance (p : Parameter) : Decidable p.WF := by unfold Parameter.WF; infer_instance

theorem strs_good : Good (vec str) StrsOk := (vec_good str_good).mono (fun _ h => h)

theorem rangeOf_good {α : Type} {c : Codec α} {w : α → Prop} (h : Good c w) :
    Good (rangeOf c) (fun p => w p.1 ∧ w p.2.1 ∧ w p.2.2.1) :=
  (seq_good h (seq_good h (seq_good h (seq_good flag_good flag_good)))).mono
    (fun _ hp => ⟨hp.1, hp.2.1, hp.2.2, trivial, trivial⟩)

theorem prangeOf_good {α : Type} {c : Codec α} {w : α → Prop} (h : Good c w) :
    Good (prangeOf c) (fun p => w p.1 ∧ w p.2.1 ∧ w p.2.2.1 ∧ w p.2.2.2.1) :=
  (seq_good h (seq_good h (seq_good h (seq_good h (seq_good flag_good (seq_good flag_good flag_good)))))).mono
    (fun _ hp => ⟨hp.1, hp.2.1, hp.2.2.1, hp.2.2.2, trivial, trivial, trivial⟩)

theorem storage_good (tag : Int) : Good (storage tag) (fun s => s.tag = tag ∧ s.WF) :=
  Good.of_forall fun s ⟨ht, hw⟩ => by
    subst ht
    -- the tag of each alternative selects its own branch
    cases s
    all_goals simp only [storage, PStorage.tag, ↓reduceIte, Int.reduceNeg, Int.reduceEq]
    · exact (pmap_good unit_good _ _).at _ ⟨trivial, rfl⟩
    · exact (pmap_good (seq_good str_good strs_good) _ _).at _ ⟨hw, rfl⟩
    · exact (pmap_good (rangeOf_good i64_good) _ _).at _ ⟨hw, rfl⟩
    · exact (pmap_good (rangeOf_good u64_good) _ _).at _ ⟨hw, rfl⟩
    · exact (pmap_good (prangeOf_good i64_good) _ _).at _ ⟨hw, rfl⟩
    · exact (pmap_good (prangeOf_good u64_good) _ _).at _ ⟨hw, rfl⟩
    · exact (pmap_good str_good _ _).at _ ⟨hw, rfl⟩

theorem tag_i32 (s : PStorage) : I32 s.tag := by
  cases s <;> simp [PStorage.tag, I32]

theorem parameter_good : Good parameter Parameter.WF := by
  refine (pmap_good (dseq_good i32_good (fun tag => seq_good str_good (storage_good tag))) _ _).mono ?_
  intro p hp
  exact ⟨⟨tag_i32 p.storage, hp.1, rfl, hp.2⟩, rfl⟩

/-! ### configurables -/

/-- the object carries the library's version (what `configurable_t::write` emits), and the parameter list fits -/
def Configurable.WF (c : Configurable) : Prop :=
  c.ver = libVersion ∧ c.params.length < 18446744073709551616 ∧ ∀ p ∈ c.params, p.WF

instance (c : Configurable) : Decidable c.WF := by unfold Configurable.WF; infer_instance

theorem version_good : Good version (fun v => v = libVersion) := by
  refine (pmap_good (seq_good i32_good (seq_good i32_good i32_good)) _ _).mono ?_
  intro v hv
  subst hv
  exact ⟨by decide, by decide⟩

theorem configurable_good : Good configurable Configurable.WF := by
  refine (pmap_good (seq_good version_good (vec_good parameter_good)) _ _).mono ?_
  intro c hc
  exact ⟨⟨hc.1, hc.2.1, hc.2.2⟩, rfl⟩

/-! ### features -/

def Feature.WF (f : Feature) : Prop :=
  f.type < 12 ∧ I64 f.dims.1 ∧ I64 f.dims.2.1 ∧ I64 f.dims.2.2 ∧ StrOk f.name ∧ StrsOk f.labels

instance (f : Feature) : Decidable f.WF := by unfold Feature.WF; infer_instance

theorem featureType_names : ∀ i : Fin 12,
    (featureNames.getD i.val []).length < 4294967296 ∧ featureTypeOf (featureNames.getD i.val []) = some i.val := by
  decide +kernel

theorem featureType_good : Good featureType (fun i => i < 12) := by
  refine (pmap_good str_good _ _).mono ?_
  intro i hi
  exact featureType_names ⟨i, hi⟩

theorem feature_good : Good feature Feature.WF := by
  refine (pmap_good (seq_good featureType_good (seq_good (seq_good i64_good (seq_good i64_good i64_good))
    (seq_good str_good strs_good))) _ _).mono ?_
  intro f hf
  exact ⟨⟨hf.1, ⟨hf.2.1, hf.2.2.1, hf.2.2.2.1⟩, hf.2.2.2.2.1, hf.2.2.2.2.2⟩, rfl⟩

/-! ### learners, linear models -/

def Learner.WF (l : Learner) : Prop :=
  l.cfg.WF ∧ l.inputs.length < 18446744073709551616 ∧ (∀ f ∈ l.inputs, f.WF) ∧ l.target.WF

instance (l : Learner) : Decidable l.WF := by unfold Learner.WF; infer_instance

theorem learner_good : Good learner Learner.WF := by
  refine (pmap_good (seq_good configurable_good (seq_good (vec_good feature_good) feature_good)) _ _).mono ?_
  intro l hl
  exact ⟨⟨hl.1, ⟨hl.2.1, hl.2.2.1⟩, hl.2.2.2⟩, rfl⟩

/-- `bias.size() == weights.rows()` is what `linear_t::read` insists on -/
def Linear.WF (l : Linear) : Prop :=
  l.base.WF ∧ Tensor.WF .f64 1 l.bias ∧ Tensor.WF .f64 2 l.weights ∧ linearOk l.bias l.weights = true

instance (l : Linear) : Decidable l.WF := by unfold Linear.WF; infer_instance

theorem linear_good : Good linear Linear.WF := by
  refine (pmap_good (seq_good learner_good (seq_good (tensor_good .f64 1 (by decide))
    (tensor_good .f64 2 (by decide)))) _ _).mono ?_
  intro l hl
  refine ⟨⟨hl.1, hl.2.1, hl.2.2.1⟩, ?_⟩
  simp only [hl.2.2.2, if_true]

/-! ### weak learners -/

def Single.WF (s : Single) : Prop := s.base.WF ∧ I64 s.feature ∧ Tensor.WF .f64 4 s.tables

instance (s : Single) : Decidable s.WF := by unfold Single.WF; infer_instance

theorem single_good : Good single Single.WF := by
  refine (pmap_good (seq_good learner_good (seq_good i64_good (tensor_good .f64 4 (by decide)))) _ _).mono ?_
  intro s hs
  exact ⟨⟨hs.1, hs.2.1, hs.2.2⟩, rfl⟩

def DNode.WF (n : DNode) : Prop := I32 n.feature ∧ U64 n.threshold ∧ U32 n.next ∧ I32 n.table

instance (n : DNode) : Decidable n.WF := by unfold DNode.WF; infer_instance

theorem dnode_good : Good dnode DNode.WF := by
  refine (pmap_good (seq_good i32_good (seq_good u64_good (seq_good u32_good i32_good))) _ _).mono ?_
  intro n hn
  exact ⟨⟨hn.1, hn.2.1, hn.2.2.1, hn.2.2.2⟩, rfl⟩

def WBody.WF : WBody → Prop
  | .affine s => s.WF
  | .stump s t => s.WF ∧ U64 t
  | .hinge s t h => s.WF ∧ U64 t ∧ h < 256
  | .table s h t => s.WF ∧ Tensor.WF .u64 1 h ∧ Tensor.WF .i64 1 t
  | .dtree l ns f t =>
    l.WF ∧ ns.length < 18446744073709551616 ∧ (∀ n ∈ ns, n.WF) ∧ Tensor.WF .i64 1 f ∧ Tensor.WF .f64 4 t

instance : (b : WBody) → Decidable b.WF
  | .affine s => inferInstanceAs (Decidable s.WF)
  | .stump s t => inferInstanceAs (Decidable (s.WF ∧ U64 t))
  | .hinge s t h => inferInstanceAs (Decidable (s.WF ∧ U64 t ∧ h < 256))
  | .table s h t => inferInstanceAs (Decidable (s.WF ∧ Tensor.WF .u64 1 h ∧ Tensor.WF .i64 1 t))
  | .dtree l ns f t => inferInstanceAs (Decidable (l.WF ∧ ns.length < 18446744073709551616 ∧ (∀ n ∈ ns, n.WF) ∧
      Tensor.WF .i64 1 f ∧ Tensor.WF .f64 4 t))

theorem hinge_good : Good (pmap u32 (fun h => some (h % 256)) id) (fun h => h < 256) :=
  (pmap_good u32_good _ _).mono fun _ hh => ⟨Nat.lt_trans hh (by decide), congrArg some (Nat.mod_eq_of_lt hh)⟩

theorem wbodyOf_good (kind : Nat) : Good (wbodyOf kind) (fun b => b.kind = kind ∧ b.WF) :=
  Good.of_forall fun b ⟨hk, hw⟩ => by
    subst hk
    cases b
    all_goals simp only [wbodyOf, WBody.kind, ↓reduceIte, Nat.reduceEqDiff]
    · exact (pmap_good single_good _ _).at _ ⟨hw, rfl⟩
    · exact (pmap_good (seq_good single_good u64_good) _ _).at _ ⟨hw, rfl⟩
    · exact (pmap_good (seq_good single_good (seq_good u64_good hinge_good)) _ _).at _ ⟨hw, rfl⟩
    · exact (pmap_good (seq_good single_good (seq_good (tensor_good .u64 1 (by decide))
        (tensor_good .i64 1 (by decide)))) _ _).at _ ⟨hw, rfl⟩
    · exact (pmap_good (seq_good learner_good (seq_good (vec_good dnode_good)
        (seq_good (tensor_good .i64 1 (by decide)) (tensor_good .f64 4 (by decide))))) _ _).at _
        ⟨⟨hw.1, ⟨hw.2.1, hw.2.2.1⟩, hw.2.2.2⟩, rfl⟩

def WLearner.WF (w : WLearner) : Prop := StrOk w.id ∧ wkind w.id = some w.body.kind ∧ w.body.WF

instance (w : WLearner) : Decidable w.WF := by unfold WLearner.WF; infer_instance

theorem wlearner_good : Good wlearner WLearner.WF := by
  have hb : ∀ id : Bytes, Good (match wkind id with | some k => wbodyOf k | none => fail)
      (fun b => wkind id = some b.kind ∧ b.WF) := by
    intro id
    cases h : wkind id with
    | none => exact fail_good.mono (fun _ hx => by simp at hx)
    | some k =>
      exact (wbodyOf_good k).mono (fun b hx => ⟨(Option.some.inj hx.1).symm, hx.2⟩)
  refine (pmap_good (dseq_good str_good hb) _ _).mono ?_
  intro w hw
  exact ⟨⟨hw.1, hw.2.1, hw.2.2⟩, rfl⟩

/-! ### gradient boosting model -/

def GBoost.WF (g : GBoost) : Prop :=
  g.base.WF ∧ Tensor.WF .f64 1 g.bias ∧
    (g.wlearners.length < 18446744073709551616 ∧ ∀ w ∈ g.wlearners, w.WF) ∧
    (g.protos.length < 18446744073709551616 ∧ ∀ w ∈ g.protos, w.WF)

instance (g : GBoost) : Decidable g.WF := by unfold GBoost.WF; infer_instance

theorem gboost_good : Good gboost GBoost.WF := by
  refine (pmap_good (seq_good learner_good (seq_good (tensor_good .f64 1 (by decide))
    (seq_good (vec_good wlearner_good) (vec_good wlearner_good)))) _ _).mono ?_
  intro g hg
  exact ⟨⟨hg.1, hg.2.1, hg.2.2.1, hg.2.2.2⟩, rfl⟩

end NanoVerif.Codec
