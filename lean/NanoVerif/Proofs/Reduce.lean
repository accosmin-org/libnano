import NanoVerif.Model.Reduce
import NanoVerif.Proofs.CxxSum
import Mathlib.Algebra.BigOperators.Group.List.Basic
import Mathlib.Order.Defs.LinearOrder
import Mathlib.Order.Basic
/-!
  C18 — helper lemmas about `Model/Reduce.lean`: the reductions are independent of the schedule (exact arithmetic),
  and the state of one call on a shared object depends on its own events only.
-/
namespace NanoVerif.Reduce

/-! ### sum_reduce -/

section Sum
variable {M : Type} [AddCommMonoid M]

theorem accumulate_eq_sum (xs : List M) : accumulate (· + ·) 0 xs = xs.sum := by
  simp [accumulate, Cxx.foldl_add]

theorem sumReduce_eq (divN : M → Nat → M) (n : Nat) (a0 : M) (as : List M) :
    sumReduce (· + ·) divN n (a0 :: as) = some (divN (a0 :: as).sum n) := by
  simp [sumReduce, Cxx.foldl_add]

theorem mapSumReduce_eq (divN : M → Nat → M) (n : Nat) (sched : List (List M)) (hw : sched ≠ []) :
    mapSumReduce (· + ·) 0 divN n sched = some (divN sched.flatten.sum n) := by
  obtain ⟨s, ss, rfl⟩ := List.exists_cons_of_ne_nil hw
  rw [mapSumReduce, funext accumulate_eq_sum, List.map_cons, sumReduce_eq, ← List.map_cons, List.sum_flatten]

end Sum

/-! ### min_reduce_feature

  Both cache updates (`upd`: by score; `updLex` and the selection of `min_reduce_feature`: by (score, feature index)) keep the
  first of the smallest for a total preorder: one associative operation `pick` with `none` as unit. A reduction over workers
  is then the cache of one worker that sees everything, and only the order of the features remains to be removed. -/

section Pick
variable {β : Type} (le : β → β → Prop) [DecidableRel le]

/-- the left-biased minimum of two caches for a total preorder `le` (`none`: no candidate yet): what a cache holding `a`
    becomes after the candidates that alone would have produced the cache `b` -/
def pick : Option β → Option β → Option β
  | none, b => b
  | some a, none => some a
  | some a, some b => some (if le a b then a else b)

/-- the cache after the candidates `L`, in this order: the FIRST of the smallest -/
def best (L : List β) : Option β := L.foldl (fun c x => pick le c (some x)) none

theorem pick_none_right (a : Option β) : pick le a none = a := by cases a <;> rfl

variable {le} (tot : ∀ a b, le a b ∨ le b a) (tr : ∀ a b c, le a b → le b c → le a c)
include tot

theorem pick_comm (x y : Option β) (h : ∀ a ∈ x, ∀ b ∈ y, le a b → le b a → a = b) : pick le x y = pick le y x := by
  rcases x with _ | a
  · exact (pick_none_right le y).symm
  rcases y with _ | b
  · rfl
  by_cases h1 : le a b <;> by_cases h2 : le b a
  · rw [h a rfl b rfl h1 h2]
  · simp only [pick, h1, h2, if_true, if_false]
  · simp only [pick, h1, h2, if_true, if_false]
  · exact absurd (tot a b) (not_or.mpr ⟨h1, h2⟩)

include tr

theorem pick_assoc (a b c : Option β) : pick le (pick le a b) c = pick le a (pick le b c) := by
  rcases a with _ | a
  · rfl
  rcases b with _ | b
  · rfl
  rcases c with _ | c
  · rw [pick_none_right, pick_none_right]
  by_cases h1 : le a b <;> by_cases h2 : le b c
  · simp only [pick, h1, h2, if_true, tr a b c h1 h2]
  · simp only [pick, h1, h2, if_true, if_false]
  · simp only [pick, h1, h2, if_true, if_false]
  · have h3 : ¬ le a c := fun h => h1 (tr a c b h ((tot b c).resolve_left h2))
    simp only [pick, h1, h2, h3, if_false]

theorem foldl_pick (B : List β) (c : Option β) :
    B.foldl (fun c x => pick le c (some x)) c = pick le c (best le B) := by
  induction B generalizing c with
  | nil => exact (pick_none_right le c).symm
  | cons x B ih => rw [best, List.foldl_cons, List.foldl_cons, ih, ih (pick le none (some x)), pick_assoc tot tr]; rfl

theorem best_append (A B : List β) : best le (A ++ B) = pick le (best le A) (best le B) := by
  rw [best, List.foldl_append]
  exact foldl_pick tot tr B _

theorem best_cons (x : β) (L : List β) : best le (x :: L) = pick le (some x) (best le L) := best_append tot tr [x] L

theorem foldl_pick_best (ws : List (List β)) (c : Option β) :
    (ws.map (best le)).foldl (pick le) c = pick le c (best le ws.flatten) := by
  induction ws generalizing c with
  | nil => exact (pick_none_right le c).symm
  | cons w ws ih => rw [List.map_cons, List.foldl_cons, ih, pick_assoc tot tr, List.flatten_cons, best_append tot tr]

theorem best_eq_none {L : List β} (h : best le L = none) : L = [] := by
  cases L with
  | nil => rfl
  | cons x L =>
    rw [best_cons tot tr] at h
    cases hb : best le L <;> rw [hb] at h <;> exact nomatch h

theorem best_some {L : List β} {a : β} (h : best le L = some a) : a ∈ L ∧ ∀ y ∈ L, le a y := by
  have hr : ∀ a, le a a := fun a => (tot a a).elim id id
  induction L generalizing a with
  | nil => exact nomatch h
  | cons x L ih =>
    rw [best_cons tot tr] at h
    cases hb : best le L with
    | none =>
      rw [hb] at h
      rw [best_eq_none tot tr hb, ← Option.some.inj h]
      exact ⟨List.mem_singleton_self x, List.forall_mem_singleton.mpr (hr x)⟩
    | some b =>
      obtain ⟨hbL, hmin⟩ := ih hb
      rw [hb] at h
      by_cases hxb : le x b
      · rw [← Option.some.inj h, if_pos hxb]
        exact ⟨List.mem_cons_self, List.forall_mem_cons.mpr ⟨hr x, fun y hy => tr x b y hxb (hmin y hy)⟩⟩
      · rw [← Option.some.inj h, if_neg hxb]
        exact ⟨List.mem_cons_of_mem _ hbL, List.forall_mem_cons.mpr ⟨(tot x b).resolve_left hxb, hmin⟩⟩

end Pick

section Feat
variable {α π : Type}

theorem mem_candsOf (f : Feat α π) (c : Cand α π) (h : c ∈ candsOf f) : c.feature = f.1 := by
  obtain ⟨sp, _, rfl⟩ := List.mem_map.mp h
  rfl

theorem stream_cons (f : Feat α π) (w : List (Feat α π)) : stream (f :: w) = candsOf f ++ stream w := List.flatMap_cons

theorem stream_flatten (sched : List (List (Feat α π))) : (sched.map stream).flatten = stream sched.flatten := by
  simp only [stream, List.flatMap_def, List.flatten_flatten, List.map_flatten, List.map_map]
  rfl

theorem eq_of_fst_eq {L : List (Feat α π)} (hn : (L.map Prod.fst).Nodup) : ∀ f ∈ L, ∀ g ∈ L, f.1 = g.1 → f = g := by
  have h : L.Pairwise fun f g => f.1 ≠ g.1 := List.pairwise_map.mp hn
  exact List.Pairwise.forall_of_forall_of_flip (fun _ _ _ => rfl) (h.imp fun h e => absurd e h)
    (h.imp fun h e => absurd e.symm h)

theorem stream_sorted (w : List (Feat α π)) (h : WorkerSorted w) :
    (stream w).Pairwise fun a b => a.feature ≤ b.feature := by
  refine List.pairwise_flatMap.mpr ⟨fun f _ => ?_, (List.pairwise_map.mp h).imp fun hfg a ha b hb => ?_⟩
  · exact List.pairwise_of_forall_mem_list fun a ha b hb => by rw [mem_candsOf f a ha, mem_candsOf f b hb]; exact Int.le_refl _
  · rw [mem_candsOf _ a ha, mem_candsOf _ b hb]
    exact Int.le_of_lt hfg

end Feat

section Min
variable {α π : Type} [LinearOrder α]

/-- by score only: the order of the cache update `upd` -/
abbrev scoreLe (a b : Cand α π) : Prop := a.score ≤ b.score

theorem scoreLe_total (a b : Cand α π) : scoreLe a b ∨ scoreLe b a := le_total _ _

theorem scoreLe_trans (a b c : Cand α π) : scoreLe a b → scoreLe b c → scoreLe a c := le_trans

theorem cacheOf_eq_best : @cacheOf α π _ _ = best scoreLe := by
  funext L
  refine congrArg (fun f => L.foldl f none) (funext₂ fun c x => ?_)
  cases c with
  | none => rfl
  | some b => simp only [upd, pick, ← not_lt, ite_not, apply_ite some]

theorem cacheOf_spec (L : List (Cand α π)) :
    (cacheOf L = none ↔ L = []) ∧ ∀ a, cacheOf L = some a → a ∈ L ∧ ∀ y ∈ L, a.score ≤ y.score := by
  rw [cacheOf_eq_best]
  exact ⟨⟨best_eq_none scoreLe_total scoreLe_trans, fun h => h ▸ rfl⟩, fun _ => best_some scoreLe_total scoreLe_trans⟩

/-- `(score, feature)` compared lexicographically: `b` is not strictly below `a` for `min_reduce_feature` -/
def lexLe (a b : Cand α π) : Prop := a.score ≤ b.score ∧ (b.score = a.score → a.feature ≤ b.feature)

instance : DecidableRel (lexLe (α := α) (π := π)) := fun _ _ => inferInstanceAs (Decidable (_ ∧ _))

theorem lexLe_total (a b : Cand α π) : lexLe a b ∨ lexLe b a := by
  rcases lt_trichotomy a.score b.score with h | h | h
  · exact Or.inl ⟨h.le, fun e => absurd e h.ne'⟩
  · rcases Int.le_total a.feature b.feature with hf | hf
    · exact Or.inl ⟨h.le, fun _ => hf⟩
    · exact Or.inr ⟨h.ge, fun _ => hf⟩
  · exact Or.inr ⟨h.le, fun e => absurd e h.ne'⟩

theorem lexLe_trans (a b c : Cand α π) (h1 : lexLe a b) (h2 : lexLe b c) : lexLe a c := by
  refine ⟨le_trans h1.1 h2.1, fun e => ?_⟩
  have e1 : b.score = a.score := le_antisymm (e ▸ h2.1) h1.1
  exact Int.le_trans (h1.2 e1) (h2.2 (e.trans e1.symm))

theorem lessC_some (a b : Cand α π) : lessC (some a) (some b) = true ↔ ¬ lexLe b a := by
  simp only [lessC, lexLe, Bool.or_eq_true, Bool.and_eq_true, Bool.not_eq_true', decide_eq_true_eq, decide_eq_false_iff_not,
    not_and, Classical.not_imp, Int.not_le, not_lt]
  constructor
  · rintro (h | ⟨h, hf⟩) hba
    · exact absurd hba (not_le.mpr h)
    · exact ⟨le_antisymm h hba, hf⟩
  · intro h
    rcases lt_or_ge a.score b.score with hlt | hge
    · exact Or.inl hlt
    · exact Or.inr ⟨(h hge).1.le, (h hge).2⟩

theorem lessC_irrefl (a : Option (Cand α π)) : lessC a a = false := by
  cases a with
  | none => rfl
  | some a => exact Bool.eq_false_iff.mpr fun h => (lessC_some a a).mp h ⟨le_refl _, fun _ => Int.le_refl _⟩

/-- the selection step of `std::min_element` in `min_reduce_feature`, and of the table learners' cache update -/
theorem ite_lessC (x y : Option (Cand α π)) : (if lessC y x then y else x) = pick lexLe x y := by
  cases x with
  | none => cases y <;> rfl
  | some a =>
    cases y with
    | none => rfl
    | some b => simp only [pick, lessC_some, ite_not, apply_ite some]

theorem cacheOfLex_eq_best : @cacheOfLex α π _ _ = best lexLe :=
  funext fun L => congrArg (fun f => L.foldl f none) (funext₂ fun c x => ite_lessC c (some x))

theorem minReduce_cons (c : Option (Cand α π)) (cs : List (Option (Cand α π))) :
    minReduce (c :: cs) = some (cs.foldl (pick lexLe) c) :=
  congrArg (fun f => some (cs.foldl f c)) (funext₂ ite_lessC)

/-- `min_reduce_feature` over lexicographic caches is the lexicographic cache of one worker that sees everything, worker
    after worker -/
theorem minReduce_cacheOfLex (ws : List (List (Cand α π))) (hne : ws ≠ []) :
    minReduce (ws.map cacheOfLex) = some (cacheOfLex ws.flatten) := by
  obtain ⟨w, ws, rfl⟩ := List.exists_cons_of_ne_nil hne
  rw [List.map_cons, minReduce_cons, cacheOfLex_eq_best, foldl_pick_best lexLe_total lexLe_trans,
    ← best_append lexLe_total lexLe_trans, List.flatten_cons]

theorem cacheOfLex_spec (L : List (Cand α π)) :
    (cacheOfLex L = none ↔ L = []) ∧ ∀ a, cacheOfLex L = some a → a ∈ L ∧ ∀ y ∈ L, lexLe a y := by
  rw [cacheOfLex_eq_best]
  exact ⟨⟨best_eq_none lexLe_total lexLe_trans, fun h => h ▸ rfl⟩, fun _ => best_some lexLe_total lexLe_trans⟩

theorem cacheOfLex_stream (w : List (Feat α π)) :
    cacheOfLex (stream w) = w.foldl (fun c f => pick lexLe c (cacheOfLex (candsOf f))) none := by
  have h := foldl_pick_best (lexLe_total (α := α) (π := π)) lexLe_trans (w.map candsOf) none
  rw [List.foldl_map, List.foldl_map, ← List.flatMap_def, ← cacheOfLex_eq_best] at h
  exact h.symm

/-- with distinct feature indices the lexicographic order is antisymmetric on the per-feature caches, so the order in which
    one worker sees the features does not matter -/
theorem cacheOfLex_stream_perm {L L' : List (Feat α π)} (hp : L.Perm L') (hn : (L.map Prod.fst).Nodup) :
    cacheOfLex (stream L) = cacheOfLex (stream L') := by
  rw [cacheOfLex_stream, cacheOfLex_stream]
  refine hp.foldl_eq' (fun f hf g hg z => ?_) none
  rw [pick_assoc lexLe_total lexLe_trans, pick_assoc lexLe_total lexLe_trans]
  refine congrArg (pick lexLe z) (pick_comm lexLe_total _ _ fun a ha b hb hab hba => ?_)
  have hfeat : ∀ (f : Feat α π) c, c ∈ cacheOfLex (candsOf f) → c.feature = f.1 :=
    fun f c hc => mem_candsOf f c ((cacheOfLex_spec _).2 c hc).1
  have hfg : f = g := eq_of_fst_eq hn f hf g hg
    (by rw [← hfeat f a ha, ← hfeat g b hb]; exact Int.le_antisymm (hab.2 (le_antisymm hba.1 hab.1)) (hba.2 (le_antisymm hab.1 hba.1)))
  rw [hfg] at ha
  exact Option.some.inj (ha.symm.trans hb)

/-- **Table fits select the same candidate for EVERY schedule** — any distribution of the features over the workers, any
    order inside a worker (the two loops of table.cpp) — as soon as the feature indices are distinct. -/
theorem mapMinReduceLex_any (feats : List (Feat α π)) (hf : (feats.map Prod.fst).Nodup)
    (sched : List (List (Feat α π))) (hne : sched ≠ []) (hperm : sched.flatten.Perm feats) :
    mapMinReduceLex (sched.map stream) = some (cacheOfLex (stream feats)) := by
  rw [mapMinReduceLex, minReduce_cacheOfLex _ (by simpa using hne), cacheOfLex_stream_perm hperm.symm hf, stream_flatten]

/-! index-sorted workers: the first-best caches ARE the lexicographic ones -/

theorem cacheOf_eq_cacheOfLex (L : List (Cand α π)) (h : L.Pairwise fun a b => a.feature ≤ b.feature) :
    cacheOf L = cacheOfLex L := by
  induction L with
  | nil => rfl
  | cons x L ih =>
    obtain ⟨hx, hL⟩ := List.pairwise_cons.mp h
    rw [cacheOf_eq_best, cacheOfLex_eq_best] at *
    rw [best_cons scoreLe_total scoreLe_trans, best_cons lexLe_total lexLe_trans, ih hL]
    cases hb : best lexLe L with
    | none => rfl
    | some b =>
      have hxb : lexLe x b ↔ scoreLe x b :=
        ⟨And.left, fun h' => ⟨h', fun _ => hx b (best_some lexLe_total lexLe_trans hb).1⟩⟩
      simp only [pick, hxb]

theorem mapMinReduce_sorted (sched : List (List (Feat α π))) (hs : SchedSorted sched) :
    mapMinReduce (sched.map stream) = mapMinReduceLex (sched.map stream) := by
  rw [mapMinReduce, mapMinReduceLex, List.map_map, List.map_map]
  exact congrArg minReduce (List.map_congr_left fun w hw => cacheOf_eq_cacheOfLex _ (stream_sorted w (hs w hw)))

end Min


/-! ### calls on a shared object -/

section Shared
variable {σ X : Type}

theorem exec_proto (clone : σ → σ) (stepFn : Nat → σ × X → σ × X) (w : World σ X) (e : Ev X) :
    (exec clone stepFn w e).proto = w.proto := by
  cases e <;> rfl

theorem run_proto (clone : σ → σ) (stepFn : Nat → σ × X → σ × X) (w : World σ X) (es : List (Ev X)) :
    (run clone stepFn w es).proto = w.proto := by
  induction es generalizing w with
  | nil => rfl
  | cons e es ih => exact (ih _).trans (exec_proto clone stepFn w e)

theorem exec_other (clone : σ → σ) (stepFn : Nat → σ × X → σ × X) (w : World σ X) (e : Ev X) (i : Nat)
    (h : e.id ≠ i) : (exec clone stepFn w e).loc i = w.loc i := by
  cases e <;> exact if_neg fun hij => h hij.symm

theorem exec_own (clone : σ → σ) (stepFn : Nat → σ × X → σ × X) (w w' : World σ X) (e : Ev X) (i : Nat)
    (h : e.id = i) (hp : w.proto = w'.proto) (hl : w.loc i = w'.loc i) :
    (exec clone stepFn w e).loc i = (exec clone stepFn w' e).loc i := by
  cases e with
  | start j x0 =>
    have : j = i := h
    subst this
    simp [exec, hp]
  | step j =>
    have : j = i := h
    subst this
    simp [exec, hl]

/-- what call `i` holds after an interleaving depends on the (never written) prototype state, on its own earlier state
    and on its OWN events only -/
theorem run_loc_own (clone : σ → σ) (stepFn : Nat → σ × X → σ × X) (i : Nat) (es : List (Ev X)) :
    ∀ (w w' : World σ X), w.proto = w'.proto → w.loc i = w'.loc i →
      (run clone stepFn w es).loc i = (run clone stepFn w' (es.filter (fun e => e.id = i))).loc i := by
  induction es with
  | nil => intro w w' _ hl; exact hl
  | cons e es ih =>
    intro w w' hp hl
    by_cases h : e.id = i
    · rw [List.filter_cons, if_pos (decide_eq_true h)]
      exact ih _ _ (by rw [exec_proto, exec_proto, hp]) (exec_own clone stepFn w w' e i h hp hl)
    · rw [List.filter_cons, if_neg (by simpa using h)]
      exact ih _ _ (by rw [exec_proto, hp]) (by rw [exec_other clone stepFn w e i h, hl])

theorem run_steps (clone : σ → σ) (stepFn : Nat → σ × X → σ × X) (i k : Nat) (w : World σ X) (s : σ × X)
    (h : w.loc i = some s) :
    (run clone stepFn w (List.replicate k (Ev.step i))).loc i = some ((stepFn i)^[k] s) := by
  induction k generalizing w s with
  | zero => simpa [run] using h
  | succ k ih =>
    simp only [List.replicate_succ, run, List.foldl_cons]
    have : (exec clone stepFn w (Ev.step i)).loc i = some (stepFn i s) := by simp [exec, h]
    have := ih _ _ this
    simpa [run, Function.iterate_succ_apply] using this

end Shared

end NanoVerif.Reduce
