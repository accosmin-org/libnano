import NanoVerif.Proofs.WLearnerBrute
import NanoVerif.Proofs.WLearnerTree
/-!
  C10 — the stump fitted at a node of the tree: its two tables are the mean residuals of the two sides; the fuel of
  `dtreeFit` suffices; a tree of depth 1.
-/
set_option linter.unusedSectionVars false

namespace NanoVerif.WLearner
variable {α : Type} [Field α] [LinearOrder α] [IsStrictOrderedRing α]

/-- the two tables of every stump candidate are the mean residuals of the samples left / right of its threshold, and both
    sides are non-empty (any criterion: the tables do not depend on it) -/
theorem stumpCands_means [Log α] (sort : List (Item α) → List (Item α)) (hsort : SortSpec sort)
    (T : Nat) (K : α) (crit : Crit) (f : Nat) (rows : List (Row α)) (c : Cand α)
    (hc : c ∈ stumpCands sort T K crit f rows) :
    c.feature = f ∧ c.tables.length = 2 ∧
    (∀ o, tab c.tables 0 o = meanOf ((leftRows c.thr rows).map (·.r)) o) ∧
    (∀ o, tab c.tables 1 o = meanOf ((rightRows c.thr rows).map (·.r)) o) ∧
    leftRows c.thr rows ≠ [] ∧ rightRows c.thr rows ≠ [] := by
  unfold stumpCands at hc
  obtain ⟨sc, hsc, rfl⟩ := List.mem_map.mp hc
  have hperm := hsort.perm (present rows)
  obtain ⟨hacc, _, hlne, hrne, _, _⟩ :=
    sweep_spec Item.upd0 Mom.zero (sort (present rows)) (hsort.sorted (present rows)) sc hsc
  -- the residuals left and right of the threshold: in sorted order, and (a permutation) in the order of the rows
  let Lr := (leftOf sc.1 (sort (present rows))).map (·.r)
  let Rr := (rightOf sc.1 (sort (present rows))).map (·.r)
  have hL : ((leftRows sc.1 rows).map (·.r)).Perm Lr := by
    rw [leftRows_map]
    exact ((hperm.filter _).map _).symm
  have hR : ((rightRows sc.1 rows).map (·.r)).Perm Rr := by
    rw [rightRows_map]
    exact ((hperm.filter _).map _).symm
  have hLne : Lr ≠ [] := fun h => hlne (List.map_eq_nil_iff.mp h)
  have hRne : Rr ≠ [] := fun h => hrne (List.map_eq_nil_iff.mp h)
  have hsc2 : sc = (sc.1, momOf Lr) := Prod.ext rfl (hacc.trans (foldl_itemUpd0 _ _))
  obtain ⟨_, htab⟩ := stumpCand_of_split T K crit f ((present rows).foldl Item.upd0 Mom.zero) (missRss T rows)
    (missCnt rows) sc.1 Lr Rr hLne hRne
    ((congrArg (Mom.sub · _) (foldl_itemUpd0 _ _)).trans (sub_momOf_eq (present rows) _ hperm sc.1))
  rw [← hsc2] at htab
  rw [show (stumpCand T K crit f ((present rows).foldl Item.upd0 Mom.zero) (missRss T rows) (missCnt rows) sc).thr = sc.1
    from rfl]
  refine ⟨rfl, by rw [htab]; rfl, fun o => ?_, fun o => ?_, fun h => hLne ?_, fun h => hRne ?_⟩
  · rw [htab, meanOf_perm hL, meanOf_eq]
    rfl
  · rw [htab, meanOf_perm hR, meanOf_eq]
    rfl
  · rw [h] at hL
    exact hL.symm.eq_nil
  · rw [h] at hR
    exact hR.symm.eq_nil

theorem stumpFitOn_mem [Log α] [FinTest α] (sort : List (Item α) → List (Item α)) (T : Nat) (K big : α) (crit : Crit)
    (feats : List Nat) (val : Nat → Nat → FVal α) (resid : Nat → Vec α) (sel : List Nat) (c : Cand α)
    (h : stumpFitOn sort T K big crit feats val resid sel = some c) :
    c.score < big ∧ ∃ f ∈ feats, c ∈ stumpCands sort T K crit f (rowsOf val resid sel f) := by
  unfold stumpFitOn at h
  simp only at h
  split at h
  · rename_i hfit
    injection h with h
    subst h
    have hlt : (fitSeq big (feats.flatMap fun f => stumpCands sort T K crit f (rowsOf val resid sel f))).score < big := by
      simpa [Cand.fitted] using hfit
    refine ⟨hlt, ?_⟩
    rcases fitSeq_cache big (feats.flatMap fun f => stumpCands sort T K crit f (rowsOf val resid sel f)) with ⟨he, _⟩ | ⟨hm, _, _⟩
    · rw [he] at hlt; exact absurd hlt (lt_irrefl _)
    · exact List.mem_flatMap.mp hm
  · simp at h

theorem filter_rowsOf (val : Nat → Nat → FVal α) (resid : Nat → Vec α) (sel : List Nat) (f : Nat) (Q : Row α → Bool) :
    ((rowsOf val resid sel f).filter Q).map (·.r) =
      (sel.filter fun i => Q ⟨i, (match val i f with | .num v => some v | _ => none), resid i⟩).map resid := by
  rw [rowsOf, List.filter_map, List.map_map]
  rfl

theorem sideRows_rowsOf (val : Nat → Nat → FVal α) (resid : Nat → Vec α) (sel : List Nat) (f : Nat) (thr : α)
    (p : α → Bool) (g : Nat) (hp : ∀ x, p x = (sideOf x thr == g)) :
    ((rowsOf val resid sel f).filter fun row => row.x.any p).map (·.r)
      = (sel.filter fun i => stumpSide val f thr i == some g).map resid := by
  rw [filter_rowsOf]
  congr 1
  apply List.filter_congr
  intro i _
  cases hv : val i f with
  | num x => simp [stumpSide, hv, hp]
  | cls c => simp [stumpSide, hv]
  | missing => simp [stumpSide, hv]

theorem leftRows_rowsOf (val : Nat → Nat → FVal α) (resid : Nat → Vec α) (sel : List Nat) (f : Nat) (thr : α) :
    (leftRows thr (rowsOf val resid sel f)).map (·.r)
      = (sel.filter fun i => stumpSide val f thr i == some 0).map resid :=
  sideRows_rowsOf val resid sel f thr (fun x => decide (x < thr)) 0 fun x => by by_cases hx : x < thr <;> simp [sideOf, hx]

theorem rightRows_rowsOf (val : Nat → Nat → FVal α) (resid : Nat → Vec α) (sel : List Nat) (f : Nat) (thr : α) :
    (rightRows thr (rowsOf val resid sel f)).map (·.r)
      = (sel.filter fun i => stumpSide val f thr i == some 1).map resid :=
  sideRows_rowsOf val resid sel f thr (fun x => !decide (x < thr)) 1 fun x => by by_cases hx : x < thr <;> simp [sideOf, hx]

/-- the stump fitted on a sample list: table `g` is the mean residual of the samples `stump.split` puts on side `g`, and
    no side is empty -/
theorem stumpFitOn_sides [Log α] [FinTest α] (sort : List (Item α) → List (Item α)) (hsort : SortSpec sort) (T : Nat)
    (K big : α) (crit : Crit) (feats : List Nat) (val : Nat → Nat → FVal α) (resid : Nat → Vec α) (sel : List Nat)
    (c : Cand α) (h : stumpFitOn sort T K big crit feats val resid sel = some c) (g : Nat) (hg : g < 2) :
    (sel.filter fun i => stumpSide val c.feature c.thr i == some g) ≠ [] ∧
    ∀ o, tab c.tables g o = meanOf ((sel.filter fun i => stumpSide val c.feature c.thr i == some g).map resid) o := by
  obtain ⟨_, f, _, hc⟩ := stumpFitOn_mem sort T K big crit feats val resid sel c h
  obtain ⟨rfl, _, hm0, hm1, hl, hr⟩ := stumpCands_means sort hsort T K crit f _ c hc
  obtain rfl | rfl := lt_two hg
  · refine ⟨fun hnil => hl (List.map_eq_nil_iff (f := (·.r)) |>.mp ?_), fun o => ?_⟩
    · rw [leftRows_rowsOf, hnil]
      rfl
    · rw [hm0 o, leftRows_rowsOf]
  · refine ⟨fun hnil => hr (List.map_eq_nil_iff (f := (·.r)) |>.mp ?_), fun o => ?_⟩
    · rw [rightRows_rowsOf, hnil]
      rfl
    · rw [hm1 o, rightRows_rowsOf]

/-! ### the fuel of `dtreeFit` suffices -/

/-- an upper bound of the number of caches still to be processed: a cache at depth `d` spawns at most `2^(m−d) − 1` -/
def qweight (m : Nat) : List TCache → Nat
  | [] => 0
  | c :: q => (2 ^ (m - c.depth) - 1) + qweight m q

theorem qweight_append (m : Nat) (a b : List TCache) : qweight m (a ++ b) = qweight m a + qweight m b := by
  induction a with
  | nil => exact (Nat.zero_add _).symm
  | cons c a ih => rw [List.cons_append, qweight, qweight, ih, Nat.add_assoc]

theorem two_le_pow_sub {d m : Nat} (h : d < m) : 2 ≤ 2 ^ (m - d) :=
  Nat.pow_le_pow_right (Nat.le_succ 1) (Nat.sub_pos_of_lt h)

/-- the caches pushed by one iteration weigh one less than the cache it processed -/
theorem StepSpec.qweight {cfg : TreeCfg α} {st st' : TState α} {c : TCache} {pushed : List TCache} {cand : Cand α}
    {term : Bool} (hs : StepSpec cfg st c cand term st' pushed) (hd : c.depth < cfg.maxDepth) :
    qweight cfg.maxDepth pushed + 2 ≤ 2 ^ (cfg.maxDepth - c.depth) := by
  rw [hs.pushed]
  cases term with
  | true => exact two_le_pow_sub hd
  | false =>
    have h1 := two_le_pow_sub (hs.depth rfl)
    have h2 : cfg.maxDepth - c.depth = cfg.maxDepth - (c.depth + 1) + 1 := by omega
    rw [h2, Nat.pow_succ]
    show 2 ^ (cfg.maxDepth - (c.depth + 1)) - 1 + (2 ^ (cfg.maxDepth - (c.depth + 1)) - 1 + 0) + 2 ≤ _
    omega

theorem dtreeLoop_fuel (cfg : TreeCfg α) :
    ∀ (fuel : Nat) (queue : List TCache) (st : TState α), (∀ c ∈ queue, c.depth < cfg.maxDepth) →
      qweight cfg.maxDepth queue ≤ fuel → dtreeLoop cfg fuel queue st ≠ .fuel := by
  intro fuel
  induction fuel with
  | zero =>
    intro queue st hd hw
    cases queue with
    | nil => exact fun h => by cases h
    | cons c rest =>
      have := two_le_pow_sub (hd c List.mem_cons_self)
      rw [qweight] at hw
      omega
  | succ fuel ih =>
    intro queue st hd hw
    cases queue with
    | nil => exact fun h => by cases h
    | cons c rest =>
      rw [dtreeLoop]
      cases hf : cfg.fit c.samples with
      | none => exact fun h => by cases h
      | some cand =>
        obtain ⟨term, hs⟩ := dtreeStep_spec cfg st c cand
        apply ih
        · intro c' hc'
          rcases List.mem_append.mp hc' with hc' | hc'
          · exact hd c' (List.mem_cons_of_mem _ hc')
          · exact hs.pushed_depth c' hc'
        · have := hs.qweight (hd c List.mem_cons_self)
          rw [qweight] at hw
          rw [qweight_append]
          omega

/-- `max_depth = 1`: the loop runs once, on the fitted samples, and the node pair is terminal -/
theorem dtreeFit_depth1 (cfg : TreeCfg α) (h1 : cfg.maxDepth = 1) (samples : List Nat) (cand : Cand α)
    (hf : cfg.fit samples = some cand) :
    dtreeFit cfg samples = .ok
      { nodes := [⟨cand.feature, cand.thr, 0, 0⟩, ⟨cand.feature, cand.thr, 0, 1⟩],
        tables := [tab cand.tables 0, tab cand.tables 1], score := 0 + cand.score,
        log := [⟨⟨samples, 0, 0⟩, cand, true⟩] } := by
  have hstep : dtreeStep cfg TState.init ⟨samples, 0, 0⟩ cand =
      ({ nodes := [⟨cand.feature, cand.thr, 0, 0⟩, ⟨cand.feature, cand.thr, 0, 1⟩],
         tables := [tab cand.tables 0, tab cand.tables 1], score := 0 + cand.score,
         log := [⟨⟨samples, 0, 0⟩, cand, true⟩] }, []) := by
    rw [dtreeStep, if_pos (Or.inr (Nat.le_of_eq h1))]
    rfl
  rw [dtreeFit, h1]
  show dtreeLoop cfg (1 + 1) [⟨samples, 0, 0⟩] TState.init = _
  rw [dtreeLoop, hf]
  show dtreeLoop cfg 1 ([] ++ (dtreeStep cfg TState.init ⟨samples, 0, 0⟩ cand).2)
    (dtreeStep cfg TState.init ⟨samples, 0, 0⟩ cand).1 = _
  rw [hstep]
  rfl

end NanoVerif.WLearner
