import NanoVerif.Proofs.EllipsoidLJ
/-!
  C03 — the Löwner–John step on the list model: `stepND` (ellipsoid.cpp:64-68) keeps every point of the half-ellipsoid
  `{z ∈ E(x, H) : g·(z − x) ≤ −α √(gᵀHg)}` inside the new ellipsoid `E(x⁺, H⁺)`, for a symmetric `H` (the property
  `WellH`, preserved by the update), dimension `n ≥ 2` and `−1/n ≤ α ≤ 1`.
-/
set_option linter.unusedSectionVars false

namespace NanoVerif.Ellipsoid
open NanoVerif.Bundle
variable {α : Type} [Field α] [LinearOrder α] [IsStrictOrderedRing α]

/-- `H` is an `n × n` list matrix whose bilinear form is symmetric -/
def WellH (n : Nat) (H : List (List α)) : Prop :=
  H.length = n ∧ (∀ r ∈ H, r.length = n) ∧
    ∀ u v : List α, u.length = n → v.length = n → dot u (mv H v) = dot v (mv H u)

theorem mv_length (H : List (List α)) (g : List α) : (mv H g).length = H.length := by simp [mv]

theorem dot_vaxpy_right (c : α) (r : List α) {x y : List α} (h : x.length = y.length) :
    dot r (vaxpy c x y) = c * dot r x + dot r y := by
  rw [dot_comm, dot_vaxpy_left c r h, dot_comm x, dot_comm y]

theorem mv_vaxpy (c : α) (H : List (List α)) {x y : List α} (h : x.length = y.length) :
    mv H (vaxpy c x y) = vaxpy c (mv H x) (mv H y) := by
  simp only [mv_eq, vaxpy_eq]
  exact ListVec.mv_zipWith c 1 (fun _ _ => by rw [one_mul]) H h

theorem quad_vaxpy (n : Nat) (H : List (List α)) (hH : WellH n H) (c : α) (g w : List α) (hg : g.length = n)
    (hw : w.length = n) :
    quad H (vaxpy c g w) = c * c * quad H g + 2 * c * dot w (mv H g) + quad H w := by
  have hgw := hg.trans hw.symm
  have l : (mv H g).length = (mv H w).length := by rw [mv_length, mv_length]
  unfold quad
  rw [mv_vaxpy c H hgw, dot_vaxpy_left c _ hgw, dot_vaxpy_right c g l, dot_vaxpy_right c w l, hH.2.2 g w hg hw]
  ring

/-- `w·(z − x⁺) = w·(z − x) + (c/r) w·(Hg)` for `x⁺ = x − c (Hg)/r` (ellipsoid.cpp:66) -/
theorem dot_vsub_stepX (c r : α) (w : List α) {z x h : List α} (hzx : z.length = x.length) (hxh : x.length = h.length) :
    dot w (vsub z (List.zipWith (fun xi hi => xi - c * hi / r) x h)) = dot w (vsub z x) + c / r * dot w h := by
  rw [dot_vsub_right w (hzx.trans (hxh.trans (ListVec.length_zipWith_of_eq _ hxh).symm)), dot_vsub_right w hzx, dot_eq,
    ListVec.dot_zipWith_right 1 (-(c / r)) (fun _ _ => by ring) w hxh]
  ring

/-- one row of `H⁺` against a vector (ellipsoid.cpp:67-68) -/
theorem dot_row_stepH (c1 c2 hgi gHg : α) {row gH : List α} (v : List α) (h : row.length = gH.length) :
    dot (List.zipWith (fun hij ghj => c1 * (hij - c2 * (hgi * ghj) / gHg)) row gH) v =
      c1 * dot row v + -(c1 * c2 / gHg * dot gH v) * hgi := by
  rw [dot_eq, ListVec.dot_zipWith_left c1 (-(c1 * c2 * hgi / gHg)) (fun _ _ => by ring) v h]
  ring

/-- the bilinear form of `H⁺ = c1 (H − c2 (Hg)(gᵀH)/gHg)` -/
theorem dot_mv_stepH (m : Nat) (c1 c2 gHg : α) (gH v : List α) (hgH : gH.length = m) (u : List α) (H : List (List α))
    (Hg : List α) (hHg : H.length = Hg.length) (hH : ∀ r ∈ H, r.length = m) :
    dot u (mv (List.zipWith (fun row hgi => List.zipWith (fun hij ghj => c1 * (hij - c2 * (hgi * ghj) / gHg)) row gH)
      H Hg) v) = c1 * (dot u (mv H v) - c2 / gHg * dot u Hg * dot gH v) := by
  have hrow := fun r hr hgi (_ : hgi ∈ Hg) => dot_row_stepH c1 c2 hgi gHg v ((hH r hr).trans hgH.symm)
  rw [dot_eq] at hrow ⊢
  rw [mv_eq, mv_eq, ListVec.mv_zipWith_rows _ (fun p hgi => c1 * p + -(c1 * c2 / gHg * ListVec.dot gH v) * hgi) v H Hg hrow,
    ListVec.dot_zipWith_right _ _ (fun _ _ => rfl) u ((ListVec.mv_length H v).trans hHg)]
  ring

theorem stepH_rows (m : Nat) (c1 c2 gHg : α) (gH : List α) (hgH : gH.length = m) (H : List (List α)) (Hg : List α)
    (h : ∀ r ∈ H, r.length = m) :
    ∀ r' ∈ List.zipWith (fun row hgi => List.zipWith (fun hij ghj => c1 * (hij - c2 * (hgi * ghj) / gHg)) row gH) H Hg,
      r'.length = m := by
  intro r' hr'
  obtain ⟨i, hi, rfl⟩ := List.mem_iff_getElem.mp hr'
  simp [h _ (List.getElem_mem _), hgH]

theorem dot_mv_stepH_sym (n : Nat) (nn al : α) (H : List (List α)) (hH : WellH n H) (g u v : List α) (hg : g.length = n)
    (hv : v.length = n) :
    dot u (mv (stepH nn H (mv H g) (vm n g H) al (quad H g)) v) =
      nn * nn / (nn * nn - 1) * (1 - al * al) *
        (dot u (mv H v) - 2 * (1 + nn * al) / (nn + 1) / (1 + al) / quad H g * dot u (mv H g) * dot v (mv H g)) := by
  have hHg : H.length = (mv H g).length := (mv_length H g).symm
  unfold stepH
  simp only
  rw [dot_mv_stepH n _ _ _ _ v (vm_length n g H hH.2.1) u H _ hHg hH.2.1, ← vm_adjoint n v g H hH.2.1,
    hH.2.2 g v hg hv]

theorem stepH_wellH (n : Nat) (nn al : α) (H : List (List α)) (hH : WellH n H) (g : List α) (hg : g.length = n) :
    WellH n (stepH nn H (mv H g) (vm n g H) al (quad H g)) := by
  refine ⟨?_, stepH_rows n _ _ _ _ (vm_length n g H hH.2.1) H _ hH.2.1, fun u v hu hv => ?_⟩
  · simp [stepH, mv_length, hH.1]
  · rw [dot_mv_stepH_sym n nn al H hH g u v hg hv, dot_mv_stepH_sym n nn al H hH g v u hg hu, hH.2.2 u v hu hv]
    ring

theorem stepX_length (nn al gHg : α) [Sqrt α] (x Hg : List α) (h : x.length = Hg.length) :
    (stepX nn x Hg al gHg).length = x.length := by
  simp [stepX, h]

theorem sqrt_pos_of_pos [Sqrt α] (hsqrt : ∀ v : α, 0 ≤ v → 0 ≤ Sqrt.sqrt v ∧ Sqrt.sqrt v * Sqrt.sqrt v = v) {v : α}
    (hv : 0 < v) : 0 < Sqrt.sqrt v :=
  (hsqrt v hv.le).1.lt_of_ne fun h0 => hv.ne (by rw [← (hsqrt v hv.le).2, ← h0, mul_zero])

/-- membership along the pencil of directions `w + (μ/r) g`, `r² = gᵀHg`: the hypothesis of `lj_scalar` -/
theorem inE_pencil (n : Nat) (x g z w : List α) (H : List (List α)) (hg : g.length = n)
    (hw : w.length = n) (hH : WellH n H) (hin : InE n x H z) (r : α) (hr0 : r ≠ 0)
    (hr : r * r = quad H g) (μ : α) :
    (dot w (vsub z x) + μ * (dot g (vsub z x) / r)) * (dot w (vsub z x) + μ * (dot g (vsub z x) / r)) ≤
      quad H w + 2 * μ * (dot w (mv H g) / r) + μ * μ := by
  have h1 := hin (vaxpy (μ / r) g w) (by rw [vaxpy_length _ g w (hg.trans hw.symm), hw])
  rw [dot_vaxpy_left _ _ (hg.trans hw.symm), quad_vaxpy n H hH _ g w hg hw, ← hr] at h1
  have e : μ / r * (μ / r) * (r * r) = μ * μ := by
    rw [div_mul_div_comm, div_mul_cancel₀ _ (mul_ne_zero hr0 hr0)]
  linear_combination h1 + e

/-- THE LÖWNER–JOHN STEP (ellipsoid.cpp:64-68): for `dim ≥ 2`, a symmetric `H` with `gᵀHg > 0`, `−1/n ≤ α ≤ 1`, every
    `z ∈ E(x, H)` on the side `g·(z − x) ≤ −α √(gᵀHg)` of the cut lies in `E(x⁺, H⁺)` -/
theorem stepND_contains [Sqrt α] (hsqrt : ∀ v : α, 0 ≤ v → 0 ≤ Sqrt.sqrt v ∧ Sqrt.sqrt v * Sqrt.sqrt v = v)
    (dim : Nat) (hdim : 2 ≤ dim) (x g z : List α) (H : List (List α)) (al : α) (hx : x.length = dim)
    (hg : g.length = dim) (hz : z.length = dim) (hH : WellH dim H) (hpos : 0 < quad H g) (hin : InE dim x H z)
    (hlo : -1 ≤ (dim : α) * al) (hhi : al ≤ 1) (hcut : dot g (vsub z x) ≤ -al * Sqrt.sqrt (quad H g)) :
    InE dim (stepX (dim : α) x (mv H g) al (quad H g)) (stepH (dim : α) H (mv H g) (vm dim g H) al (quad H g)) z := by
  have hrr := (hsqrt _ hpos.le).2
  have hr0 := sqrt_pos_of_pos hsqrt hpos
  have hHg : (mv H g).length = dim := (mv_length H g).trans hH.1
  intro w hw
  -- the four numbers `a = w·d`, `b = g·d/r`, `p = wᵀHg/r`, `q = wᵀHw` of `lj_scalar`
  have key := lj_scalar (dim : α) al _ _ _ (dot w (mv H w)) (Nat.one_lt_cast.2 hdim) hlo hhi
    (by rw [div_mul_div_comm, hrr]; exact (div_le_one hpos).2 (hin g hg)) ((div_le_iff₀ hr0).2 hcut)
    (inE_pencil dim x g z w H hg hw hH hin _ hr0.ne' hrr)
  rw [div_mul_div_comm (dot w (mv H g)), hrr] at key
  refine le_of_le_of_eq ?_ (dot_mv_stepH_sym dim _ al H hH g w w hg hw).symm
  unfold stepX
  simp only
  rw [dot_vsub_stepX _ _ w (hz.trans hx.symm) (hx.trans hHg.symm)]
  linear_combination key

end NanoVerif.Ellipsoid
