import NanoVerif.Props.C10
import NanoVerif.Props.C11
/-!
  C11 ∘ C10 — the two weak-learner contracts of the fold-fit theorems (`ScaleLaw`, `MergeLaw` of `Proofs/BoostFit.lean`) are
  theorems for the learners C10 models from the code (`Model/WLearner.lean`: affine, stump, hinge, look-up tables, decision
  trees): `wlearner_t::scale` with a one-element vector multiplies every prediction (`scale_scales`), `wlearner::merge` keeps the
  sum of the predictions (`merge_preserves_sum`). Instantiated, the invariant of the boosting fit holds without any contract.

  A cell is a pair (sample, output component); `feat i` are the feature values of sample `i`; a learner's contribution to a cell is
  its prediction on a zeroed buffer (`predictOne l (feat i) zeroV o`).
-/
namespace NanoVerif.BoostFit
open NanoVerif.WLearner NanoVerif.Boost

variable {S α : Type} [Field α] [LinearOrder α] [IsStrictOrderedRing α]

/-- the environment of the fold fit whose weak learners are C10's -/
def c10Env (feat : Nat → Nat → FVal α) (err loss : (Nat × Nat → α) → S → α) : Env (Learner α) (Nat × Nat) S α :=
  { pred := fun l c => predictOne l (feat c.1) zeroV c.2,
    scaleW := fun sc l => l.scale sc,
    merge := WLearner.merge,
    groups := fun _ => 1,
    err := err, loss := loss }

theorem c10_learners_satisfy_scale_law (feat : Nat → Nat → FVal α) (err loss : (Nat × Nat → α) → S → α) :
    ScaleLaw (c10Env feat err loss) := by
  intro c l x
  show predictOne (l.scale [c]) (feat x.1) zeroV x.2 = predictOne l (feat x.1) zeroV x.2 * c
  rw [(scale_scales l [c] (Or.inr ⟨c, rfl⟩) (feat x.1)).2 x.2]
  -- the factor is `c` in the one group of a one-element vector; a sample the learner does not cover gets 0 either way
  unfold splitOne predictOne
  cases eval l (feat x.1) with
  | none => simp [zeroV]
  | some p => simp [factor]

theorem c10_learners_satisfy_merge_law (feat : Nat → Nat → FVal α) (err loss : (Nat × Nat → α) → S → α) :
    MergeLaw (c10Env feat err loss) := by
  intro ws x
  have h := merge_preserves_sum ws (feat x.1) x.2
  rwa [lsum_eq_sum, lsum_eq_sum] at h

/-- the invariant of the boosting fit for the modelled weak learners: no contract left -/
theorem tracked_outputs_eq_model_prediction_c10 (cfg : Cfg α) (feat : Nat → Nat → FVal α)
    (err loss : (Nat × Nat → α) → S → α) (train valid : List S) (params : List α) (b : Nat × Nat → α)
    (ors : List (RoundOr (Learner α) S α)) (k : Nat) (h : Nat × Nat → α)
    (hk : (fitRun cfg (c10Env feat err loss) train valid params b ors).hist[k]? = some h) :
    h = modelOut (c10Env feat err loss) b ((fitRun cfg (c10Env feat err loss) train valid params b ors).ws.take k) :=
  (tracked_outputs_eq_model_prediction cfg (c10Env feat err loss)
    (fun _ => c10_learners_satisfy_scale_law feat err loss) train valid params b ors).1 k h hk

/-- … and the reported per-sample values are those of the kept fold model -/
theorem kept_model_reproduces_optimum_row_c10 (cfg : Cfg α) (feat : Nat → Nat → FVal α)
    (err loss : (Nat × Nat → α) → S → α) (train valid : List S) (params : List α) (b : Nat × Nat → α)
    (ors : List (RoundOr (Learner α) S α)) :
    (fitFold cfg (c10Env feat err loss) train valid params b ors).trainValues = train.map (fun s =>
      (err (modelOut (c10Env feat err loss) b (fitFold cfg (c10Env feat err loss) train valid params b ors).ws) s,
       loss (modelOut (c10Env feat err loss) b (fitFold cfg (c10Env feat err loss) train valid params b ors).ws) s)) ∧
    (fitFold cfg (c10Env feat err loss) train valid params b ors).validValues = valid.map (fun s =>
      (err (modelOut (c10Env feat err loss) b (fitFold cfg (c10Env feat err loss) train valid params b ors).ws) s,
       loss (modelOut (c10Env feat err loss) b (fitFold cfg (c10Env feat err loss) train valid params b ors).ws) s)) := by
  obtain ⟨_, _, h3, h4⟩ := kept_model_reproduces_optimum_row cfg (c10Env feat err loss)
    (fun _ => c10_learners_satisfy_scale_law feat err loss) (c10_learners_satisfy_merge_law feat err loss)
    train valid params b ors
  exact ⟨h3, h4⟩

end NanoVerif.BoostFit
