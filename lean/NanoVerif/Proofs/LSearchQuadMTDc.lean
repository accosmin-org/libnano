import NanoVerif.Proofs.LSearch
/-!
  C07 — helper lemmas: `dcstep` (morethuente.cpp:8-137) case by case, for ANY data on which the two trial values that the case
  compares coincide (`cubic = quadratic = c` in case 1, `cubic = secant = c` in cases 2 and 3 — which is what happens on a quadratic,
  where all three interpolants return the minimiser), and the two shapes of `mtBounds` (morethuente.cpp:242-270): before a bracket
  exists, and after a bracketing `dcstep` (`Bracketing`: what cases 1 and 2 have in common, `mtBounds_bracketing`).
  Nothing here is about quadratics yet; `Proofs/LSearchQuadMTFull.lean` instantiates the lemmas.

    case 1 (`fp > fx`)                                   : brackets, `sty := stp`, next step `c`
    case 2 (`fp ≤ fx`, slopes of opposite sign)           : brackets, `sty := stx`, `stx := stp`, next step `c`
    case 3 (`fp ≤ fx`, same sign, `|dp| < |dx|`), not yet bracketed, `isfinite(c)`, `c` beyond `stp` :
                                                           `stx := stp`, next step `max(stmin, min(stmax, c))` — the safeguarded
                                                           extrapolation, `stmin/stmax` = the arguments the loop passes
-/
namespace NanoVerif.LSearch
open NanoVerif.Gen.LsPredicates


variable {α : Type} [Field α] [LinearOrder α] [IsStrictOrderedRing α]

set_option linter.unusedSectionVars false
theorem dcstep_case1 (cfg : Cfg α) (s : DC α) (fp dp lo hi c : α) (h1 : fp > s.fx)
    (hc : cfg.cubic ⟨s.stx, s.fx, s.dx⟩ ⟨s.stp, fp, dp⟩ = c) (hq : quadratic ⟨s.stx, s.fx, s.dx⟩ ⟨s.stp, fp, dp⟩ = c) :
    dcstep cfg s fp dp lo hi = { s with sty := s.stp, fy := fp, dy := dp, stp := c, brackt := true } := by
  simp only [dcstep, h1, if_true, hc, hq, lt_irrefl, if_false, sub_self, zero_div, add_zero]
set_option linter.unusedSectionVars true

set_option linter.unusedSectionVars false
theorem dcstep_case2 (cfg : Cfg α) (s : DC α) (fp dp lo hi c : α) (h1 : ¬ fp > s.fx) (h2 : dp * (s.dx / absv s.dx) < 0)
    (hc : cfg.cubic ⟨s.stx, s.fx, s.dx⟩ ⟨s.stp, fp, dp⟩ = c) (hq : secant ⟨s.stx, s.fx, s.dx⟩ ⟨s.stp, fp, dp⟩ = c) :
    dcstep cfg s fp dp lo hi =
      { stx := s.stp, fx := fp, dx := dp, sty := s.stx, fy := s.fx, dy := s.dx, stp := c, brackt := true } := by
  simp only [dcstep, h1, if_false, h2, if_true, hc, hq, gt_iff_lt, lt_irrefl]
set_option linter.unusedSectionVars true

theorem dcstep_case3_unbracketed (cfg : Cfg α) (s : DC α) (fp dp lo hi c : α) (h1 : ¬ fp > s.fx)
    (h2 : ¬ dp * (s.dx / absv s.dx) < 0) (h3 : absv dp < absv s.dx) (hb : s.brackt = false)
    (hc : cfg.cubic ⟨s.stx, s.fx, s.dx⟩ ⟨s.stp, fp, dp⟩ = c) (hq : secant ⟨s.stx, s.fx, s.dx⟩ ⟨s.stp, fp, dp⟩ = c)
    (hfin : cfg.fin c = true) (hdir : (s.stp - s.stx) * (c - s.stp) > 0) :
    dcstep cfg s fp dp lo hi = { s with stx := s.stp, fx := fp, dx := dp, stp := max lo (min hi c), brackt := false } := by
  have hcond : cfg.fin c = true ∧ (s.stp - s.stx) * (c - s.stp) > 0 := ⟨hfin, hdir⟩
  simp only [dcstep, h1, if_false, h2, h3, if_true, hc, hq, hcond, and_self, hb, Bool.false_eq_true, gt_iff_lt, lt_irrefl,
    cmin_eq_min, cmax_eq_max]

/-- the extrapolation bounds `stp + 1.1 (stp - stx)`, `stp + 4 (stp - stx)` are computed from the UNCLAMPED step -/
theorem mtBounds_unbracketed (cfg : Cfg α) (m : MT α) (st : Bool) (dc : DC α) (hb : dc.brackt = false) :
    mtBounds cfg m st dc = ⟨st, { dc with stp := clamp dc.stp (stpmin cfg.macheps) (stpmax cfg.macheps) },
      dc.stp + (dc.stp - dc.stx) * (11 / 10), dc.stp + (dc.stp - dc.stx) * 4, m.width, m.width1⟩ := by
  simp [mtBounds, hb]

theorem mtBounds_bracketed_stp (cfg : Cfg α) (m : MT α) (st : Bool) (dc : DC α) (hb : dc.brackt = true)
    (hbis : ¬ absv (dc.sty - dc.stx) ≥ m.width1 * (66 / 100))
    (hin : ¬ (clamp dc.stp (stpmin cfg.macheps) (stpmax cfg.macheps) ≤ min dc.stx dc.sty ∨
      clamp dc.stp (stpmin cfg.macheps) (stpmax cfg.macheps) ≥ max dc.stx dc.sty))
    (hw : ¬ max dc.stx dc.sty - min dc.stx dc.sty ≤ cfg.eps0 * max dc.stx dc.sty) :
    (mtBounds cfg m st dc).dc.stp = clamp dc.stp (stpmin cfg.macheps) (stpmax cfg.macheps) := by
  simp only [mtBounds, hb, if_true, hbis, if_false, cmin_eq_min, cmax_eq_max, true_and]
  rw [if_neg]
  rintro (h' | h')
  · exact hin h'
  · exact hw h'

omit [IsStrictOrderedRing α] in
theorem mtNext_plain (cfg : Cfg α) (s0 : Eval α) (m : MT α) (f g : α)
    (hstage : ¬ (m.stage1 = true ∧ f ≤ s0.f + m.dc.stp * (cfg.c1 * s0.g) ∧ g ≥ 0))
    (hmod : ¬ (m.stage1 = true ∧ f ≤ m.dc.fx ∧ f > s0.f + m.dc.stp * (cfg.c1 * s0.g))) :
    mtNext cfg s0 m f g = mtBounds cfg m m.stage1 (dcstep cfg m.dc f g m.stmin m.stmax) := by
  simp only [mtNext, mtDcstep, if_neg hstage, if_neg hmod]

/-- the outcome of a bracketing `dcstep`: the bracket has the ends `{s, v}` and the proposed step is `p` -/
structure Bracketing (dc : DC α) (s v p : α) : Prop where
  brackt : dc.brackt = true
  stp : dc.stp = p
  ends : (dc.stx = s ∧ dc.sty = v) ∨ (dc.stx = v ∧ dc.sty = s)

theorem mtBounds_bracketing (cfg : Cfg α) (m : MT α) (st : Bool) {dc : DC α} {s v p : α} (B : Bracketing dc s v p) (hsv : s < v)
    (hbis : v - s < m.width1 * (66 / 100)) (h1 : s < clamp p (stpmin cfg.macheps) (stpmax cfg.macheps))
    (h2 : clamp p (stpmin cfg.macheps) (stpmax cfg.macheps) < v) (hw : cfg.eps0 * v < v - s) :
    (mtBounds cfg m st dc).dc.stp = clamp p (stpmin cfg.macheps) (stpmax cfg.macheps) := by
  obtain ⟨hb, hp, hends⟩ := B
  have hd : 0 < v - s := sub_pos.mpr hsv
  have hmm : min dc.stx dc.sty = s ∧ max dc.stx dc.sty = v ∧ |dc.sty - dc.stx| = v - s := by
    rcases hends with ⟨a, b⟩ | ⟨a, b⟩
    · rw [a, b]; exact ⟨min_eq_left hsv.le, max_eq_right hsv.le, abs_of_pos hd⟩
    · rw [a, b, abs_sub_comm]; exact ⟨min_eq_right hsv.le, max_eq_left hsv.le, abs_of_pos hd⟩
  rw [← hp] at h1 h2 ⊢
  apply mtBounds_bracketed_stp cfg m st dc hb
  · rw [absv_eq_abs, hmm.2.2]; exact not_le.mpr hbis
  · rw [hmm.1, hmm.2.1]; exact fun h => h.elim (not_le.mpr h1) (not_le.mpr h2)
  · rw [hmm.1, hmm.2.1]; exact not_le.mpr hw

end NanoVerif.LSearch
