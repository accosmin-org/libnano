import NanoVerif.Proofs.DatasetHistory
/-!
  C08 — the views of the gradient generator's features as functions of the abstract map `D = Storage.stored` and of the
  feature's flag; the overloads of `dataset_t::select` no generator serves. Core Lean only; no Mathlib.
-/
namespace NanoVerif.Dataset
open NanoVerif.Tensor NanoVerif.Mask

section
variable {α : Type} [Scalar α]

/-- the rows (one `(rows − 2) x (cols − 2)` map per position of the sample list) of a gradient feature under a flag:
    dropped → NaN everywhere; shuffled by `p` → the gradient of the stored image of sample `p[s]`; no flag → of sample `s`;
    a missing image → NaN everywhere -/
def gradientSpecRows (st : Storage) (k : Kernel3) (src : Feature) (m : FMap) (fl : Flag) (ss : List Nat) : List (List α) :=
  match fl with
  | .dropped => List.replicate ss.length (List.replicate (m.d1 * m.d2) Scalar.nan)
  | .shuffled p => ss.map (fun s => gradientValue k src m (st.stored (st.inputIndex m.orig) (iterSample p s)))
  | .none => ss.map (fun s => gradientValue k src m (st.stored (st.inputIndex m.orig) s))

theorem gradientValue_length (k : Kernel3) (src : Feature) (m : FMap) (x : Option (List Int)) :
    (gradientValue (α := α) k src m x).length = m.d1 * m.d2 := by
  cases x with
  | none => simp [gradientValue]
  | some v => exact gradientOf_length k src m v

theorem gradientSpecRows_width (st : Storage) (k : Kernel3) (src : Feature) (m : FMap) (fl : Flag) (ss : List Nat) :
    ∀ row ∈ gradientSpecRows (α := α) st k src m fl ss, row.length = m.d1 * m.d2 := by
  intro row hrow
  cases fl <;> simp only [gradientSpecRows, List.mem_replicate, List.mem_map] at hrow
  case dropped => rw [hrow.2, List.length_replicate]
  all_goals
    obtain ⟨s, _, rfl⟩ := hrow
    exact gradientValue_length k src m _

theorem plainView_gradient (st : Storage) (k : Kernel3) (src : Feature) (m : FMap) (ss : List Nat)
    (hf : st.inputFeature m.orig = some src) (hdesc : rowDescribes (.gradient k) m src) :
    plainView (α := α) st (.gradient k) m ss =
      .struct 1 m.d1 m.d2 (ss.map fun s => gradientValue k src m (st.stored (st.inputIndex m.orig) s)) := by
  simp only [plainView, hf, Option.getD_some, hdesc.2.1]
  congr 1
  exact List.map_congr_left fun s _ => encGradient_eq_value k src m _ hdesc

theorem specSelect_gradient (st : Storage) (k : Kernel3) (src : Feature) (m : FMap) (fl : Flag) (ss : List Nat)
    (hf : st.inputFeature m.orig = some src) (hdesc : rowDescribes (.gradient k) m src) :
    specSelect (α := α) st (.gradient k) m fl ss = .struct 1 m.d1 m.d2 (gradientSpecRows st k src m fl ss) := by
  cases fl with
  | dropped => simp [specSelect, droppedView, gradientSpecRows, hdesc.2.1]
  | none => exact plainView_gradient st k src m ss hf hdesc
  | shuffled p =>
    rw [specSelect, plainView_gradient st k src m _ hf hdesc, gradientSpecRows, List.map_map]
    rfl

theorem segments_gradient (st : Storage) (g : Gen) (k : Kernel3) (hk : g.kind = .gradient k) (i : Nat) (m : FMap)
    (hm : g.mapping[i]? = some m) (src : Feature) (hf : st.inputFeature m.orig = some src)
    (hdesc : rowDescribes (.gradient k) m src) (ss : List Nat) :
    g.segments (α := α) st i ss = gradientSpecRows st k src m (g.flagOf i) ss := by
  have hm' : g.mapping.getD i default = m := by simp [List.getD_eq_getElem?_getD, hm]
  unfold Gen.segments
  simp only [hm', shouldDrop_flag, shuffledAll_flag, hk, Gen.colsize, hf, Option.getD_some, iterate, List.map_map]
  cases hfl : g.flagOf i <;>
    simp only [gradientSpecRows, reduceCtorEq, decide_false, decide_true, Bool.false_eq_true, if_false, if_true]
  case dropped => exact List.map_const' ..
  all_goals exact List.map_congr_left fun s _ => encGradient_eq_value k src m _ hdesc

end

/-! ### overloads of `dataset_t::select` that no generator serves -/

theorem matches_unique (o o' : Overload) (desc : Feature) (h : o.matches desc = true) (h' : o'.matches desc = true) :
    o = o' := by
  cases o <;> cases o' <;>
    simp_all [Overload.matches, Feature.isSclass, Feature.isMclass, Feature.isScalar, Feature.isStruct, Feature.isClass] <;>
    omega

theorem generated_eq_code (k : GKind) : k.generated = (kindOverload k).code := by
  cases k <;> rfl

/-- `dataset_t::select` passes the descriptor check for an overload the generator does not serve exactly for the scalar
    overload on a 1x1 gradient map -/
theorem foreign_iff (k : GKind) (m : FMap) (f : Feature) (name : String) (hacc : kindAccepts k f = true)
    (hdesc : rowDescribes k m f) (o : Overload) :
    (o.matches (genDesc k m f name) && k.generated != o.code) = true ↔
      ∃ kk, k = .gradient kk ∧ m.d1 = 1 ∧ m.d2 = 1 ∧ o = .scalar := by
  rw [Bool.and_eq_true, bne_iff_ne]
  by_cases hnd : ∀ kk, k = .gradient kk → 1 < m.d1 * m.d2
  · -- the overload the generator serves is the only one that matches
    have hown := matches_genDesc k m f name hacc hdesc hnd
    constructor
    · intro h
      exact absurd (by rw [generated_eq_code, matches_unique _ _ _ h.1 hown]) h.2
    · rintro ⟨kk, rfl, e1, e2, _⟩
      have := hnd kk rfl
      rw [e1, e2] at this
      exact absurd this (by decide)
  · obtain ⟨kk, rfl, hlt⟩ : ∃ kk, k = .gradient kk ∧ ¬ 1 < m.d1 * m.d2 := by
      simpa only [Classical.not_forall, Classical.not_imp, exists_prop] using hnd
    have h33 := Classical.not_not.1 (mt (gradient_degenerate_iff kk m f hdesc).2 hlt)
    obtain ⟨_, h0, h1, h2, _⟩ := hdesc
    have e1 : m.d1 = 1 := by omega
    have e2 : m.d2 = 1 := by omega
    have hsc : Overload.scalar.matches (genDesc (.gradient kk) m f name) = true := by
      simp [genDesc, Overload.matches, Feature.isScalar, Feature.isClass, Feature.dimSize, h0, e1, e2]
    constructor
    · intro h
      exact ⟨kk, rfl, e1, e2, matches_unique _ _ _ h.1 hsc⟩
    · rintro ⟨_, _, _, _, rfl⟩
      exact ⟨hsc, by simp [GKind.generated, Overload.code]⟩

theorem overload_code_inj (o o' : Overload) (h : o.code = o'.code) : o = o' := by
  cases o <;> cases o' <;> simp_all [Overload.code]

end NanoVerif.Dataset
