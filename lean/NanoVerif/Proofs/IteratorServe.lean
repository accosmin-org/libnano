import NanoVerif.Proofs.Iterator
/-!
  C09 — the iterator object of `Model/Iterator.lean` over its whole life (core Lean only, every scalar type):
  * `Iter.Inv`: the statistics are the C14 statistics of the iterator's samples and a cache, when filled, holds the
    scaled matrix of ALL the samples under the scaling that was in force when it was filled; established by the
    constructors (`inv_make`), preserved by every configuration call (`inv_step`, `inv_run`);
  * `Iter.Fresh`: a filled cache was filled under the current scaling; preserved by every call except a `scaling(m)` that
    changes the mode while a cache is filled (`fresh_step`);
  * what a loop hands to its callback (`loopFT_eq`, `loopF_eq`, `loopT_eq`).
  The flatten side and the targets side of the object are two copies of the same code; what is proved about either is stated
  once about a cache, a mode, statistics and a row function (`cache_call_some`, `served_eq`).
-/
set_option linter.unusedSectionVars false

namespace NanoVerif.Iterator
open NanoVerif.Scaling NanoVerif.Objective

section
variable {α : Type} [Add α] [Sub α] [Mul α] [Div α] [Neg α] [LT α] [DecidableLT α]
  [OfNat α 0] [OfNat α 1] [NatCast α]

/-- the dataset hands out rows of the advertised widths (`columns()`, `size(target_dims())`) for the iterator's samples -/
structure Data.WF (D : Data α) (samples : List Nat) : Prop where
  flat : ∀ s ∈ samples, (D.flat s).length = D.cols
  targ : ∀ s ∈ samples, (D.targ s).length = D.tcols

/-- the statistics the property speaks about: the C14 statistics of the raw flattened inputs / targets of the samples -/
def fStats [Sqrt α] (hi lo eps : α) (D : Data α) (samples : List Nat) : List (Stats α) :=
  defStats hi lo eps D.enF D.flat samples
def tStats [Sqrt α] (hi lo eps : α) (D : Data α) (samples : List Nat) : List (Stats α) :=
  defStats hi lo eps D.enT D.targ samples

/-- `nan2zero (scale mode stats (flatten D samples))` and the same for the targets: the definition's data -/
def scaledInputs [Sqrt α] [FinTest α] (hi lo eps : α) (D : Data α) (samples : List Nat) (m : Mode) : List (List α) :=
  scaledAll m (fStats hi lo eps D samples) D.flat samples
def scaledTargets [Sqrt α] [FinTest α] (hi lo eps : α) (D : Data α) (samples : List Nat) (m : Mode) : List (List α) :=
  scaledAll m (tStats hi lo eps D samples) D.targ samples

structure Iter.Inv [Sqrt α] [FinTest α] (hi lo eps : α) (D : Data α) (samples : List Nat) (it : Iter α) : Prop where
  wf : D.WF samples
  hsamples : it.samples = samples
  fstats : it.fstats = fStats hi lo eps D samples
  tstats : it.tstats = tStats hi lo eps D samples
  fcache : it.fcache = [] ∨ it.fcache = scaledInputs hi lo eps D samples it.fmode
  tcache : it.tcache = [] ∨ it.tcache = scaledTargets hi lo eps D samples it.tmode

/-- a filled cache was filled under the scaling that is in force now -/
def Iter.Fresh (it : Iter α) : Prop := (it.fcache ≠ [] → it.fmode = it.mode) ∧ (it.tcache ≠ [] → it.tmode = it.mode)

/-- a configuration call that cannot make a cache stale -/
def Cfg.Keeps (it : Iter α) : Cfg → Prop
  | .scaling m => m = it.mode ∨ (it.fcache = [] ∧ it.tcache = [])
  | _ => True

theorem inv_make [Sqrt α] [FinTest α] (hi lo eps : α) (D : Data α) (samples : List Nat) (workers sbF sbT : Nat)
    (hF : 0 < sbF) (hT : 0 < sbT) (hwf : D.WF samples) :
    (Iter.make hi lo eps D samples workers sbF sbT).Inv hi lo eps D samples := by
  refine ⟨hwf, rfl, ?_, ?_, Or.inl rfl, Or.inl rfl⟩
  · exact makeStats_eq_defStats hi lo eps D.enF D.flat samples sbF hF hwf.flat
  · exact makeStats_eq_defStats hi lo eps D.enT D.targ samples sbT hT hwf.targ

theorem fresh_make [Sqrt α] (hi lo eps : α) (D : Data α) (samples : List Nat) (workers sbF sbT : Nat) :
    (Iter.make hi lo eps D samples workers sbF sbT).Fresh := ⟨fun h => absurd rfl h, fun h => absurd rfl h⟩

theorem fillCache_some_valid {compute : Nat → Nat → Option (List (List α))} {workers : Nat} :
    ∀ {cs : List (Nat × Nat)} {ws : List Nat} {cache r : List (List α)}, fillCache compute workers cache cs ws = some r →
      ws.length = cs.length ∧ ∀ w ∈ ws, w < workers := by
  intro cs
  induction cs with
  | nil =>
    intro ws cache r h
    cases ws with
    | nil => exact ⟨rfl, fun _ hw => nomatch hw⟩
    | cons _ _ => cases h
  | cons c cs ih =>
    intro ws cache r h
    obtain ⟨b, e⟩ := c
    cases ws with
    | nil => cases h
    | cons w ws =>
      by_cases hw : w < workers
      · rw [fillCache, if_pos hw] at h
        cases hc : compute b e with
        | none => rw [hc] at h; cases h
        | some rows =>
          rw [hc] at h
          obtain ⟨h1, h2⟩ := ih h
          exact ⟨congrArg Nat.succ h1, List.forall_mem_cons.2 ⟨hw, h2⟩⟩
      · rw [fillCache, if_neg hw] at h
        cases h

theorem fStats_length [Sqrt α] (hi lo eps : α) (D : Data α) (samples : List Nat) :
    (fStats hi lo eps D samples).length = D.cols := length_defStats ..
theorem tStats_length [Sqrt α] (hi lo eps : α) (D : Data α) (samples : List Nat) :
    (tStats hi lo eps D samples).length = D.tcols := length_defStats ..

/-- for every valid schedule a cache filler returns the scaled matrix of all the samples, whatever the fresh tensor held -/
theorem fill_total [FinTest α] (m : Mode) (ss : List (Stats α)) (rowOf : Nat → List (Option α)) (samples : List Nat)
    (hrows : ∀ s ∈ samples, (rowOf s).length = ss.length) (workers batch : Nat) (hb : 0 < batch) (asg : List Nat)
    (hasg : ValidAsg workers samples.length batch asg) (junk : List α) :
    fillCache (computeRows m ss rowOf samples) workers (List.replicate samples.length junk)
      (chunks samples.length batch) asg = some (scaledAll m ss rowOf samples) := by
  rw [fillCache_eq (computeRows m ss rowOf samples) (scaledAll m ss rowOf samples) workers samples.length
    (length_scaledAll ..) (computeRows_eq m ss rowOf samples hrows) _ asg 0 _
    (chunks_tiles samples.length batch hb) List.length_replicate hasg.1 hasg.2, sliceOf_all (length_scaledAll ..)]
  rfl

theorem fill_result [FinTest α] {m : Mode} {ss : List (Stats α)} {rowOf : Nat → List (Option α)} {samples : List Nat}
    (hrows : ∀ s ∈ samples, (rowOf s).length = ss.length) {workers batch : Nat} (hb : batch ≠ 0) {asg : List Nat}
    {junk : List α} {c : List (List α)}
    (h : fillCache (computeRows m ss rowOf samples) workers (List.replicate samples.length junk)
      (chunks samples.length batch) asg = some c) :
    c = scaledAll m ss rowOf samples := by
  rw [fill_total m ss rowOf samples hrows workers batch (Nat.pos_of_ne_zero hb) asg (fillCache_some_valid h)
    junk] at h
  exact (Option.some.inj h).symm

/-- the shape shared by `cache_flatten` and `cache_targets`: refuse for lack of budget and return `it0` (the iterator with
    the cache emptied, resp. unchanged), or assert the batch, run the filler and store what it returns -/
theorem cache_call_some {ι : Type} {P : Prop} [Decidable P] {batch : Nat} {fill : Option (List (List α))}
    {K : List (List α) → ι} {it0 it' : ι} {flag : Bool}
    (h : (if P then if batch = 0 then none else
            match fill with
            | some c => some (K c, true)
            | none => none
          else some (it0, false)) = some (it', flag)) :
    it' = it0 ∨ ∃ c, batch ≠ 0 ∧ fill = some c ∧ it' = K c := by
  split at h
  · split at h
    · cases h
    · rename_i hb
      cases fill with
      | none => cases h
      | some c => exact Or.inr ⟨c, hb, rfl, (congrArg Prod.fst (Option.some.inj h)).symm⟩
  · exact Or.inl (congrArg Prod.fst (Option.some.inj h)).symm

/-! ### what a loop hands to its callback -/

/-- the matrix a loop serves slices of: the cache when filled (`size<0>() == samples.size()`), else computed on the fly -/
def Iter.servedX [FinTest α] (it : Iter α) (D : Data α) : List (List α) :=
  if it.fcached then it.fcache else scaledAll it.mode it.fstats D.flat it.samples
def Iter.servedT [FinTest α] (it : Iter α) (D : Data α) : List (List α) :=
  if it.tcached then it.tcache else scaledAll it.mode it.tstats D.targ it.samples

/-- the callback record of chunk `c` executed by worker `w` when the loop serves slices of `X` / `T` -/
def mkServed (X T : List (List α)) (c : Nat × Nat) (w : Nat) : Served α :=
  ⟨c.1, c.2, w, sliceOf X c.1 c.2, sliceOf T c.1 c.2⟩

/-- either side of the iterator (`cache`, `ss`, `rowOf`: `m_flatten`, the flatten statistics, `dataset.flatten`, or the same
    for the targets): a cache that is empty or holds the scaled matrix under the mode `cm` it was filled with, and is not
    stale, makes the served matrix the scaled matrix under the current mode. (An empty cache counts as filled when there are no
    samples; the scaled matrix is empty as well then.) -/
theorem served_eq [FinTest α] (cache : List (List α)) (cm m : Mode) (ss : List (Stats α)) (rowOf : Nat → List (Option α))
    (samples : List Nat) (hc : cache = [] ∨ cache = scaledAll cm ss rowOf samples) (hf : cache ≠ [] → cm = m) :
    (if (cache.length == samples.length) = true then cache else scaledAll m ss rowOf samples)
      = scaledAll m ss rowOf samples := by
  by_cases hlen : (cache.length == samples.length) = true
  · rw [if_pos hlen]
    by_cases hne : cache = []
    · subst hne
      rw [List.eq_nil_of_length_eq_zero (eq_of_beq hlen).symm]
      rfl
    · rw [← hf hne]
      exact hc.resolve_left hne
  · rw [if_neg hlen]

section inv
variable [Sqrt α] [FinTest α] {hi lo eps : α} {D : Data α} {samples : List Nat} {it : Iter α}
  (hinv : it.Inv hi lo eps D samples)
include hinv

theorem Iter.Inv.rowsF : ∀ s ∈ it.samples, (D.flat s).length = it.fstats.length := fun s hs => by
  rw [hinv.fstats, fStats_length]
  exact hinv.wf.flat s (hinv.hsamples ▸ hs)

theorem Iter.Inv.rowsT : ∀ s ∈ it.samples, (D.targ s).length = it.tstats.length := fun s hs => by
  rw [hinv.tstats, tStats_length]
  exact hinv.wf.targ s (hinv.hsamples ▸ hs)

theorem serveF_eq {tnum : Nat} (b e : Nat) (ht : tnum < it.workers) :
    it.serveF D tnum b e = some (sliceOf (it.servedX D) b e) := by
  unfold Iter.serveF Iter.servedX
  split
  · rfl
  · exact computeRows_eq it.mode it.fstats D.flat it.samples hinv.rowsF b e

theorem serveT_eq {tnum : Nat} (b e : Nat) (ht : tnum < it.workers) :
    it.serveT D tnum b e = some (sliceOf (it.servedT D) b e) := by
  unfold Iter.serveT Iter.servedT
  split
  · rfl
  · exact computeRows_eq it.mode it.tstats D.targ it.samples hinv.rowsT b e

theorem servedX_eq (hf : it.Fresh) : it.servedX D = scaledInputs hi lo eps D samples it.mode := by
  unfold Iter.servedX Iter.fcached
  rw [hinv.fstats, hinv.hsamples]
  exact served_eq it.fcache it.fmode it.mode _ D.flat samples hinv.fcache hf.1

theorem servedT_eq (hf : it.Fresh) : it.servedT D = scaledTargets hi lo eps D samples it.mode := by
  unfold Iter.servedT Iter.tcached
  rw [hinv.tstats, hinv.hsamples]
  exact served_eq it.tcache it.tmode it.mode _ D.targ samples hinv.tcache hf.2

theorem loopFT_eq (hb : 0 < it.batch) {asg : List Nat}
    (hasg : ValidAsg it.workers samples.length it.batch asg) :
    it.loopFT D asg = some (List.zipWith (mkServed (it.servedX D) (it.servedT D)) (chunks samples.length it.batch) asg) := by
  unfold Iter.loopFT
  rw [if_neg (Nat.ne_of_gt hb), hinv.hsamples]
  exact loopWith_eq _ (it.servedX D) (it.servedT D) it.workers (fun w b e hw => by
    rw [serveF_eq hinv b e hw, serveT_eq hinv b e hw])
    _ asg hasg.1 hasg.2

theorem loopT_eq (hb : 0 < it.batch) {asg : List Nat}
    (hasg : ValidAsg it.workers samples.length it.batch asg) :
    it.loopT D asg = some (List.zipWith (mkServed [] (it.servedT D)) (chunks samples.length it.batch) asg) := by
  unfold Iter.loopT
  rw [if_neg (Nat.ne_of_gt hb), hinv.hsamples]
  exact loopWith_eq _ [] (it.servedT D) it.workers (fun w b e hw => by
    rw [serveT_eq hinv b e hw, sliceOf_nil]; rfl) _ asg hasg.1 hasg.2

theorem loopF_eq (hb : 0 < it.batch) {asg : List Nat}
    (hasg : ValidAsg it.workers samples.length it.batch asg) :
    it.loopF D asg = some (List.zipWith (mkServed (it.servedX D) []) (chunks samples.length it.batch) asg) := by
  unfold Iter.loopF
  rw [if_neg (Nat.ne_of_gt hb), hinv.hsamples]
  exact loopWith_eq _ (it.servedX D) [] it.workers (fun w b e hw => by
    rw [serveF_eq hinv b e hw, sliceOf_nil]; rfl) _ asg hasg.1 hasg.2

end inv

/-! ### configuration calls and histories -/

theorem inv_step [Sqrt α] [FinTest α] (hi lo eps : α) (D : Data α) (samples : List Nat) (junk : List α) (it it' : Iter α)
    (c : Cfg) (hinv : it.Inv hi lo eps D samples) (hs : it.step D junk c = some it') : it'.Inv hi lo eps D samples := by
  have ⟨hwf, hsm, hfs, hts, hfc, htc⟩ := hinv
  cases c with
  | batch b => cases hs; exact ⟨hwf, hsm, hfs, hts, hfc, htc⟩
  | scaling m => cases hs; exact ⟨hwf, hsm, hfs, hts, hfc, htc⟩
  | cacheF mb asg =>
    obtain ⟨⟨it1, flag⟩, hc, rfl⟩ := Option.map_eq_some_iff.1 (hs : (it.cacheFlatten D mb asg junk).map Prod.fst = _)
    rcases cache_call_some hc with rfl | ⟨c, hb, hfill, rfl⟩
    · exact ⟨hwf, hsm, hfs, hts, Or.inl rfl, htc⟩
    · refine ⟨hwf, hsm, hfs, hts, Or.inr ?_, htc⟩
      show c = scaledAll it.mode (fStats hi lo eps D samples) D.flat samples
      rw [← hfs, ← hsm]
      exact fill_result hinv.rowsF hb hfill
  | cacheT mb asg =>
    obtain ⟨⟨it1, flag⟩, hc, rfl⟩ := Option.map_eq_some_iff.1 (hs : (it.cacheTargets D mb asg junk).map Prod.fst = _)
    rcases cache_call_some hc with rfl | ⟨c, hb, hfill, rfl⟩
    · exact hinv
    · refine ⟨hwf, hsm, hfs, hts, hfc, Or.inr ?_⟩
      show c = scaledAll it.mode (tStats hi lo eps D samples) D.targ samples
      rw [← hts, ← hsm]
      exact fill_result hinv.rowsT hb hfill

theorem run_preserves [FinTest α] (D : Data α) (junk : List α) (P : Iter α → Prop) (Q : Cfg → Prop)
    (hstep : ∀ (it it' : Iter α) c, Q c → P it → it.step D junk c = some it' → P it') :
    ∀ (cfgs : List Cfg) (it it' : Iter α), (∀ c ∈ cfgs, Q c) → P it → Iter.run D junk it cfgs = some it' → P it' := by
  intro cfgs
  induction cfgs with
  | nil => intro it it' _ hp h; exact Option.some.inj h ▸ hp
  | cons c cs ih =>
    intro it it' hq hp h
    rw [Iter.run] at h
    split at h
    · rename_i it1 hs
      exact ih it1 it' (fun c' hc' => hq c' (List.mem_cons_of_mem _ hc'))
        (hstep it it1 c (hq c (List.mem_cons_self ..)) hp hs) h
    · cases h

theorem inv_run [Sqrt α] [FinTest α] (hi lo eps : α) (D : Data α) (samples : List Nat) (junk : List α) :
    ∀ (cfgs : List Cfg) (it it' : Iter α), it.Inv hi lo eps D samples → Iter.run D junk it cfgs = some it' →
      it'.Inv hi lo eps D samples :=
  fun cfgs it it' => run_preserves D junk (Iter.Inv hi lo eps D samples) (fun _ => True)
    (fun it it' c _ hinv hs => inv_step hi lo eps D samples junk it it' c hinv hs) cfgs it it' fun _ _ => trivial

theorem inv_run_make [Sqrt α] [FinTest α] {hi lo eps : α} {D : Data α} {samples : List Nat} {workers sbF sbT : Nat}
    (hF : 0 < sbF) (hT : 0 < sbT) (hwf : D.WF samples) {junk : List α} {cfgs : List Cfg} {it : Iter α}
    (hrun : Iter.run D junk (Iter.make hi lo eps D samples workers sbF sbT) cfgs = some it) : it.Inv hi lo eps D samples :=
  inv_run hi lo eps D samples junk cfgs _ it (inv_make hi lo eps D samples workers sbF sbT hF hT hwf) hrun

theorem fresh_step [FinTest α] (D : Data α) (junk : List α) (it it' : Iter α) (c : Cfg) (hf : it.Fresh) (hk : c.Keeps it)
    (hs : it.step D junk c = some it') : it'.Fresh := by
  obtain ⟨h1, h2⟩ := hf
  cases c with
  | batch b => cases hs; exact ⟨h1, h2⟩
  | scaling m =>
    cases hs
    rcases hk with rfl | ⟨ha, hb⟩
    · exact ⟨h1, h2⟩
    · exact ⟨fun h => absurd ha h, fun h => absurd hb h⟩
  | cacheF mb asg =>
    obtain ⟨⟨it1, flag⟩, hc, rfl⟩ := Option.map_eq_some_iff.1 (hs : (it.cacheFlatten D mb asg junk).map Prod.fst = _)
    rcases cache_call_some hc with rfl | ⟨c, _, _, rfl⟩
    · exact ⟨fun h => absurd rfl h, h2⟩
    · exact ⟨fun _ => rfl, h2⟩
  | cacheT mb asg =>
    obtain ⟨⟨it1, flag⟩, hc, rfl⟩ := Option.map_eq_some_iff.1 (hs : (it.cacheTargets D mb asg junk).map Prod.fst = _)
    rcases cache_call_some hc with rfl | ⟨c, _, _, rfl⟩
    · exact ⟨h1, h2⟩
    · exact ⟨h1, fun _ => rfl⟩

def Cfg.isCache : Cfg → Bool
  | .cacheF .. => true
  | .cacheT .. => true
  | _ => false
def Cfg.isScaling : Cfg → Bool
  | .scaling _ => true
  | _ => false

theorem run_append [FinTest α] (D : Data α) (junk : List α) : ∀ (a b : List Cfg) (it : Iter α),
    Iter.run D junk it (a ++ b) = (Iter.run D junk it a).bind fun it1 => Iter.run D junk it1 b := by
  intro a
  induction a with
  | nil => intro b it; rfl
  | cons c cs ih =>
    intro b it
    simp only [List.cons_append, Iter.run]
    cases it.step D junk c with
    | none => rfl
    | some it1 => exact ih b it1

theorem run_no_cache [FinTest α] {D : Data α} {junk : List α} {cfgs : List Cfg} {it it' : Iter α}
    (hall : ∀ c ∈ cfgs, c.isCache = false) (h1 : it.fcache = []) (h2 : it.tcache = [])
    (h : Iter.run D junk it cfgs = some it') : it'.fcache = [] ∧ it'.tcache = [] :=
  run_preserves D junk (fun it => it.fcache = [] ∧ it.tcache = []) (fun c => c.isCache = false)
    (fun it it' c hc hp hs => by
      cases c with
      | batch b => cases hs; exact hp
      | scaling m => cases hs; exact hp
      | cacheF _ _ => cases hc
      | cacheT _ _ => cases hc) cfgs it it' hall ⟨h1, h2⟩ h

theorem run_no_scaling [FinTest α] {D : Data α} {junk : List α} {cfgs : List Cfg} {it it' : Iter α}
    (hall : ∀ c ∈ cfgs, c.isScaling = false) (hf : it.Fresh) (h : Iter.run D junk it cfgs = some it') : it'.Fresh :=
  run_preserves D junk Iter.Fresh (fun c => c.isScaling = false)
    (fun it it' c hc hp hs => fresh_step D junk it it' c hp (by
      cases c with
      | scaling m => cases hc
      | _ => trivial) hs) cfgs it it' hall hf h

/-- the configuration calls in the order the library makes them (`linear.cpp:34-37`, `gboost/model.cpp:94-103`): configure
    (`batch`, `scaling`, in any number and order), then cache (`cache_flatten`, `cache_targets`, `batch`, in any number and
    order): no cache is stale -/
theorem fresh_configure_then_cache [Sqrt α] [FinTest α] (hi lo eps : α) (D : Data α) (samples : List Nat)
    (workers sbF sbT : Nat) (junk : List α) (pre post : List Cfg) (it : Iter α)
    (hpre : ∀ c ∈ pre, c.isCache = false) (hpost : ∀ c ∈ post, c.isScaling = false)
    (h : Iter.run D junk (Iter.make hi lo eps D samples workers sbF sbT) (pre ++ post) = some it) : it.Fresh := by
  rw [run_append] at h
  obtain ⟨it1, h1, h⟩ := Option.bind_eq_some_iff.1 h
  obtain ⟨ha, hb⟩ := run_no_cache hpre rfl rfl h1
  exact run_no_scaling hpost ⟨fun hne => absurd ha hne, fun hne => absurd hb hne⟩ h

theorem zipWith_map_left {β γ δ : Type} (f : β → δ) : ∀ (xs : List β) (ys : List γ), ys.length = xs.length →
    List.zipWith (fun x _ => f x) xs ys = xs.map f := by
  intro xs
  induction xs with
  | nil => intro ys _; simp
  | cons x xs ih =>
    intro ys h
    cases ys with
    | nil => simp at h
    | cons y ys => simp [ih ys (by simpa using h)]

/-- one of the two blocks of the records handed out along a chain, concatenated in queue order, is the slice of the served
    matrix over the whole chain -/
theorem served_flatten (X T Y : List (List α)) (sel : Served α → List (List α))
    (hsel : ∀ c w, sel (mkServed X T c w) = sliceOf Y c.1 c.2) (cs : List (Nat × Nat)) (b n : Nat) (ht : Tiles b n cs)
    (asg : List Nat) (hlen : asg.length = cs.length) :
    ((List.zipWith (mkServed X T) cs asg).map sel).flatten = sliceOf Y b n := by
  rw [List.map_zipWith, ← tiles_flatten Y cs b n ht, ← zipWith_map_left _ cs asg hlen]
  simp only [hsel]

theorem length_scaledInputs [Sqrt α] [FinTest α] (hi lo eps : α) (D : Data α) (samples : List Nat) (m : Mode) :
    (scaledInputs hi lo eps D samples m).length = samples.length := length_scaledAll ..
theorem length_scaledTargets [Sqrt α] [FinTest α] (hi lo eps : α) (D : Data α) (samples : List Nat) (m : Mode) :
    (scaledTargets hi lo eps D samples m).length = samples.length := length_scaledAll ..

end
end NanoVerif.Iterator
