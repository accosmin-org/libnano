import NanoVerif.Proofs.LSearchQuad
/-!
  C07 — helper lemmas: Fletcher on a convex quadratic `φ(t) = f0 + g0 t + h t²/2` from EVERY positive first trial step, with an
  interpolation that is exact on quadratic data (`InterpExact`), `c1 < 1/2`, `0 < c2 < 1`.

  `zoom(lo, hi)`: invariant — `lo` satisfies Armijo but not strong Wolfe, `t*` lies strictly between `lo.t` and `hi.t` (either
  orientation). The trial is `clamp(t*, min + μ W, max - τ3 W)` (`W = |hi.t - lo.t|`, `μ = min(tau2, c2)`); it is accepted, or it
  was clamped and replaces `lo` or `hi` so that the invariant is kept and `W` is multiplied by `μ` or `τ3`. A trial within
  `ρ = min(c2, 1 - 2c1) t*` of `t*` is always accepted, and `W ≤ ρ` forces that; hence at most `j` rejections when `τ3^j W ≤ ρ`.
-/
namespace NanoVerif.LSearch
open NanoVerif.Gen.LsPredicates


variable {α : Type} [Field α] [LinearOrder α] [IsStrictOrderedRing α]

theorem abs_sub_lt_of_between {c x y : α} (h : (x < c ∧ c < y) ∨ (y < c ∧ c < x)) : |x - c| < |y - x| := by
  rcases h with ⟨a, b⟩ | ⟨a, b⟩
  · rw [abs_of_neg (sub_neg.2 a), abs_of_pos (sub_pos.2 (a.trans b)), neg_sub]; exact sub_lt_sub_right b x
  · rw [abs_of_pos (sub_pos.2 b), abs_of_neg (sub_neg.2 (a.trans b)), neg_sub]; exact sub_lt_sub_left a x

/-- the trial step of `zoom` for a bracket `(l, u)` around `c` in either orientation, safeguards `μ ≤ τ ≤ 1/2`: it is `c`, or it was
    clamped; then it lies within `τ |u - l|` of the end of the bracket that is across `c` from it: of `l`, or of `u` (and then
    between `l` and `c`) -/
theorem zoom_trial {l u c μ τ t : α} (hb : (l < c ∧ c < u) ∨ (u < c ∧ c < l)) (hμ : 0 < μ) (hμτ : μ ≤ τ) (hτ : τ ≤ 1 / 2)
    (ht : t = clamp c (min l u + μ * |u - l|) (max l u - τ * |u - l|)) :
    min l u < t ∧ (t = c ∨
      (((l < c ∧ c < t ∧ l < u) ∨ (t < c ∧ c < l ∧ u < l)) ∧ |t - l| ≤ τ * |u - l|) ∨
      (((l < t ∧ t < c ∧ c < u) ∨ (u < c ∧ c < t ∧ t < l)) ∧ |u - t| ≤ τ * |u - l|)) := by
  rcases hb with ⟨a, b⟩ | ⟨a, b⟩
  · rw [max_eq_right (a.trans b).le] at ht
    rw [min_eq_left (a.trans b).le, abs_of_pos (sub_pos.2 (a.trans b))] at ht ⊢
    obtain ⟨hl, hu, hw, hw'⟩ := clamp_trial a b hμ hμτ hτ ht
    rcases lt_trichotomy t c with hc | hc | hc
    · exact ⟨hl, Or.inr (Or.inr ⟨Or.inl ⟨hl, hc, b⟩, by rw [abs_of_pos (sub_pos.2 hu)]; exact hw' hc⟩)⟩
    · exact ⟨hl, Or.inl hc⟩
    · exact ⟨hl, Or.inr (Or.inl ⟨Or.inl ⟨a, hc, a.trans b⟩, by rw [abs_of_pos (sub_pos.2 hl)]; exact hw hc⟩)⟩
  · rw [max_eq_left (a.trans b).le] at ht
    rw [min_eq_right (a.trans b).le, abs_of_neg (sub_neg.2 (a.trans b)), neg_sub] at ht ⊢
    obtain ⟨hl, hu, hw, hw'⟩ := clamp_trial a b hμ hμτ hτ ht
    rcases lt_trichotomy t c with hc | hc | hc
    · exact ⟨hl, Or.inr (Or.inl ⟨Or.inr ⟨hc, b, a.trans b⟩, by rw [abs_of_neg (sub_neg.2 hu), neg_sub]; exact hw' hc⟩)⟩
    · exact ⟨hl, Or.inl hc⟩
    · exact ⟨hl, Or.inr (Or.inr ⟨Or.inr ⟨a, hc, hu⟩, by rw [abs_of_neg (sub_neg.2 hl), neg_sub]; exact hw hc⟩)⟩

/-- the expansion step `t' = clamp(t*, t + 2Δ, t + τ1 Δ)`, `Δ = t - p`, taken at `t < t*`: the number of expansions still needed to
    pass `t*` goes down, and `t'` stays below `(1 + τ1) t*` -/
theorem fletcher_expand {p t c τ1 t' : α} (k : Nat) (hp0 : 0 ≤ p) (hpt : p < t) (htc : t < c) (hτ : 2 ≤ τ1)
    (hk : c ≤ p + τ1 ^ (k + 1) * (t - p)) (ht' : t' = clamp c (t + 2 * (t - p)) (t + τ1 * (t - p))) :
    t < t' ∧ c ≤ t + τ1 ^ k * (t' - t) ∧ t' ≤ (1 + τ1) * c := by
  have hΔ := sub_pos.2 hpt
  have hτ0 : 0 ≤ τ1 := zero_le_two.trans hτ
  obtain ⟨c1, c2⟩ := clamp_mem (v := c) ((add_le_add_iff_left t).2 (mul_le_mul_of_nonneg_right hτ hΔ.le))
  rw [← ht'] at c1 c2
  have htt' : t < t' := lt_of_lt_of_le (lt_add_of_pos_right t (mul_pos two_pos hΔ)) c1
  refine ⟨htt', ?_, ?_⟩
  · rcases le_or_gt c t' with hc | hc
    · have := mul_le_mul_of_nonneg_right (one_le_pow₀ (one_le_two.trans hτ) (n := k)) (sub_pos.2 htt').le
      linarith only [this, hc]
    · rw [Cxx.eq_hi_of_clamp_lt ht' hc, add_sub_cancel_left, ← mul_assoc, ← pow_succ]
      linarith only [hk, hpt]
  · have h1 := mul_le_mul_of_nonneg_left (sub_le_self t hp0) hτ0
    have h2 := mul_le_mul_of_nonneg_left htc.le (add_nonneg zero_le_one hτ0)
    linarith only [c2, h1, h2]

/-- the invariant of `zoom` on a quadratic; `T = 2(1 - c1) t*` -/
structure ZoomInv (cfg : Cfg α) (f0 g0 h : α) (lo hi : Step α) : Prop where
  lo_on : OnQuad f0 g0 h lo
  hi_on : OnQuad f0 g0 h hi
  lo_t : 0 ≤ lo.t
  hi_t : 0 ≤ hi.t
  lo_armijo : lo.t ≤ 2 * (1 - cfg.c1) * tstar g0 h
  lo_nsw : cfg.c2 * tstar g0 h < |lo.t - tstar g0 h|
  between : (lo.t < tstar g0 h ∧ tstar g0 h < hi.t) ∨ (hi.t < tstar g0 h ∧ tstar g0 h < lo.t)

omit [IsStrictOrderedRing α] in
theorem zoom_step_eq (cfg : Cfg α) (φ : Oracle α) (s0 : Eval α) (n : Nat) (lo hi : Step α) (ctx : Ctx α) (t : α)
    (hguard : absv (lo.t - hi.t) > cfg.eps0)
    (ht : t = clamp (cfg.interp lo hi) (cmin lo.t hi.t + cmin cfg.tau2 cfg.c2 * absv (hi.t - lo.t))
      (cmax lo.t hi.t - cfg.tau3 * absv (hi.t - lo.t)))
    (hok : (ask φ ctx t).cur.ok = true) :
    zoom cfg φ s0 (n + 1) lo hi ctx =
      (if hasArmijo s0.f s0.g (ask φ ctx t).cur.f t cfg.c1 = false ∨ (ask φ ctx t).cur.f ≥ lo.f then
        zoom cfg φ s0 n lo (stepOf (ask φ ctx t) t) (ask φ ctx t)
      else if hasStrongWolfe s0.g (ask φ ctx t).cur.g cfg.c2 then ⟨true, t, ask φ ctx t⟩
      else zoom cfg φ s0 n (stepOf (ask φ ctx t) t) (if (ask φ ctx t).cur.g * (hi.t - lo.t) ≥ 0 then lo else hi) (ask φ ctx t)) := by
  subst ht
  simp only [zoom, hguard, hok, if_true]

omit [IsStrictOrderedRing α] in
theorem fletcher_step_eq (cfg : Cfg α) (φ : Oracle α) (s0 : Eval α) (n : Nat) (prev : Step α) (t : α) (ctx : Ctx α) :
    fletcher cfg φ s0 (n + 1) prev (stepOf ctx t) t ctx =
      (if hasArmijo s0.f s0.g ctx.cur.f t cfg.c1 = false ∨ ctx.cur.f ≥ prev.f then zoom cfg φ s0 cfg.maxIter prev (stepOf ctx t) ctx
      else if hasStrongWolfe s0.g ctx.cur.g cfg.c2 then ⟨true, t, ctx⟩
      else if hasDescent ctx.cur.g = false then zoom cfg φ s0 cfg.maxIter (stepOf ctx t) prev ctx
      else
        let t' := clamp (cfg.interp prev (stepOf ctx t)) (t + 2 * (t - prev.t)) (t + cfg.tau1 * (t - prev.t))
        if (ask φ ctx t').cur.ok then fletcher cfg φ s0 n (stepOf ctx t) (stepOf (ask φ ctx t') t') t' (ask φ ctx t')
        else ⟨false, t', ask φ ctx t'⟩) := rfl

/-- an overshooting first trial (`T < t`): `zoom(0, t)`, whose first trial is `t*` when the safeguards do not clamp it; there Armijo
    holds (`c1 ≤ 1/2`), the value is below `φ(0)`, and strong Wolfe holds -/
theorem fletcher_quad_overshoot (cfg : Cfg α) (f0 g0 h : α) (hg : g0 < 0) (hh : 0 < h) (hI : InterpExact cfg f0 g0 h)
    (n : Nat) (t : α) (ctx : Ctx α) (hc : ctx.cur = quadLine f0 g0 h t) (ht : 2 * (1 - cfg.c1) * tstar g0 h < t)
    (ht0 : 0 < t) (hlo : min cfg.tau2 cfg.c2 * t ≤ tstar g0 h) (hhi : tstar g0 h ≤ (1 - cfg.tau3) * t)
    (hc1 : cfg.c1 ≤ 1 / 2) (hc2 : 0 ≤ cfg.c2) (hM : 0 < cfg.maxIter) (heps : cfg.eps0 < t) :
    fletcher cfg (fun _ => quadLine f0 g0 h) ⟨f0, g0, true⟩ (n + 1) ⟨0, f0, g0⟩ (stepOf ctx t) t ctx =
      ⟨true, tstar g0 h, ask (fun _ => quadLine f0 g0 h) ctx (tstar g0 h)⟩ := by
  obtain ⟨m, hm⟩ : ∃ m, cfg.maxIter = m + 1 := ⟨cfg.maxIter - 1, by omega⟩
  have hA : hasArmijo f0 g0 (quadLine f0 g0 h t).f t cfg.c1 = false :=
    Bool.eq_false_iff.2 (mt (armijo_quad_iff hh ht0).1 (not_le.2 ht))
  have hguard : absv ((⟨0, f0, g0⟩ : Step α).t - (stepOf ctx t).t) > cfg.eps0 := by
    simp only [stepOf, absv_eq_abs, zero_sub, abs_neg, abs_of_pos ht0]; exact heps
  have hclamp : tstar g0 h = clamp (cfg.interp ⟨0, f0, g0⟩ (stepOf ctx t))
      (cmin (⟨0, f0, g0⟩ : Step α).t (stepOf ctx t).t + cmin cfg.tau2 cfg.c2 * absv ((stepOf ctx t).t - (⟨0, f0, g0⟩ : Step α).t))
      (cmax (⟨0, f0, g0⟩ : Step α).t (stepOf ctx t).t - cfg.tau3 * absv ((stepOf ctx t).t - (⟨0, f0, g0⟩ : Step α).t)) := by
    rw [hI _ _ (onQuad_origin f0 g0 h) (onQuad_stepOf f0 g0 h ctx t hc) (ne_of_lt ht0)]
    simp only [stepOf, cmin_eq_min, cmax_eq_max, absv_eq_abs, sub_zero, abs_of_pos ht0, min_eq_left (le_of_lt ht0),
      max_eq_right (le_of_lt ht0)]
    exact (Cxx.clamp_of_mem (by linarith only [hlo]) (by linarith only [hhi])).symm
  have hcur : (ask (fun _ => quadLine f0 g0 h) ctx (tstar g0 h)).cur = quadLine f0 g0 h (tstar g0 h) := rfl
  rw [fletcher_step_eq, hc, if_pos (Or.inl hA), hm, zoom_step_eq cfg _ _ m _ _ ctx _ hguard hclamp rfl, hcur,
    if_neg (not_or.2 ⟨ne_false_of_eq_true ((armijo_at_tstar_iff hg hh).2 hc1), not_le.2 (quadLine_tstar_lt hg hh)⟩),
    if_pos (strongWolfe_at_tstar hg hh hc2).1]

section
variable (cfg : Cfg α) (f0 g0 h : α) (hg : g0 < 0) (hh : 0 < h) (hc1 : cfg.c1 < 1 / 2) (hc20 : 0 < cfg.c2)
include hg hh hc1 hc20

omit hc20 in
/-- a trial between `lo` and the minimiser does not become the new `hi`: it satisfies Armijo and its value is below that of `lo` -/
theorem zoom_trial_improves (lo : Step α) (hlo : OnQuad f0 g0 h lo) (hlo_a : lo.t ≤ 2 * (1 - cfg.c1) * tstar g0 h) (t : α)
    (ht0 : 0 < t) (hcl : (lo.t < t ∧ t ≤ tstar g0 h) ∨ (tstar g0 h ≤ t ∧ t < lo.t)) :
    ¬ (hasArmijo f0 g0 (quadLine f0 g0 h t).f t cfg.c1 = false ∨ (quadLine f0 g0 h t).f ≥ lo.f) := by
  rintro (h1 | h1)
  · have : t ≤ 2 * (1 - cfg.c1) * tstar g0 h :=
      hcl.elim (fun a => a.2.trans (tstar_le_armijo hg hh hc1.le)) (fun a => a.2.le.trans hlo_a)
    rw [(armijo_quad_iff hh ht0).2 this] at h1
    cases h1
  · exact not_le.2 (quad_closer_lt hh hcl) (hlo.1 ▸ h1)

omit hc1 in
/-- a trial that satisfies Armijo and is not accepted qualifies as the new `lo` -/
theorem zoom_trial_lo (t : α) (ht0 : 0 < t) (hA : ¬ hasArmijo f0 g0 (quadLine f0 g0 h t).f t cfg.c1 = false)
    (hS : ¬ hasStrongWolfe g0 (quadLine f0 g0 h t).g cfg.c2 = true) :
    t ≤ 2 * (1 - cfg.c1) * tstar g0 h ∧ cfg.c2 * tstar g0 h < |t - tstar g0 h| ∧ t ≠ tstar g0 h := by
  have hnsw := not_le.1 (mt (strongWolfe_quad_iff hg hh).2 hS)
  refine ⟨(armijo_quad_iff hh ht0).1 (eq_true_of_ne_false hA), hnsw, fun e => ?_⟩
  rw [e, sub_self, abs_zero] at hnsw
  exact lt_asymm hnsw (mul_pos hc20 (tstar_pos hg hh))

end

section
variable (cfg : Cfg α) (f0 g0 h : α) (hg : g0 < 0) (hh : 0 < h) (hI : InterpExact cfg f0 g0 h)
  (hc1 : cfg.c1 < 1 / 2) (hc20 : 0 < cfg.c2)
  (htau2 : 0 < cfg.tau2) (htau23 : cfg.tau2 ≤ cfg.tau3) (htau3 : cfg.tau3 ≤ 1 / 2)
  (heps1 : cfg.eps0 ≤ cfg.c2 * tstar g0 h)
include hg hh hI hc1 hc20 htau2 htau23 htau3 heps1

/-- `zoom` on the quadratic succeeds within `j + 1` iterations when `τ3^j |hi.t - lo.t| ≤ ρ = min(c2, 1 - 2c1) t*`: a bracket
    narrower than `c2 t*` cannot satisfy the invariant, and an iteration that does not accept keeps the invariant with a bracket
    narrower by `τ3` -/
theorem zoom_quad :
    ∀ (j n : Nat) (lo hi : Step α) (ctx : Ctx α), j < n → ZoomInv cfg f0 g0 h lo hi →
      cfg.tau3 ^ j * |hi.t - lo.t| ≤ min cfg.c2 (1 - 2 * cfg.c1) * tstar g0 h →
      QuadOK (zoom cfg (fun _ => quadLine f0 g0 h) ⟨f0, g0, true⟩ n lo hi ctx) := by
  have hρ : min cfg.c2 (1 - 2 * cfg.c1) * tstar g0 h ≤ cfg.c2 * tstar g0 h :=
    mul_le_mul_of_nonneg_right (min_le_left _ _) (tstar_pos hg hh).le
  intro j
  induction j with
  | zero =>
    intro n lo hi ctx hn inv hW
    rw [pow_zero, one_mul] at hW
    exact absurd ((hW.trans hρ).trans_lt inv.lo_nsw) (lt_asymm (abs_sub_lt_of_between inv.between))
  | succ j ih =>
    intro n lo hi ctx hn inv hW
    obtain ⟨n, rfl⟩ : ∃ n', n = n' + 1 := ⟨n - 1, by omega⟩
    have hnext : ∀ (lo' hi' : Step α) (ctx' : Ctx α), ZoomInv cfg f0 g0 h lo' hi' → |hi'.t - lo'.t| ≤ cfg.tau3 * |hi.t - lo.t| →
        QuadOK (zoom cfg (fun _ => quadLine f0 g0 h) ⟨f0, g0, true⟩ n lo' hi' ctx') := fun lo' hi' ctx' inv' hw =>
      ih n lo' hi' ctx' (by omega) inv' (le_trans
        (by rw [pow_succ, mul_assoc]; exact mul_le_mul_of_nonneg_left hw (pow_nonneg (htau2.trans_le htau23).le j)) hW)
    -- the bracket is wider than `c2 t*`, so the guard passes
    have hguard : absv (lo.t - hi.t) > cfg.eps0 := by
      rw [absv_eq_abs, abs_sub_comm]; exact lt_of_le_of_lt heps1 (inv.lo_nsw.trans (abs_sub_lt_of_between inv.between))
    have hne : lo.t ≠ hi.t := inv.between.elim (fun a => (a.1.trans a.2).ne) (fun a => (a.1.trans a.2).ne')
    obtain ⟨t, ht⟩ : ∃ t, t = clamp (cfg.interp lo hi) (cmin lo.t hi.t + cmin cfg.tau2 cfg.c2 * absv (hi.t - lo.t))
        (cmax lo.t hi.t - cfg.tau3 * absv (hi.t - lo.t)) := ⟨_, rfl⟩
    rw [zoom_step_eq cfg _ _ n lo hi ctx t hguard ht rfl]
    have hcur : (ask (fun _ => quadLine f0 g0 h) ctx t).cur = quadLine f0 g0 h t := rfl
    rw [hcur]
    generalize ask (fun _ => quadLine f0 g0 h) ctx t = ctx' at hcur ⊢
    rw [hI lo hi inv.lo_on inv.hi_on hne, cmin_eq_min, cmin_eq_min, cmax_eq_max, absv_eq_abs] at ht
    obtain ⟨hmin, htype⟩ := zoom_trial inv.between (lt_min htau2 hc20) ((min_le_left _ _).trans htau23) htau3 ht
    have ht0 : 0 < t := lt_of_le_of_lt (le_min inv.lo_t inv.hi_t) hmin
    have hton : OnQuad f0 g0 h (stepOf ctx' t) := onQuad_stepOf f0 g0 h _ t hcur
    have himp := zoom_trial_improves cfg f0 g0 h hg hh hc1 lo inv.lo_on inv.lo_armijo t ht0
    by_cases hB : hasArmijo f0 g0 (quadLine f0 g0 h t).f t cfg.c1 = false ∨ (quadLine f0 g0 h t).f ≥ lo.f
    · -- the trial becomes `hi`: it is not between `lo` and `t*`
      rw [if_pos hB]
      rcases htype with e | ⟨hA, hw⟩ | ⟨hs, -⟩
      · exact absurd hB (himp (inv.between.imp (fun a => ⟨a.1.trans_eq e.symm, e.le⟩) (fun a => ⟨e.ge, e.trans_lt a.2⟩)))
      · exact hnext lo (stepOf ctx' t) ctx' ⟨inv.lo_on, hton, inv.lo_t, ht0.le, inv.lo_armijo, inv.lo_nsw,
          hA.imp (fun a => ⟨a.1, a.2.1⟩) (fun a => ⟨a.1, a.2.1⟩)⟩ hw
      · exact absurd hB (himp (hs.imp (fun a => ⟨a.1, a.2.1.le⟩) (fun a => ⟨a.2.1.le, a.2.2⟩)))
    · rw [if_neg hB]
      by_cases hS : hasStrongWolfe g0 (quadLine f0 g0 h t).g cfg.c2 = true
      · rw [if_pos hS]; exact ⟨rfl, ht0⟩
      · -- the trial becomes `lo`; the sign of its slope tells which old end is across `t*`
        rw [if_neg hS]
        obtain ⟨htT, hnsw, hne⟩ := zoom_trial_lo cfg f0 g0 h hg hh hc20 t ht0 (not_or.1 hB).1 hS
        rcases htype with e | ⟨hA, hw⟩ | ⟨hs, hw⟩
        · exact absurd e hne
        · have hcond : (quadLine f0 g0 h t).g * (hi.t - lo.t) ≥ 0 :=
            hA.elim (fun a => (mul_pos (quad_slope_pos hh a.2.1) (sub_pos.2 a.2.2)).le)
              (fun a => (mul_pos_of_neg_of_neg (quad_slope_neg hh a.1) (sub_neg.2 a.2.2)).le)
          rw [if_pos hcond]
          exact hnext (stepOf ctx' t) lo ctx' ⟨hton, inv.lo_on, ht0.le, inv.lo_t, htT, hnsw,
            hA.symm.imp (fun a => ⟨a.1, a.2.1⟩) (fun a => ⟨a.1, a.2.1⟩)⟩ ((abs_sub_comm _ _).trans_le hw)
        · have hcond : ¬ (quadLine f0 g0 h t).g * (hi.t - lo.t) ≥ 0 :=
            hs.elim (fun a => not_le.2 (mul_neg_of_neg_of_pos (quad_slope_neg hh a.2.1) (sub_pos.2 (a.1.trans (a.2.1.trans a.2.2)))))
              (fun a => not_le.2 (mul_neg_of_pos_of_neg (quad_slope_pos hh a.2.1) (sub_neg.2 (a.1.trans (a.2.1.trans a.2.2)))))
          rw [if_neg hcond]
          exact hnext (stepOf ctx' t) hi ctx' ⟨hton, inv.hi_on, ht0.le, inv.hi_t, htT, hnsw,
            hs.imp (fun a => a.2) (fun a => ⟨a.1, a.2.1⟩)⟩ hw

theorem fletcher_quad (htau1 : 2 ≤ cfg.tau1) (J : Nat) (hJ : J < cfg.maxIter) :
    ∀ (k n : Nat) (prev : Step α) (t : α) (ctx : Ctx α), k < n → OnQuad f0 g0 h prev → 0 ≤ prev.t → prev.t < t →
      prev.t < tstar g0 h → cfg.c2 * tstar g0 h < |prev.t - tstar g0 h| → ctx.cur = quadLine f0 g0 h t →
      tstar g0 h ≤ prev.t + cfg.tau1 ^ k * (t - prev.t) →
      cfg.tau3 ^ J * max t ((1 + cfg.tau1) * tstar g0 h) ≤ min cfg.c2 (1 - 2 * cfg.c1) * tstar g0 h →
      QuadOK (fletcher cfg (fun _ => quadLine f0 g0 h) ⟨f0, g0, true⟩ n prev (stepOf ctx t) t ctx) := by
  have hτJ : 0 ≤ cfg.tau3 ^ J := pow_nonneg (htau2.trans_le htau23).le J
  intro k
  induction k with
  | zero =>
    -- `t* ≤ t`: accepted, or a `zoom` in the bracket `(prev.t, t)`, whose budget covers it
    intro n prev t ctx hn hprev hp0 hpt hps hpn hc hk hW
    obtain ⟨n, rfl⟩ : ∃ n', n = n' + 1 := ⟨n - 1, by omega⟩
    rw [pow_zero, one_mul, add_sub_cancel] at hk
    have ht0 : 0 < t := lt_of_le_of_lt hp0 hpt
    have hcurr : OnQuad f0 g0 h (stepOf ctx t) := onQuad_stepOf f0 g0 h ctx t hc
    have hpa := hps.le.trans (tstar_le_armijo hg hh hc1.le)
    have hWz : cfg.tau3 ^ J * |t - prev.t| ≤ min cfg.c2 (1 - 2 * cfg.c1) * tstar g0 h := by
      rw [abs_of_pos (sub_pos.2 hpt)]
      exact (mul_le_mul_of_nonneg_left ((sub_le_self t hp0).trans (le_max_left _ _)) hτJ).trans hW
    have hzoom := zoom_quad cfg f0 g0 h hg hh hI hc1 hc20 htau2 htau23 htau3 heps1 J cfg.maxIter
    rw [fletcher_step_eq, hc]
    by_cases hB : hasArmijo f0 g0 (quadLine f0 g0 h t).f t cfg.c1 = false ∨ (quadLine f0 g0 h t).f ≥ prev.f
    · rw [if_pos hB]
      have htgt : tstar g0 h < t := lt_of_not_ge fun hle =>
        zoom_trial_improves cfg f0 g0 h hg hh hc1 prev hprev hpa t ht0 (Or.inl ⟨hpt, hle⟩) hB
      exact hzoom prev (stepOf ctx t) ctx hJ ⟨hprev, hcurr, hp0, ht0.le, hpa, hpn, Or.inl ⟨hps, htgt⟩⟩ hWz
    · rw [if_neg hB]
      by_cases hS : hasStrongWolfe g0 (quadLine f0 g0 h t).g cfg.c2 = true
      · rw [if_pos hS]; exact ⟨rfl, ht0⟩
      · obtain ⟨htT, hnsw, hne⟩ := zoom_trial_lo cfg f0 g0 h hg hh hc20 t ht0 (not_or.1 hB).1 hS
        rw [if_neg hS, if_pos ((descent_quad_iff hh).2 hk)]
        exact hzoom (stepOf ctx t) prev ctx hJ ⟨hcurr, hprev, ht0.le, hp0, htT, hnsw, Or.inr ⟨hps, lt_of_le_of_ne hk hne.symm⟩⟩
          (by rw [abs_sub_comm]; exact hWz)
  | succ k ih =>
    intro n prev t ctx hn hprev hp0 hpt hps hpn hc hk hW
    rcases le_or_gt (tstar g0 h) t with hct | htc
    · exact ih n prev t ctx (by omega) hprev hp0 hpt hps hpn hc (hct.trans (sub_le_iff_le_add'.1
        (le_mul_of_one_le_left (sub_pos.2 hpt).le (one_le_pow₀ (one_le_two.trans htau1))))) hW
    · -- `t < t*`: not rejected; accepted, or the slope is negative and the step is expanded
      obtain ⟨n, rfl⟩ : ∃ n', n = n' + 1 := ⟨n - 1, by omega⟩
      have ht0 : 0 < t := lt_of_le_of_lt hp0 hpt
      have hcurr : OnQuad f0 g0 h (stepOf ctx t) := onQuad_stepOf f0 g0 h ctx t hc
      have hB := zoom_trial_improves cfg f0 g0 h hg hh hc1 prev hprev (hps.le.trans (tstar_le_armijo hg hh hc1.le)) t ht0
        (Or.inl ⟨hpt, htc.le⟩)
      rw [fletcher_step_eq, hc, if_neg hB]
      by_cases hS : hasStrongWolfe g0 (quadLine f0 g0 h t).g cfg.c2 = true
      · rw [if_pos hS]; exact ⟨rfl, ht0⟩
      · obtain ⟨-, hnsw, -⟩ := zoom_trial_lo cfg f0 g0 h hg hh hc20 t ht0 (not_or.1 hB).1 hS
        rw [if_neg hS, if_neg (mt (descent_quad_iff hh).1 (not_le.2 htc)), hI prev (stepOf ctx t) hprev hcurr hpt.ne]
        obtain ⟨m1, m2, m3⟩ := fletcher_expand k hp0 hpt htc htau1 hk rfl
        exact ih n (stepOf ctx t) _ _ (by omega) hcurr ht0.le m1 htc hnsw rfl m2
          ((mul_le_mul_of_nonneg_left (max_le (m3.trans (le_max_right _ _)) (le_max_right _ _)) hτJ).trans hW)

end
end NanoVerif.LSearch
