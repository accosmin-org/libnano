import NanoVerif.Model.Scaling
import NanoVerif.Proofs.CxxOrder
import NanoVerif.Proofs.CxxMoments
import Mathlib.Algebra.Order.Field.Basic
import Mathlib.Tactic.Ring
import Mathlib.Tactic.FieldSimp
import Mathlib.Tactic.LinearCombination
/-!
  C14 — helper lemmas about `Model/Scaling.lean` over an arbitrary linear ordered field (exact arithmetic).
  The property theorems are in `Props/C14.lean`.
-/
set_option linter.unusedSectionVars false

namespace NanoVerif.Scaling

/-! ### `std::max` / `std::min` -/

section order
variable {β : Type} [LinearOrder β]

theorem cmax_of_lt {a b : β} (h : a < b) : cmax a b = b := if_pos h
theorem cmax_of_le {a b : β} (h : b ≤ a) : cmax a b = a := if_neg (not_lt.mpr h)

theorem cmax_eq_max (a b : β) : cmax a b = max a b := Cxx.ite_max a b

theorem cmin_eq_min (a b : β) : cmin a b = min a b := Cxx.ite_min a b

theorem le_cmax_right (a b : β) : b ≤ cmax a b := by rw [cmax_eq_max]; exact le_max_right _ _
theorem le_cmax_left (a b : β) : a ≤ cmax a b := by rw [cmax_eq_max]; exact le_max_left _ _

/-! ### running minimum / maximum -/

/-- with every value ≤ `hi` (a finite double is ≤ `numeric_limits::max()`), the running minimum started at `hi`
    is an element of a non-empty column and a lower bound of it -/
theorem foldl_min_attained (l : List β) (hi : β) (hne : l ≠ []) (hb : ∀ v ∈ l, v ≤ hi) :
    l.foldl min hi ∈ l ∧ ∀ v ∈ l, l.foldl min hi ≤ v := by
  -- after the first value `x ≤ hi` the running minimum is the one started at `x`
  obtain ⟨x, t, rfl⟩ := List.exists_cons_of_ne_nil hne
  rw [List.foldl_cons, min_eq_right (hb x List.mem_cons_self)]
  exact ⟨Cxx.foldl_min_mem t x, List.forall_mem_cons.mpr (Cxx.foldl_min_le t x)⟩

/-- the running maximum started at `lo` (`numeric_limits::lowest()`): the statement above in the dual order, where
    `min` is `max` and `≤` is `≥` -/
theorem foldl_max_attained (l : List β) (lo : β) (hne : l ≠ []) (hb : ∀ v ∈ l, lo ≤ v) :
    l.foldl max lo ∈ l ∧ ∀ v ∈ l, v ≤ l.foldl max lo :=
  foldl_min_attained (β := βᵒᵈ) l lo hne hb

end order

variable {α : Type} [Field α] [LinearOrder α] [IsStrictOrderedRing α]

/-! ### the data of a column -/

/-- the values that are present (finite) in a column, in order -/
def present (xs : List (Option α)) : List α := xs.filterMap id

@[simp] theorem present_nil : present ([] : List (Option α)) = [] := rfl
@[simp] theorem present_none (xs : List (Option α)) : present (none :: xs) = present xs := rfl
@[simp] theorem present_some (v : α) (xs : List (Option α)) : present (some v :: xs) = v :: present xs := rfl

theorem present_map_some (l : List α) : present (l.map some) = l := by
  induction l with
  | nil => rfl
  | cons x xs ih => simp [ih]

def sumSq (l : List α) : α := (l.map (fun v => v * v)).sum

@[simp] theorem sumSq_nil : sumSq ([] : List α) = 0 := rfl
@[simp] theorem sumSq_cons (v : α) (l : List α) : sumSq (v :: l) = v * v + sumSq l := by simp [sumSq]

/-- what the loop of `::update` computes, whatever the starting accumulator -/
theorem foldl_push (xs : List (Option α)) (a : Acc α) :
    xs.foldl Acc.push a = ⟨a.n + (present xs).length, a.sum + (present xs).sum, a.sum2 + sumSq (present xs),
      (present xs).foldl min a.mn, (present xs).foldl max a.mx⟩ := by
  induction xs generalizing a with
  | nil => simp
  | cons x xs ih =>
    cases x with
    | none => exact ih a
    | some v =>
      rw [List.foldl_cons, ih]
      simp only [Acc.push, present_some, List.length_cons, List.sum_cons, sumSq_cons, List.foldl_cons, cmin_eq_min,
        cmax_eq_max, add_assoc]
      rw [Nat.add_comm 1]

theorem accumulate_spec (hi lo : α) (xs : List (Option α)) :
    (accumulate hi lo xs).n = (present xs).length ∧
    (accumulate hi lo xs).sum = (present xs).sum ∧
    (accumulate hi lo xs).sum2 = sumSq (present xs) ∧
    (accumulate hi lo xs).mn = (present xs).foldl min hi ∧
    (accumulate hi lo xs).mx = (present xs).foldl max lo := by
  rw [accumulate, foldl_push]
  exact ⟨Nat.zero_add _, zero_add _, zero_add _, rfl, rfl⟩

/-! ### sums of squared deviations (Cauchy–Schwarz on lists) -/

theorem sum_sq_dev (l : List α) (v : α) :
    (l.map (fun x => (x - v) * (x - v))).sum = sumSq l - 2 * v * l.sum + (l.length : α) * (v * v) :=
  Cxx.sum_sq_dev l v

theorem sum_sq_nonneg (l : List α) (f : α → α) : 0 ≤ (l.map (fun x => f x * f x)).sum := by
  induction l with
  | nil => exact le_rfl
  | cons x xs ih => exact add_nonneg (mul_self_nonneg _) ih

theorem sumSq_sub_eq (l : List α) (hne : l ≠ []) :
    sumSq l - l.sum * l.sum / (l.length : α) =
      (l.map (fun x => (x - l.sum / (l.length : α)) * (x - l.sum / (l.length : α)))).sum := by
  have hn : (l.length : α) ≠ 0 := Nat.cast_ne_zero.mpr (mt List.length_eq_zero_iff.mp hne)
  rw [sum_sq_dev]
  field_simp
  ring

theorem sum_map_sub (l : List α) (c : α) : (l.map (fun x => x - c)).sum = l.sum - (l.length : α) * c := by
  induction l with
  | nil => simp
  | cons x xs ih =>
    simp only [List.map_cons, List.sum_cons, List.length_cons, ih]
    push_cast
    ring

theorem sum_centered (l : List α) (c d : α) (hc : (l.length : α) * c = l.sum) :
    (l.map (fun x => (x - c) * d)).sum = 0 := by
  rw [List.sum_map_mul_right, sum_map_sub, hc, sub_self, zero_mul]

theorem sum_sq_scaled (l : List α) (c d : α) :
    (l.map (fun x => (x - c) * d * ((x - c) * d))).sum = (l.map (fun x => (x - c) * (x - c))).sum * (d * d) := by
  rw [← List.sum_map_mul_right]
  exact congrArg List.sum (List.map_congr_left fun x _ => mul_mul_mul_comm _ _ _ _)

/-- dividing a sum of squares `S` by the variance `sd² = S/k` leaves the degrees of freedom `k` -/
theorem sumSq_div_var {S sd k : α} (hsd : sd ≠ 0) (h : sd * sd = S / k) : S * (1 / sd * (1 / sd)) = k := by
  have hS : S ≠ 0 := fun h0 => mul_self_ne_zero.mpr hsd (by rw [h, h0, zero_div])
  rw [one_div_mul_one_div, h, mul_one_div, div_div_cancel₀ hS]

/-! ### `::done`, regime by regime -/

theorem finalize_disabled [Sqrt α] (eps : α) (a : Acc α) : finalize eps false a = ⟨a.n, 0, 0, 0, 0, 1, 1, 1, 1⟩ := by
  simp [finalize]

theorem finalize_zero [Sqrt α] (eps : α) (a : Acc α) (h : a.n = 0) :
    finalize eps true a = ⟨a.n, 0, 0, 0, 0, 1, 1, 1, 1⟩ := by
  simp [finalize, h]

theorem finalize_one [Sqrt α] (eps : α) (a : Acc α) (h : a.n = 1) :
    finalize eps true a = ⟨a.n, a.mn, a.mx, a.sum, 0, 1, 1, 1, 1⟩ := by
  simp [finalize, h]

theorem finalize_many [Sqrt α] (eps : α) (a : Acc α) (h : 1 < a.n) :
    finalize eps true a = ⟨a.n, a.mn, a.mx, a.sum / (a.n : α), Sqrt.sqrt (cmax (rawVar a) 0),
      1 / cmax (a.mx - a.mn) eps, cmax (a.mx - a.mn) eps,
      1 / cmax (Sqrt.sqrt (cmax (rawVar a) 0)) eps, cmax (Sqrt.sqrt (cmax (rawVar a) 0)) eps⟩ := by
  simp [finalize, h]

/-- in every regime the multipliers are positive (the ε guard, or the constant 1) and the divisors are their inverses -/
theorem finalize_normalisers [Sqrt α] (eps : α) (heps : 0 < eps) (en : Bool) (a : Acc α) :
    let s := finalize eps en a
    0 < s.mulRange ∧ s.divRange * s.mulRange = 1 ∧ 0 < s.mulSd ∧ s.divSd * s.mulSd = 1 := by
  have h1 : (0 : α) < 1 ∧ (1 : α) * 1 = 1 ∧ (0 : α) < 1 ∧ (1 : α) * 1 = 1 := ⟨one_pos, one_mul 1, one_pos, one_mul 1⟩
  cases en
  · rw [finalize_disabled]; exact h1
  · rcases Nat.lt_trichotomy a.n 1 with h | h | h
    · rw [finalize_zero eps a (Nat.lt_one_iff.mp h)]; exact h1
    · rw [finalize_one eps a h]; exact h1
    · rw [finalize_many eps a h]
      have hr : 0 < cmax (a.mx - a.mn) eps := heps.trans_le (le_cmax_right _ _)
      have hs : 0 < cmax (Sqrt.sqrt (cmax (rawVar a) 0)) eps := heps.trans_le (le_cmax_right _ _)
      exact ⟨hr, one_div_mul_cancel hr.ne', hs, one_div_mul_cancel hs.ne'⟩

/-! ### well-formed statistics: the `div`/`mul` pairs are exact inverses -/

def Stats.WF (s : Stats α) : Prop := s.divRange * s.mulRange = 1 ∧ s.divSd * s.mulSd = 1

theorem finalize_wf [Sqrt α] (eps : α) (heps : 0 < eps) (en : Bool) (a : Acc α) : (finalize eps en a).WF :=
  ⟨(finalize_normalisers eps heps en a).2.1, (finalize_normalisers eps heps en a).2.2.2⟩

/-- an enabled non-empty column, a single sample having range 0: the stored mean is `Σx / N` (`Σx` itself when `N = 1`),
    the scaled range `(max − min)·div` is at most 1, and exactly 1 once the range reaches ε -/
theorem finalize_range [Sqrt α] (eps : α) (heps : 0 < eps) (a : Acc α) (hn : 1 ≤ a.n) (h1 : a.n = 1 → a.mx = a.mn) :
    let s := finalize eps true a
    s.mn = a.mn ∧ s.mx = a.mx ∧ (a.n : α) * s.mean = a.sum ∧ 0 < s.divRange ∧ (a.mx - a.mn) * s.divRange ≤ 1 ∧
    (eps ≤ a.mx - a.mn → (a.mx - a.mn) * s.divRange = 1) := by
  rcases Nat.eq_or_lt_of_le hn with h | h
  · rw [finalize_one eps a h.symm, h1 h.symm, sub_self, ← h]
    exact ⟨rfl, rfl, by rw [Nat.cast_one, one_mul], one_pos, (zero_mul _).trans_le zero_le_one,
      fun he => absurd he (not_le.mpr heps)⟩
  · rw [finalize_many eps a h]
    have hr : 0 < cmax (a.mx - a.mn) eps := heps.trans_le (le_cmax_right _ _)
    refine ⟨rfl, rfl, mul_div_cancel₀ _ (Nat.cast_ne_zero.mpr (Nat.ne_of_gt (Nat.zero_lt_of_lt h))), one_div_pos.mpr hr,
      ?_, fun he => ?_⟩
    · rw [mul_one_div, div_le_one hr]; exact le_cmax_left _ _
    · rw [cmax_of_le he]; exact mul_one_div_cancel (heps.trans_le he).ne'

/-! ### the statistics of a column of data -/

/-- the statistics of a non-empty column whose values lie within `[lo, hi]`: minimum and maximum are attained and bound
    the column; mean and range normaliser as in `finalize_range` -/
theorem column_range [Sqrt α] (hi lo eps : α) (heps : 0 < eps) (xs : List (Option α))
    (hb : ∀ v ∈ present xs, lo ≤ v ∧ v ≤ hi) (hne : present xs ≠ []) :
    let s := columnStats hi lo eps true xs
    (s.mn ∈ present xs ∧ ∀ v ∈ present xs, s.mn ≤ v) ∧ (s.mx ∈ present xs ∧ ∀ v ∈ present xs, v ≤ s.mx) ∧
    ((present xs).length : α) * s.mean = (present xs).sum ∧
    0 < s.divRange ∧ (s.mx - s.mn) * s.divRange ≤ 1 ∧ (eps ≤ s.mx - s.mn → (s.mx - s.mn) * s.divRange = 1) := by
  obtain ⟨hn, hsum, -, hmn, hmx⟩ := accumulate_spec hi lo xs
  have hmin := foldl_min_attained (present xs) hi hne fun v hv => (hb v hv).2
  have hmax := foldl_max_attained (present xs) lo hne fun v hv => (hb v hv).1
  rw [← hmn] at hmin
  rw [← hmx] at hmax
  obtain ⟨hsmn, hsmx, h⟩ := finalize_range eps heps (accumulate hi lo xs) (hn ▸ List.length_pos_iff.mpr hne) (by
    intro h1
    obtain ⟨w, hw⟩ := List.length_eq_one_iff.mp (hn.symm.trans h1)
    rw [hw] at hmin hmax
    exact (List.mem_singleton.mp hmax.1).trans (List.mem_singleton.mp hmin.1).symm)
  intro s
  rw [show s.mn = _ from hsmn, show s.mx = _ from hsmx, ← hn, ← hsum]
  exact ⟨hmin, hmax, h⟩

/-! ### every mode is an affine map `x ↦ (x − c)·d`, undone by `y ↦ c + y·m` when `d·m = 1` -/

theorem affine_roundtrip {d m : α} (h : d * m = 1) (c x : α) : c + (x - c) * d * m = x := by
  rw [mul_assoc, h, mul_one, add_sub_cancel]

/-- `y ↦ c + y·m` written as the inverse of `x ↦ d·x + (−c·d)`, the form `make_scaling` returns -/
theorem affine_inverse {d m : α} (h : d * m = 1) (c y : α) : c + y * m = (y - -c * d) / d := by
  rw [eq_div_iff (left_ne_zero_of_mul_eq_one h)]
  linear_combination y * h

theorem upscale_scale_cell [FinTest α] (hfin : ∀ y : α, FinTest.isFin y = true) (m : Mode) (s : Stats α) (hs : s.WF)
    (x : α) : upscaleCell m s (scaleCell m s (some x)) = x := by
  cases m <;> simp only [scaleCell, upscaleCell, nan2zero, hfin, if_true]
  · exact affine_roundtrip hs.1 _ x
  · exact affine_roundtrip hs.1 _ x
  · exact affine_roundtrip hs.2 _ x

theorem zipWith_cancel {σ β γ : Type} (f : σ → β → γ) (g : σ → γ → β) :
    ∀ (ss : List σ) (xs : List β), (∀ s ∈ ss, ∀ x, g s (f s x) = x) → ss.length = xs.length →
      List.zipWith g ss (List.zipWith f ss xs) = xs
  | [], [], _, _ => rfl
  | s :: ss, x :: xs, h, hl => by
    rw [List.zipWith_cons_cons, List.zipWith_cons_cons, h s List.mem_cons_self,
      zipWith_cancel f g ss xs (fun t ht => h t (List.mem_cons_of_mem _ ht)) (Nat.succ.inj hl)]

/-- the affine form of `scale` on a finite value: `x ↦ w·x + b` with `(w, b) = make_scaling` -/
theorem scaleCell_affine [FinTest α] (hfin : ∀ y : α, FinTest.isFin y = true) (m : Mode) (s : Stats α) (x : α) :
    scaleCell m s (some x) = (makeScaling m s).1 * x + (makeScaling m s).2 := by
  have key : ∀ c d : α, (x - c) * d = d * x + -c * d := fun c d => by ring
  cases m <;> simp only [scaleCell, makeScaling, nan2zero, hfin, if_true]
  · rw [one_mul, add_zero]
  · exact key _ _
  · exact key _ _
  · exact key _ _

/-- the affine form of `upscale`: `y ↦ (y − b)/w` with `(w, b) = make_scaling` -/
theorem upscaleCell_affine (m : Mode) (s : Stats α) (hs : s.WF) (y : α) :
    upscaleCell m s y = (y - (makeScaling m s).2) / (makeScaling m s).1 := by
  cases m
  · simp [upscaleCell, makeScaling]
  · exact affine_inverse hs.1 s.mean y
  · exact affine_inverse hs.1 s.mn y
  · exact affine_inverse hs.2 s.mean y

/-! ### inner products -/

theorem dot_nil_left (x : List α) : dot ([] : List α) x = 0 := by simp [dot]

theorem dot_cons (a b : α) (as bs : List α) : dot (a :: as) (b :: bs) = a * b + dot as bs := rfl

/-- the algebra behind `nano::upscale`: with per-column affine input maps `x_j ↦ p_j.1·x_j + p_j.2` and an output
    divisor `tw`, `Σ (w_j / tw · p_j.1) x_j = (Σ w_j (p_j.1 x_j + p_j.2) − Σ w_j p_j.2) / tw` -/
theorem dot_upscaled (tw : α) :
    ∀ (f : List (α × α)) (w x : List α), w.length = f.length → x.length = f.length →
      dot (List.zipWith (fun wij fwj => wij / tw * fwj) w (f.map Prod.fst)) x =
        (dot w (List.zipWith (fun p xj => p.1 * xj + p.2) f x) - dot w (f.map Prod.snd)) / tw
  | [], [], _, _, _ => by simp [dot]
  | p :: f, w0 :: w, x0 :: x, hw, hx => by
    have ih := dot_upscaled tw f w x (Nat.succ.inj hw) (Nat.succ.inj hx)
    simp only [List.map_cons, List.zipWith_cons_cons, dot_cons, ih]
    ring

/-! ### the affine conversion, all rows -/

/-- a model converted row by row (`F`) predicts what the per-row identity says, whatever the three lengths -/
theorem predict_zip3With {σ : Type} (F : σ → List α → α → List α × α) (G : σ → α → α) (x sx : List α) :
    ∀ (ts : List σ) (W : List (List α)) (b : List α),
      (∀ t ∈ ts, ∀ w ∈ W, ∀ b0, dot (F t w b0).1 x + (F t w b0).2 = G t (dot w sx + b0)) →
      predict ((zip3With F ts W b).map Prod.fst) ((zip3With F ts W b).map Prod.snd) x =
        List.zipWith G ts (predict W b sx)
  | t :: ts, w :: W, b0 :: b, h => by
    have ih := predict_zip3With F G x sx ts W b fun t' ht w' hw =>
      h t' (List.mem_cons_of_mem _ ht) w' (List.mem_cons_of_mem _ hw)
    simp only [predict] at ih ⊢
    simp only [zip3With, List.map_cons, List.zipWith_cons_cons, h t List.mem_cons_self w List.mem_cons_self, ih]
  | [], _, _, _ => by simp [zip3With, predict]
  | _ :: _, [], _, _ => by simp [zip3With, predict]
  | _ :: _, _ :: _, [], _ => by simp [zip3With, predict]

end NanoVerif.Scaling
