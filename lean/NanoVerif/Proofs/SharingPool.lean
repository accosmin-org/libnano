import NanoVerif.Props.C17
/-!
  C18 — sharing discipline on the pool protocol model of C17 (`Model/Pool.lean`, `Model/PoolSection.lean`). Core Lean only.

  * `Owned`: every pending task (queued or running) belongs to a client call that is still inside `map` / `enqueue`
    (invariant of every reachable state) — the call whose per-call objects (iterator, function object, caches) the task uses;
  * `Act`: the activities that may touch a per-worker buffer at a given moment: a task run by a worker (slot = the worker id the
    pool passes) or an operator call made INLINE by the caller on the sequential path of `map` (slot 0);
  * `concurrent_acts_disjoint`: two different live activities belong to different calls or use different slots;
  * `ready_forever`: once every future of a call is ready, no task of the call runs in any later state.
-/
namespace NanoVerif.Sharing
open NanoVerif.Pool

/-! ### which call a task belongs to -/

/-- client `c` is inside a parallel `map` / `enqueue` whose tasks include `t` -/
def OwnsP (cpc : Nat → CPc) (c t : Nat) : Prop :=
  ∃ ts, (cpc c = .waiting ts ∨ ∃ all, cpc c = .pushed ts all) ∧ t ∈ ts

/-- queued or running: the task will still execute the operator, or is executing it -/
def Pending (x : TS) : Prop := x = .queued ∨ ∃ w, x = .running w

def Owned (s : St) : Prop := ∀ t, Pending (s.ts t) → ∃ c, OwnsP s.cpc c t

def tasksOf : CPc → List Nat
  | .waiting ts => ts
  | .pushed ts _ => ts
  | _ => []

theorem ownsP_iff {cpc : Nat → CPc} {c t : Nat} : OwnsP cpc c t ↔ t ∈ tasksOf (cpc c) := by
  constructor
  · rintro ⟨ts, h | ⟨all, h⟩, ht⟩ <;> rw [h] <;> exact ht
  · intro h
    generalize hc : cpc c = x at h
    cases x with
    | waiting ts => exact ⟨ts, Or.inl hc, h⟩
    | pushed ts all => exact ⟨ts, Or.inr ⟨all, hc⟩, h⟩
    | _ => exact absurd h List.not_mem_nil

/-- the pc of client `c` changes: a pending task is owned afterwards if it is a task of the new pc, or was pending before and
    was not a task of the old pc (its owner is another client) -/
theorem owned_upd {s : St} (ho : Owned s) (c : Nat) (x : CPc) (ts' : Nat → TS)
    (h : ∀ t, Pending (ts' t) → t ∈ tasksOf x ∨ (Pending (s.ts t) ∧ t ∉ tasksOf (s.cpc c))) :
    ∀ t, Pending (ts' t) → ∃ c', OwnsP (upd s.cpc c x) c' t := by
  intro t hp
  rcases h t hp with h | ⟨hp0, hn⟩
  · exact ⟨c, ownsP_iff.mpr (by rw [upd_same]; exact h)⟩
  · obtain ⟨c', hc'⟩ := ho t hp0
    have hne : c' ≠ c := fun e => hn (e ▸ ownsP_iff.mp hc')
    exact ⟨c', ownsP_iff.mpr (by rw [upd_other _ _ _ _ hne]; exact ownsP_iff.mp hc')⟩

theorem owned_init (nw : Nat) : Owned (init nw) := by
  intro t h
  rcases h with h | ⟨w, h⟩ <;> simp [init] at h

theorem pending_drop {x : TS} (h : Pending (drop x)) : Pending x := by
  cases x <;> simp [drop, Pending] at h ⊢

theorem pending_upd {ts : Nat → TS} {t0 t : Nat} {x : TS} (h0 : Pending x → Pending (ts t0))
    (h : Pending (upd ts t0 x t)) : Pending (ts t) := by
  by_cases ht : t = t0
  · rw [ht, upd_same] at h
    exact ht ▸ h0 h
  · rwa [upd_other _ _ _ _ ht] at h

theorem owned_step (s s' : St) (e : Ev) (hi : Inv s) (ho : Owned s) (h : step s e = some s') : Owned s' := by
  -- a client whose pc has no tasks: every owner is another client
  have free : ∀ (c : Nat) (x : CPc), tasksOf (s.cpc c) = [] → ∀ t, Pending (s.ts t) → ∃ c', OwnsP (upd s.cpc c x) c' t :=
    fun c x hc => owned_upd ho c x s.ts fun t hp => Or.inr ⟨hp, hc ▸ List.not_mem_nil⟩
  -- `pushed ts all` becomes `waiting ts`: the same tasks
  have notify : ∀ (c : Nat) (ts : List Nat) (all : Bool), s.cpc c = .pushed ts all → ∀ t, Pending (s.ts t) →
      ∃ c', OwnsP (upd s.cpc c (.waiting ts)) c' t :=
    fun c ts all hpc => owned_upd ho c _ s.ts fun t hp => (Classical.em (t ∈ ts)).imp_right fun hm => ⟨hp, hpc ▸ hm⟩
  cases e with
  | wTake w =>
    obtain ⟨_, _, _, t0, q, hq, rfl⟩ := step_wTake h
    have h0 : s.ts t0 = .queued := (hi.q_iff t0).mp (by rw [hq]; exact List.mem_cons_self)
    exact fun t hp => ho t (pending_upd (fun _ => Or.inl h0) hp)
  | wSleep w => obtain ⟨_, _, _, _, rfl⟩ := step_wSleep h; exact ho
  | wExit w =>
    obtain ⟨_, _, _, rfl⟩ := step_wExit h
    exact fun t hp => ho t (pending_drop hp)
  | wRunEnd w b =>
    obtain ⟨_, t0, _, rfl⟩ := step_wRunEnd h
    exact fun t hp => ho t (pending_upd (fun hd => by rcases hd with hd | ⟨_, hd⟩ <;> cases hd) hp)
  | wWake w => obtain ⟨_, _, rfl⟩ := step_wWake h; exact ho
  | cPush c ts all =>
    obtain ⟨hidle, _, _, _, rfl⟩ := step_cPush h
    refine owned_upd ho c _ _ fun t hp => ?_
    by_cases hm : t ∈ ts
    · exact Or.inl hm
    · exact Or.inr ⟨by simpa only [if_neg hm] using hp, by rw [hidle]; exact List.not_mem_nil⟩
  | cNotify c w =>
    rcases step_cNotify h with ⟨ts, hpc, rfl⟩ | ⟨ts, v, hpc, _, _, _, rfl⟩ | ⟨ts, hpc, _, _, rfl⟩ | ⟨hpc, rfl⟩
    · exact notify c ts true hpc
    · exact notify c ts false hpc
    · exact notify c ts false hpc
    · exact free c _ (by rw [hpc]; rfl)
  | cReturn c =>
    -- the tasks of the returning call are ready, hence not pending
    obtain ⟨ts, hpc, hall, rfl⟩ := step_cReturn h
    refine owned_upd ho c _ s.ts fun t hp => Or.inr ⟨hp, fun hm => ?_⟩
    rw [hpc] at hm
    have hr := hall t hm
    rcases hp with hp | ⟨v, hp⟩ <;> rw [hp] at hr <;> cases hr
  | dStop c => obtain ⟨hpc, rfl⟩ := step_dStop h; exact free c _ (by rw [hpc]; rfl)
  | dJoined c => obtain ⟨hpc, _, rfl⟩ := step_dJoined h; exact free c _ (by rw [hpc]; rfl)
  | sStart c n => obtain ⟨hpc, rfl⟩ := step_sStart h; exact free c _ (by rw [hpc]; rfl)
  | sOpBegin c => obtain ⟨n, i, err, hpc, _, rfl⟩ := step_sOpBegin h; exact free c _ (by rw [hpc]; rfl)
  | sOpEnd c b => obtain ⟨n, i, err, hpc, rfl⟩ := step_sOpEnd h; exact free c _ (by rw [hpc]; rfl)
  | sReturn c => obtain ⟨n, err, hpc, rfl⟩ := step_sReturn h; exact free c _ (by rw [hpc]; rfl)

theorem reachable_owned (s : St) (hr : Reachable s) : Owned s :=
  (reachable_induction (fun s => Inv s ∧ Owned s) (fun nw => ⟨inv_init nw, owned_init nw⟩)
    (fun s e s' ⟨hi, ho⟩ h => ⟨inv_step s s' e hi h, owned_step s s' e hi ho h⟩) s hr).2

/-! ### the activities that may touch a per-worker buffer -/

/-- a task of a parallel `map` (run by a worker), or the operator call the caller makes itself on the sequential path -/
inductive Act where
  | task (t : Nat)
  | inline (c : Nat)
deriving DecidableEq, Repr

def Act.live (s : St) : Act → Prop
  | .task t => ∃ w, s.ts t = .running w
  | .inline c => ∃ n i err, s.cpc c = .seq n i true err

/-- the `tnum` the operator is called with: the id of the worker that runs the task / `0` on the sequential path
    (parallel.h: `op(begin, end, 0U)`) -/
def Act.slot (s : St) : Act → Nat
  | .task t => match s.ts t with
    | .running w => w
    | _ => 0
  | .inline _ => 0

/-- the client call the activity belongs to (the call whose per-call objects it uses) -/
def Act.call (s : St) : Act → Nat → Prop
  | .task t, c => OwnsP s.cpc c t
  | .inline c', c => c = c'

theorem live_has_call (s : St) (hr : Reachable s) (a : Act) (ha : a.live s) : ∃ c, a.call s c := by
  cases a with
  | task t =>
    obtain ⟨w, hw⟩ := ha
    exact reachable_owned s hr t (Or.inr ⟨w, hw⟩)
  | inline c => exact ⟨c, rfl⟩

/-- two different activities that are live at the same time belong to different calls or were handed different slots -/
theorem concurrent_acts_disjoint (s : St) (hr : Reachable s) (a b : Act) (ha : a.live s) (hb : b.live s) (hne : a ≠ b)
    (ca cb : Nat) (hca : a.call s ca) (hcb : b.call s cb) : ca ≠ cb ∨ a.slot s ≠ b.slot s := by
  have seq_not_owner : ∀ (c t c' : Nat), (∃ n i err, s.cpc c = .seq n i true err) → OwnsP s.cpc c' t → c' ≠ c := by
    rintro c t c' ⟨n, i, err, hpc⟩ hown rfl
    exact absurd (ownsP_iff.mp hown) (by rw [hpc]; exact List.not_mem_nil)
  cases a with
  | task t1 =>
    cases b with
    | task t2 =>
      obtain ⟨w1, h1⟩ := ha
      obtain ⟨w2, h2⟩ := hb
      right
      simp only [Act.slot, h1, h2]
      exact tnum_exclusive s hr t1 t2 w1 w2 h1 h2 fun h => hne (h ▸ rfl)
    | inline c =>
      obtain rfl : cb = c := hcb
      exact Or.inl (seq_not_owner cb t1 ca hb hca)
  | inline c =>
    obtain rfl : ca = c := hca
    cases b with
    | task t2 => exact Or.inl (seq_not_owner ca t2 cb ha hcb).symm
    | inline c2 =>
      obtain rfl : cb = c2 := hcb
      exact Or.inl fun h => hne (h ▸ rfl)

/-! ### nothing of a call runs after the call has left `map` -/

/-- a set of ready futures stays ready — and none of the tasks is being run by a worker — along every continuation -/
theorem ready_forever (ts : List Nat) : ∀ (es : List Ev2) (s s' : St2), Reachable s.base → SecInv s →
    (∀ t ∈ ts, ready? (s.base.ts t) = true) → run2 false s es = some s' →
    Reachable s'.base ∧ ∀ t ∈ ts, ready? (s'.base.ts t) = true ∧ s'.base.ts t = s.base.ts t := by
  intro es
  induction es with
  | nil =>
    intro s s' hrb _ hall h
    simp only [run2, Option.some.injEq] at h
    subst h
    exact ⟨hrb, fun t ht => ⟨hall t ht, rfl⟩⟩
  | cons e es ih =>
    intro s s' hrb hs hall h
    simp only [run2] at h
    split at h
    · simp at h
    · rename_i s1 hs1
      have hi := (reachable_invs s.base hrb).1
      obtain ⟨hs1inv, hb⟩ := secinv_step s s1 e hi hs hs1
      obtain ⟨hrb1, hkeep⟩ : Reachable s1.base ∧ ∀ t ∈ ts, s1.base.ts t = s.base.ts t := by
        rcases hb with heq | ⟨e', he'⟩
        · rw [heq]; exact ⟨hrb, fun _ _ => rfl⟩
        · exact ⟨reachable_step hrb he', fun t ht => (ready_stable s.base s1.base e' hi he' t (hall t ht)).1⟩
      obtain ⟨hr', h'⟩ := ih s1 s' hrb1 hs1inv (fun t ht => by rw [hkeep t ht]; exact hall t ht) h
      exact ⟨hr', fun t ht => ⟨(h' t ht).1, by rw [(h' t ht).2, hkeep t ht]⟩⟩

end NanoVerif.Sharing
