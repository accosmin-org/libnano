import NanoVerif.Model.LSearchStep
import Mathlib.Algebra.Order.Field.Basic
/-!
  C07 — the interpolation formulas: the model's text is the generated text, and the interpolants the generated formulas refer to.

  * `model_lstep_is_generated`: `quadratic`, `secant`, `bisection`, `cubic`, `interpolate` of Model/LSearch.lean are — for every scalar
    type with the core classes, `Float` included — the definitions of Gen/LsStep.lean (re-translated from lstep.cpp on every check).
  * the Hermite cubic through two step records, its slope and curvature; the parabola through `(u.t, u.f, u.g)` and `(v.t, v.f)`; the
    linear interpolant of the slopes. What `cubic`, `quadratic`, `secant`, `bisection` compute in these terms is proved in Props/C07.lean
    (`cubic_is_stationary_point_of_hermite_cubic`, `quadratic_is_parabola_minimiser`, `secant_is_root_of_linear_slope`,
    `bisection_is_midpoint`, `interpolation_exact_on_quadratics`).
-/
namespace NanoVerif.LSearch
open NanoVerif.Gen


section
variable {α : Type} [Add α] [Sub α] [Mul α] [Div α] [Neg α] [LT α] [LE α] [DecidableLT α] [DecidableLE α] [∀ n, OfNat α n]

set_option linter.unusedSectionVars false
/-- the formulas written inside the line-search model are the generated ones (any scalar type: also `Float`) -/
theorem model_lstep_is_generated (u v : Step α) :
    quadratic u v = LsStep.quadratic u.t u.f u.g v.t v.f v.g ∧ secant u v = LsStep.secant u.t u.f u.g v.t v.f v.g ∧
    bisection u v = LsStep.bisection u.t u.f u.g v.t v.f v.g :=
  ⟨rfl, rfl, rfl⟩
set_option linter.unusedSectionVars true

set_option linter.unusedSectionVars false
/-- … and so are `cubic` and `interpolate` (with `std::sqrt` = the `Sqrt` instance) -/
theorem model_lstep_is_generated_sqrt [Sqrt α] (fin : α → Bool) (mode : Interp) (u v : Step α) :
    cubic u v = LsStep.cubic Sqrt.sqrt u.t u.f u.g v.t v.f v.g ∧
    interpolate fin mode u v = LsStep.interpolate fin Sqrt.sqrt u.t u.f u.g v.t v.f v.g mode.toGen := by
  refine ⟨rfl, ?_⟩
  cases mode <;> rfl
set_option linter.unusedSectionVars true

end

/-! ### the interpolants (ordered fields) -/

section
variable {α : Type} [Field α] [LinearOrder α] [IsStrictOrderedRing α]

/-- the cubic Hermite interpolant of `(ut, uf, ug)` and `(vt, vf, vg)` (value and slope at both ends), in `τ = (x - ut)/(vt - ut)` -/
def hermite (ut uf ug vt vf vg x : α) : α :=
  let s := (vf - uf) / (vt - ut)
  let τ := (x - ut) / (vt - ut)
  uf + (vt - ut) * (ug * τ + (3 * s - 2 * ug - vg) * τ ^ 2 + (ug + vg - 2 * s) * τ ^ 3)

def hermiteSlope (ut uf ug vt vf vg x : α) : α :=
  let s := (vf - uf) / (vt - ut)
  let τ := (x - ut) / (vt - ut)
  ug + 2 * (3 * s - 2 * ug - vg) * τ + 3 * (ug + vg - 2 * s) * τ ^ 2

def hermiteCurv (ut uf ug vt vf vg x : α) : α :=
  let s := (vf - uf) / (vt - ut)
  let τ := (x - ut) / (vt - ut)
  (2 * (3 * s - 2 * ug - vg) + 6 * (ug + vg - 2 * s) * τ) / (vt - ut)

/-- the interpParabola with value `uf` and slope `ug` at `ut` and value `vf` at `vt`; its leading coefficient -/
def parabolaCoef (ut uf ug vt vf : α) : α := (vf - uf - ug * (vt - ut)) / ((vt - ut) * (vt - ut))
def interpParabola (ut uf ug vt vf x : α) : α := uf + ug * (x - ut) + parabolaCoef ut uf ug vt vf * (x - ut) * (x - ut)
def interpParabolaSlope (ut uf ug vt vf x : α) : α := ug + 2 * parabolaCoef ut uf ug vt vf * (x - ut)

def slopeLine (ut ug vt vg x : α) : α := ug + (vg - ug) * (x - ut) / (vt - ut)

end

end NanoVerif.LSearch
