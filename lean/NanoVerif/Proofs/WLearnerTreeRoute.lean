import NanoVerif.Proofs.WLearnerTree
/-!
  C10 — the fitted decision tree: how `dtreeGroup` (the model of `dtree_wlearner_t::do_split`) walks a tree produced by
  `dtreeFit`, in terms of the ghost log (which cache was fitted at which node pair).
-/
set_option linter.unusedSectionVars false

namespace NanoVerif.WLearner
variable {α : Type} [Field α] [LinearOrder α] [IsStrictOrderedRing α]

/-- the three ways a walk through the node table can end: at a leaf, at a missing feature value, or "stuck" (out of fuel or
    an index out of range) — `dtreeGroup` reports the last two as `none` alike -/
inductive Route where
  | leaf (g : Nat)
  | missing
  | stuck
deriving DecidableEq

/-- `dtreeGroup` with the reason of a `none` -/
def dtreeRoute (nodes : List (Node α)) (s : Nat → FVal α) : Nat → Nat → Route
  | 0, _ => .stuck
  | fuel + 1, i =>
    match nodes[i]? with
    | none => .stuck
    | some nd =>
      match s nd.feature with
      | .num v =>
        let g := if v < nd.thr then 0 else 1
        if nd.next = 0 then .leaf (nd.table.toNat + g)
        else match nodes[i + g]? with
          | some nd' => dtreeRoute nodes s fuel nd'.next
          | none => .stuck
      | _ => .missing

theorem dtreeRoute_succ (nodes : List (Node α)) (s : Nat → FVal α) (fuel i : Nat) :
    dtreeRoute nodes s (fuel + 1) i =
      match nodes[i]? with
      | none => .stuck
      | some nd =>
        match s nd.feature with
        | .num v =>
          if nd.next = 0 then .leaf (nd.table.toNat + if v < nd.thr then 0 else 1)
          else match nodes[i + if v < nd.thr then 0 else 1]? with
            | some nd' => dtreeRoute nodes s fuel nd'.next
            | none => .stuck
        | _ => .missing := by
  rw [dtreeRoute]

def Route.toOption : Route → Option Nat
  | .leaf g => some g
  | _ => none

theorem Route.toOption_eq_some {r : Route} {L : Nat} : r.toOption = some L ↔ r = .leaf L := by
  cases r with
  | leaf g => exact ⟨fun h => by rw [Option.some.inj h], fun h => by rw [Route.leaf.inj h]; rfl⟩
  | missing => exact ⟨fun h => (by cases h), fun h => (by cases h)⟩
  | stuck => exact ⟨fun h => (by cases h), fun h => (by cases h)⟩

theorem Route.toOption_eq_none {r : Route} (hr : r ≠ .stuck) : r.toOption = none ↔ r = .missing := by
  cases r with
  | leaf g => exact ⟨fun h => (by cases h), fun h => (by cases h)⟩
  | missing => exact ⟨fun _ => rfl, fun _ => rfl⟩
  | stuck => exact absurd rfl hr

theorem dtreeGroup_eq_route (nodes : List (Node α)) (s : Nat → FVal α) (fuel i : Nat) :
    dtreeGroup nodes s fuel i = (dtreeRoute nodes s fuel i).toOption := by
  induction fuel generalizing i with
  | zero => rfl
  | succ fuel ih =>
    unfold dtreeGroup dtreeRoute
    cases nodes[i]? with
    | none => rfl
    | some nd =>
      simp only
      cases s nd.feature with
      | num v =>
        simp only
        by_cases hn : nd.next = 0
        · simp [hn, Route.toOption]
        · simp only [hn, if_false]
          cases nodes[i + if v < nd.thr then 0 else 1]? with
          | none => rfl
          | some nd' => exact ih _
      | cls h => rfl
      | missing => rfl

/-- the measure `length − j` of the walks drops from an entry to an entry further down the log -/
theorem sub_le_of_lt {L j c n : Nat} (hlt : j < c) (h : L - j ≤ n + 1) : L - c ≤ n := by omega

theorem exists_eq_succ_of_sub_le {L j fuel : Nat} (hj : j < L) (h : L - j ≤ fuel) : ∃ f, fuel = f + 1 :=
  ⟨fuel - 1, (Nat.sub_add_cancel (Nat.le_trans (Nat.sub_pos_of_lt hj) h)).symm⟩

theorem sideOf_lt_two (x thr : α) : sideOf x thr < 2 := by
  unfold sideOf
  split <;> omega

/-! ### one step of the walk on a fitted tree -/

section fitted
variable {cfg : TreeCfg α} {samples0 : List Nat} {st : TState α}

theorem TInv.child (h : TInv cfg samples0 st []) (j : Nat) (e : TEntry α) (he : st.log[j]? = some e)
    (hterm : e.terminal = false) (g : Nat) (hg : g < 2) :
    ∃ e', st.log[cidx st.log j g]? = some e' ∧ j < cidx st.log j g ∧
      e'.cache = ⟨childSamples cfg.N cfg.val e.cache.samples e.cand.feature e.cand.thr g, e.cache.depth + 1, 2 * j + g⟩ ∧
      ∃ nd, st.nodes[2 * j + g]? = some nd ∧ nd.next = 2 * cidx st.log j g := by
  obtain ⟨hc, nd, hnd, hnx⟩ := h.nonterm j e he hterm g hg
  simp only [allCaches, List.append_nil] at hc
  rw [List.getElem?_map] at hc
  cases he' : st.log[cidx st.log j g]? with
  | none => rw [he'] at hc; simp at hc
  | some e' =>
    rw [he'] at hc
    simp at hc
    have hlt : cidx st.log j g < st.log.length := (List.getElem?_eq_some_iff.mp he').1
    have hjlt : j < st.log.length := (List.getElem?_eq_some_iff.mp he).1
    refine ⟨e', rfl, ?_, hc, nd, hnd, ?_⟩
    · exact Nat.lt_of_lt_of_le (h.pre j hjlt) (Nat.le_add_right _ _)
    · rw [hnx, if_pos hlt]

theorem route_terminal (h : TInv cfg samples0 st []) (j : Nat) (e : TEntry α) (he : st.log[j]? = some e)
    (hterm : e.terminal = true) (s : Nat → FVal α) (v : α) (hv : s e.cand.feature = .num v) (fuel : Nat) :
    dtreeRoute st.nodes s (fuel + 1) (2 * j) = .leaf (tbase st.log j + sideOf v e.cand.thr) := by
  obtain ⟨nd, hnd, hnx, htab, _⟩ := h.term j e he hterm 0 Nat.zero_lt_two
  obtain ⟨nd', hnd', hf, ht⟩ := h.feat j e he 0 Nat.zero_lt_two
  rw [hnd] at hnd'; injection hnd' with hnd'; subst hnd'
  simp only [Nat.add_zero] at hnd
  rw [dtreeRoute_succ, hnd]
  simp only [hf, hv, hnx, if_true, htab, ht, sideOf]
  simp

theorem route_nonterminal (h : TInv cfg samples0 st []) (j : Nat) (e : TEntry α) (he : st.log[j]? = some e)
    (hterm : e.terminal = false) (s : Nat → FVal α) (v : α) (hv : s e.cand.feature = .num v) (fuel : Nat) :
    dtreeRoute st.nodes s (fuel + 1) (2 * j)
      = dtreeRoute st.nodes s fuel (2 * cidx st.log j (sideOf v e.cand.thr)) := by
  have hg : sideOf v e.cand.thr < 2 := sideOf_lt_two _ _
  obtain ⟨e0, he0, hlt0, _, nd0, hnd0, hnx0⟩ := h.child j e he hterm 0 Nat.zero_lt_two
  obtain ⟨eg, heg, hltg, _, ndg, hndg, hnxg⟩ := h.child j e he hterm _ hg
  obtain ⟨nd', hnd', hf, ht⟩ := h.feat j e he 0 Nat.zero_lt_two
  rw [hnd0] at hnd'; injection hnd' with hnd'; subst hnd'
  simp only [Nat.add_zero] at hnd0
  have hne : nd0.next ≠ 0 := by
    rw [hnx0]
    exact Nat.ne_of_gt (Nat.mul_pos Nat.two_pos (Nat.lt_of_le_of_lt (Nat.zero_le _) hlt0))
  rw [dtreeRoute_succ, hnd0]
  simp only [hf, hv, hne, if_false, ht]
  have hside : (if v < e.cand.thr then 0 else 1) = sideOf v e.cand.thr := rfl
  rw [hside, hndg]
  simp only [hnxg]

theorem route_missing (h : TInv cfg samples0 st []) (j : Nat) (e : TEntry α) (he : st.log[j]? = some e)
    (s : Nat → FVal α) (hv : ∀ v, s e.cand.feature ≠ .num v) (fuel : Nat) :
    dtreeRoute st.nodes s (fuel + 1) (2 * j) = .missing := by
  obtain ⟨nd, hnd, hf, ht⟩ := h.feat j e he 0 Nat.zero_lt_two
  simp only [Nat.add_zero] at hnd
  rw [dtreeRoute_succ, hnd]
  simp only [hf]

theorem route_not_stuck (h : TInv cfg samples0 st []) :
    ∀ (n j : Nat) (e : TEntry α), st.log[j]? = some e → st.log.length - j ≤ n → ∀ (s : Nat → FVal α) (fuel : Nat),
      st.log.length - j ≤ fuel → dtreeRoute st.nodes s fuel (2 * j) ≠ .stuck := by
  intro n
  induction n with
  | zero =>
    intro j e he hn
    exact absurd (Nat.sub_pos_of_lt (List.getElem?_eq_some_iff.mp he).1) (Nat.not_lt.mpr hn)
  | succ n ih =>
    intro j e he hn s fuel hfuel
    have hjlt : j < st.log.length := (List.getElem?_eq_some_iff.mp he).1
    obtain ⟨f, rfl⟩ := exists_eq_succ_of_sub_le hjlt hfuel
    by_cases hv : ∃ v, s e.cand.feature = .num v
    · obtain ⟨v, hv⟩ := hv
      cases hterm : e.terminal with
      | true => rw [route_terminal h j e he hterm _ v hv]; simp
      | false =>
        rw [route_nonterminal h j e he hterm _ v hv]
        have hg : sideOf v e.cand.thr < 2 := sideOf_lt_two _ _
        obtain ⟨e', he', hlt, _, _⟩ := h.child j e he hterm _ hg
        exact ih _ e' he' (sub_le_of_lt hlt hn) s f (sub_le_of_lt hlt hfuel)
    · have hv' : ∀ v, s e.cand.feature ≠ .num v := fun v hh => hv ⟨v, hh⟩
      rw [route_missing h j e he _ hv']; simp

/-! ### which samples reach which leaf -/

theorem stumpSide_eq_some (val : Nat → Nat → FVal α) (f : Nat) (thr : α) (i g : Nat) :
    stumpSide val f thr i = some g ↔ ∃ v, val i f = .num v ∧ sideOf v thr = g := by
  unfold stumpSide
  cases hv : val i f with
  | num x => simp
  | cls c => simp
  | missing => simp

theorem mem_childSamples (N : Nat) (val : Nat → Nat → FVal α) (samples : List Nat) (f : Nat) (thr : α) (g i : Nat) :
    i ∈ childSamples N val samples f thr g ↔ i < N ∧ i ∈ samples ∧ ∃ v, val i f = .num v ∧ sideOf v thr = g := by
  unfold childSamples
  rw [List.mem_filter, List.mem_range, Bool.and_eq_true, List.contains_iff_mem, beq_iff_eq, stumpSide_eq_some]

/-- sample `i` belongs to the sample list the terminal entry's stump was fitted on and falls on the side of table row `L` -/
def InLeaf (cfg : TreeCfg α) (st : TState α) (i L : Nat) : Prop :=
  ∃ (j : Nat) (e : TEntry α) (v : α), st.log[j]? = some e ∧ e.terminal = true ∧ i ∈ e.cache.samples ∧
    cfg.val i e.cand.feature = .num v ∧ L = tbase st.log j + sideOf v e.cand.thr

/-- sample `i` belongs to the sample list of some processed cache whose selected feature it misses -/
def LostAt (cfg : TreeCfg α) (st : TState α) (i : Nat) : Prop :=
  ∃ (j : Nat) (e : TEntry α), st.log[j]? = some e ∧ i ∈ e.cache.samples ∧ ∀ v, cfg.val i e.cand.feature ≠ .num v

/-- walking down from the node pair of entry `j` with a sample of its cache -/
theorem route_forward (h : TInv cfg samples0 st []) :
    ∀ (n j : Nat) (e : TEntry α), st.log[j]? = some e → st.log.length - j ≤ n → ∀ i, i < cfg.N → i ∈ e.cache.samples →
      ∀ fuel, st.log.length - j ≤ fuel →
        (∀ L, dtreeRoute st.nodes (cfg.val i) fuel (2 * j) = .leaf L → InLeaf cfg st i L) ∧
        dtreeRoute st.nodes (cfg.val i) fuel (2 * j) ≠ .stuck ∧
        (dtreeRoute st.nodes (cfg.val i) fuel (2 * j) = .missing → LostAt cfg st i) := by
  intro n
  induction n with
  | zero =>
    intro j e he hn
    exact absurd (Nat.sub_pos_of_lt (List.getElem?_eq_some_iff.mp he).1) (Nat.not_lt.mpr hn)
  | succ n ih =>
    intro j e he hn i hi hmem fuel hfuel
    have hjlt : j < st.log.length := (List.getElem?_eq_some_iff.mp he).1
    obtain ⟨f, rfl⟩ := exists_eq_succ_of_sub_le hjlt hfuel
    by_cases hv : ∃ v, cfg.val i e.cand.feature = .num v
    · obtain ⟨v, hv⟩ := hv
      cases hterm : e.terminal with
      | true =>
        rw [route_terminal h j e he hterm _ v hv]
        refine ⟨?_, by simp, by simp⟩
        intro L hL
        injection hL with hL
        exact ⟨j, e, v, he, hterm, hmem, hv, hL.symm⟩
      | false =>
        rw [route_nonterminal h j e he hterm _ v hv]
        have hg : sideOf v e.cand.thr < 2 := sideOf_lt_two _ _
        obtain ⟨e', he', hlt, hcache, _⟩ := h.child j e he hterm _ hg
        apply ih _ e' he' (sub_le_of_lt hlt hn) i hi _ f (sub_le_of_lt hlt hfuel)
        rw [hcache]
        exact (mem_childSamples _ _ _ _ _ _ _).mpr ⟨hi, hmem, v, hv, rfl⟩
    · have hv' : ∀ v, cfg.val i e.cand.feature ≠ .num v := fun v hh => hv ⟨v, hh⟩
      rw [route_missing h j e he _ hv']
      exact ⟨by simp, by simp, fun _ => ⟨j, e, he, hmem, hv'⟩⟩

theorem TInv.root_entry (h : TInv cfg samples0 st []) : ∃ e, st.log[0]? = some e ∧ e.cache = ⟨samples0, 0, 0⟩ := by
  have hr := h.root
  rw [allCaches, List.append_nil, List.getElem?_map] at hr
  cases he : st.log[0]? with
  | none => rw [he] at hr; cases hr
  | some e => rw [he] at hr; exact ⟨e, rfl, Option.some.inj hr⟩

/-- the root entry is the fitted sample list; a deeper entry was created by a non-terminal entry above it -/
theorem TInv.entry_origin (h : TInv cfg samples0 st []) (j : Nat) (e : TEntry α) (he : st.log[j]? = some e) :
    (j = 0 ∧ e.cache = ⟨samples0, 0, 0⟩) ∨
    (∃ (j' : Nat) (e' : TEntry α) (g : Nat), j' < j ∧ st.log[j']? = some e' ∧ e'.terminal = false ∧ g < 2 ∧
      cidx st.log j' g = j ∧
      e.cache = ⟨childSamples cfg.N cfg.val e'.cache.samples e'.cand.feature e'.cand.thr g, e'.cache.depth + 1, 2 * j' + g⟩) := by
  have hjlt : j < st.log.length := (List.getElem?_eq_some_iff.mp he).1
  by_cases hj : j = 0
  · subst hj
    obtain ⟨e0, he0, hc⟩ := h.root_entry
    rw [he] at he0
    cases he0
    exact .inl ⟨rfl, hc⟩
  · right
    obtain ⟨j', e', g, he', hterm, hg, hc⟩ := h.parent j (Nat.pos_of_ne_zero hj)
      (by rw [allCaches, List.append_nil, List.length_map]; exact hjlt)
    obtain ⟨e'', he'', hlt, hcache, _⟩ := h.child j' e' he' hterm g hg
    rw [hc, he] at he''
    cases he''
    exact ⟨j', e', g, hc ▸ hlt, he', hterm, hg, hc, hcache⟩

/-- the samples of every cache are fitted samples; below the root they are valid indices (`< N`, being filtered from `range N`) -/
theorem TInv.entry_samples (h : TInv cfg samples0 st []) :
    ∀ (n j : Nat) (e : TEntry α), j ≤ n → st.log[j]? = some e → ∀ i ∈ e.cache.samples, i ∈ samples0 ∧ (1 ≤ j → i < cfg.N) := by
  intro n
  induction n with
  | zero =>
    intro j e hj he i hi
    rcases h.entry_origin j e he with ⟨rfl, hc⟩ | ⟨j', _, _, hlt, _⟩
    · rw [hc] at hi; exact ⟨hi, fun h0 => absurd h0 (Nat.not_succ_le_zero 0)⟩
    · exact absurd (Nat.lt_of_lt_of_le hlt hj) (Nat.not_lt_zero _)
  | succ n ih =>
    intro j e hj he i hi
    rcases h.entry_origin j e he with ⟨rfl, hc⟩ | ⟨j', e', g, hlt, he', _, _, _, hc⟩
    · rw [hc] at hi; exact ⟨hi, fun h0 => absurd h0 (Nat.not_succ_le_zero 0)⟩
    · rw [hc] at hi
      obtain ⟨hN, hm, _⟩ := (mem_childSamples _ _ _ _ _ _ _).mp hi
      exact ⟨(ih j' e' (Nat.le_of_lt_succ (Nat.lt_of_lt_of_le hlt hj)) he' i hm).1, fun _ => hN⟩

/-- the walk from the root with a sample of the cache of entry `j` passes through the node pair of entry `j` -/
theorem route_through (h : TInv cfg samples0 st []) :
    ∀ (n j : Nat) (e : TEntry α), j ≤ n → st.log[j]? = some e → ∀ i ∈ e.cache.samples, ∀ F, st.log.length ≤ F →
      ∃ F', st.log.length - j ≤ F' ∧
        dtreeRoute st.nodes (cfg.val i) F 0 = dtreeRoute st.nodes (cfg.val i) F' (2 * j) := by
  intro n
  induction n with
  | zero =>
    intro j e hj he i hi F hF
    obtain rfl := Nat.le_zero.mp hj
    exact ⟨F, Nat.le_trans (Nat.sub_le _ _) hF, rfl⟩
  | succ n ih =>
    intro j e hj he i hi F hF
    rcases h.entry_origin j e he with ⟨rfl, _⟩ | ⟨j', e', g, hlt, he', hterm, hg, hcx, hc⟩
    · exact ⟨F, Nat.le_trans (Nat.sub_le _ _) hF, rfl⟩
    · rw [hc] at hi
      obtain ⟨_, hm, v, hv, hside⟩ := (mem_childSamples _ _ _ _ _ _ _).mp hi
      obtain ⟨F'', hF'', heq⟩ := ih j' e' (Nat.le_of_lt_succ (Nat.lt_of_lt_of_le hlt hj)) he' i hm F hF
      obtain ⟨f, rfl⟩ := exists_eq_succ_of_sub_le (List.getElem?_eq_some_iff.mp he').1 hF''
      refine ⟨f, sub_le_of_lt hlt hF'', ?_⟩
      rw [heq, route_nonterminal h j' e' he' hterm _ v hv, hside, hcx]

theorem TInv.root_terminal (h : TInv cfg samples0 st []) {e : TEntry α} (he : st.log[0]? = some e)
    (hterm : e.terminal = true) : st.log.length = 1 := by
  have h0 : 0 < st.log.length := (List.getElem?_eq_some_iff.mp he).1
  by_contra hne
  have h1 : 1 < st.log.length := Nat.lt_of_le_of_ne h0 (Ne.symm hne)
  rcases h.entry_origin 1 st.log[1] (List.getElem?_eq_getElem h1) with ⟨h10, _⟩ | ⟨j0, e0, _, hlt0, he0, hterm0, _⟩
  · cases h10
  · obtain rfl : j0 = 0 := Nat.lt_one_iff.mp hlt0
    rw [he] at he0
    rw [Option.some.inj he0, hterm0] at hterm
    cases hterm

/-- the walk from the root with a fitted sample ends in the leaf row, or at the entry with the missing value, that the
    sample lists of the log say — and nowhere else -/
theorem TInv.route_root (h : TInv cfg samples0 st []) {i : Nat} (hi : i ∈ samples0) (hiN : i < cfg.N) :
    (∀ L, dtreeRoute st.nodes (cfg.val i) st.nodes.length 0 = .leaf L ↔ InLeaf cfg st i L) ∧
    (dtreeRoute st.nodes (cfg.val i) st.nodes.length 0 = .missing ↔ LostAt cfg st i) ∧
    dtreeRoute st.nodes (cfg.val i) st.nodes.length 0 ≠ .stuck := by
  obtain ⟨e0, he0, hroot⟩ := h.root_entry
  have hlen : st.log.length ≤ st.nodes.length := by rw [h.len]; exact Nat.le_mul_of_pos_left _ Nat.two_pos
  obtain ⟨hleaf, hns, hmiss⟩ := route_forward h st.log.length 0 e0 he0 (Nat.le_refl _) i hiN (by rw [hroot]; exact hi)
    st.nodes.length hlen
  have hthrough : ∀ j e, st.log[j]? = some e → i ∈ e.cache.samples → ∃ f,
      dtreeRoute st.nodes (cfg.val i) st.nodes.length 0 = dtreeRoute st.nodes (cfg.val i) (f + 1) (2 * j) := by
    intro j e he hm
    have hjlt : j < st.log.length := (List.getElem?_eq_some_iff.mp he).1
    obtain ⟨F', hF', heq⟩ := route_through h j j e (Nat.le_refl _) he i hm st.nodes.length hlen
    obtain ⟨f, rfl⟩ := exists_eq_succ_of_sub_le hjlt hF'
    exact ⟨f, heq⟩
  refine ⟨fun L => ⟨hleaf L, ?_⟩, ⟨hmiss, ?_⟩, hns⟩
  · rintro ⟨j, e, v, he, hterm, hm, hv, rfl⟩
    obtain ⟨f, hf⟩ := hthrough j e he hm
    rw [hf, route_terminal h j e he hterm _ v hv]
  · rintro ⟨j, e, he, hm, hv⟩
    obtain ⟨f, hf⟩ := hthrough j e he hm
    rw [hf, route_missing h j e he _ hv]

end fitted

end NanoVerif.WLearner
