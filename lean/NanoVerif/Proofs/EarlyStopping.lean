import NanoVerif.Model.EarlyStopping
import Mathlib.Algebra.Order.Field.Basic
import Mathlib.Tactic.Linarith
import Mathlib.Data.List.Induction
/-!
  C11 — helper lemmas about the generated step function `Gen.EarlyStopping.done` and the history functions of
  `Model/EarlyStopping.lean`. `done_eq` is the only place where the generated text is unfolded; every
  property theorem goes through it.
-/
set_option linter.unusedSectionVars false

namespace NanoVerif.EarlyStopping
open NanoVerif.Gen.EarlyStopping

variable {α : Type} [Field α] [LinearOrder α] [IsStrictOrderedRing α]

open Classical in
/-- the generated if-chain said once: an accepted call is recorded and stops only for its training error; any other call
    leaves the state and stops when `patience` rounds have passed since the recorded one -/
theorem done_eq (eps : α) (pat : Nat) (s : State α) (c : Call α) :
    done eps pat s c =
      if Improves eps s.value c then (record c, decide (c.train < eps)) else (s, decide (s.round + pat ≤ c.n)) := by
  unfold done Improves record
  by_cases h1 : c.train < eps
  · simp [h1]
  · by_cases h2 : c.valid < s.value - eps ∨ c.nvalid = 0
    · simp [h1, h2]
    · by_cases h3 : c.n < s.round + pat <;> simp [h1, h2, h3, Nat.not_le.mpr, Nat.not_lt.mp]

theorem done_state_of_improves (eps : α) (pat : Nat) (s : State α) (c : Call α) (h : Improves eps s.value c) :
    (done eps pat s c).1 = record c := by
  rw [done_eq, if_pos h]

theorem done_state_of_not_improves (eps : α) (pat : Nat) (s : State α) (c : Call α) (h : ¬ Improves eps s.value c) :
    (done eps pat s c).1 = s := by
  rw [done_eq, if_neg h]

theorem done_stop_iff (eps : α) (pat : Nat) (s : State α) (c : Call α) :
    (done eps pat s c).2 = true ↔ (c.train < eps ∨ (¬ Improves eps s.value c ∧ s.round + pat ≤ c.n)) := by
  rw [done_eq]
  by_cases h : Improves eps s.value c
  · rw [if_pos h]; simp [h]
  · rw [if_neg h]; simp [h, show ¬ c.train < eps from fun x => h (Or.inl x)]

theorem done_state_cases (eps : α) (pat : Nat) (s : State α) (c : Call α) :
    ((done eps pat s c).1 = s ∧ ¬ Improves eps s.value c) ∨ ((done eps pat s c).1 = record c ∧ Improves eps s.value c) := by
  by_cases h : Improves eps s.value c
  · exact Or.inr ⟨done_state_of_improves eps pat s c h, h⟩
  · exact Or.inl ⟨done_state_of_not_improves eps pat s c h, h⟩

/-- the state after a call is the state before it or the record of the call: what holds of both holds after the call -/
theorem done_state_ind {P : State α → Prop} (eps : α) (pat : Nat) {s : State α} {c : Call α} (hs : P s) (hc : P (record c)) :
    P (done eps pat s c).1 := by
  rcases done_state_cases eps pat s c with ⟨e, _⟩ | ⟨e, _⟩
  · rw [e]; exact hs
  · rw [e]; exact hc

/-! ### histories -/

/-- a statement about every way of splitting `a :: l` around one of its elements, by the position of that element -/
theorem forall_split_cons {β : Type} {P : List β → β → List β → Prop} {a : β} {l : List β} :
    (∀ pre c post, a :: l = pre ++ c :: post → P pre c post) ↔
      P [] a l ∧ ∀ pre c post, l = pre ++ c :: post → P (a :: pre) c post := by
  constructor
  · intro h
    exact ⟨h [] a l rfl, fun pre c post e => h (a :: pre) c post (by rw [e]; rfl)⟩
  · rintro ⟨h0, h1⟩ pre c post e
    cases pre with
    | nil => obtain ⟨rfl, rfl⟩ := List.cons.inj e; exact h0
    | cons p pre => obtain ⟨rfl, rfl⟩ := List.cons.inj e; exact h1 pre c post rfl

theorem forall_split_nil {β : Type} {P : List β → β → List β → Prop} :
    ∀ pre c post, ([] : List β) = pre ++ c :: post → P pre c post :=
  fun _ _ _ e => absurd e (by simp)

theorem stateAfter_append (eps : α) (pat : Nat) (s : State α) (l1 l2 : List (Call α)) :
    stateAfter eps pat s (l1 ++ l2) = stateAfter eps pat (stateAfter eps pat s l1) l2 := by
  induction l1 generalizing s with
  | nil => rfl
  | cons c cs ih => exact ih _

theorem stateAfter_snoc (eps : α) (pat : Nat) (s : State α) (l : List (Call α)) (c : Call α) :
    stateAfter eps pat s (l ++ [c]) = (done eps pat (stateAfter eps pat s l) c).1 :=
  stateAfter_append eps pat s l [c]

theorem stateAfter_ind {P : State α → Prop} (eps : α) (pat : Nat) {s : State α} {l : List (Call α)} (hs : P s)
    (hc : ∀ c ∈ l, P (record c)) : P (stateAfter eps pat s l) := by
  induction l generalizing s with
  | nil => exact hs
  | cons c cs ih =>
    exact ih (done_state_ind eps pat hs (hc c List.mem_cons_self)) (fun d hd => hc d (List.mem_cons_of_mem c hd))

theorem answers_append (eps : α) (pat : Nat) (s : State α) (l1 l2 : List (Call α)) :
    answers eps pat s (l1 ++ l2) = answers eps pat s l1 ++ answers eps pat (stateAfter eps pat s l1) l2 := by
  induction l1 generalizing s with
  | nil => rfl
  | cons c cs ih => simp only [List.cons_append, answers, stateAfter]; rw [ih]

theorem answers_length (eps : α) (pat : Nat) (s : State α) (l : List (Call α)) :
    (answers eps pat s l).length = l.length := by
  induction l generalizing s with
  | nil => rfl
  | cons c cs ih => simp [answers, ih]

theorem getLast?_answers_snoc (eps : α) (pat : Nat) (s : State α) (l : List (Call α)) (c : Call α) :
    (answers eps pat s (l ++ [c])).getLast? = some (done eps pat (stateAfter eps pat s l) c).2 := by
  rw [answers_append]; simp [answers]

theorem mem_answers (eps : α) (pat : Nat) (s : State α) (l : List (Call α)) (b : Bool) (hb : b ∈ answers eps pat s l) :
    ∃ pre c post, l = pre ++ c :: post ∧ b = (done eps pat (stateAfter eps pat s pre) c).2 := by
  induction l generalizing s with
  | nil => simp [answers] at hb
  | cons c cs ih =>
    rcases List.mem_cons.mp hb with hb | hb
    · exact ⟨[], c, cs, rfl, hb⟩
    · obtain ⟨pre, d, post, e, hd⟩ := ih _ hb
      exact ⟨c :: pre, d, post, by rw [e]; rfl, hd⟩

theorem done_mem_answers (eps : α) (pat : Nat) (s : State α) (pre : List (Call α)) (c : Call α) (post : List (Call α)) :
    (done eps pat (stateAfter eps pat s pre) c).2 ∈ answers eps pat s (pre ++ c :: post) := by
  rw [answers_append]; simp [answers]

theorem stateAfter_of_no_improve (eps : α) (pat : Nat) (s : State α) (l : List (Call α))
    (h : ∀ d ∈ l, ¬ Improves eps s.value d) : stateAfter eps pat s l = s := by
  induction l with
  | nil => rfl
  | cons c cs ih =>
    obtain ⟨hc, hcs⟩ := List.forall_mem_cons.mp h
    simp only [stateAfter, done_state_of_not_improves eps pat s c hc]
    exact ih hcs

end NanoVerif.EarlyStopping
