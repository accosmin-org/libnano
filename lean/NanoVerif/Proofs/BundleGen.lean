import NanoVerif.Model.BundleSolver
import NanoVerif.Gen.BundleStep
/-!
  C03 — the hand-written models of the bundle (Model/Bundle.lean), of the curve search and of the proximity
  parameter (Model/BundleSolver.lean) use exactly the formulas and decision chains re-translated from src/solver/bundle.cpp,
  include/nano/solver/bundle.h, src/solver/csearch.cpp, include/nano/solver/csearch.h, src/solver/proximity.cpp on every check
  (Gen/BundleStep.lean). An edit of a C++ formula or of a branch of the decision chain changes the generated text and breaks the
  theorem. No Mathlib.
-/
set_option linter.unusedSectionVars false
namespace NanoVerif.Bundle
open NanoVerif.Gen

section
variable {α : Type} [Add α] [Sub α] [Mul α] [Div α] [Neg α] [LT α] [LE α] [DecidableLT α] [DecidableLE α]
  [OfNat α 0] [OfNat α 1] [OfNat α 2] [NatCast α]

/-- bundle.cpp:145-158 (+ moveto): the re-basing of the linearisation errors at a serious step, the error of the new row at a
    serious / null step are the generated formulas -/
theorem model_appendStep_is_generated (serious : Bool) (kept : List (Pair α)) (x : List α) (fx : α) (y gy : List α) (fy : α) :
    appendStep serious kept x fx y gy fy =
      if serious then
        ⟨y, fy, kept.map (fun p => ⟨p.s, BundleStep.shiftError p.e fx fy (dot p.s (vsub y x))⟩) ++ [⟨gy, BundleStep.seriousError⟩]⟩
      else ⟨x, fx, kept ++ [⟨gy, BundleStep.nullError fx fy (dot gy (vsub x y))⟩]⟩ := rfl

/-- bundle.cpp:142: `delete_largest(2)` -/
theorem model_delCount_is_generated : delCount = BundleStep.delCount := rfl

/-- bundle.h: `proximal(miu) = m_x - smeared_s() / miu`, element-wise -/
theorem model_proximal_is_generated (miu : α) (x s : List α) :
    proximal miu x s = List.zipWith (fun xi si => BundleStep.proximalElem miu xi si) x s := rfl

/-- csearch.h: the numbering of `csearch_status` used on the wire is the declaration order of the enumeration -/
theorem model_status_numbering_is_generated : BundleStep.statusOrder.map Status.toNat = List.range 6 := rfl

/-- csearch.cpp:38-43: the start of a curve search -/
theorem model_csearch_start_is_generated :
    (CState.start : CState α) = ⟨BundleStep.startT, BundleStep.startTL, BundleStep.startTR⟩ ∧ BundleStep.startStatus = Status.maxIters :=
  ⟨rfl, rfl⟩

/-- csearch.cpp:45-55: the lambda `new_trial` -/
theorem model_newTrial_is_generated (P : CParams α) (c : CState α) :
    newTrial P c = BundleStep.newTrial P.interpol P.extrapol c.t c.tL c.tR := by
  cases c with | mk t tL tR => cases tR <;> rfl

/-- csearch.cpp:83-125: the decision chain of one pass (failed / converged / descent → descent step, cutting-plane step or a
    new trial / otherwise null step or a new trial), with the updates of `t`, `tL`, `tR`, is the chain obtained by symbolic
    execution of the C++ loop body -/
theorem model_csearchStep_is_generated (P : CParams α) (c : CState α) (finiteFy econv sconv : Bool) (fx fy e dl gyd sd : α) :
    csearchStep P c finiteFy econv sconv fx fy e dl gyd sd = BundleStep.csearchStep P c finiteFy econv sconv fx fy e dl gyd sd := by
  cases c with | mk t tL tR => cases tR <;> rfl

variable [Sqrt α]

/-- bundle.cpp:177-183 -/
theorem model_econverged_is_generated (n : Nat) (eps : α) (pairs : List (Pair α)) (alphas : List α) :
    econverged n eps pairs alphas = BundleStep.econverged Sqrt.sqrt (n : α) eps (smearedE pairs alphas) := rfl

/-- bundle.cpp:185-191 -/
theorem model_sconverged_is_generated (n : Nat) (eps : α) (pairs : List (Pair α)) (alphas : List α) :
    sconverged n eps pairs alphas = BundleStep.sconverged Sqrt.sqrt (n : α) eps (norm2 (smearedS n pairs alphas)) := rfl

/-- bundle.h: `delta(miu)` -/
theorem model_delta_is_generated (n : Nat) (miu : α) (pairs : List (Pair α)) (alphas : List α) :
    delta n miu pairs alphas =
      BundleStep.delta miu (smearedE pairs alphas) (dot (smearedS n pairs alphas) (smearedS n pairs alphas)) := rfl

end
end NanoVerif.Bundle

namespace NanoVerif.BundleSolver
open NanoVerif.Bundle NanoVerif.Ellipsoid NanoVerif.Gen

section
variable {α : Type} [Add α] [Sub α] [Mul α] [Div α] [Neg α] [LT α] [LE α] [DecidableLT α] [DecidableLE α]
  [OfNat α 0] [OfNat α 1] [OfNat α 2] [NatCast α]

/-- proximity.cpp `make_miu0` -/
theorem model_makeMiu0_is_generated (gx : List α) (fx eps0 : α) :
    makeMiu0 gx fx eps0 = BundleStep.makeMiu0 (dot gx gx) fx eps0 := rfl

/-- proximity.cpp `make_miu`: the guard `nu.dot(u) > min_dot_nuv` and the two results -/
theorem model_makeMiu_is_generated (fmax miu t : α) (nu xi : List α) (minDot : α) :
    makeMiu fmax miu t nu xi minDot =
      BundleStep.makeMiu fmax (dot nu nu) (dot nu (vaxpy (t / miu) nu xi)) minDot := rfl

/-- proximity.cpp `make_miu`: `u = xi + t / miu * nu`; the model computes `t / miu * nu + xi` (`vaxpy`), which is the generated
    element formula wherever addition commutes (IEEE addition does, bit for bit) -/
theorem model_makeMiuU_is_generated (hc : ∀ a b : α, a + b = b + a) (miu t : α) :
    ∀ nu xi : List α, vaxpy (t / miu) nu xi = List.zipWith (fun nui xii => BundleStep.makeMiuU miu t nui xii) nu xi
  | [], _ => by simp [vaxpy]
  | _ :: _, [] => by simp [vaxpy]
  | a :: as, b :: bs => by
    simp only [vaxpy, List.zipWith_cons_cons]
    rw [model_makeMiuU_is_generated hc miu t as bs, hc]; rfl

/-- proximity.cpp: the combination of (sub-)gradients tried by the 7-argument `update`, element-wise -/
theorem model_nuComb_is_generated (a1 a2 p q r s : α) (ps qs rs ss : List α) :
    nuComb a1 a2 (p :: ps) (q :: qs) (r :: rs) (s :: ss) = BundleStep.nuCombElem a1 a2 p q r s :: nuComb a1 a2 ps qs rs ss := rfl

/-- proximity.cpp: the 5-argument `update` (FPBA): `make_miu` of the two differences, kept unless it is `max` -/
theorem model_proxUpdate1_is_generated (fmax minDot miu t : α) (xn xn1 gn gn1 : List α) :
    proxUpdate1 fmax minDot miu t xn xn1 gn gn1 =
      BundleStep.proxKeep1 fmax (makeMiu fmax miu t (vsub gn1 gn) (vsub xn1 xn) minDot) miu := rfl

/-- proximity.cpp: the 7-argument `update` (RQB): the grid `{0.0, 0.5, 1.0}` of both loops, the minimum over it, kept unless it is
    `max` -/
theorem model_proxUpdate2_is_generated (fmax minDot miu t : α) (xn xn1 gn gn1 Gn Gn1 : List α) :
    proxUpdate2 fmax minDot miu t xn xn1 gn gn1 Gn Gn1 =
      BundleStep.proxKeep2 fmax
        ((BundleStep.alphaGrid (α := α)).foldl (fun m a1 => (BundleStep.alphaGrid (α := α)).foldl (fun m a2 =>
          cmin m (makeMiu fmax miu t (nuComb a1 a2 gn1 Gn1 gn Gn) (vsub xn1 xn) minDot)) m) fmax) miu := rfl

/-! ### the outer loops (rqb.cpp, fpba.cpp): flags handed to `solver_t::done`, dispatch on the status of the curve search -/

/-- the generated `iter_ok` of the solver's source file -/
def outerIterOk : Kind → Status → Bool
  | .rqb => BundleStep.rqbIterOk
  | _ => BundleStep.fpbaIterOk

/-- the generated `converged` of the solver's source file -/
def outerConverged : Kind → Status → Bool
  | .rqb => BundleStep.rqbConverged
  | _ => BundleStep.fpbaConverged

/-- the generated dispatch of the solver's source file -/
def outerBranch : Kind → Status → Nat
  | .rqb => BundleStep.rqbBranch
  | _ => BundleStep.fpbaBranch

variable [Sqrt α]

/-- rqb.cpp:37-70 / fpba.cpp:57-80: one pass of the outer loop hands to `solver_t::done` the generated flags
    (`iter_ok = status != failed`, `converged = status == converged`) and then takes the branch the generated dispatch names
    (0: serious step with the proximity update, 1: serious step, 2: null step, otherwise nothing) -/
theorem model_pass_is_generated (E : Env α) (k : Kind) (rem : Nat) (s : SolverSt α) :
    pass E k rem s =
      (let r := csearch E s.b s.miu rem s.pt
       let pt := r.1
       let s0 := { s with pt := pt }
       match doneE (outerIterOk k pt.status) (outerConverged k pt.status) (E.valid s.sx s.sfx) with
       | some st => (some st, s0, r.2)
       | none =>
         match outerBranch k pt.status with
         | 0 => let q := serious E k true s pt r.2; (none, q.1, q.2)
         | 1 => let q := serious E k false s pt r.2; (none, q.1, q.2)
         | 2 => (none, { s0 with b := appendFull E.capacity E.P.eps0 (E.thr s.b pt.alphas) E.n false s.b pt.alphas pt.y pt.gy pt.fy },
                 r.2)
         | _ => (none, s0, r.2)) := by
  -- the three solvers hand over the same flags and dispatch alike; what is left is one case per status
  have h1 : outerIterOk k = fun st => st != .failed := by cases k <;> rfl
  have h2 : outerConverged k = solverConverged := by cases k <;> rfl
  have h3 : outerBranch k = BundleStep.rqbBranch := by cases k <;> rfl
  simp only [pass, h1, h2, h3]
  generalize csearch E s.b s.miu rem s.pt = r
  cases r.1.status <;> rfl

end

/-- the commutativity hypothesis of `model_makeMiuU_is_generated` is satisfiable -/
example : ∀ a b : Int, a + b = b + a := Int.add_comm

end NanoVerif.BundleSolver
