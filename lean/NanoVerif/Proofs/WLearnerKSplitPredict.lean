import NanoVerif.Proofs.WLearnerKSplit
/-!
  C10 — fit–predict consistency of the k-split table: through every trial of the greedy agglomeration the moments of a
  cluster are the sums of the moments of the bins mapped to it (`cluster_id`), so the RSS handed to `make_score` is the RSS
  of the predictions of the stored table (cluster means looked up through `hash2tables`).
-/
set_option linter.unusedSectionVars false

namespace NanoVerif.WLearner
variable {α : Type} [Field α] [LinearOrder α] [IsStrictOrderedRing α]

/-- the renumbering of `cluster_id` after the clusters `c1 < c2` were merged -/
def renum (c1 c2 id : Nat) : Nat := if id = c2 then c1 else if c2 < id then id - 1 else id

theorem renum_cases (c1 c2 id : Nat) :
    (id = c2 ∧ renum c1 c2 id = c1) ∨ (id ≠ c2 ∧ c2 < id ∧ renum c1 c2 id = id - 1) ∨
      (id ≠ c2 ∧ ¬ c2 < id ∧ renum c1 c2 id = id) := by
  unfold renum
  split_ifs with h1 h2
  · exact .inl ⟨h1, rfl⟩
  · exact .inr (.inl ⟨h1, h2, rfl⟩)
  · exact .inr (.inr ⟨h1, h2, rfl⟩)

theorem renum_eq_c1 (c1 c2 id : Nat) (h : c1 < c2) : renum c1 c2 id = c1 ↔ id = c1 ∨ id = c2 := by
  have := renum_cases c1 c2 id
  omega

theorem renum_eq_lt (c1 c2 id k : Nat) (h : c1 < c2) (hk : k < c2) (hk1 : k ≠ c1) : renum c1 c2 id = k ↔ id = k := by
  have := renum_cases c1 c2 id
  omega

theorem renum_eq_ge (c1 c2 id k : Nat) (h : c1 < c2) (hk : c2 ≤ k) : renum c1 c2 id = k ↔ id = k + 1 := by
  have := renum_cases c1 c2 id
  omega

theorem renum_lt (c1 c2 id n : Nat) (h : c1 < c2) (h2 : c2 < n) (hid : id < n) : renum c1 c2 id < n - 1 := by
  have := renum_cases c1 c2 id
  omega

/-- the sum of a per-bin quantity over the bins mapped to cluster `k` -/
def gsum (ids : List Nat) (k : Nat) (X : Nat → α) : α :=
  lsum ((List.range ids.length).map fun i => if ids.getD i 0 = k then X i else 0)

theorem gsum_congr (ids ids' : List Nat) (k k' : Nat) (X : Nat → α) (hl : ids'.length = ids.length)
    (h : ∀ i, i < ids.length → (ids'.getD i 0 = k' ↔ ids.getD i 0 = k)) : gsum ids' k' X = gsum ids k X := by
  unfold gsum
  rw [hl]
  apply lsum_map_congr
  intro i hi
  have := h i (List.mem_range.mp hi)
  by_cases hk : ids.getD i 0 = k
  · rw [if_pos hk, if_pos (this.mpr hk)]
  · rw [if_neg hk, if_neg (fun e => hk (this.mp e))]

theorem gsum_renum_c1 (ids : List Nat) (c1 c2 : Nat) (h : c1 < c2) (X : Nat → α) :
    gsum (ids.map (renum c1 c2)) c1 X = gsum ids c1 X + gsum ids c2 X := by
  unfold gsum
  rw [List.length_map, ← lsum_map_add]
  apply lsum_map_congr
  intro i hi
  rw [Lst.getD_map_of_lt _ (List.mem_range.mp hi) 0]
  by_cases h1 : ids.getD i 0 = c1
  · rw [if_pos ((renum_eq_c1 c1 c2 _ h).mpr (Or.inl h1)), if_pos h1, if_neg (h1 ▸ Nat.ne_of_lt h), add_zero]
  · by_cases h2 : ids.getD i 0 = c2
    · rw [if_pos ((renum_eq_c1 c1 c2 _ h).mpr (Or.inr h2)), if_neg h1, if_pos h2, zero_add]
    · rw [if_neg (fun e => by rcases (renum_eq_c1 c1 c2 _ h).mp e with e | e <;> contradiction), if_neg h1, if_neg h2,
        add_zero]

theorem cluStep_getD (T : Nat) (big : α) (cl : List (Clu α)) (ids : List Nat)
    (h12 : (closestPair T big cl).1 < (closestPair T big cl).2) (h2l : (closestPair T big cl).2 < cl.length) (k : Nat) :
    (cluStep T big (cl, ids)).1.getD k Clu.dflt =
      if k = (closestPair T big cl).1 then
        Clu.merge (cl.getD (closestPair T big cl).1 Clu.dflt) (cl.getD (closestPair T big cl).2 Clu.dflt)
      else if k < (closestPair T big cl).2 then cl.getD k Clu.dflt else cl.getD (k + 1) Clu.dflt := by
  simp only [cluStep]
  generalize closestPair T big cl = p at *
  simp only [List.getD_eq_getElem?_getD, List.getElem?_eraseIdx, List.getElem?_set]
  by_cases hk1 : k = p.1
  · subst hk1
    rw [if_pos rfl, if_pos h12, if_pos rfl, if_pos (by omega)]
    rfl
  · rw [if_neg hk1]
    by_cases hk2 : k < p.2
    · rw [if_pos hk2, if_pos hk2, if_neg (fun e => hk1 e.symm)]
    · rw [if_neg hk2, if_neg hk2, if_neg (by omega)]

theorem cluStep_ids (T : Nat) (big : α) (cl : List (Clu α)) (ids : List Nat) :
    (cluStep T big (cl, ids)).2 = ids.map (renum (closestPair T big cl).1 (closestPair T big cl).2) := rfl

theorem cluStep_length (T : Nat) (big : α) (cl : List (Clu α)) (ids : List Nat)
    (h2l : (closestPair T big cl).2 < cl.length) : (cluStep T big (cl, ids)).1.length = cl.length - 1 := by
  simp [cluStep, List.length_eraseIdx, h2l]

/-- one trial keeps "component of cluster `k` = sum of the component over the bins mapped to `k`", for every component that
    `Clu.merge` adds up -/
theorem comp_step (T : Nat) (big : α) (φ : Clu α → α) (hadd : ∀ a b, φ (Clu.merge a b) = φ a + φ b) (X : Nat → α)
    (cl : List (Clu α)) (ids : List Nat) (h2 : 2 ≤ cl.length)
    (hrel : ∀ k, k < cl.length → φ (cl.getD k Clu.dflt) = gsum ids k X) :
    ∀ k, k < (cluStep T big (cl, ids)).1.length →
      φ ((cluStep T big (cl, ids)).1.getD k Clu.dflt) = gsum (cluStep T big (cl, ids)).2 k X := by
  obtain ⟨h12, h2l⟩ := closestPair_valid T big cl h2
  intro k hk
  rw [cluStep_length T big cl ids h2l] at hk
  rw [cluStep_getD T big cl ids h12 h2l k, cluStep_ids]
  by_cases hk1 : k = (closestPair T big cl).1
  · rw [if_pos hk1, hadd, hrel _ (Nat.lt_trans h12 h2l), hrel _ h2l, hk1, gsum_renum_c1 _ _ _ h12]
  · rw [if_neg hk1]
    by_cases hk2 : k < (closestPair T big cl).2
    · rw [if_pos hk2, hrel k (Nat.lt_of_lt_of_le hk (Nat.sub_le _ _))]
      exact (gsum_congr _ _ _ _ _ (List.length_map _) fun i hi => by
        rw [Lst.getD_map_of_lt _ hi 0]
        exact renum_eq_lt _ _ _ k h12 hk2 hk1).symm
    · rw [if_neg hk2, hrel (k + 1) (Nat.add_lt_of_lt_sub hk)]
      exact (gsum_congr _ _ _ _ _ (List.length_map _) fun i hi => by
        rw [Lst.getD_map_of_lt _ hi 0]
        exact renum_eq_ge _ _ _ k h12 (Nat.not_lt.mp hk2)).symm

/-- the relation between a state of the agglomeration and the bins it started from -/
structure CluRel (init : List (Clu α)) (st : List (Clu α) × List Nat) : Prop where
  len : st.2.length = init.length
  bound : ∀ id ∈ st.2, id < st.1.length
  pos : ∀ c ∈ st.1, 0 < c.x0
  x0 : ∀ k, k < st.1.length → (st.1.getD k Clu.dflt).x0 = gsum st.2 k (fun i => (init.getD i Clu.dflt).x0)
  r1 : ∀ o k, k < st.1.length → (st.1.getD k Clu.dflt).r1 o = gsum st.2 k (fun i => (init.getD i Clu.dflt).r1 o)
  r2 : ∀ o k, k < st.1.length → (st.1.getD k Clu.dflt).r2 o = gsum st.2 k (fun i => (init.getD i Clu.dflt).r2 o)
  rx : ∀ c ∈ st.1, ∀ o, c.rx o = c.r1 o / c.x0

theorem CluRel.step (T : Nat) (big : α) (init : List (Clu α)) (st : List (Clu α) × List Nat) (h2 : 2 ≤ st.1.length)
    (h : CluRel init st) : CluRel init (cluStep T big st) := by
  obtain ⟨cl, ids⟩ := st
  obtain ⟨h12, h2l⟩ := closestPair_valid T big cl h2
  obtain ⟨_, hpos, _⟩ := cluStep_spec T big (cl, ids) h2 h.pos
  refine ⟨?_, ?_, hpos, ?_, ?_, ?_, ?_⟩
  · rw [cluStep_ids, List.length_map]; exact h.len
  · intro id hid
    rw [cluStep_ids] at hid
    obtain ⟨id0, hid0, rfl⟩ := List.mem_map.mp hid
    rw [cluStep_length T big cl ids h2l]
    exact renum_lt _ _ _ _ h12 h2l (h.bound id0 hid0)
  · exact comp_step T big (·.x0) (fun _ _ => rfl) _ cl ids h2 h.x0
  · intro o; exact comp_step T big (fun c => c.r1 o) (fun _ _ => rfl) _ cl ids h2 (h.r1 o)
  · intro o; exact comp_step T big (fun c => c.r2 o) (fun _ _ => rfl) _ cl ids h2 (h.r2 o)
  · intro c hc o
    have hc' := List.mem_of_mem_eraseIdx (show c ∈ (cl.set _ _).eraseIdx _ from hc)
    rcases List.mem_or_eq_of_mem_set hc' with hc' | rfl
    · exact h.rx c hc' o
    · rfl

theorem cluTrials_rel (T : Nat) (big : α) (init : List (Clu α)) : ∀ (n : Nat) (st : List (Clu α) × List Nat),
    st.1.length = n → CluRel init st → ∀ st' ∈ cluTrials T big n st, CluRel init st' := by
  intro n
  induction n with
  | zero => intro st _ _ st' h; simp [cluTrials] at h
  | succ n ih =>
    intro st hlen hrel st' hmem
    simp only [cluTrials, List.mem_cons] at hmem
    rcases hmem with rfl | hmem
    · exact hrel
    · cases n with
      | zero => simp [cluTrials] at hmem
      | succ n =>
        have h2 : 2 ≤ st.1.length := by rw [hlen]; exact Nat.le_add_left 2 n
        obtain ⟨hl, _, _⟩ := cluStep_spec T big st h2 hrel.pos
        exact ih _ (Nat.succ.inj (hl.trans hlen)) (CluRel.step T big init st h2 hrel) st' hmem

theorem gsum_range (n k : Nat) (hk : k < n) (X : Nat → α) : gsum (List.range n) k X = X k := by
  unfold gsum
  rw [List.length_range]
  have : (List.range n).map (fun i => if (List.range n).getD i 0 = k then X i else 0)
      = (List.range n).map (fun i => if i = k then X k else 0) := by
    apply List.map_congr_left
    intro i hi
    have hi' := List.mem_range.mp hi
    have : (List.range n).getD i 0 = i := by simp [List.getD_eq_getElem?_getD, hi']
    rw [this]
    by_cases e : i = k
    · rw [if_pos e, if_pos e, e]
    · rw [if_neg e, if_neg e]
  rw [this]
  exact lsum_ite_eq (List.range n) List.nodup_range k (List.mem_range.mpr hk) (X k)

/-! ### the RSS of the clusters is the RSS of the bins around their cluster's mean -/

theorem lsum_comm {β γ : Type} (F : β → γ → α) (l1 : List β) (l2 : List γ) :
    lsum (l1.map fun a => lsum (l2.map fun b => F a b)) = lsum (l2.map fun b => lsum (l1.map fun a => F a b)) := by
  induction l1 with
  | nil => simp only [List.map_nil, lsum_nil]; exact (lsum_map_zero l2).symm
  | cons a l1 ih => simp only [List.map_cons, lsum_cons]; rw [ih, lsum_map_add]

theorem gsum_lin (ids : List Nat) (k : Nat) (A B C : Nat → α) (a b : α) :
    gsum ids k A - a * gsum ids k B + b * gsum ids k C = gsum ids k (fun i => A i - a * B i + b * C i) := by
  unfold gsum
  generalize List.range ids.length = l
  induction l with
  | nil => simp
  | cons x l ih =>
    simp only [List.map_cons, lsum_cons]
    rw [← ih]
    by_cases h : ids.getD x 0 = k
    · simp only [if_pos h]; ring
    · simp only [if_neg h]; ring

/-- the squared error of the samples of one bin around a vector, from the bin's moments -/
def binCost (T : Nat) (b : Clu α) (mu : Vec α) : α :=
  vsum (fun o => b.r2 o - 2 * mu o * b.r1 o + mu o * mu o * b.x0) T

theorem binCost_eq (T : Nat) (rs : List (Vec α)) (mu : Vec α) :
    binCost T (Clu.ofBin (momOf rs)) mu = lsum (rs.map fun r => sqErr T r mu) := by
  rw [lsum_sqErr]
  unfold binCost
  apply vsum_congr
  intro o _
  simp only [Clu.ofBin]
  rw [momOf_r2, momOf_r1, momOf_x0, map_proj (fun x => (x - mu o) * (x - mu o)) rs o, lsum_sq_dev,
    map_proj (fun x => x * x) rs o, countOf_map]

/-- the within-RSS of the clusters of a state = the squared error of every bin around the mean of the cluster it is mapped to -/
theorem cluRel_rss (T : Nat) (init : List (Clu α)) (st : List (Clu α) × List Nat) (h : CluRel init st) :
    lsum (st.1.map (cluScore T))
      = lsum ((List.range init.length).map fun i =>
          binCost T (init.getD i Clu.dflt) (st.1.getD (st.2.getD i 0) Clu.dflt).rx) := by
  obtain ⟨cl, ids⟩ := st
  simp only at h ⊢
  -- cluster by cluster
  have hk : ∀ k, k < cl.length → cluScore T (cl.getD k Clu.dflt)
      = lsum ((List.range init.length).map fun i =>
          if ids.getD i 0 = k then binCost T (init.getD i Clu.dflt) (cl.getD k Clu.dflt).rx else 0) := by
    intro k hk
    have hmem : cl.getD k Clu.dflt ∈ cl := Lst.getD_mem hk Clu.dflt
    have hx0 : (cl.getD k Clu.dflt).x0 ≠ 0 := ne_of_gt (h.pos _ hmem)
    have hrx := h.rx _ hmem
    unfold cluScore
    have e1 : ∀ o, (cl.getD k Clu.dflt).r2 o - (cl.getD k Clu.dflt).r1 o * (cl.getD k Clu.dflt).r1 o / (cl.getD k Clu.dflt).x0
        = gsum ids k (fun i => (init.getD i Clu.dflt).r2 o - 2 * (cl.getD k Clu.dflt).rx o * (init.getD i Clu.dflt).r1 o
            + (cl.getD k Clu.dflt).rx o * (cl.getD k Clu.dflt).rx o * (init.getD i Clu.dflt).x0) := by
      intro o
      rw [← gsum_lin, ← h.r2 o k hk, ← h.r1 o k hk, ← h.x0 k hk, hrx o, ← quadratic_at_mean hx0]
      ring
    rw [vsum_congr T (fun o _ => e1 o)]
    unfold gsum
    rw [h.len, vsum_lsum (fun i o => if ids.getD i 0 = k then _ else 0)]
    apply lsum_map_congr
    intro i _
    by_cases hik : ids.getD i 0 = k
    · simp only [if_pos hik]; rfl
    · simp only [if_neg hik]; exact vsum_const_zero T
  conv_lhs => rw [← Lst.map_getD_range cl Clu.dflt, List.map_map]
  refine (lsum_map_congr _ _ _ fun k hk' => hk k (List.mem_range.mp hk')).trans ?_
  -- every bin is counted in exactly one cluster
  rw [lsum_comm]
  apply lsum_map_congr
  intro i hi
  have hid : ids.getD i 0 < cl.length := h.bound _ (Lst.getD_mem (by rw [h.len]; exact List.mem_range.mp hi) 0)
  refine (lsum_map_congr _ _ _ fun k _ => ?_).trans (lsum_ite_eq _ List.nodup_range _ (List.mem_range.mpr hid) _)
  by_cases e : k = ids.getD i 0
  · rw [if_pos e.symm, if_pos e, e]
  · rw [if_neg (Ne.symm e), if_neg e]

/-! ### the candidates of `score_ksplit` -/

theorem ksplitInit_getD (rows : List (CRow α)) (i : Nat) (hi : i < (hashesOf rows).length) :
    (ksplitInit rows).1.getD i Clu.dflt = Clu.ofBin (binMom rows ((hashesOf rows).getD i 0)) := by
  simp [ksplitInit, List.getD_eq_getElem?_getD, List.getElem?_map, List.getElem?_eq_getElem hi]

theorem CluRel.init (rows : List (CRow α)) : CluRel (ksplitInit rows).1 (ksplitInit rows) := by
  have hg : ∀ (φ : Clu α → α) k, k < (ksplitInit rows).1.length → φ ((ksplitInit rows).1.getD k Clu.dflt) =
      gsum (ksplitInit rows).2 k fun i => φ ((ksplitInit rows).1.getD i Clu.dflt) := fun φ k hk =>
    (gsum_range _ k (ksplitInit_length rows ▸ hk) fun i => φ ((ksplitInit rows).1.getD i Clu.dflt)).symm
  refine ⟨(List.length_range).trans (ksplitInit_length rows).symm, ?_, ksplitInit_pos rows, hg (·.x0),
    fun o => hg (·.r1 o), fun o => hg (·.r2 o), ?_⟩
  · intro id hid
    rw [ksplitInit_length]
    exact List.mem_range.mp hid
  · intro c hc o
    obtain ⟨h, _, rfl⟩ := List.mem_map.mp hc
    rfl

/-- the table of a k-split candidate as a function of the hash: the mean of the cluster the label set is mapped to -/
def ksplitTable (rows : List (CRow α)) (st : List (Clu α) × List Nat) : Nat → Vec α := fun h =>
  match findHash (hashesOf rows) h with
  | some i => (st.1.getD (st.2.getD i 0) Clu.dflt).rx
  | none => zeroV

/-- the RSS (from the definition) of that table is what `score_ksplit` hands to `make_score` -/
theorem rssOfC_ksplitTable (T : Nat) (rows : List (CRow α)) (st : List (Clu α) × List Nat)
    (h : CluRel (ksplitInit rows).1 st) :
    rssOfC T rows (tablePred (ksplitTable rows st)) = sumL (cluScore T) st.1 (missRssC T rows) := by
  rw [rssOfC_table, sumL_eq, missRssC_eq, cluRel_rss T _ st h]
  congr 1
  rw [ksplitInit_length]
  conv_lhs => rw [← Lst.map_getD_range (hashesOf rows) 0, List.map_map]
  apply lsum_map_congr
  intro i hi
  have hi' := List.mem_range.mp hi
  simp only [Function.comp_def]
  have hfind : findHash (hashesOf rows) ((hashesOf rows).getD i 0) = some i := by
    rw [List.getD_eq_getElem?_getD, List.getElem?_eq_getElem hi']
    exact findHash_sorted _ (hashesOf_sorted rows) i hi'
  rw [ksplitInit_getD rows i hi', binMom_eq, binCost_eq]
  simp only [ksplitTable, hfind]

theorem ksplit_contrib (rows : List (CRow α)) (st : List (Clu α) × List Nat) (h : CluRel (ksplitInit rows).1 st)
    (f : Nat) (s : Nat → FVal α) (oh : Option Nat) (hs : s f = clsVal oh) :
    contrib (Learner.table f (hashesOf rows) st.2 (st.1.map (·.rx))) s = tablePred (ksplitTable rows st) oh := by
  rw [contrib_table f _ _ _ (h.len.trans (ksplitInit_length rows)) s oh hs]
  congr 1
  funext hh
  unfold ksplitTable
  cases findHash (hashesOf rows) hh with
  | none => rfl
  | some i =>
    show (st.1.map (·.rx)).getD (st.2.getD i 0) zeroV = (st.1.getD (st.2.getD i 0) Clu.dflt).rx
    generalize st.2.getD i 0 = k
    rw [List.getD_eq_getElem?_getD, List.getD_eq_getElem?_getD, List.getElem?_map]
    cases st.1[k]? <;> rfl

end NanoVerif.WLearner
