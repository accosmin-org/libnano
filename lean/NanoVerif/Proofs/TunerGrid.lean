import NanoVerif.Model.Tuner
import Mathlib.Data.List.Nodup
import Mathlib.Data.List.Perm.Subperm
/-!
  C13 — the combinatorics of the tuners' grid: the `3^d` combinations, `local_search` (points of the box, no point
  twice), the number of points of the box, the start point, `map_to_grid`.
-/
namespace NanoVerif.Tuner

/-! ### `combos3` -/

theorem combos3_succ (d : Nat) :
    combos3 (d + 1) = (combos3 d).map (fun rest => (0 : Int) :: rest) ++ ((combos3 d).map (fun rest => (1 : Int) :: rest)
      ++ (combos3 d).map (fun rest => (2 : Int) :: rest)) := by
  simp [combos3]

theorem combos3_length (d : Nat) : (combos3 d).length = 3 ^ d := by
  induction d with
  | zero => rfl
  | succ d ih =>
    rw [combos3_succ]
    simp only [List.length_append, List.length_map, ih]
    omega

theorem combos3_mem_length {d : Nat} {c : List Int} (h : c ∈ combos3 d) : c.length = d := by
  induction d generalizing c with
  | zero => simp [combos3] at h; simp [h]
  | succ d ih =>
    rw [combos3_succ] at h
    simp only [List.mem_append, List.mem_map] at h
    rcases h with ⟨x, hx, rfl⟩ | ⟨x, hx, rfl⟩ | ⟨x, hx, rfl⟩ <;> simp [ih hx]

theorem combos3_nodup (d : Nat) : (combos3 d).Nodup := by
  induction d with
  | zero => simp [combos3]
  | succ d ih =>
    rw [combos3_succ]
    have hc : ∀ a : Int, ((combos3 d).map (fun rest => a :: rest)).Nodup := fun a =>
      ih.map (fun x y h => (List.cons.inj h).2)
    refine List.Nodup.append (hc 0) (List.Nodup.append (hc 1) (hc 2) ?_) ?_
    · intro x h1 h2
      simp only [List.mem_map] at h1 h2
      obtain ⟨_, _, rfl⟩ := h1
      obtain ⟨_, _, h⟩ := h2
      simp at h
    · intro x h1 h2
      simp only [List.mem_append, List.mem_map] at h1 h2
      obtain ⟨_, _, rfl⟩ := h1
      rcases h2 with ⟨_, _, h⟩ | ⟨_, _, h⟩ <;> simp at h

/-! ### `inGrid` -/

theorem inGrid_cons (a : Int) (mn : IGrid) (b : Int) (mx : IGrid) (x : Int) (g : IGrid) :
    inGrid (a :: mn) (b :: mx) (x :: g) = true ↔ a ≤ x ∧ x ≤ b ∧ inGrid mn mx g = true := by
  simp [inGrid, and_assoc]

theorem inGrid_length {mn mx g : IGrid} (h : inGrid mn mx g = true) : g.length = mn.length ∧ mx.length = mn.length := by
  induction mn generalizing mx g with
  | nil =>
    cases mx <;> cases g <;> simp_all [inGrid]
  | cons a mn ih =>
    cases mx with
    | nil => simp [inGrid] at h
    | cons b mx =>
      cases g with
      | nil => simp [inGrid] at h
      | cons x g =>
        rw [inGrid_cons] at h
        have := ih h.2.2
        simp [this.1, this.2]

/-! ### `localSearch` -/

theorem localSearch_inGrid (mn mx src : IGrid) (r : Int) : ∀ g ∈ localSearch mn mx src r, inGrid mn mx g = true := by
  intro g hg
  exact (List.mem_filter.1 hg).2

theorem addScaled_length (src : IGrid) (r : Int) (c : List Int) :
    (addScaled src r c).length = min c.length src.length := by
  simp [addScaled]

theorem addScaled_inj {r : Int} (hr : r ≠ 0) : ∀ (c₁ c₂ : List Int) (src : IGrid), c₁.length = c₂.length →
    c₁.length ≤ src.length → addScaled src r c₁ = addScaled src r c₂ → c₁ = c₂
  | [], [], _, _, _, _ => rfl
  | [], _ :: _, _, h, _, _ => nomatch h
  | _ :: _, [], _, h, _, _ => nomatch h
  | _ :: _, _ :: _, [], _, h, _ => absurd h (Nat.not_succ_le_zero _)
  | x :: c₁, y :: c₂, s :: src, hl, hs, h => by
    obtain ⟨h1, h2⟩ := List.cons.inj h
    have hxy : (x - 1) * r = (y - 1) * r := (Int.add_left_inj s).mp h1
    rw [(Int.sub_left_inj 1).mp (Int.eq_of_mul_eq_mul_right hr hxy),
      addScaled_inj hr c₁ c₂ src (Nat.succ.inj hl) (Nat.le_of_succ_le_succ hs) h2]

/-- no point is proposed twice (radius ≠ 0), whatever the source point (also of the wrong length) -/
theorem localSearch_nodup (mn mx src : IGrid) (r : Int) (hr : r ≠ 0) : (localSearch mn mx src r).Nodup := by
  unfold localSearch
  rw [List.filter_map]
  refine List.Nodup.map_on ?_ ((combos3_nodup _).filter _)
  intro x hx y hy hxy
  rw [List.mem_filter] at hx hy
  have hxl := combos3_mem_length hx.1
  have hyl := combos3_mem_length hy.1
  have hg := (inGrid_length hx.2).1
  rw [addScaled_length] at hg
  exact addScaled_inj hr x y src (hxl.trans hyl.symm) (by omega) hxy

theorem localSearch_length_le (mn mx src : IGrid) (r : Int) : (localSearch mn mx src r).length ≤ 3 ^ mn.length := by
  unfold localSearch
  refine Nat.le_trans (List.length_filter_le _ _) ?_
  rw [List.length_map, combos3_length]
  exact Nat.le_refl _

/-! ### the points of the box -/

def rangeZ (a b : Int) : List Int := (List.range (b - a + 1).toNat).map fun (k : Nat) => a + (k : Int)

theorem mem_rangeZ {a b x : Int} (h1 : a ≤ x) (h2 : x ≤ b) : x ∈ rangeZ a b := by
  unfold rangeZ
  rw [List.mem_map]
  exact ⟨(x - a).toNat, by rw [List.mem_range]; omega, by omega⟩

/-- all the points of the box `[mn, mx]` (where the sizes differ: as many as `gridCard` counts) -/
def allGrid : IGrid → IGrid → List IGrid
  | a :: mn, b :: mx => (rangeZ a b).flatMap fun x => (allGrid mn mx).map fun g => x :: g
  | _, _ => [[]]

theorem length_flatMap_const {α β : Type} (l : List α) (f : α → List β) (n : Nat) (h : ∀ x ∈ l, (f x).length = n) :
    (l.flatMap f).length = l.length * n := by
  induction l with
  | nil => simp
  | cons x l ih =>
    rw [List.flatMap_cons, List.length_append, ih (fun y hy => h y (List.mem_cons_of_mem _ hy)),
      h x List.mem_cons_self, List.length_cons, Nat.succ_mul, Nat.add_comm]

theorem allGrid_length : ∀ mn mx : IGrid, (allGrid mn mx).length = gridCard mn mx
  | [], [] => rfl
  | [], _ :: _ => rfl
  | _ :: _, [] => rfl
  | a :: mn, b :: mx => by
    rw [allGrid, gridCard, length_flatMap_const _ _ (gridCard mn mx)]
    · simp [rangeZ]
    · intro x _
      rw [List.length_map, allGrid_length mn mx]

theorem mem_allGrid_of_inGrid : ∀ (mn mx g : IGrid), inGrid mn mx g = true → g ∈ allGrid mn mx
  | [], [], [], _ => List.mem_singleton.mpr rfl
  | [], [], _ :: _, h => nomatch h
  | [], _ :: _, _, h => nomatch h
  | _ :: _, [], _, h => nomatch h
  | _ :: _, _ :: _, [], h => nomatch h
  | a :: mn, b :: mx, x :: g, h => by
    rw [inGrid_cons] at h
    rw [allGrid, List.mem_flatMap]
    exact ⟨x, mem_rangeZ h.1 h.2.1, List.mem_map.2 ⟨g, mem_allGrid_of_inGrid mn mx g h.2.2, rfl⟩⟩

theorem length_le_gridCard (mn mx : IGrid) (l : List IGrid) (hnd : l.Nodup) (hin : ∀ g ∈ l, inGrid mn mx g = true) :
    l.length ≤ gridCard mn mx := by
  rw [← allGrid_length]
  exact (List.subperm_of_subset hnd (fun g hg => mem_allGrid_of_inGrid mn mx g (hin g hg))).length_le

/-! ### `minOf`, `maxOf`, `avgOf`, `mapToGrid` -/

theorem minOf_length (sizes : List Nat) : (minOf sizes).length = sizes.length := by
  simp [minOf]

theorem inGrid_sizes_cons (n : Nat) (sizes : List Nat) (x : Int) (g : IGrid) :
    inGrid (minOf (n :: sizes)) (maxOf (n :: sizes)) (x :: g) = true ↔
      0 ≤ x ∧ x < n ∧ inGrid (minOf sizes) (maxOf sizes) g = true := by
  show inGrid (0 :: minOf sizes) ((Int.ofNat n - 1) :: maxOf sizes) (x :: g) = true ↔ _
  rw [inGrid_cons, Int.ofNat_eq_natCast, Int.le_sub_one_iff]

theorem avgOf_inGrid (sizes : List Nat) (h : ∀ n ∈ sizes, 1 ≤ n) :
    inGrid (minOf sizes) (maxOf sizes) (avgOf sizes) = true := by
  induction sizes with
  | nil => rfl
  | cons n sizes ih =>
    have hn : 0 < n := h n List.mem_cons_self
    show inGrid _ _ (Int.ofNat (n / 2) :: avgOf sizes) = true
    rw [inGrid_sizes_cons]
    exact ⟨Int.natCast_nonneg _, Int.ofNat_lt.mpr (Nat.div_lt_self hn Nat.one_lt_two),
      ih fun m hm => h m (List.mem_cons_of_mem _ hm)⟩

theorem mapToGrid_of_inGrid {α : Type} (spaces : List (List α)) (g : IGrid)
    (h : inGrid (minOf (spaces.map List.length)) (maxOf (spaces.map List.length)) g = true) :
    ∃ vs, mapToGrid spaces g = some vs ∧ List.Forall₂ (fun v vals => v ∈ vals) vs spaces := by
  induction spaces generalizing g with
  | nil =>
    cases g with
    | nil => exact ⟨[], rfl, List.Forall₂.nil⟩
    | cons x g => cases h
  | cons vals spaces ih =>
    cases g with
    | nil => cases h
    | cons i g =>
      rw [List.map_cons, inGrid_sizes_cons] at h
      obtain ⟨h0, h1, h2⟩ := h
      obtain ⟨vs, hvs, hall⟩ := ih g h2
      have hlt : i.toNat < vals.length := (Int.toNat_lt h0).mpr h1
      refine ⟨vals[i.toNat] :: vs, ?_, List.Forall₂.cons (List.getElem_mem hlt) hall⟩
      rw [mapToGrid, if_pos h0, hvs, List.getElem?_eq_getElem hlt]

/-! ### non-vacuity -/

example : localSearch [0, 0] [4, 4] [2, 0] 1 = [[1, 0], [1, 1], [2, 0], [2, 1], [3, 0], [3, 1]] := by decide
example : (combos3 2).length = 9 := by decide
example : combos3 1 = [[0], [1], [2]] := by decide
example : gridCard [0, 0] [4, 4] = 25 := by decide
example : avgOf [7, 4] = [3, 2] := by decide
example : minOf [7, 4] = [0, 0] ∧ maxOf [7, 4] = [6, 3] := by decide
example : inGrid (minOf [7, 4]) (maxOf [7, 4]) (avgOf [7, 4]) = true := by decide
example : mapToGrid [[10, 20, 30], [1, 2]] [2, 0] = some [30, 1] := by decide
example : (localSearch [0, 0] [4, 4] [2, 0] 0).Nodup = False := by decide
example : localSearch [0, 0] [4, 4] [2] 1 = [] := by decide

end NanoVerif.Tuner
