import NanoVerif.Proofs.C06Deriv
/-!
  C06 — "the returned gradient is the derivative of the returned value": the small calculus library for list-vectors.

  `line x d t = x + t • d` (pointwise on lists). A pair value `f` / gradient `g` of the model satisfies the first clause
  of the property when, for all `x d` of equal length,

      HasDerivAt (fun t : ℝ => f (line x d t)) (dot (g x) d) 0

  i.e. the directional derivative of the value along EVERY direction `d` is the inner product of the returned gradient
  with `d` (this is what the central differences along random directions of the oracle estimate). This file contains
  the algebra of `line` and the HasDerivAt rules for the list combinators of the models (`dot`, `sumIdx`/`mapIdx`,
  `sum2`/`map2`, `pairSum`/`pairGrad`, `mulVec`, `sumL ∘ map`), each under a side condition on the entries (`All2`,
  `AllPairs`, membership) so that the functions with kinks are covered by the same rules.
-/

namespace NanoVerif.C06
open NanoVerif.Loss NanoVerif.Fn

/-- the point `x + t • d` -/
noncomputable def line (x d : List ℝ) (t : ℝ) : List ℝ := vadd x (smul t d)

@[simp] theorem line_nil (t : ℝ) : line [] [] t = [] := rfl

@[simp] theorem line_cons (x : ℝ) (xs : List ℝ) (d : ℝ) (ds : List ℝ) (t : ℝ) :
    line (x :: xs) (d :: ds) t = (x + t * d) :: line xs ds t := rfl

theorem line_length (x d : List ℝ) (t : ℝ) (h : d.length = x.length) : (line x d t).length = x.length := by
  rw [line, vadd_length x _ (by rw [smul_length, h]), smul_length, h]

theorem line_zero (x d : List ℝ) (h : d.length = x.length) : line x d 0 = x := by
  induction x, d, h using length_eq_induction with
  | nil => rfl
  | cons x xs d ds h ih => rw [line_cons, ih, zero_mul, add_zero]

theorem line_line (x d : List ℝ) (t0 s : ℝ) (h : d.length = x.length) :
    line (line x d t0) d s = line x d (t0 + s) := by
  induction x, d, h using length_eq_induction with
  | nil => rfl
  | cons x xs d ds h ih => rw [line_cons, line_cons, line_cons, ih, add_assoc, add_mul]

theorem dot_line_left (x d c : List ℝ) (t : ℝ) (h : d.length = x.length) :
    dot (line x d t) c = dot x c + t * dot d c := by
  rw [line, dot_vadd_left _ _ _ (by rw [smul_length, h]), dot_smul_left]

theorem dot_line_right (c x d : List ℝ) (t : ℝ) (h : d.length = x.length) :
    dot c (line x d t) = dot c x + t * dot c d := by
  rw [dot_comm, dot_line_left x d c t h, dot_comm x c, dot_comm d c]

theorem dot_line_line (x d y e : List ℝ) (t : ℝ) (h : d.length = x.length) (h' : e.length = y.length) :
    dot (line x d t) (line y e t) = dot x y + t * (dot x e + dot d y) + t * t * dot d e := by
  rw [dot_line_left _ _ _ _ h, dot_line_right _ _ _ _ h', dot_line_right _ _ _ _ h']; ring

theorem mulVec_line (A : List (List ℝ)) (x d : List ℝ) (t : ℝ) (h : d.length = x.length) :
    mulVec A (line x d t) = line (mulVec A x) (mulVec A d) t := by
  induction A with
  | nil => rfl
  | cons r A ih =>
    simp only [mulVec, List.map] at ih ⊢
    rw [line_cons, ih, dot_line_right r x d t h]

theorem vadd_line (a u w : List ℝ) (t : ℝ) (hu : u.length = a.length) (hw : w.length = a.length) :
    vadd a (line u w t) = line (vadd a u) w t := by
  induction a, u, w, hu, hw using length_eq_induction₃ with
  | nil => rfl
  | cons a as u us w ws hu hw ih => rw [line_cons]; simp only [vadd]; rw [line_cons, ih, add_assoc]

theorem getD_line (x d : List ℝ) (k : Nat) (t : ℝ) (h : d.length = x.length) :
    (line x d t).getD k 0 = x.getD k 0 + t * d.getD k 0 := by
  induction x, d, h using length_eq_induction generalizing k with
  | nil => simp only [line_nil, List.getD_nil, mul_zero, add_zero]
  | cons x xs d ds h ih =>
    cases k with
    | zero => rfl
    | succ k => exact ih k

theorem coord_deriv (x d : ℝ) : HasDerivAt (fun t : ℝ => x + t * d) d 0 :=
  (hasDerivAt_mul_const d).const_add x

theorem comp_coord {φ : ℝ → ℝ} {φ' : ℝ} (x d : ℝ) (h : HasDerivAt φ φ' x) :
    HasDerivAt (fun t : ℝ => φ (x + t * d)) (φ' * d) 0 :=
  comp_deriv (coord_deriv x d) (by rwa [zero_mul, add_zero])

theorem comp_at {φ u : ℝ → ℝ} {φ' u' u0 : ℝ} (hu0 : u 0 = u0) (h : HasDerivAt φ φ' u0) (hu : HasDerivAt u u' 0) :
    HasDerivAt (fun t : ℝ => φ (u t)) (φ' * u') 0 :=
  comp_deriv hu (hu0 ▸ h)

theorem line_deriv_at (f : List ℝ → ℝ) (x d : List ℝ) (t0 f' : ℝ) (hd : d.length = x.length)
    (h : HasDerivAt (fun s : ℝ => f (line (line x d t0) d s)) f' 0) :
    HasDerivAt (fun t : ℝ => f (line x d t)) f' t0 := by
  have hs : HasDerivAt (fun t : ℝ => t - t0) 1 t0 := (hasDerivAt_id' t0).sub_const t0
  refine deriv_of_eq (comp_deriv hs (by rwa [sub_self])) (fun t => ?_) (mul_one _).symm
  rw [line_line x d t0 _ hd, add_sub_cancel]

theorem dot_line_line_deriv (x d y e : List ℝ) (h : d.length = x.length) (h' : e.length = y.length) :
    HasDerivAt (fun t : ℝ => dot (line x d t) (line y e t)) (dot x e + dot d y) 0 := by
  -- a quadratic polynomial in `t`
  have hq := (coord_deriv (dot x y) (dot x e + dot d y)).fun_add
    (((hasDerivAt_id' (0 : ℝ)).fun_mul (hasDerivAt_id' 0)).mul_const (dot d e))
  exact deriv_of_eq hq (fun t => dot_line_line x d y e t h h') (by ring)

theorem dot_self_line_deriv (x d : List ℝ) (hd : d.length = x.length) :
    HasDerivAt (fun t : ℝ => dot (line x d t) (line x d t)) (2 * dot x d) 0 :=
  (dot_line_line_deriv x d x d hd hd).congr_deriv (by rw [dot_comm d x, two_mul])

theorem dot_const_line_deriv (x d c : List ℝ) (hd : d.length = x.length) :
    HasDerivAt (fun t : ℝ => dot (line x d t) c) (dot c d) 0 :=
  deriv_of_eq (coord_deriv _ _) (fun t => dot_line_left x d c t hd) (dot_comm c d)

theorem bilin_line_deriv (A : List (List ℝ)) (x d : List ℝ) (hd : d.length = x.length) :
    HasDerivAt (fun t : ℝ => dot (line x d t) (mulVec A (line x d t)))
      (dot x (mulVec A d) + dot d (mulVec A x)) 0 :=
  deriv_of_eq (dot_line_line_deriv x d (mulVec A x) (mulVec A d) hd (by rw [mulVec_length, mulVec_length]))
    (fun t => by rw [mulVec_line A x d t hd]) rfl

theorem sumIdx_line_deriv (φ γ : Nat → ℝ → ℝ) (h : ∀ i y, HasDerivAt (φ i) (γ i y) y) (i : Nat) (x d : List ℝ)
    (hd : d.length = x.length) : HasDerivAt (fun t : ℝ => sumIdx φ i (line x d t)) (dot (mapIdx γ i x) d) 0 := by
  induction x, d, hd using length_eq_induction generalizing i with
  | nil => exact hasDerivAt_const _ _
  | cons x xs d ds hd ih => exact (comp_coord x d (h i x)).add (ih (i + 1))

/-- `P t_i o_i` for all `i` -/
def All2 (P : ℝ → ℝ → Prop) : List ℝ → List ℝ → Prop
  | t :: ts, o :: os => P t o ∧ All2 P ts os
  | _, _ => True

theorem All2.of_forall {P : ℝ → ℝ → Prop} (h : ∀ t o, P t o) : ∀ t o : List ℝ, All2 P t o
  | [], _ => trivial
  | _ :: _, [] => trivial
  | t :: ts, o :: os => ⟨h t o, All2.of_forall h ts os⟩

/-- `P`: the condition on a pair `t_i, o_i` under which `g` is the derivative of `c k` (`True` for a smooth kernel, "off the kink"
    otherwise) -/
theorem sum2_line_deriv (c : ℝ) (P : ℝ → ℝ → Prop) (k g : ℝ → ℝ → ℝ)
    (h : ∀ t o, P t o → HasDerivAt (fun o => c * k t o) (g t o) o) (t o d : List ℝ) (ho : o.length = t.length)
    (hd : d.length = t.length) (hP : All2 P t o) :
    HasDerivAt (fun s : ℝ => c * sum2 k t (line o d s)) (dot (map2 g t o) d) 0 := by
  induction t, o, d, ho, hd using length_eq_induction₃ with
  | nil => simp only [sum2, mul_zero]; exact hasDerivAt_const _ _
  | cons t ts o os d ds ho hd ih =>
    simp only [line_cons, sum2, mul_add]
    exact (comp_coord o d (h t o hP.1)).add (ih hP.2)

theorem sum2_line_deriv_on (P : ℝ → ℝ → Prop) (k g : ℝ → ℝ → ℝ)
    (h : ∀ t o, P t o → HasDerivAt (fun o => k t o) (g t o) o) (t o d : List ℝ) (ho : o.length = t.length)
    (hd : d.length = t.length) (hP : All2 P t o) :
    HasDerivAt (fun s : ℝ => sum2 k t (line o d s)) (dot (map2 g t o) d) 0 := by
  simpa only [one_mul] using sum2_line_deriv 1 P k g (by simpa only [one_mul] using h) t o d ho hd hP

theorem sumL_map_line_deriv (φ γ : ℝ → ℝ) (u w : List ℝ) (hw : w.length = u.length)
    (h : ∀ y ∈ u, HasDerivAt φ (γ y) y) :
    HasDerivAt (fun t : ℝ => sumL ((line u w t).map φ)) (dot (u.map γ) w) 0 := by
  induction u, w, hw using length_eq_induction with
  | nil => exact hasDerivAt_const _ _
  | cons u us w ws hw ih =>
    exact (comp_coord u w (h u List.mem_cons_self)).add (ih fun y hy => h y (List.mem_cons_of_mem _ hy))

/-- `Q x_i x_{i+1}` for all `i` -/
def AllPairs (Q : ℝ → ℝ → Prop) : List ℝ → Prop
  | a :: b :: r => Q a b ∧ AllPairs Q (b :: r)
  | _ => True

theorem AllPairs.of_forall {Q : ℝ → ℝ → Prop} (h : ∀ a b, Q a b) : ∀ x : List ℝ, AllPairs Q x
  | [] => trivial
  | [_] => trivial
  | a :: b :: r => ⟨h a b, AllPairs.of_forall h (b :: r)⟩

/-- `Q`: the condition on a pair under which `c` is the gradient of `v`; `carry` is what a previous pair has already added to the
    head entry -/
theorem pair_line_deriv_aux (Q : ℝ → ℝ → Prop) (v : ℝ → ℝ → ℝ) (c : ℝ → ℝ → ℝ × ℝ)
    (hv : ∀ a b da db, Q a b →
      HasDerivAt (fun t : ℝ => v (a + t * da) (b + t * db)) ((c a b).1 * da + (c a b).2 * db) 0)
    (xs ds : List ℝ) (a da carry : ℝ) (hl : ds.length = xs.length) (hQ : AllPairs Q (a :: xs)) :
    HasDerivAt (fun t : ℝ => pairSum v (line (a :: xs) (da :: ds) t))
      (dot (pairGrad c carry (a :: xs)) (da :: ds) - carry * da) 0 := by
  induction xs, ds, hl using length_eq_induction generalizing a da carry with
  | nil =>
    simp only [line_cons, line_nil, pairSum, pairGrad, dot]
    exact (hasDerivAt_const _ _).congr_deriv (by ring)
  | cons b xs db ds hl ih =>
    have h := (hv a b da db hQ.1).add (ih b db (c a b).2 hQ.2)
    simp only [line_cons, pairSum, pairGrad, dot] at h ⊢
    exact h.congr_deriv (by ring)

theorem pair_line_deriv_on (Q : ℝ → ℝ → Prop) (v : ℝ → ℝ → ℝ) (c : ℝ → ℝ → ℝ × ℝ)
    (hv : ∀ a b da db, Q a b →
      HasDerivAt (fun t : ℝ => v (a + t * da) (b + t * db)) ((c a b).1 * da + (c a b).2 * db) 0)
    (x d : List ℝ) (hd : d.length = x.length) (hQ : AllPairs Q x) :
    HasDerivAt (fun t : ℝ => pairSum v (line x d t)) (dot (pairGrad c 0 x) d) 0 := by
  induction x, d, hd using length_eq_induction with
  | nil => exact hasDerivAt_const _ _
  | cons a xs da ds h _ => exact (pair_line_deriv_aux Q v c hv xs ds a da 0 h hQ).congr_deriv (by ring)

theorem pair_line_deriv (v : ℝ → ℝ → ℝ) (c : ℝ → ℝ → ℝ × ℝ)
    (hv : ∀ a b da db, HasDerivAt (fun t : ℝ => v (a + t * da) (b + t * db)) ((c a b).1 * da + (c a b).2 * db) 0)
    (x d : List ℝ) (hd : d.length = x.length) :
    HasDerivAt (fun t : ℝ => pairSum v (line x d t)) (dot (pairGrad c 0 x) d) 0 :=
  pair_line_deriv_on (fun _ _ => True) v c (fun a b da db _ => hv a b da db) x d hd (AllPairs.of_forall (fun _ _ => trivial) x)

end NanoVerif.C06
