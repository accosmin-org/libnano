import NanoVerif.Proofs.Wire
/-!
  C15 — what the content hash of a tensor stream detects (core Lean only).
  `hashCombine` is the definition generated from `include/nano/core/hash.h` (`Gen/CodecConsts.lean`).
-/
namespace NanoVerif.Codec
open NanoVerif.Gen.CodecConsts

/-! ### elements: distinct bytes give distinct 64-bit values -/

theorem leNat_inj (c1 c2 : Bytes) (hl : c1.length = c2.length) (h : leNat c1 = leNat c2) : c1 = c2 := by
  rw [← leBytes_leNat c1, ← leBytes_leNat c2, hl, h]

theorem ext_inj (M : Nat) (hM : M ≤ 2 ^ 64) (sg : Bool) (u1 u2 : Nat) (h1 : u1 < M) (h2 : u2 < M)
    (h : (if sg && decide (M / 2 ≤ u1) then UInt64.ofNat (u1 + (2 ^ 64 - M)) else UInt64.ofNat u1) =
         (if sg && decide (M / 2 ≤ u2) then UInt64.ofNat (u2 + (2 ^ 64 - M)) else UInt64.ofNat u2)) : u1 = u2 := by
  -- below `M` neither alternative wraps around: compare the values as naturals
  have hf : ∀ (c : Bool) (u : Nat), u < M →
      (if c then UInt64.ofNat (u + (2 ^ 64 - M)) else UInt64.ofNat u).toNat = if c then u + (2 ^ 64 - M) else u := by
    intro c u hu
    cases c
    · exact UInt64.toNat_ofNat_of_lt' (show u < 2 ^ 64 by omega)
    · exact UInt64.toNat_ofNat_of_lt' (show u + (2 ^ 64 - M) < 2 ^ 64 by omega)
  have h' := congrArg UInt64.toNat h
  rw [hf _ u1 h1, hf _ u2 h2] at h'
  -- the upper half is shifted to the top of the 64-bit range, above the lower half
  cases sg with
  | false => exact h'
  | true =>
    simp only [Bool.true_and, decide_eq_true_eq] at h'
    split at h' <;> split at h' <;> omega

theorem scalar_pow_le (k : Scalar) : 256 ^ k.size ≤ 2 ^ 64 := by cases k <;> decide

/-! ### chunking -/

theorem chunkN_append (sz : Nat) : ∀ (n m : Nat) (x y : Bytes), x.length = n * sz →
    chunkN sz (n + m) (x ++ y) = chunkN sz n x ++ chunkN sz m y
  | 0, m, x, y, hx => by
    have : x = [] := List.length_eq_zero_iff.mp (by simpa using hx)
    subst this
    simp [chunkN]
  | n + 1, m, x, y, hx => by
    have hle : sz ≤ x.length := by rw [hx, Nat.succ_mul]; omega
    have hd : (x.drop sz).length = n * sz := by rw [List.length_drop, hx, Nat.succ_mul]; omega
    have e : n + 1 + m = (n + m) + 1 := by omega
    rw [e, chunkN, List.take_append_of_le_length hle, List.drop_append_of_le_length hle,
      chunkN_append sz n m (x.drop sz) y hd]
    simp [chunkN]

theorem chunkN_length (sz : Nat) : ∀ (n : Nat) (bs : Bytes), (chunkN sz n bs).length = n
  | 0, _ => rfl
  | n + 1, bs => by simp [chunkN, chunkN_length sz n]

theorem chunkN_one (sz : Nat) (a : Bytes) (ha : a.length = sz) : chunkN sz 1 a = [a] := by
  simp [chunkN, ← ha]

/-! ### the tensor reader on a stream whose payload was replaced -/

/-- the stream `nano::write` produces for dimensions `ds` and payload `pl`, with the payload bytes replaced by `pl'`
    (header and stored hash untouched) -/
def tensorStreamWith (k : Scalar) (rank : Nat) (ds : List Int) (pl pl' : Bytes) : Bytes :=
  (tensorHeader k rank).enc ds ++ (u64.enc (hashPayload k (dimsSize ds).toNat pl).toNat ++ pl')

theorem tensor_dec_with (k : Scalar) (rank : Nat) (hr : rank < 4294967296) (ds : List Int) (pl pl' rest : Bytes)
    (hl : ds.length = rank) (hd : ∀ d ∈ ds, I32 d) (h0 : 0 ≤ dimsSize ds)
    (hp : pl'.length = (dimsSize ds).toNat * k.size) :
    (tensor k rank).dec (tensorStreamWith k rank ds pl pl' ++ rest) =
      if hashPayload k (dimsSize ds).toNat pl = hashPayload k (dimsSize ds).toNat pl' then some (⟨ds, pl'⟩, rest)
      else none := by
  have hraw {β : Type} (K : Bytes → Stream.Dec β) :
      Stream.dbind (raw ((dimsSize ds).toNat * k.size)).dec K (pl' ++ rest) = K pl' rest := (raw_good _).dbind_enc hp K rest
  -- field by field: the header and the stored hash are as written, then the payload is read and hashed
  unfold tensor tensorStreamWith tensorBody seq
  rw [Stream.pmap_dec, Stream.dseq_dec, Stream.dbind_assoc, List.append_assoc,
    (tensorHeader_good k rank hr).dbind_enc ⟨hl, hd⟩, if_neg (Int.not_lt.mpr h0), Stream.pmap_dec, Stream.dseq_dec]
  simp only [Stream.dbind_assoc]
  rw [List.append_assoc, u64_good.dbind_enc (UInt64.toNat_lt _), hraw]
  by_cases he : hashPayload k (dimsSize ds).toNat pl = hashPayload k (dimsSize ds).toNat pl'
  · simp only [Stream.dbind, he, if_true]
  · simp only [Stream.dbind, UInt64.toNat_inj, he, if_false]

end NanoVerif.Codec
