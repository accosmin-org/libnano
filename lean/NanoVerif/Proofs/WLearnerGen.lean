import NanoVerif.Model.WLearner
import NanoVerif.Model.WLearnerKTable
import NanoVerif.Gen.WLearnerTable
import NanoVerif.Gen.WLearnerCriterion
import NanoVerif.Gen.WLearnerAccumulator
import NanoVerif.Gen.WLearnerSweep
import Mathlib.Algebra.Order.Field.Basic
import Mathlib.Algebra.Order.Field.Rat
/-!
  C10 — the hand-written model text of Model/WLearner.lean IS the text regenerated from the C++ sources on every check
  (tools/props/c10_translate.py → Gen/WLearnerCriterion.lean, Gen/WLearnerAccumulator.lean, Gen/WLearnerSweep.lean,
  Gen/WLearnerTable.lean; for the table learners also against Model/WLearnerKTable.lean).

  The theorems of the first section hold for EVERY scalar type that has the operations the model uses (no algebraic law is used:
  they are `rfl` up to unfolding / a case split on a decidable comparison), so they also hold at `Float`, where `driver_c10` runs the
  model against the implementation. The second section needs a linear ordered field: the C++ accumulator is written with the
  gradient (`r1 -= g`), the model with the residual `r = -g` (`r1 + r`), and the right hinge tests `value >= threshold` where the
  model says `¬ value < threshold`.

  An edit of one of the translated C++ formulas changes the generated text and breaks the corresponding theorem below.
-/
set_option linter.unusedSectionVars false

namespace NanoVerif.WLearner
open NanoVerif.Gen

/-- the model's criterion as the generated enumeration (`enum class wlearner_criterion`) -/
def Crit.toGen : Crit → WLearnerCriterion.Criterion
  | .rss => .rss
  | .aic => .aic
  | .aicc => .aicc
  | .bic => .bic

/-- the wire code of a criterion (`Crit.ofNat?`, the op line's `<crit>`) is its position in the C++ enumeration -/
theorem model_crit_code_is_generated (c : Crit) : Crit.ofNat? c.toGen.ctorIdx = some c := by
  cases c <;> rfl

example : Crit.ofNat? (Crit.toGen .bic).ctorIdx = some .bic := model_crit_code_is_generated _

section
variable {α : Type} [Add α] [Sub α] [Mul α] [Div α] [Neg α] [LT α] [LE α] [DecidableLT α] [DecidableLE α] [OfNat α 0] [OfNat α 1]
  [NatCast α] [Log α] [FinTest α]

/-! ### criteria — include/nano/core/stats.h, src/wlearner/criterion.cpp -/

/-- `aic` / `aicc` / `bic` of the model are the generated `AIC` / `AICc` / `BIC` -/
theorem model_aic_is_generated (rss : α) (k n : Nat) :
    aic rss k n = WLearnerCriterion.AIC Log.log rss k n ∧
    aicc rss k n = WLearnerCriterion.AICc Log.log rss k n ∧
    bic rss k n = WLearnerCriterion.BIC Log.log rss k n := ⟨rfl, rfl, rfl⟩

/-- `makeScore` of the model, at the floor `K = ε·1e3` regenerated from the source, is the generated `make_score` -/
theorem model_score_is_generated [OfNat α 1000] (eps : α) (c : Crit) (rss : α) (k n : Nat) :
    makeScore (WLearnerCriterion.scoreFloor eps) c rss k n = WLearnerCriterion.makeScore Log.log eps c.toGen rss k n := by
  cases c <;> rfl

/-! ### accumulator closed forms, affine — include/nano/wlearner/accumulator.h, src/wlearner/affine.cpp -/

theorem model_fitConstant_is_generated (m : Mom α) (o : Nat) :
    fitConstant m o = WLearnerAccumulator.fitConstant m.x0 (m.r1 o) := rfl

/-- the count update of both `update` overloads and the feature moments of the second one -/
theorem model_upd_moments_is_generated (m : Mom α) (x : α) (r : Vec α) :
    (m.upd0 r).x0 = WLearnerAccumulator.upd0_x0 m.x0 ∧ (m.upd x r).x0 = WLearnerAccumulator.upd0_x0 m.x0 ∧
    (m.upd x r).x1 = WLearnerAccumulator.upd_x1 m.x1 x ∧ (m.upd x r).x2 = WLearnerAccumulator.upd_x2 m.x2 x :=
  ⟨rfl, rfl, rfl, rfl⟩

theorem model_affineConst_is_generated (eps1 : α) (m : Mom α) :
    affineConst eps1 m = decide (WLearnerAccumulator.constant eps1 m.x0 m.x1 m.x2) := by
  unfold affineConst WLearnerAccumulator.constant
  exact decide_not.symm

theorem model_affineW_is_generated (eps1 : α) (m : Mom α) (o : Nat) :
    affineW eps1 m o = WLearnerAccumulator.w eps1 m.x0 m.x1 m.x2 (m.r1 o) (m.rx o) := by
  unfold affineW WLearnerAccumulator.w
  rw [model_affineConst_is_generated]
  by_cases h : WLearnerAccumulator.constant eps1 m.x0 m.x1 m.x2
  · simp only [h, decide_true, if_true]; rfl
  · simp only [h, decide_false, if_false, Bool.false_eq_true]; rfl

theorem model_affineB_is_generated (eps1 : α) (m : Mom α) (o : Nat) :
    affineB eps1 m o = WLearnerAccumulator.b eps1 m.x0 m.x1 m.x2 (m.r1 o) (m.rx o) := by
  unfold affineB WLearnerAccumulator.b
  rw [model_affineConst_is_generated]
  by_cases h : WLearnerAccumulator.constant eps1 m.x0 m.x1 m.x2
  · simp only [h, decide_true, if_true]; rfl
  · simp only [h, decide_false, if_false, Bool.false_eq_true]; rfl

theorem model_affineRss_is_generated (T : Nat) (m : Mom α) (w b : Vec α) :
    affineRss T m w b =
      vsum (fun o => WLearnerAccumulator.rssAffineTerm m.x0 m.x1 m.x2 (m.r1 o) (m.rx o) (m.r2 o) (w o) (b o)) T := rfl

/-- the candidate of the affine fit: the RSS handed to `make_score`, the parameter count `k`, the two table rows -/
theorem model_affineCand_is_generated (eps1 : α) (T : Nat) (K : α) (crit : Crit) (f : Nat) (rows : List (Row α)) :
    let m := (present rows).foldl Item.upd Mom.zero
    let ms := missedMom rows
    let c := affineCand eps1 T K crit f rows
    c.rss = WLearnerAccumulator.affineRss (affineRss T m (affineW eps1 m) (affineB eps1 m))
              (vsum (fun o => WLearnerAccumulator.rssZeroTerm (ms.r2 o)) T) ∧
    c.score = makeScore K crit c.rss (WLearnerAccumulator.affineK T) (m.n + ms.n) ∧
    c.tables = [affineW eps1 m, affineB eps1 m] := ⟨rfl, rfl, rfl⟩

/-- `w * value + b` of `affine_wlearner_t::do_predict` and of `hinge_wlearner_t::do_predict` -/
theorem model_lin_is_generated (tables : List (Vec α)) (x : α) (o : Nat) :
    lin tables x o = WLearnerAccumulator.affinePredict (tab tables 0 o) (tab tables 1 o) x ∧
    lin tables x o = WLearnerSweep.hingePredict (tab tables 0 o) (tab tables 1 o) x := ⟨rfl, rfl⟩

/-! ### stump — src/wlearner/stump.cpp -/

theorem model_sideScore_is_generated (T : Nat) (x0 : α) (r1 r2 out : Vec α) :
    sideScore T x0 r1 r2 out = vsum (fun o => WLearnerSweep.stumpScoreTerm x0 (r1 o) (r2 o) (out o)) T := rfl

/-- the sweep: the generated distinct-values rule and mid-point threshold of `stump_wlearner_t::do_fit` -/
theorem model_sweep_is_generated_stump (upd : Mom α → Item α → Mom α) (neg : Mom α) (a b : Item α) (rest : List (Item α)) :
    sweep upd neg (a :: b :: rest) =
      if WLearnerSweep.stumpDistinct a.v b.v then
        (WLearnerSweep.stumpThreshold a.v b.v, upd neg a) :: sweep upd (upd neg a) (b :: rest)
      else sweep upd (upd neg a) (b :: rest) := by
  rw [sweep]; rfl

/-- … and those of `hinge_wlearner_t::do_fit` -/
theorem model_sweep_is_generated_hinge (upd : Mom α → Item α → Mom α) (neg : Mom α) (a b : Item α) (rest : List (Item α)) :
    sweep upd neg (a :: b :: rest) =
      if WLearnerSweep.hingeDistinct a.v b.v then
        (WLearnerSweep.hingeThreshold a.v b.v, upd neg a) :: sweep upd (upd neg a) (b :: rest)
      else sweep upd (upd neg a) (b :: rest) := by
  rw [sweep]; rfl

/-- the positive side is `sum − neg`, attribute by attribute (`cache_t::x0_pos` … of stump.cpp and hinge.cpp) -/
theorem model_momSub_is_generated (a b : Mom α) (o : Nat) :
    (a.sub b).x0 = WLearnerSweep.stump_x0_pos a.x0 b.x0 ∧ (a.sub b).r1 o = WLearnerSweep.stump_r1_pos (a.r1 o) (b.r1 o) ∧
    (a.sub b).r2 o = WLearnerSweep.stump_r2_pos (a.r2 o) (b.r2 o) ∧
    (a.sub b).x0 = WLearnerSweep.hinge_x0_pos a.x0 b.x0 ∧ (a.sub b).x1 = WLearnerSweep.hinge_x1_pos a.x1 b.x1 ∧
    (a.sub b).x2 = WLearnerSweep.hinge_x2_pos a.x2 b.x2 ∧ (a.sub b).r1 o = WLearnerSweep.hinge_r1_pos (a.r1 o) (b.r1 o) ∧
    (a.sub b).rx o = WLearnerSweep.hinge_rx_pos (a.rx o) (b.rx o) ∧ (a.sub b).r2 o = WLearnerSweep.hinge_r2_pos (a.r2 o) (b.r2 o) :=
  ⟨rfl, rfl, rfl, rfl, rfl, rfl, rfl, rfl, rfl⟩

/-- one stump candidate: table rows, the RSS handed to `make_score`, the parameter count, the threshold -/
theorem model_stumpCand_is_generated (T : Nat) (K : α) (crit : Crit) (f : Nat) (sum : Mom α) (mrss : α) (mcnt : Nat)
    (c : α × Mom α) :
    let neg := c.2
    let pos := sum.sub neg
    let outN : Vec α := fun o => WLearnerSweep.stumpOutput_neg (neg.r1 o) neg.x0
    let outP : Vec α := fun o => WLearnerSweep.stumpOutput_pos (pos.r1 o) pos.x0
    let cand := stumpCand T K crit f sum mrss mcnt c
    cand.tables = [outN, outP] ∧
    cand.rss = WLearnerSweep.stumpRss (sideScore T neg.x0 neg.r1 neg.r2 outN) (sideScore T pos.x0 pos.r1 pos.r2 outP) mrss ∧
    cand.score = makeScore K crit cand.rss (WLearnerSweep.stumpK T) (sum.n + mcnt) ∧ cand.thr = c.1 := ⟨rfl, rfl, rfl, rfl⟩

/-- the cache update `if (std::isfinite(score) && score < cache.m_score)` of stump.cpp and hinge.cpp -/
theorem model_pick_is_generated (best c : Cand α) :
    pick best c = (if WLearnerSweep.stumpAccept FinTest.isFin c.score best.score then c else best) ∧
    pick best c = (if WLearnerSweep.hingeAccept FinTest.isFin c.score best.score then c else best) := ⟨rfl, rfl⟩

/-- `stump_wlearner_t::do_predict` / `split`: group and added vector of a sample whose feature value is `x` -/
theorem model_stump_predict_is_generated (f : Nat) (thr : α) (tables : List (Vec α)) (s : Nat → FVal α) (x : α)
    (h : s f = FVal.num x) :
    eval (.stump f thr tables) s =
      some (WLearnerSweep.stumpGroup x thr, fun o => WLearnerSweep.stumpPredict x thr (tab tables 0 o) (tab tables 1 o)) := by
  simp only [eval, h]
  unfold WLearnerSweep.stumpGroup WLearnerSweep.stumpPredict
  by_cases hx : x < thr
  · simp only [hx, if_true]
  · simp only [hx, if_false]

/-! ### hinge — src/wlearner/hinge.cpp -/

theorem model_hingeBeta_is_generated (m : Mom α) (t : α) (o : Nat) :
    hingeBeta m t o = WLearnerSweep.hingeBeta m.x0 m.x1 m.x2 (m.r1 o) (m.rx o) t := rfl

theorem model_hingeSide_is_generated (T : Nat) (m : Mom α) (t : α) (beta : Vec α) :
    hingeSide T m t beta =
      vsum (fun o => WLearnerSweep.hingeScoreTerm m.x0 m.x1 m.x2 (m.r1 o) (m.rx o) (m.r2 o) t (beta o)) T := rfl

/-- the two hinge candidates of one threshold: RSS handed to `make_score`, parameter count, slope and intercept rows -/
theorem model_hingeCands_is_generated (T : Nat) (K : α) (crit : Crit) (f : Nat) (sum : Mom α) (mrss : α) (mcnt : Nat)
    (c : α × Mom α) :
    let t := c.1
    let neg := c.2
    let pos := sum.sub neg
    let bN := hingeBeta neg t
    let bP := hingeBeta pos t
    let rssL := WLearnerSweep.hingeRss_neg (WLearnerSweep.hingeScore_neg (hingeSide T neg t bN) (hingeSide T pos t zeroV)) mrss
    let rssR := WLearnerSweep.hingeRss_pos (WLearnerSweep.hingeScore_pos (hingeSide T neg t zeroV) (hingeSide T pos t bP)) mrss
    hingeCands T K crit f sum mrss mcnt c =
      [ { score := makeScore K crit rssL (WLearnerSweep.hingeK_neg T) (neg.n + mcnt), rss := rssL, feature := f, thr := t, dir := 0,
          hashes := [], h2t := [], tables := [bN, fun o => WLearnerSweep.hingeIntercept t (bN o)] },
        { score := makeScore K crit rssR (WLearnerSweep.hingeK_pos T) (pos.n + mcnt), rss := rssR, feature := f, thr := t, dir := 1,
          hashes := [], h2t := [], tables := [bP, fun o => WLearnerSweep.hingeIntercept t (bP o)] } ] := rfl

/-! ### look-up tables — src/wlearner/table.cpp, src/wlearner/accumulator.cpp -/

/-- the per-bin RSS `cache_t::score(bin)`, the table rows of `score_dense` / `score_kbest`, the key of `accumulator_t::sort` -/
theorem model_binScore_is_generated (T : Nat) (m : Mom α) :
    binScore T m = vsum (fun o => WLearnerTable.binScoreTerm m.x0 (m.r1 o) (m.r2 o)) T ∧
    (∀ o, binMean m o = WLearnerTable.denseRow (m.r1 o) m.x0) ∧ (∀ o, binMean m o = WLearnerTable.kbestRow (m.r1 o) m.x0) ∧
    binDelta T m = WLearnerTable.binDelta (vsum (fun o => m.r1 o * m.r1 o) T) m.x0 := ⟨rfl, fun _ => rfl, fun _ => rfl, rfl⟩

/-- the per-cluster RSS of `score_ksplit` -/
theorem model_cluScore_is_generated (T : Nat) (c : Clu α) :
    cluScore T c = vsum (fun o => WLearnerTable.ksplitScoreTerm c.x0 (c.r1 o) (c.r2 o)) T := rfl

/-- the parameter counts `k` of the three table fits (`rows · T`) -/
theorem model_tableK_is_generated (T : Nat) (K big : α) (crit : Crit) (f : Nat) (rows : List (CRow α)) (rss : α) (bins : List Nat) :
    (denseCand T K crit f rows).score =
      makeScore K crit (denseCand T K crit f rows).rss (WLearnerTable.denseK (hashesOf rows).length T) rows.length ∧
    (kbestCandOf T K crit f rows rss bins).score = makeScore K crit rss (WLearnerTable.kbestK bins.length T) rows.length ∧
    ksplitCands T K big crit f rows =
      (cluTrials T big (hashesOf rows).length
          ((hashesOf rows).map fun h => Clu.ofBin (binMom rows h), List.range (hashesOf rows).length)).map fun st =>
        { score := makeScore K crit (sumL (cluScore T) st.1 (missRssC T rows)) (WLearnerTable.ksplitK st.1.length T) rows.length,
          rss := sumL (cluScore T) st.1 (missRssC T rows), feature := f, thr := 0, dir := 0,
          hashes := hashesOf rows, h2t := st.2, tables := st.1.map (·.rx) } := ⟨rfl, rfl, rfl⟩

end

/-! ### the statements that need a linear ordered field -/

section
variable {α : Type} [Field α] [LinearOrder α] [IsStrictOrderedRing α]

/-- the floor of `make_score` regenerated from criterion.cpp is `ε · 1000` (pins the constant: `clampK` of the driver is this
    definition at `Float`, so the model follows the source; the oracle's `CLAMP` is the independent copy) -/
theorem model_scoreFloor_is_generated (eps : α) : WLearnerCriterion.scoreFloor eps = eps * 1000 := rfl

example : WLearnerCriterion.scoreFloor (1 : ℚ) = 1000 := (model_scoreFloor_is_generated (1 : ℚ)).trans (one_mul _)

/-- `accumulator_t::update`, the residual sums: the code subtracts the gradient `g`, the model adds the residual `r = −g` -/
theorem model_upd_residuals_is_generated (m : Mom α) (x : α) (r : Vec α) (o : Nat) :
    (m.upd0 r).r1 o = WLearnerAccumulator.upd0_r1 (m.r1 o) (-(r o)) ∧
    (m.upd0 r).r2 o = WLearnerAccumulator.upd0_r2 (m.r2 o) (-(r o)) ∧
    (m.upd x r).r1 o = WLearnerAccumulator.upd0_r1 (m.r1 o) (-(r o)) ∧
    (m.upd x r).r2 o = WLearnerAccumulator.upd0_r2 (m.r2 o) (-(r o)) ∧
    (m.upd x r).rx o = WLearnerAccumulator.upd_rx (m.rx o) x (-(r o)) := by
  simp [Mom.upd0, Mom.upd, WLearnerAccumulator.upd0_r1, WLearnerAccumulator.upd0_r2, WLearnerAccumulator.upd_rx]

/-- `hinge_wlearner_t::do_predict` / `do_split`: the left hinge is active on `value < threshold`, the right one on
    `value >= threshold`, and both add `w * value + b` -/
theorem model_hinge_predict_is_generated (f : Nat) (thr : α) (left : Bool) (tables : List (Vec α)) (s : Nat → FVal α) (x : α)
    (h : s f = FVal.num x) :
    eval (.hinge f thr left tables) s =
      if (left = true ∧ WLearnerSweep.hingeActive_left x thr) ∨ (left = false ∧ WLearnerSweep.hingeActive_right x thr) then
        some (0, fun o => WLearnerSweep.hingePredict (tab tables 0 o) (tab tables 1 o) x)
      else none := by
  simp only [eval, h, WLearnerSweep.hingeActive_left, WLearnerSweep.hingeActive_right, ge_iff_le, not_lt]
  rfl

/-- the cache update of the table learners: the code compares `score == m_score`, the model says `¬ m_score < score` (next to
    `¬ score < m_score`); the same rule on a linear order -/
theorem model_pickLex_is_generated [FinTest α] (best c : Cand α) :
    pickLex best c =
      if WLearnerTable.tableAccept FinTest.isFin c.score best.score c.feature best.feature then c else best := by
  have h : (FinTest.isFin c.score = true ∧ lessSF c best) ↔
      WLearnerTable.tableAccept FinTest.isFin c.score best.score c.feature best.feature := by
    unfold lessSF WLearnerTable.tableAccept
    constructor
    · rintro ⟨h1, h2 | ⟨h2, h3⟩⟩
      · exact ⟨h1, Or.inl h2⟩
      · rcases lt_or_eq_of_le (not_lt.mp h2) with h4 | h4
        · exact ⟨h1, Or.inl h4⟩
        · exact ⟨h1, Or.inr ⟨h4, h3⟩⟩
    · rintro ⟨h1, h2 | ⟨h2, h3⟩⟩
      · exact ⟨h1, Or.inl h2⟩
      · exact ⟨h1, Or.inr ⟨by rw [h2]; exact lt_irrefl _, h3⟩⟩
  unfold pickLex
  by_cases hp : FinTest.isFin c.score = true ∧ lessSF c best
  · rw [if_pos hp, if_pos (h.mp hp)]
  · rw [if_neg hp, if_neg (fun hq => hp (h.mpr hq))]

example : ∃ (s : Nat → FVal ℚ), s 0 = FVal.num 1 := ⟨fun _ => FVal.num 1, rfl⟩

end

end NanoVerif.WLearner
