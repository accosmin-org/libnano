import NanoVerif.Model.Tuner
import NanoVerif.Proofs.TunerGrid
import Mathlib.Order.Defs.LinearOrder
import Mathlib.Data.List.Perm.Basic
/-!
  C13 — invariants of `evaluate` and of the loops of the tuners (helper lemmas of `Props/C13.lean`).

  Everything is stated for an arbitrary callback `f`, an arbitrary finiteness predicate `fin`, an arbitrary `sortFn`
  satisfying `SortSpec` and an arbitrary surrogate oracle, over an arbitrary linear order of values.
-/
namespace NanoVerif.Tuner

variable {α : Type}

/-! ### `evaluate` -/

def freshOf (igrids : List IGrid) (steps : List (Step α)) : List IGrid :=
  igrids.filter fun g => !(steps.any fun s => s.igrid == g)

theorem mem_freshOf {igrids : List IGrid} {steps : List (Step α)} {g : IGrid} :
    g ∈ freshOf igrids steps ↔ g ∈ igrids ∧ g ∉ steps.map (·.igrid) := by
  simp only [freshOf, List.mem_filter, Bool.not_eq_true', List.any_eq_false, beq_iff_eq, List.mem_map, not_exists,
    not_and]

section
variable {fin : α → Bool} {f : IGrid → α} {sortFn : List (Step α) → List (Step α)} {igrids batch : List IGrid}
  {steps steps' : List (Step α)}

theorem evaluate_ok (h : evaluate fin f sortFn igrids steps = .ok steps' batch) :
    batch = freshOf igrids steps ∧ batch ≠ [] ∧ (∀ g ∈ batch, fin (f g) = true) ∧
      steps' = sortFn (steps ++ batch.map fun g => ⟨g, f g⟩) := by
  unfold evaluate at h
  simp only at h
  split at h
  · cases h
  · rename_i hne
    split at h
    · rename_i hall
      cases h
      exact ⟨rfl, fun h0 => hne (List.isEmpty_iff.mpr h0), List.all_eq_true.mp hall, rfl⟩
    · cases h

theorem evaluate_bad (h : evaluate fin f sortFn igrids steps = .bad batch) :
    batch = freshOf igrids steps ∧ ∃ g ∈ batch, fin (f g) = false := by
  unfold evaluate at h
  simp only at h
  split at h
  · cases h
  · split at h
    · cases h
    · rename_i hall
      cases h
      obtain ⟨g, hg, hfg⟩ := List.all_eq_false.mp (Bool.eq_false_iff.mpr hall)
      exact ⟨rfl, g, hg, Bool.eq_false_iff.mpr hfg⟩

theorem evaluate_unchanged (h : evaluate fin f sortFn igrids steps = .unchanged) :
    ∀ g ∈ igrids, g ∈ steps.map (·.igrid) := by
  unfold evaluate at h
  simp only at h
  split at h
  · rename_i he
    intro g hg
    by_contra hng
    exact List.ne_nil_of_mem (mem_freshOf.mpr ⟨hg, hng⟩) (List.isEmpty_iff.mp he)
  · split at h <;> cases h

theorem evaluate_ok_igrids [LT α] (hs : SortSpec sortFn) (h : evaluate fin f sortFn igrids steps = .ok steps' batch) :
    (steps'.map (·.igrid)).Perm (steps.map (·.igrid) ++ batch) := by
  have hp := ((hs (steps ++ batch.map fun g => ⟨g, f g⟩)).1).map (·.igrid)
  rwa [← (evaluate_ok h).2.2.2, List.map_append, List.map_map,
    show ((fun x : Step α => x.igrid) ∘ fun g => (⟨g, f g⟩ : Step α)) = id from rfl, List.map_id] at hp

end

/-! ### the control skeleton — traces, proposals, phases, one iteration, unfolding a run: nothing here needs an order on the values -/

variable {c : Cfg α} {steps steps' : List (Step α)} {tr : List (List IGrid)} {igrids batch b : List IGrid}
  {st st' : St α} {ph : Phase}

theorem flatten_snoc (tr : List (List IGrid)) (b : List IGrid) : (tr ++ [b]).flatten = tr.flatten ++ b := by
  simp

theorem freshOf_sublist (igrids : List IGrid) (steps : List (Step α)) : (freshOf igrids steps).Sublist igrids :=
  List.filter_sublist

theorem nodup_append_freshOf (hnd : (steps.map (·.igrid)).Nodup)
    (hig : igrids.Nodup) : (steps.map (·.igrid) ++ freshOf igrids steps).Nodup :=
  List.nodup_append.mpr ⟨hnd, hig.sublist (freshOf_sublist igrids steps),
    fun _ ha _ hb hab => (mem_freshOf.mp (hab ▸ hb)).2 ha⟩

/-- what the callback has been handed so far: grid points only, none twice, within the budget -/
structure TInv (c : Cfg α) (tr : List (List IGrid)) : Prop where
  grid : ∀ g ∈ tr.flatten, inGrid c.mn c.mx g = true
  nodup : tr.flatten.Nodup
  budget : tr.flatten.length ≤ c.maxEvals + 3 ^ c.mn.length

theorem tinv_of_perm {l : List IGrid} (hperm : l.Perm tr.flatten)
    (hgrid : ∀ g ∈ l, inGrid c.mn c.mx g = true) (hnd : l.Nodup) (hlen : l.length ≤ c.maxEvals + 3 ^ c.mn.length) :
    TInv c tr :=
  ⟨fun g hg => hgrid g (hperm.symm.subset hg), hperm.nodup_iff.mp hnd, hperm.length_eq ▸ hlen⟩

theorem tinv_nil (c : Cfg α) : TInv c [] := ⟨nofun, List.nodup_nil, Nat.zero_le _⟩

structure Proposal (c : Cfg α) (igrids : List IGrid) : Prop where
  grid : ∀ g ∈ igrids, inGrid c.mn c.mx g = true
  nodup : igrids.Nodup
  card : igrids.length ≤ 3 ^ c.mn.length

theorem proposal_localSearch (c : Cfg α) (src : IGrid) (r : Int) (hr : r ≠ 0) :
    Proposal c (localSearch c.mn c.mx src r) :=
  ⟨localSearch_inGrid _ _ _ _, localSearch_nodup _ _ _ _ hr, localSearch_length_le _ _ _ _⟩

theorem proposal_single (c : Cfg α) (avg : IGrid) (havg : inGrid c.mn c.mx avg = true) : Proposal c [avg] :=
  ⟨fun g hg => List.mem_singleton.mp hg ▸ havg, List.nodup_singleton avg, Nat.pow_pos (by decide)⟩

theorem first_within_budget (c : Cfg α) (avg : IGrid) :
    ([] : List (Step α)).length < c.maxEvals ∨
      ([] : List (Step α)).length + [avg].length ≤ c.maxEvals + 3 ^ c.mn.length :=
  Or.inr (Nat.le_add_left_of_le (Nat.pow_pos (by decide)))

def phaseRank : Phase → Nat
  | .coarse _ => 3
  | .main => 2
  | .done => 1

/-- radius of the coarse loop is never 0 (it starts at 2 and doubles) -/
def PhaseOk : Phase → Prop
  | .coarse r => r ≠ 0
  | _ => True

/-- the phase after the loop the tuner is in -/
def Phase.exit : Phase → Phase
  | .coarse _ => .main
  | _ => .done

/-- the phase in which the loop the tuner is in goes on -/
def Phase.again : Phase → Phase
  | .coarse r => .coarse (r * 2)
  | ph => ph

theorem phaseRank_exit_lt (h : ph ≠ .done) : phaseRank ph.exit < phaseRank ph := by
  cases ph <;> first | exact absurd rfl h | exact Nat.lt_succ_self _

theorem phaseOk_again (h : PhaseOk ph) : PhaseOk ph.again ∧ phaseRank ph.again = phaseRank ph := by
  cases ph with
  | coarse r => exact ⟨Int.mul_ne_zero h (by decide), rfl⟩
  | main => exact ⟨trivial, rfl⟩
  | done => exact ⟨trivial, rfl⟩

theorem phaseOk_exit (ph : Phase) : PhaseOk ph.exit := by cases ph <;> trivial

/-- the body shared by the three loops: evaluate the proposed points; nothing new ends the loop -/
def iterate (c : Cfg α) (steps : List (Step α)) (igrids : List IGrid) (ph : Phase) : Out α :=
  match evaluate c.fin c.f c.sortFn igrids steps with
  | .unchanged => .next ⟨steps, ph.exit⟩ []
  | .ok steps' batch => .next ⟨steps', ph.again⟩ batch
  | .bad batch => .bad batch

/-- an iteration leaves its loop without calling back, or fails to get a centre, or runs the shared body on a proposal
    of `local_search` with fewer than `max_evals` steps so far -/
theorem step_cases (c : Cfg α) (st : St α) (hph : PhaseOk st.phase) (hnd : st.phase ≠ .done) :
    step c st = .next ⟨st.steps, st.phase.exit⟩ [] ∨ step c st = .fail ∨
      ∃ igrids, Proposal c igrids ∧ st.steps.length < c.maxEvals ∧ step c st = iterate c st.steps igrids st.phase := by
  obtain ⟨steps, phase⟩ := st
  cases phase with
  | done => exact absurd rfl hnd
  | coarse r =>
    cases steps with
    | nil => exact Or.inl rfl
    | cons s rest =>
      by_cases hlt : (s :: rest).length < c.maxEvals / 2
      · refine Or.inr (Or.inr ⟨_, proposal_localSearch c s.igrid r hph,
          Nat.lt_of_lt_of_le hlt (Nat.div_le_self _ _), ?_⟩)
        simp only [step, if_pos hlt]; rfl
      · exact Or.inl (by simp only [step, if_neg hlt]; rfl)
  | main =>
    cases steps with
    | nil => exact Or.inl rfl
    | cons s rest =>
      by_cases hlt : (s :: rest).length < c.maxEvals
      · cases hk : c.kind with
        | localSearch =>
          refine Or.inr (Or.inr ⟨_, proposal_localSearch c s.igrid 1 Int.one_ne_zero, hlt, ?_⟩)
          simp only [step, if_pos hlt, hk]; rfl
        | surrogate =>
          cases ho : c.oracle (s :: rest) with
          | none => exact Or.inr (Or.inl (by simp only [step, if_pos hlt, hk, ho]))
          | some centre =>
            refine Or.inr (Or.inr ⟨_, proposal_localSearch c centre 1 Int.one_ne_zero, hlt, ?_⟩)
            simp only [step, if_pos hlt, hk, ho]; rfl
      · exact Or.inl (by simp only [step, if_neg hlt]; rfl)

theorem addBatch_nil (tr : List (List IGrid)) : addBatch tr [] = tr := rfl

theorem addBatch_ne_nil (tr : List (List IGrid)) (h : b ≠ []) : addBatch tr b = tr ++ [b] := by
  cases b with
  | nil => exact absurd rfl h
  | cons x xs => rfl

theorem addBatch_prefix (tr : List (List IGrid)) (b : List IGrid) : ∃ suffix, addBatch tr b = tr ++ suffix := by
  unfold addBatch
  split
  · exact ⟨[], (List.append_nil tr).symm⟩
  · exact ⟨[b], rfl⟩

def Res.trace : Res α → List (List IGrid)
  | .ok _ tr => tr
  | .bad tr => tr
  | .fail tr => tr
  | .fuel => []
  | .noSpaces => []

theorem run_done (c : Cfg α) (n : Nat) (tr : List (List IGrid)) (hd : st.phase = .done) :
    run c (n + 1) st tr = .ok st.steps tr := by
  rw [run, hd]

theorem run_succ (c : Cfg α) (n : Nat) (tr : List (List IGrid)) (hd : st.phase ≠ .done) :
    run c (n + 1) st tr = match step c st with
      | .next st' b => run c n st' (addBatch tr b)
      | .bad b => .bad (tr ++ [b])
      | .fail => .fail tr := by
  rw [run]
  split
  · rename_i h; exact absurd h hd
  · rfl

theorem run_trace_prefix (c : Cfg α) : ∀ (n : Nat) (st : St α) (tr : List (List IGrid)) (steps : List (Step α))
    (tr' : List (List IGrid)), run c n st tr = .ok steps tr' → ∃ suffix, tr' = tr ++ suffix
  | 0, _, _, _, _, h => nomatch h
  | n + 1, st, tr, steps, tr', h => by
    by_cases hd : st.phase = .done
    · rw [run_done c n tr hd] at h
      cases h
      exact ⟨[], (List.append_nil tr).symm⟩
    · rw [run_succ c n tr hd] at h
      split at h
      · rename_i st' b _
        obtain ⟨s1, h1⟩ := addBatch_prefix tr b
        obtain ⟨s2, h2⟩ := run_trace_prefix c n st' _ steps tr' h
        exact ⟨s1 ++ s2, by rw [h2, h1, List.append_assoc]⟩
      · cases h
      · cases h

theorem optimize_first_batch (avg : IGrid) (fuel : Nat)
    (h : optimize c avg fuel = .ok steps tr) : ∃ suffix, tr = [avg] :: suffix := by
  unfold optimize at h
  split at h
  · rename_i hev
    exact absurd (evaluate_unchanged hev avg List.mem_cons_self) List.not_mem_nil
  · cases h
  · rename_i steps0 b hev
    obtain ⟨suffix, hsuf⟩ := run_trace_prefix c fuel _ _ _ _ h
    exact ⟨suffix, hsuf.trans (by rw [(evaluate_ok hev).1]; rfl)⟩

/-! ### the invariant of the steps and of the trace of callback batches; `evaluate`, an iteration and the runs keep it -/

section inv
variable [LinearOrder α]

structure Inv (c : Cfg α) (steps : List (Step α)) (tr : List (List IGrid)) : Prop where
  grid : ∀ s ∈ steps, inGrid c.mn c.mx s.igrid = true
  nodup : (steps.map (·.igrid)).Nodup
  sorted : steps.Pairwise (fun a b => ¬ b.value < a.value)
  vals : ∀ s ∈ steps, c.fin s.value = true ∧ s.value = c.f s.igrid
  budget : steps.length ≤ c.maxEvals + 3 ^ c.mn.length
  trace : (steps.map (·.igrid)).Perm tr.flatten

theorem Inv.tinv (h : Inv c steps tr) : TInv c tr :=
  tinv_of_perm h.trace (fun _ hg => by obtain ⟨s, hs, rfl⟩ := List.mem_map.mp hg; exact h.grid s hs) h.nodup
    (by rw [List.length_map]; exact h.budget)

/-- the evaluated points followed by the new ones of a proposal: points of the box, none twice, within the budget —
    whether or not the values of the new ones are then accepted -/
theorem extend_ok (hinv : Inv c steps tr) (hp : Proposal c igrids)
    (hlen : steps.length < c.maxEvals ∨ steps.length + igrids.length ≤ c.maxEvals + 3 ^ c.mn.length) :
    (∀ g ∈ steps.map (·.igrid) ++ freshOf igrids steps, inGrid c.mn c.mx g = true) ∧
      (steps.map (·.igrid) ++ freshOf igrids steps).Nodup ∧
      (steps.map (·.igrid) ++ freshOf igrids steps).length ≤ c.maxEvals + 3 ^ c.mn.length := by
  have hsub := freshOf_sublist igrids steps
  refine ⟨fun g hg => ?_, nodup_append_freshOf hinv.nodup hp.nodup, ?_⟩
  · rcases List.mem_append.mp hg with hg | hg
    · obtain ⟨s, hs, rfl⟩ := List.mem_map.mp hg
      exact hinv.grid s hs
    · exact hp.grid g (hsub.subset hg)
  · rw [List.length_append, List.length_map]
    have h2 := hsub.length_le
    have h3 := hp.card
    rcases hlen with h | h <;> omega

theorem tinv_snoc (hinv : Inv c steps tr) (hp : Proposal c igrids)
    (hlen : steps.length < c.maxEvals ∨ steps.length + igrids.length ≤ c.maxEvals + 3 ^ c.mn.length) :
    TInv c (tr ++ [freshOf igrids steps]) := by
  obtain ⟨h1, h2, h3⟩ := extend_ok hinv hp hlen
  exact tinv_of_perm (flatten_snoc tr _ ▸ hinv.trace.append_right _) h1 h2 h3

theorem inv_evaluate (hs : SortSpec c.sortFn) (hinv : Inv c steps tr) (hp : Proposal c igrids)
    (hlen : steps.length < c.maxEvals ∨ steps.length + igrids.length ≤ c.maxEvals + 3 ^ c.mn.length)
    (h : evaluate c.fin c.f c.sortFn igrids steps = .ok steps' batch) :
    Inv c steps' (tr ++ [batch]) ∧ steps.length < steps'.length := by
  obtain ⟨rfl, hne, hfin, hst⟩ := evaluate_ok h
  obtain ⟨hperm, hsorted⟩ := hs (steps ++ (freshOf igrids steps).map fun g => ⟨g, c.f g⟩)
  rw [← hst] at hperm hsorted
  have hmap := evaluate_ok_igrids hs h
  obtain ⟨h1, h2, h3⟩ := extend_ok hinv hp hlen
  have hlen' : steps'.length = steps.length + (freshOf igrids steps).length := by
    rw [hperm.length_eq, List.length_append, List.length_map]
  refine ⟨⟨fun s hs' => h1 _ (hmap.subset (List.mem_map_of_mem hs')), hmap.nodup_iff.mpr h2, hsorted, ?_, ?_, ?_⟩, ?_⟩
  · intro s hs'
    rcases List.mem_append.mp (hperm.subset hs') with h1 | h1
    · exact hinv.vals s h1
    · obtain ⟨g, hg, rfl⟩ := List.mem_map.mp h1
      exact ⟨hfin g hg, rfl⟩
  · rw [← List.length_map (·.igrid), hmap.length_eq]; exact h3
  · rw [flatten_snoc]
    exact hmap.trans (hinv.trace.append_right _)
  · have := List.length_pos_iff.mpr hne
    omega

/-- how much fuel a state still needs at most -/
def measure (c : Cfg α) (st : St α) : Nat := (gridCard c.mn c.mx - st.steps.length) + phaseRank st.phase

theorem inv_length_le_gridCard (h : Inv c steps tr) :
    steps.length ≤ gridCard c.mn c.mx := by
  have := length_le_gridCard c.mn c.mx (steps.map (·.igrid)) h.nodup (by
    intro g hg
    obtain ⟨s, hs, rfl⟩ := List.mem_map.mp hg
    exact h.grid s hs)
  rwa [List.length_map] at this

theorem step_next (hs : SortSpec c.sortFn) (hinv : Inv c st.steps tr) (hph : PhaseOk st.phase)
    (hnd : st.phase ≠ .done) (h : step c st = .next st' b) :
    Inv c st'.steps (addBatch tr b) ∧ PhaseOk st'.phase ∧ measure c st' < measure c st := by
  have hexit : measure c ⟨st.steps, st.phase.exit⟩ < measure c st := Nat.add_lt_add_left (phaseRank_exit_lt hnd) _
  rcases step_cases c st hph hnd with h0 | h0 | ⟨igrids, hp, hlen, h0⟩
  · cases h0.symm.trans h
    exact ⟨hinv, phaseOk_exit _, hexit⟩
  · cases h0.symm.trans h
  · rw [h0, iterate] at h
    split at h
    · cases h
      exact ⟨hinv, phaseOk_exit _, hexit⟩
    · rename_i steps' batch hev
      cases h
      obtain ⟨hinv', hgrow⟩ := inv_evaluate hs hinv hp (Or.inl hlen) hev
      have hle := inv_length_le_gridCard hinv'
      rw [addBatch_ne_nil tr (evaluate_ok hev).2.1]
      refine ⟨hinv', (phaseOk_again hph).1, ?_⟩
      show gridCard c.mn c.mx - steps'.length + phaseRank st.phase.again < measure c st
      rw [measure, (phaseOk_again hph).2]
      omega
    · cases h

theorem step_bad (hinv : Inv c st.steps tr) (hph : PhaseOk st.phase) (h : step c st = .bad b) :
    TInv c (tr ++ [b]) ∧ ∃ g ∈ b, c.fin (c.f g) = false := by
  have hnd : st.phase ≠ .done := fun hd => by
    obtain ⟨steps, phase⟩ := st
    cases hd
    cases h
  rcases step_cases c st hph hnd with h0 | h0 | ⟨igrids, hp, hlen, h0⟩
  · cases h0.symm.trans h
  · cases h0.symm.trans h
  · rw [h0, iterate] at h
    split at h
    · cases h
    · cases h
    · rename_i batch hev
      cases h
      obtain ⟨hb, hbad⟩ := evaluate_bad hev
      exact ⟨hb ▸ tinv_snoc hinv hp (Or.inl hlen), hbad⟩

/-- everything the theorems say about a finished run -/
structure Good (c : Cfg α) (res : Res α) : Prop where
  ok : ∀ steps tr, res = .ok steps tr → Inv c steps tr
  tinv : TInv c res.trace
  bad : ∀ tr, res = .bad tr → ∃ g ∈ tr.flatten, c.fin (c.f g) = false
  noSpaces : res ≠ .noSpaces

theorem good_of_tinv {res : Res α} (ht : TInv c res.trace) (hok : ∀ steps tr, res ≠ .ok steps tr)
    (hbad : ∀ tr, res = .bad tr → ∃ g ∈ tr.flatten, c.fin (c.f g) = false) (hns : res ≠ .noSpaces) : Good c res :=
  ⟨fun steps tr h => absurd h (hok steps tr), ht, hbad, hns⟩

theorem good_ok (hinv : Inv c steps tr) :
    Good c (.ok steps tr) :=
  ⟨fun _ _ h => by cases h; exact hinv, hinv.tinv, nofun, nofun⟩

theorem good_bad (ht : TInv c (tr ++ [b]))
    (hbad : ∃ g ∈ b, c.fin (c.f g) = false) : Good c (.bad (tr ++ [b])) := by
  obtain ⟨g, hg, hfin⟩ := hbad
  refine good_of_tinv ht nofun (fun tr' h => ?_) nofun
  cases h
  exact ⟨g, by rw [flatten_snoc]; exact List.mem_append_right _ hg, hfin⟩

theorem run_good (hs : SortSpec c.sortFn) : ∀ (n : Nat) (st : St α) (tr : List (List IGrid)),
    Inv c st.steps tr → PhaseOk st.phase → Good c (run c n st tr)
  | 0, st, tr, _, _ => good_of_tinv (tinv_nil c) nofun nofun nofun
  | n + 1, st, tr, hinv, hph => by
    by_cases hd : st.phase = .done
    · rw [run_done c n tr hd]
      exact good_ok hinv
    · rw [run_succ c n tr hd]
      cases hstep : step c st with
      | next st' b =>
        obtain ⟨hinv', hph', _⟩ := step_next hs hinv hph hd hstep
        exact run_good hs n st' _ hinv' hph'
      | bad b =>
        obtain ⟨ht, hbad⟩ := step_bad hinv hph hstep
        exact good_bad ht hbad
      | fail => exact good_of_tinv hinv.tinv nofun nofun nofun

theorem run_fuel (hs : SortSpec c.sortFn) : ∀ (n : Nat) (st : St α) (tr : List (List IGrid)),
    Inv c st.steps tr → PhaseOk st.phase → measure c st ≤ n → run c n st tr ≠ .fuel
  | 0, st, tr, _, _, hm => by
    have : 1 ≤ phaseRank st.phase := by cases st.phase <;> exact Nat.succ_pos _
    rw [measure] at hm
    omega
  | n + 1, st, tr, hinv, hph, hm => by
    by_cases hd : st.phase = .done
    · rw [run_done c n tr hd]; nofun
    · rw [run_succ c n tr hd]
      cases hstep : step c st with
      | next st' b =>
        obtain ⟨hinv', hph', hlt⟩ := step_next hs hinv hph hd hstep
        exact run_fuel hs n st' _ hinv' hph' (by omega)
      | bad b => nofun
      | fail => nofun

theorem inv_nil (c : Cfg α) : Inv c [] [] :=
  ⟨nofun, List.nodup_nil, List.Pairwise.nil, nofun, Nat.zero_le _, List.Perm.nil⟩

theorem optimize_good (hs : SortSpec c.sortFn) (avg : IGrid) (havg : inGrid c.mn c.mx avg = true)
    (fuel : Nat) : Good c (optimize c avg fuel) := by
  unfold optimize
  have hp := proposal_single c avg havg
  split
  · exact good_ok (inv_nil c)
  · rename_i b hev
    obtain ⟨hb, hbad⟩ := evaluate_bad hev
    exact good_bad (tr := []) (hb ▸ tinv_snoc (inv_nil c) hp (first_within_budget c avg)) hbad
  · rename_i steps b hev
    obtain ⟨hinv, _⟩ := inv_evaluate (tr := []) hs (inv_nil c) hp (first_within_budget c avg) hev
    exact run_good hs fuel ⟨steps, .coarse 2⟩ _ hinv (show (2 : Int) ≠ 0 by decide)

end inv

/-! ### sorts: moving a found element to the front is a permutation (`hintedSort`); a sort that the kernel can evaluate
    (for the non-vacuity examples) -/

theorem perm_cons_eraseP {β : Type} (p : β → Bool) : ∀ (l : List β) (x : β), l.find? p = some x →
    l.Perm (x :: l.eraseP p)
  | [], _, h => by simp at h
  | y :: l, x, h => by
    by_cases hy : p y = true
    · simp only [List.find?_cons, hy] at h
      cases h
      simp [hy]
    · have hy' : p y = false := by simpa using hy
      simp only [List.find?_cons, hy'] at h
      have ih := perm_cons_eraseP p l x h
      simp only [List.eraseP_cons, hy', cond_false]
      exact (ih.cons y).trans (List.Perm.swap x y _)

def insertStep [LT α] [DecidableLT α] (x : Step α) : List (Step α) → List (Step α)
  | [] => [x]
  | y :: ys => if x.value < y.value then x :: y :: ys else y :: insertStep x ys

def insertionSort [LT α] [DecidableLT α] : List (Step α) → List (Step α)
  | [] => []
  | x :: xs => insertStep x (insertionSort xs)

section
variable [LinearOrder α]

theorem insertStep_perm (x : Step α) : ∀ l : List (Step α), (insertStep x l).Perm (x :: l)
  | [] => List.Perm.refl _
  | y :: ys => by
    unfold insertStep
    split
    · exact List.Perm.refl _
    · exact ((insertStep_perm x ys).cons y).trans (List.Perm.swap x y ys)

theorem insertStep_sorted (x : Step α) : ∀ l : List (Step α), l.Pairwise (fun a b => ¬ b.value < a.value) →
    (insertStep x l).Pairwise (fun a b => ¬ b.value < a.value)
  | [], _ => by simp [insertStep]
  | y :: ys, h => by
    unfold insertStep
    obtain ⟨hy, hys⟩ := List.pairwise_cons.mp h
    split
    · rename_i hlt
      refine List.pairwise_cons.mpr ⟨?_, h⟩
      intro z hz
      rcases List.mem_cons.mp hz with rfl | hz'
      · exact not_lt.mpr (le_of_lt hlt)
      · exact not_lt.mpr (le_trans (le_of_lt hlt) (not_lt.mp (hy z hz')))
    · rename_i hnlt
      refine List.pairwise_cons.mpr ⟨?_, insertStep_sorted x ys hys⟩
      intro z hz
      rcases List.mem_cons.mp ((insertStep_perm x ys).subset hz) with rfl | hz'
      · exact hnlt
      · exact hy z hz'

theorem insertionSort_sortSpec : SortSpec (insertionSort : List (Step α) → List (Step α)) := by
  intro l
  induction l with
  | nil => exact ⟨List.Perm.refl _, List.Pairwise.nil⟩
  | cons x xs ih =>
    exact ⟨(insertStep_perm x _).trans (ih.1.cons x), insertStep_sorted x _ ih.2⟩

end

end NanoVerif.Tuner
