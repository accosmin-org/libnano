import NanoVerif.Proofs.C06Vec
/-!
  C06 — strong convexity of the quadratic objects: the gap between a quadratic form and its tangent is exactly
  `½ (z − x)·A(z − x)`, so ANY `μ` with `μ ‖d‖² ≤ d·A d` is a valid modulus (`nano::strong_convexity` returns the smallest
  eigenvalue of the symmetric part, computed by Eigen: the python oracle re-computes it by Jacobi rotations on every case).
-/

namespace NanoVerif.C06
open NanoVerif.Loss NanoVerif.Fn

variable {α : Type} [Field α] [LinearOrder α] [IsStrictOrderedRing α]

theorem quad_vsub (P : List (List α)) (x z : List α) (hl : z.length = x.length) :
    dot (vsub z x) (mulVec P (vsub z x)) =
      dot z (mulVec P z) - dot z (mulVec P x) - (dot x (mulVec P z) - dot x (mulVec P x)) := by
  rw [← mulVec_vsub P z x hl, dot_vsub_right _ _ _ (by rw [mulVec_length, mulVec_length]),
    dot_vsub_left _ z x hl, dot_vsub_left _ z x hl]
  ring

theorem dot_mulVec_vsub (P : List (List α)) (x z : List α) (hl : z.length = x.length) :
    dot (mulVec P x) (vsub z x) = dot z (mulVec P x) - dot x (mulVec P x) := by
  rw [dot_vsub_right _ z x hl, dot_comm (mulVec P x) z, dot_comm (mulVec P x) x]

/-- self-adjoint `A`: value minus tangent (slope `A x + q`) is `½ (z − x)·A(z − x)`, exactly -/
theorem quadform_gap (A : List (List α)) (q x z : List α) (n : Nat)
    (hA : A.length = n) (hq : q.length = n) (hx : x.length = n) (hz : z.length = n)
    (hsym : ∀ u v : List α, u.length = n → v.length = n → dot u (mulVec A v) = dot v (mulVec A u)) :
    1 / 2 * dot z (mulVec A z) + dot q z -
      (1 / 2 * dot x (mulVec A x) + dot q x + dot (vadd (mulVec A x) q) (vsub z x)) =
      1 / 2 * dot (vsub z x) (mulVec A (vsub z x)) := by
  have hl : z.length = x.length := by rw [hz, hx]
  rw [quad_vsub A x z hl, dot_vadd_left _ _ _ (by rw [mulVec_length, hA, hq]), dot_mulVec_vsub A x z hl,
    dot_vsub_right q z x hl, hsym x z hx hz]
  ring

/-- what the symmetrised gradient `½ (P x + Pᵀ x) + q` does to a direction -/
theorem cquadG_dot (P : List (List α)) (q x d : List α) (n : Nat)
    (hP : P.length = n) (hrows : ∀ r ∈ P, r.length = n) (hq : q.length = n) (hx : x.length = n) :
    dot (cquadG P q x) d = 1 / 2 * (dot (mulVec P x) d + dot x (mulVec P d)) + dot q d := by
  have hT : (tmulVec x.length P x).length = n := by rw [hx]; exact tmulVec_length n P x hrows
  rw [cquadG, dot_vadd_left _ _ _ (by rw [smul_length, vadd_length _ _ (by rw [mulVec_length, hT, hP]), hT, hq]),
    dot_smul_left, dot_vadd_left _ _ _ (by rw [mulVec_length, hT, hP]), hx,
    tmulVec_adjoint n P x d hrows (by rw [hP, hx])]

/-- any square `P`: value minus tangent with the symmetrised slope `½ (P x + Pᵀ x) + q` is `½ (z − x)·P(z − x)`, exactly -/
theorem quadform_sym_gap (P : List (List α)) (q x z : List α) (n : Nat)
    (hP : P.length = n) (hrows : ∀ r ∈ P, r.length = n) (hq : q.length = n) (hx : x.length = n) (hz : z.length = n) :
    1 / 2 * dot z (mulVec P z) + dot q z -
      (1 / 2 * dot x (mulVec P x) + dot q x +
        dot (vadd (smul (1 / 2) (vadd (mulVec P x) (tmulVec x.length P x))) q) (vsub z x)) =
      1 / 2 * dot (vsub z x) (mulVec P (vsub z x)) := by
  have hl : z.length = x.length := by rw [hz, hx]
  rw [quad_vsub P x z hl, show vadd (smul (1 / 2) (vadd (mulVec P x) (tmulVec x.length P x))) q = cquadG P q x from rfl,
    cquadG_dot P q x _ n hP hrows hq hx, dot_mulVec_vsub P x z hl, ← mulVec_vsub P z x hl,
    dot_vsub_right _ _ _ (by rw [mulVec_length, mulVec_length]), dot_vsub_right q z x hl]
  ring

end NanoVerif.C06
