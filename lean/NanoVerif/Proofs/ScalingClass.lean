import NanoVerif.Model.ScalingClass
/-!
  C14 — `xclass_stats_t`: the class hashes are strictly increasing and are exactly the hashes of the present samples (so the
  precondition of `std::lower_bound`'s contract holds), `nano::find` returns the position of a hash that is a class and −1 for
  any other hash, and the counting loop yields, per class, the number of samples classified into it (`classCounts_getD`) —
  at least one (`xclass_counts_pos`). Core Lean only.
-/
namespace NanoVerif.Scaling

theorem mem_setInsert (h x : Nat) (l : List Nat) : x ∈ setInsert h l ↔ x = h ∨ x ∈ l := by
  induction l with
  | nil => exact List.mem_singleton.trans (or_iff_left List.not_mem_nil).symm
  | cons y ys ih =>
    unfold setInsert
    split
    · exact List.mem_cons
    · split
      · rw [List.mem_cons, ih, List.mem_cons, or_left_comm]
      · -- neither `h < y` nor `y < h`: `h` is already there
        rename_i h1 h2
        obtain rfl : h = y := Nat.le_antisymm (Nat.le_of_not_lt h2) (Nat.le_of_not_lt h1)
        rw [List.mem_cons, or_self_left]

def StrictSorted (l : List Nat) : Prop := l.Pairwise (· < ·)

theorem setInsert_sorted (h : Nat) (l : List Nat) (hs : StrictSorted l) : StrictSorted (setInsert h l) := by
  induction l with
  | nil => exact List.pairwise_singleton _ _
  | cons y ys ih =>
    obtain ⟨hy, hys⟩ := List.pairwise_cons.mp hs
    unfold setInsert
    split
    · rename_i hlt
      exact List.pairwise_cons.mpr
        ⟨fun a ha => (List.mem_cons.mp ha).elim (· ▸ hlt) fun ha' => Nat.lt_trans hlt (hy a ha'), hs⟩
    · split
      · rename_i hlt
        exact List.pairwise_cons.mpr ⟨fun a ha => ((mem_setInsert h a ys).mp ha).elim (· ▸ hlt) (hy a), ih hys⟩
      · exact hs

theorem foldl_insert_spec (ss : List (Bool × Nat)) (acc : List Nat) (hacc : StrictSorted acc) :
    StrictSorted (ss.foldl (fun acc s => if s.1 then setInsert s.2 acc else acc) acc) ∧
    ∀ x, x ∈ ss.foldl (fun acc s => if s.1 then setInsert s.2 acc else acc) acc ↔
      x ∈ acc ∨ ∃ s ∈ ss, s.1 = true ∧ s.2 = x := by
  induction ss generalizing acc with
  | nil => simp [hacc]
  | cons s ss ih =>
    -- one insertion keeps the order and adds the hash of a present sample
    have hstep : StrictSorted (if s.1 then setInsert s.2 acc else acc) ∧
        ∀ x, x ∈ (if s.1 then setInsert s.2 acc else acc) ↔ x ∈ acc ∨ (s.1 = true ∧ s.2 = x) := by
      cases s.1
      · exact ⟨hacc, fun x => by simp⟩
      · exact ⟨setInsert_sorted s.2 acc hacc, fun x => by simp [mem_setInsert, or_comm, eq_comm]⟩
    obtain ⟨h1, h2⟩ := ih _ hstep.1
    refine ⟨h1, fun x => ?_⟩
    rw [List.foldl_cons, h2, hstep.2]
    simp only [List.mem_cons, exists_eq_or_imp, or_assoc]

/-- `make_hashes` returns a strictly increasing sequence: the precondition of `std::lower_bound` in `nano::find` -/
theorem makeHashes_sorted (ss : List (Bool × Nat)) : StrictSorted (makeHashes ss) :=
  (foldl_insert_spec ss [] List.Pairwise.nil).1

/-- … whose members are exactly the hashes of the present samples (missing samples contribute no class) -/
theorem mem_makeHashes (ss : List (Bool × Nat)) (x : Nat) :
    x ∈ makeHashes ss ↔ ∃ s ∈ ss, s.1 = true ∧ s.2 = x := by
  have := (foldl_insert_spec ss [] List.Pairwise.nil).2 x
  simpa [makeHashes] using this

/-- on a strictly increasing sequence `std::lower_bound` stops at `h` when `h` is a member -/
theorem getElem?_lowerBound (hs : List Nat) (hsorted : StrictSorted hs) (h : Nat) (hm : h ∈ hs) :
    hs[lowerBound hs h]? = some h := by
  induction hs with
  | nil => cases hm
  | cons x xs ih =>
    have hx := List.pairwise_cons.mp hsorted
    unfold lowerBound
    split
    · rename_i hlt
      rw [List.getElem?_cons_succ]
      exact ih hx.2 ((List.mem_cons.mp hm).resolve_left (Nat.ne_of_gt hlt))
    · rename_i hge
      rcases List.mem_cons.mp hm with rfl | hm'
      · rfl
      · exact absurd (hx.1 h hm') hge

/-- `nano::find` on a strictly increasing sequence: the position of `h` when `h` is a member, −1 otherwise -/
theorem find_spec (hs : List Nat) (hsorted : StrictSorted hs) (h : Nat) :
    (h ∈ hs → ∃ i : Nat, find hs h = (i : Int) ∧ hs[i]? = some h) ∧ (h ∉ hs → find hs h = -1) := by
  constructor
  · intro hm
    have hlb := getElem?_lowerBound hs hsorted h hm
    exact ⟨lowerBound hs h, by rw [find, hlb]; exact if_pos rfl, hlb⟩
  · -- no sortedness needed: whatever `lower_bound` points at is a member, hence not `h`
    intro hm
    unfold find
    split
    · rename_i x hx
      exact if_neg fun e : x = h => hm (e ▸ List.mem_of_getElem? hx)
    · rfl

/-- a present sample is classified (class index `≥ 0`, pointing at its own hash); a sample whose hash is not the hash of a present
    sample — for sclass: every missing sample — gets class −1 and weight 0 -/
theorem sample_classified (ss : List (Bool × Nat)) (s : Bool × Nat) (hs : s ∈ ss) :
    (s.1 = true → ∃ i : Nat, find (makeHashes ss) s.2 = (i : Int) ∧ (makeHashes ss)[i]? = some s.2) ∧
    ((∀ t ∈ ss, t.1 = true → t.2 ≠ s.2) → find (makeHashes ss) s.2 = -1) := by
  obtain ⟨h1, h2⟩ := find_spec (makeHashes ss) (makeHashes_sorted ss) s.2
  refine ⟨fun hp => h1 ((mem_makeHashes ss s.2).mpr ⟨s, hs, hp, rfl⟩), fun hno => h2 fun hm => ?_⟩
  obtain ⟨t, ht, htp, hte⟩ := (mem_makeHashes ss s.2).mp hm
  exact hno t ht htp hte

/-! ### closed form of the class counts (`::update(xclass_stats_t&)` loop) -/

theorem incAt_eq_modify : ∀ (cs : List Nat) (i : Nat), incAt cs i = cs.modify i (· + 1)
  | [], i => (List.modify_nil _ i).symm
  | c :: cs, 0 => (List.modify_zero_cons _ c cs).symm
  | c :: cs, i + 1 => (congrArg (c :: ·) (incAt_eq_modify cs i)).trans (List.modify_succ_cons _ c cs i).symm

theorem incAt_length (cs : List Nat) (i : Nat) : (incAt cs i).length = cs.length := by
  rw [incAt_eq_modify, List.length_modify]

/-- one step of the `::update(xclass_stats_t&)` loop, seen from class `k` -/
theorem classStep_getD (cs : List Nat) (c : Int) (k : Nat) (hk : k < cs.length) :
    (if c ≥ 0 then incAt cs c.toNat else cs).getD k 0 = cs.getD k 0 + if c = (k : Int) then 1 else 0 := by
  by_cases hc : c ≥ 0
  · have hk' : k < (cs.modify c.toNat (· + 1)).length := by rw [List.length_modify]; exact hk
    rw [if_pos hc, incAt_eq_modify, ← List.getElem_eq_getD (h := hk'), List.getElem_modify, ← List.getElem_eq_getD (h := hk)]
    by_cases hck : c = (k : Int)
    · rw [if_pos hck, if_pos (by omega)]
    · rw [if_neg hck, if_neg (by omega)]; rfl
  · rw [if_neg hc, if_neg (by omega)]; rfl

theorem classFold_length (classes : List Int) (cs : List Nat) :
    (classes.foldl (fun cs c => if c ≥ 0 then incAt cs c.toNat else cs) cs).length = cs.length := by
  induction classes generalizing cs with
  | nil => rfl
  | cons c classes ih =>
    rw [List.foldl_cons, ih]
    split
    · exact incAt_length _ _
    · rfl

theorem classFold_getD (classes : List Int) (cs : List Nat) (k : Nat) (hk : k < cs.length) :
    (classes.foldl (fun cs c => if c ≥ 0 then incAt cs c.toNat else cs) cs).getD k 0 =
      cs.getD k 0 + classes.countP (fun c => c = (k : Int)) := by
  induction classes generalizing cs with
  | nil => rfl
  | cons c classes ih =>
    have hk' : k < (if c ≥ 0 then incAt cs c.toNat else cs).length := by
      split
      · rw [incAt_length]; exact hk
      · exact hk
    rw [List.foldl_cons, ih _ hk', classStep_getD cs c k hk, List.countP_cons]
    simp only [decide_eq_true_eq]
    omega

theorem classCounts_getD (n : Nat) (classes : List Int) (k : Nat) (hk : k < n) :
    (classCounts n classes).getD k 0 = classes.countP (fun c => c = (k : Int)) := by
  have hk' : k < (List.replicate n 0).length := by rw [List.length_replicate]; exact hk
  rw [classCounts, classFold_getD _ _ _ hk', ← List.getElem_eq_getD (h := hk'), List.getElem_replicate, Nat.zero_add]

/-- every class of `make_xclass_stats` has at least one sample: the hypothesis `hpos` of `class_weights_pos` holds for what the
    code computes (class `k`'s hash comes from a present sample, which `find` maps back to position `k`: the hashes are distinct) -/
theorem xclass_counts_pos (ss : List (Bool × Nat)) (k : Nat) (hk : k < (makeHashes ss).length) :
    1 ≤ (classCounts (makeHashes ss).length (sampleClasses (makeHashes ss) ss)).getD k 0 := by
  rw [classCounts_getD _ _ k hk]
  have hmem : (makeHashes ss)[k] ∈ makeHashes ss := List.getElem_mem hk
  obtain ⟨s, hs, hp, he⟩ := (mem_makeHashes ss _).mp hmem
  obtain ⟨i, hfi, hgi⟩ := (sample_classified ss s hs).1 hp
  have hnd : (makeHashes ss).Nodup := (makeHashes_sorted ss).imp (fun h => Nat.ne_of_lt h)
  obtain ⟨hi, h1⟩ := List.getElem?_eq_some_iff.mp hgi
  obtain rfl : i = k := (List.getElem_inj hnd).mp (h1.trans he)
  apply List.countP_pos_iff.mpr
  refine ⟨find (makeHashes ss) s.2, ?_, by simpa using hfi⟩
  unfold sampleClasses
  exact List.mem_map.mpr ⟨s, hs, rfl⟩

end NanoVerif.Scaling
