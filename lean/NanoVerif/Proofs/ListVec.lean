import Mathlib.Algebra.Order.Field.Basic
import Mathlib.Tactic.Ring
import Mathlib.Tactic.Linarith
/-!
  Vectors as lists and matrices as lists of rows, once for all model namespaces. Each namespace of the model writes its
  own `dot`, `vsub`, `axpy`, `mv`, `tmv` … (by recursion, `List.zipWith` or `List.map`); its proof module shows in a line
  each that they are the operations below, and takes the algebra from here.

  The normal form: a componentwise operation of two vectors is `List.zipWith f` and of one vector `List.map g`; what the
  algebra needs of `f` and `g` is that they are linear, `f x y = ca * x + cb * y` and `g x = c * x`. So `dot` is shown linear
  against these two shapes (`dot_zipWith_left`, `dot_map_left`), and sums, differences, `c x + y`, `x − c y`, `−x`, `x / d`
  are instances. `mv A x` maps the rows of `A` to their products with `x`, `tmv n A u` is `Σᵢ uᵢ · rowᵢ`, the product with
  the transpose; `tmv_adjoint` is `(Aᵀu)·d = u·(A d)`.
-/

namespace NanoVerif.ListVec
variable {α : Type}

section defs
variable [Zero α] [Add α] [Mul α]

def dot : List α → List α → α
  | a :: as, b :: bs => a * b + dot as bs
  | _, _ => 0

/-- `A x` -/
def mv (A : List (List α)) (x : List α) : List α := A.map (dot · x)

/-- `Aᵀ u` for rows of length `n` -/
def tmv (n : Nat) : List (List α) → List α → List α
  | r :: A, u :: us => List.zipWith (fun a b => u * a + b) r (tmv n A us)
  | _, _ => List.replicate n 0

end defs

/-! ### lengths -/

theorem length_zipWith_of_eq {β γ : Type} (f : α → β → γ) {a : List α} {b : List β} (h : a.length = b.length) :
    (List.zipWith f a b).length = b.length := by
  rw [List.length_zipWith, h, Nat.min_self]

theorem mv_length [Zero α] [Add α] [Mul α] (A : List (List α)) (x : List α) : (mv A x).length = A.length :=
  List.length_map _

theorem tmv_length [Zero α] [Add α] [Mul α] (n : Nat) :
    ∀ (A : List (List α)) (u : List α), (∀ r ∈ A, r.length = n) → (tmv n A u).length = n
  | [], _, _ => List.length_replicate
  | _ :: _, [], _ => List.length_replicate
  | r :: A, _ :: us, h => by
    have ih := tmv_length n A us fun r' hr => h r' (List.mem_cons_of_mem _ hr)
    rw [tmv, length_zipWith_of_eq _ ((h r List.mem_cons_self).trans ih.symm), ih]

/-- a matrix built row by row as `F rowᵢ bᵢ`, when the product of such a row with `v` is a function `φ` of `rowᵢ·v` and
    `bᵢ` (rank-one updates, `A ± B`) -/
theorem mv_zipWith_rows [Zero α] [Add α] [Mul α] {β : Type} (F : List α → β → List α) (φ : α → β → α) (v : List α) :
    ∀ (A : List (List α)) (B : List β), (∀ r ∈ A, ∀ b ∈ B, dot (F r b) v = φ (dot r v) b) →
      mv (List.zipWith F A B) v = List.zipWith φ (mv A v) B
  | [], _, _ => rfl
  | _ :: _, [], _ => rfl
  | r :: A, b :: B, h => by
    show dot (F r b) v :: mv (List.zipWith F A B) v = φ (dot r v) b :: List.zipWith φ (mv A v) B
    rw [h r List.mem_cons_self b List.mem_cons_self,
      mv_zipWith_rows F φ v A B fun r' hr' b' hb' => h r' (List.mem_cons_of_mem _ hr') b' (List.mem_cons_of_mem _ hb')]

/-! ### `dot` is symmetric and bilinear -/

section ring
variable [CommRing α]

@[simp] theorem dot_nil_left (b : List α) : dot [] b = 0 := rfl

@[simp] theorem dot_nil_right (a : List α) : dot a [] = 0 := by cases a <;> rfl

@[simp] theorem dot_cons (a b : α) (as bs : List α) : dot (a :: as) (b :: bs) = a * b + dot as bs := rfl

theorem dot_comm : ∀ (a b : List α), dot a b = dot b a
  | [], b => (dot_nil_right b).symm
  | _ :: _, [] => rfl
  | a :: as, b :: bs => by rw [dot_cons, dot_cons, dot_comm as bs, mul_comm]

/-- a componentwise linear `f(x, y) = ca x + cb y` of two vectors of the same length: sums, differences, `c x + y`,
    `x − c y`, the rows of `A ± B` -/
theorem dot_zipWith_left {f : α → α → α} (ca cb : α) (hf : ∀ x y, f x y = ca * x + cb * y) :
    ∀ {a b : List α} (v : List α), a.length = b.length →
      dot (List.zipWith f a b) v = ca * dot a v + cb * dot b v
  | [], [], _, _ => by rw [List.zipWith_nil_left, dot_nil_left, mul_zero, mul_zero, add_zero]
  | _ :: _, _ :: _, [], _ => by simp only [List.zipWith_cons_cons, dot_nil_right, mul_zero, add_zero]
  | x :: a, y :: b, z :: v, h => by
    rw [List.zipWith_cons_cons, dot_cons, dot_cons, dot_cons, dot_zipWith_left ca cb hf v (Nat.succ.inj h), hf]; ring
  | [], _ :: _, _, h => nomatch h
  | _ :: _, [], _, h => nomatch h

theorem dot_zipWith_right {f : α → α → α} (ca cb : α) (hf : ∀ x y, f x y = ca * x + cb * y) (u : List α) {a b : List α}
    (h : a.length = b.length) : dot u (List.zipWith f a b) = ca * dot u a + cb * dot u b := by
  rw [dot_comm, dot_zipWith_left ca cb hf u h, dot_comm a, dot_comm b]

/-- a componentwise `g(x) = c x`: scalar multiples, `−x`, `x / d` -/
theorem dot_map_left {g : α → α} (c : α) (hg : ∀ x, g x = c * x) : ∀ (a v : List α), dot (a.map g) v = c * dot a v
  | [], _ => (mul_zero c).symm
  | _ :: _, [] => by rw [dot_nil_right, dot_nil_right, mul_zero]
  | x :: a, y :: v => by rw [List.map_cons, dot_cons, dot_cons, dot_map_left c hg a v, hg]; ring

theorem dot_map_right {g : α → α} (c : α) (hg : ∀ x, g x = c * x) (u a : List α) : dot u (a.map g) = c * dot u a := by
  rw [dot_comm, dot_map_left c hg, dot_comm]

theorem dot_replicate_zero_left : ∀ (n : Nat) (d : List α), dot (List.replicate n 0) d = 0
  | 0, _ => rfl
  | _ + 1, [] => rfl
  | n + 1, _ :: d => by rw [List.replicate_succ, dot_cons, dot_replicate_zero_left n d, zero_mul, add_zero]

theorem dot_replicate_zero_right (u : List α) (n : Nat) : dot u (List.replicate n 0) = 0 := by
  rw [dot_comm, dot_replicate_zero_left]

theorem dot_eq_zero_of_forall_eq_zero : ∀ (u v : List α), (∀ a ∈ u, a = 0) → dot u v = 0
  | [], _, _ => rfl
  | _ :: _, [], _ => rfl
  | a :: u, b :: v, h => by
    rw [dot_cons, h a List.mem_cons_self, zero_mul, zero_add]
    exact dot_eq_zero_of_forall_eq_zero u v fun c hc => h c (List.mem_cons_of_mem _ hc)

theorem dot_append : ∀ {a c : List α} (b d : List α), a.length = c.length → dot (a ++ b) (c ++ d) = dot a c + dot b d
  | [], [], _, _, _ => (zero_add _).symm
  | x :: a, y :: c, b, d, h => by
    rw [List.cons_append, List.cons_append, dot_cons, dot_cons, dot_append b d (Nat.succ.inj h), add_assoc]
  | [], _ :: _, _, _, h => nomatch h
  | _ :: _, [], _, _, h => nomatch h

/-- two vectors with the same products against every vector of their length are equal -/
theorem eq_of_dot_eq : ∀ (n : Nat) (a b : List α), a.length = n → b.length = n →
    (∀ d : List α, d.length = n → dot a d = dot b d) → a = b
  | 0, a, b, ha, hb, _ => by rw [List.length_eq_zero_iff.mp ha, List.length_eq_zero_iff.mp hb]
  | n + 1, a0 :: a, b0 :: b, ha, hb, h => by
    -- the test vectors `e₀ = (1, 0, …)` and `(0, d)`
    have h0 := h (1 :: List.replicate n 0) (by rw [List.length_cons, List.length_replicate])
    rw [dot_cons, dot_cons, dot_replicate_zero_right, dot_replicate_zero_right, mul_one, mul_one, add_zero,
      add_zero] at h0
    have ht := eq_of_dot_eq n a b (Nat.succ.inj ha) (Nat.succ.inj hb) fun d hd => by
      have := h (0 :: d) (congrArg (· + 1) hd)
      rwa [dot_cons, dot_cons, mul_zero, mul_zero, zero_add, zero_add] at this
    rw [h0, ht]
  | _ + 1, [], _, ha, _, _ => nomatch ha
  | _ + 1, _ :: _, [], _, hb, _ => nomatch hb

/-! ### `mv`, `tmv` -/

theorem mv_zipWith {f : α → α → α} (ca cb : α) (hf : ∀ x y, f x y = ca * x + cb * y) (A : List (List α)) {x y : List α}
    (h : x.length = y.length) : mv A (List.zipWith f x y) = List.zipWith f (mv A x) (mv A y) := by
  unfold mv
  rw [List.zipWith_map_left, List.zipWith_map_right, List.zipWith_self]
  exact List.map_congr_left fun r _ => (dot_zipWith_right ca cb hf r h).trans (hf _ _).symm

theorem mv_map {g : α → α} (c : α) (hg : ∀ x, g x = c * x) (A : List (List α)) (x : List α) :
    mv A (x.map g) = (mv A x).map g := by
  unfold mv
  rw [List.map_map]
  exact List.map_congr_left fun r _ => (dot_map_right c hg r x).trans (hg _).symm

/-- scaling the rows scales the product -/
theorem mv_map_rows {g : α → α} (c : α) (hg : ∀ x, g x = c * x) (A : List (List α)) (x : List α) :
    mv (A.map (List.map g)) x = (mv A x).map g := by
  unfold mv
  rw [List.map_map, List.map_map]
  exact List.map_congr_left fun r _ => (dot_map_left c hg r x).trans (hg _).symm

/-- `(Aᵀu)·d = u·(A d)`; when `A` and `u` differ in length both sides truncate alike, and `d` may have any length -/
theorem tmv_adjoint (n : Nat) : ∀ (A : List (List α)) (u d : List α), (∀ r ∈ A, r.length = n) →
    dot (tmv n A u) d = dot u (mv A d)
  | [], u, d, _ => (dot_replicate_zero_left n d).trans (dot_nil_right u).symm
  | _ :: _, [], d, _ => dot_replicate_zero_left n d
  | r :: A, u :: us, d, h => by
    have hA : ∀ r' ∈ A, r'.length = n := fun r' hr' => h r' (List.mem_cons_of_mem _ hr')
    rw [tmv, dot_zipWith_left u 1 (fun _ _ => by rw [one_mul]) d ((h r List.mem_cons_self).trans (tmv_length n A us hA).symm),
      tmv_adjoint n A us d hA, one_mul]
    rfl

end ring

/-! ### squares: `0 ≤ a·a`, Cauchy–Schwarz -/

section ordered
variable [Field α] [LinearOrder α] [IsStrictOrderedRing α]

theorem dot_self_nonneg : ∀ (a : List α), 0 ≤ dot a a
  | [] => le_refl _
  | a :: as => add_nonneg (mul_self_nonneg a) (dot_self_nonneg as)

theorem mul_self_le_dot_self : ∀ (x : List α) (a : α), a ∈ x → a * a ≤ dot x x
  | b :: x, a, h => by
    rcases List.mem_cons.mp h with rfl | h'
    · exact le_add_of_nonneg_right (dot_self_nonneg x)
    · exact (mul_self_le_dot_self x a h').trans (le_add_of_nonneg_left (mul_self_nonneg b))

theorem dot_self_pos : ∀ (q : List α), (∃ a ∈ q, a ≠ 0) → 0 < dot q q
  | a :: q, ⟨b, hb, hne⟩ => by
    rcases List.mem_cons.mp hb with rfl | hb'
    · exact add_pos_of_pos_of_nonneg (mul_self_pos.mpr hne) (dot_self_nonneg q)
    · exact add_pos_of_nonneg_of_pos (mul_self_nonneg a) (dot_self_pos q ⟨b, hb', hne⟩)

/-- `0 ≤ ‖a + m b‖²` written out (lists of any lengths: the surplus entries only add squares) -/
theorem cs_quadratic (m : α) : ∀ (a b : List α), 0 ≤ dot a a + 2 * m * dot a b + m * m * dot b b
  | [], b => by
    rw [dot_nil_left, dot_nil_left, mul_zero, add_zero, zero_add]
    exact mul_nonneg (mul_self_nonneg m) (dot_self_nonneg b)
  | a :: as, [] => by
    rw [dot_nil_right, dot_nil_right, mul_zero, mul_zero, add_zero, add_zero]
    exact dot_self_nonneg _
  | a :: as, b :: bs => by
    rw [dot_cons, dot_cons, dot_cons]
    linarith only [cs_quadratic m as bs, mul_self_nonneg (a + m * b)]

/-- a quadratic `C + 2 μ D + μ² E` that is nowhere negative has discriminant `D² − C E ≤ 0` -/
theorem discr_le_of_nonneg (C D E : α) (hE : 0 ≤ E) (h : ∀ μ : α, 0 ≤ C + 2 * μ * D + μ * μ * E) : D * D ≤ C * E := by
  rcases hE.eq_or_lt with rfl | hE
  · -- a linear function that is bounded below is constant
    have hD : D = 0 := by
      by_contra hne
      obtain ⟨μ, hμ⟩ : ∃ μ, μ * (2 * D) = -(C + 1) := ⟨_, div_mul_cancel₀ _ (mul_ne_zero two_ne_zero hne)⟩
      linarith only [h μ, hμ]
    rw [hD, mul_zero, mul_zero]
  · -- `E` times the value at the vertex `μ = −D / E` is `C E − D²`
    obtain ⟨μ, hμ⟩ : ∃ μ, μ * E = -D := ⟨_, div_mul_cancel₀ _ hE.ne'⟩
    have e : E * (C + 2 * μ * D + μ * μ * E) = C * E + 2 * (μ * E) * D + (μ * E) * (μ * E) := by ring
    have := mul_nonneg hE.le (h μ)
    rw [e, hμ] at this
    linarith only [this]

/-- Cauchy–Schwarz, squared form, for lists of any lengths -/
theorem dot_sq_le (a b : List α) : dot a b * dot a b ≤ dot a a * dot b b :=
  discr_le_of_nonneg _ _ _ (dot_self_nonneg b) (cs_quadratic · a b)

end ordered
end NanoVerif.ListVec
