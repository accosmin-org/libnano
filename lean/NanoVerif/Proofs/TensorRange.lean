import NanoVerif.Model.TensorRange
import NanoVerif.Proofs.TensorView
/-!
  C16 — theorems about the helpers of `Model/TensorRange.lean`: ranges, `cat_dims`, `remove_if` over several tensors, the
  vector form of `stack` as coded, `arange`, the factories. Core Lean only.
-/
namespace NanoVerif.Tensor

/-! ### range.h -/

theorem range_valid_iff (r : Range) (n : Int) : r.valid n = true ↔ 0 ≤ r.b ∧ r.b < r.e ∧ r.e ≤ n := by
  simp [Range.valid, and_assoc]

theorem range_valid_slice (r : Range) (n : Int) (h : r.valid n = true) : 0 < r.size ∧ sliceAssert r.b r.e n = true := by
  obtain ⟨h1, h2, h3⟩ := (range_valid_iff r n).mp h
  refine ⟨by unfold Range.size; omega, ?_⟩
  simp [sliceAssert, h1, h3]
  omega

theorem makeRange_spec (b e : Int) : (makeRange b e).b = b ∧ (makeRange b e).e = e ∧ (makeRange b e).size = e - b :=
  ⟨rfl, rfl, rfl⟩

/-- the range overload of `slice` is the two-argument overload on the range's ends: for a range `valid` for the first
    dimension it succeeds and yields `[b, e)` -/
theorem sliceRange_eq {α} (t : T α) (r : Range) (d : Nat) (ds : List Nat) (hd : t.dims = d :: ds)
    (hv : r.valid (Int.ofNat d) = true) :
    t.sliceRange r = t.slice r.b.toNat r.e.toNat ∧ (t.sliceRange r).isSome := by
  obtain ⟨h1, h2, h3⟩ := (range_valid_iff r _).mp hv
  have hs : t.sliceRange r = t.slice r.b.toNat r.e.toNat := by
    unfold T.sliceRange
    rw [if_pos ⟨h1, by omega⟩]
  refine ⟨hs, ?_⟩
  rw [hs]
  unfold T.slice
  rw [hd]
  simp only
  have hd' : (0 : Int) ≤ Int.ofNat d := Int.natCast_nonneg d
  have h3' : r.e.toNat ≤ d := by
    have : ((r.e.toNat : Nat) : Int) = r.e := Int.toNat_of_nonneg (by omega)
    have h3'' : r.e ≤ (d : Int) := h3
    omega
  rw [if_pos ⟨by omega, h3'⟩]
  rfl

/-! ### dims.h -/

theorem makeDims_spec (sizes : List Nat) : makeDims sizes = sizes := rfl

theorem catDims_spec (n : Nat) (dims : List Nat) :
    size (catDims n dims) = n * size dims ∧ dims0 (catDims n dims) 1 = dims ∧
    ∀ i is, index (catDims n dims) (i :: is) = i * size dims + index dims is :=
  ⟨rfl, rfl, fun _ _ => rfl⟩

/-! ### algorithm.h: `remove_if` over a pack of tensors -/

theorem removeIfLoop_step {α} (ms : List Bool) (curr last : Nat) (rs : List (List α)) :
    removeIfLoop (false :: ms) curr last rs = removeIfLoop ms (curr + 1) (last + 1) (copyRowD curr last rs) := by
  unfold copyRowD
  rw [removeIfLoop]
  simp only [Bool.false_eq_true, if_false]
  cases rs[curr]? <;> rfl

theorem removeIfLoopN_eq {α} : ∀ (ms : List Bool) (curr last : Nat) (ts : List (List (List α))),
    (removeIfLoopN ms curr last ts).2 = ts.map (fun rs => (removeIfLoop ms curr last rs).2) ∧
    ∀ rs : List (List α), (removeIfLoopN ms curr last ts).1 = (removeIfLoop ms curr last rs).1
  | [], curr, last, ts => by
    simp [removeIfLoopN, removeIfLoop]
  | true :: ms, curr, last, ts => by
    have ih := removeIfLoopN_eq ms (curr + 1) last ts
    simp only [removeIfLoopN, removeIfLoop, if_true]
    exact ih
  | false :: ms, curr, last, ts => by
    have ih := removeIfLoopN_eq ms (curr + 1) (last + 1) (ts.map (copyRowD curr last))
    constructor
    · rw [removeIfLoopN]
      simp only [Bool.false_eq_true, if_false]
      rw [ih.1, List.map_map]
      apply List.map_congr_left
      intro rs _
      simp only [Function.comp]
      rw [removeIfLoop_step]
    · intro rs
      rw [removeIfLoopN]
      simp only [Bool.false_eq_true, if_false]
      rw [ih.2 (copyRowD curr last rs), removeIfLoop_step]

/-- `remove_if(op, tensors…)`: every tensor of the pack is compacted exactly as `remove_if(op, tensor)` compacts it alone, and
    the returned count is that of each of them -/
theorem removeIfRowsN_eq {α} (mask : List Bool) (ts : List (List (List α))) :
    (removeIfRowsN mask ts).2 = ts.map (fun rs => (removeIfRows mask rs).2) ∧
    ∀ rs : List (List α), (removeIfRowsN mask ts).1 = (removeIfRows mask rs).1 := by
  unfold removeIfRowsN removeIfRows
  exact removeIfLoopN_eq _ _ _ ts

/-- `detail::copy` under its asserts = the release-build copy -/
theorem copyRow_eq {α} (isrc idst : Nat) (rs rs' : List (List α)) (h : copyRow isrc idst rs = some rs') :
    rs' = copyRowD isrc idst rs ∧ isrc < rs.length ∧ idst < rs.length ∧ rs'.length = rs.length ∧
    rs'[idst]? = rs[isrc]? ∧ ∀ k, k ≠ idst → rs'[k]? = rs[k]? := by
  unfold copyRow at h
  cases hr : rs[isrc]? with
  | none => simp [hr] at h
  | some r =>
    simp only [hr] at h
    by_cases hd : idst < rs.length
    · rw [if_pos hd] at h
      cases h
      have hs : isrc < rs.length := (List.getElem?_eq_some_iff.mp hr).1
      refine ⟨by simp [copyRowD, hr], hs, hd, by simp, by rw [List.getElem?_set_self hd], ?_⟩
      intro k hk
      rw [List.getElem?_set_ne (Ne.symm hk)]
    · rw [if_neg hd] at h
      cases h

/-! ### stack.h: the vector form as coded = concatenation -/

theorem stackVecGo_eq {α} (n : Nat) : ∀ (blocks : List (List α)) (row : Nat) (v : List α), blocks ≠ [] → v.length = n →
    stackVecGo n blocks row v =
      if row + blocks.flatten.length = n then some (splice v row blocks.flatten) else none
  | [], _, _, hne, _ => absurd rfl hne
  | [b], row, v, _, hv => by
    simp only [stackVecGo, List.flatten_cons, List.flatten_nil, List.append_nil]
    by_cases hle : row + b.length ≤ n
    · rw [if_pos hle]
    · rw [if_neg hle, if_neg (by omega)]
  | b :: b' :: bs, row, v, _, hv => by
    have hf : (b :: b' :: bs).flatten = b ++ (b' :: bs).flatten := rfl
    rw [stackVecGo, hf, List.length_append, ← Nat.add_assoc]
    by_cases hle : row + b.length ≤ n
    · rw [if_pos hle]
      simp only
      -- the segments are written one behind the other: one overwrite by their concatenation
      rw [stackVecGo_eq n (b' :: bs) (row + b.length) (splice v row b) (List.cons_ne_nil _ _)
        (by rw [splice_length _ _ _ (by omega)]; exact hv), splice_splice v row b _ (by omega)]
    · rw [if_neg hle, if_neg (by omega)]

/-- the running-row loop of the vector form of `stack` computes the concatenation of the blocks, and succeeds exactly when
    their sizes add up to the size of the vector (`stackVec`, whose elements `stackVec_get` locates); no cell keeps the
    uninitialised `fill` -/
theorem stackVecCoded_eq {α} (fill : α) (n : Nat) (blocks : List (List α)) (hne : blocks ≠ []) :
    stackVecCoded fill n blocks = stackVec n blocks := by
  cases blocks with
  | nil => exact absurd rfl hne
  | cons b bs =>
    simp only [stackVecCoded, stackVec]
    rw [stackVecGo_eq n (b :: bs) 0 (List.replicate n fill) (by simp) (by simp), Nat.zero_add]
    split
    · rename_i hl
      rw [splice_zero _ _ (by rw [List.length_replicate, hl]; exact Nat.le_refl _)]
    · rfl

theorem blockOfVec_spec {α} (xs : List α) :
    (Block.ofVec xs).rows = xs.length ∧ (Block.ofVec xs).cols = 1 ∧ (Block.ofVec xs).data.length = (Block.ofVec xs).rows * (Block.ofVec xs).cols := by
  simp [Block.ofVec]

/-! ### tensor.h: arange, full, factories -/

theorem arange_spec (min max : Int) (v : List Int) (h : arange min max = some v) :
    min ≤ max ∧ v.length = (max - min).toNat ∧ ∀ i, i < v.length → v[i]? = some (min + Int.ofNat i) := by
  unfold arange at h
  by_cases hle : min ≤ max
  · rw [if_pos hle] at h
    cases h
    refine ⟨hle, by simp, ?_⟩
    intro i hi
    rw [List.length_map, List.length_range] at hi
    rw [List.getElem?_map, List.getElem?_range hi]
    rfl
  · rw [if_neg hle] at h
    cases h

/-- every element of `arange(0, n)` is a valid index of a dimension of `n` elements, each exactly once (the identity
    gather) -/
theorem arange_indices (n : Nat) : arange 0 (Int.ofNat n) = some ((List.range n).map Int.ofNat) := by
  unfold arange
  rw [if_pos (by simp)]
  simp

theorem arange_rejects (min max : Int) (h : max < min) : arange min max = none := by
  unfold arange
  rw [if_neg (by omega)]

theorem full_spec {α} (t : T α) (v : α) (hwf : t.wf) :
    (t.full v).dims = t.dims ∧ (t.full v).wf ∧ ∀ i, i < size t.dims → (t.full v).data[i]? = some v := by
  unfold T.wf at hwf
  refine ⟨rfl, by simp [T.full, T.wf, hwf], ?_⟩
  intro i hi
  simp only [T.full]
  rw [List.getElem?_replicate, if_pos (by omega)]

theorem makeTensor_wf {α} (dims : List Nat) (values : List α) (t : T α) (h : makeTensor dims values = some t) :
    t.wf ∧ t.dims = dims ∧ t.data = values := by
  unfold makeTensor at h
  by_cases hs : size dims = values.length
  · rw [if_pos hs] at h
    cases h
    exact ⟨hs.symm, rfl, rfl⟩
  · rw [if_neg hs] at h
    cases h

/-- `make_matrix(rows, values…)`: exactly when the number of values is a multiple of `rows > 0` the result is the
    well-formed `rows × (count / rows)` matrix holding the values row-major -/
theorem makeMatrix_wf {α} (rows : Nat) (values : List α) (t : T α) (h : makeMatrix rows values = some t) :
    t.wf ∧ t.dims = [rows, values.length / rows] ∧ t.data = values ∧ 0 < rows ∧ values.length % rows = 0 := by
  unfold makeMatrix at h
  by_cases hr : rows = 0
  · rw [if_pos hr] at h; cases h
  · rw [if_neg hr] at h
    by_cases hm : values.length % rows = 0
    · rw [if_pos hm] at h
      cases h
      refine ⟨?_, rfl, rfl, Nat.pos_of_ne_zero hr, hm⟩
      simp only [T.wf, size, Nat.mul_one]
      exact (Nat.mul_div_cancel' (Nat.dvd_of_mod_eq_zero hm)).symm
    · rw [if_neg hm] at h
      cases h

theorem makeVector_wf {α} (values : List α) : (makeVector values).wf := by
  simp [makeVector, T.wf, size]

theorem makeFullTensor_wf {α} (dims : List Nat) (v : α) :
    (makeFullTensor dims v).wf ∧ ∀ i, i < size dims → (makeFullTensor dims v).data[i]? = some v := by
  refine ⟨by simp [makeFullTensor, T.wf], ?_⟩
  intro i hi
  simp only [makeFullTensor]
  rw [List.getElem?_replicate, if_pos hi]

end NanoVerif.Tensor
