import NanoVerif.Proofs.DatasetGradient
import Mathlib.Tactic.Ring
import Mathlib.Algebra.Order.Field.Basic
import Mathlib.Analysis.Real.Sqrt
/-!
  C08 — the image-gradient kernels over an ordered field / ℝ (exact arithmetic instead of binary64): `make_gx` / `make_gy`
  of gradient.h are the 3x3 correlations with the masks `w ⊗ (−1, 0, 1)` and its transpose, the smoothing weights are
  normalised, hence a constant image has zero gradient and an affine image `a·col + b·row + c` has gradient `(2a, 2b)`
  (central differences over two pixels); over ℝ the magnitude is the Euclidean norm of `(gx, gy)`.
  The same model definitions (`makeKernel`, `gxAt`, `gyAt`, `gradMode` of Model/DatasetGenGradient.lean and
  Proofs/DatasetGradient.lean) are instantiated at the field through `fieldScalar`.
-/
namespace NanoVerif.Dataset

section
variable {α : Type} [Field α] [LinearOrder α] [IsStrictOrderedRing α]

/-- `scalar_t` read as an ordered field: `+ − × ÷` are the field operations, stored integers are cast; NaN, `sqrt` and
    `atan2` are parameters (they do not occur in `gx`, `gy`) -/
@[reducible] def fieldScalar (nan : α) (sqrt : α → α) (atan2 : α → α → α) : Scalar α :=
  ⟨fun n => (n : α), nan, (· * ·), (· - ·), (· + ·), (· / ·), sqrt, atan2⟩

/-- the smoothing weight `i` of the kernel as a number -/
def weight (k : Kernel3) (i : Nat) : α :=
  (match i with | 0 => (k.nums.1 : α) | 1 => (k.nums.2.1 : α) | _ => (k.nums.2.2 : α)) / (k.den : α)

/-- the derivative stencil `(−1, 0, +1)` -/
def stencil (j : Nat) : α := match j with | 0 => -1 | 1 => 0 | _ => 1

/-- the 3x3 mask of the horizontal gradient `w ⊗ (−1, 0, 1)`; the vertical one is its transpose -/
def maskX (k : Kernel3) (i j : Nat) : α := weight k i * stencil j
def maskY (k : Kernel3) (i j : Nat) : α := maskX k j i

/-- 3x3 correlation of the image `P` with a mask at `(r, c)` -/
def corr3 (M : Nat → Nat → α) (P : Nat → Nat → α) (r c : Nat) : α :=
  M 0 0 * P r c + M 0 1 * P r (c + 1) + M 0 2 * P r (c + 2) +
  M 1 0 * P (r + 1) c + M 1 1 * P (r + 1) (c + 1) + M 1 2 * P (r + 1) (c + 2) +
  M 2 0 * P (r + 2) c + M 2 1 * P (r + 2) (c + 1) + M 2 2 * P (r + 2) (c + 2)

theorem den_ne_zero (k : Kernel3) : (k.den : α) ≠ 0 := by
  cases k <;> simp [Kernel3.den]

/-- **the kernels are normalised**: the three smoothing weights of every kernel sum to one -/
theorem weights_normalised (k : Kernel3) : weight (α := α) k 0 + weight k 1 + weight k 2 = 1 := by
  -- the integer numerators add up to the denominator
  have h : k.nums.1 + k.nums.2.1 + k.nums.2.2 = k.den := by cases k <;> rfl
  simp only [weight]
  rw [← add_div, ← add_div, ← Int.cast_add, ← Int.cast_add, h, div_self (den_ne_zero k)]

/-- **`make_gx` / `make_gy` as coded are the 3x3 correlations** with `w ⊗ (−1, 0, 1)` and with its transpose -/
theorem gx_gy_are_correlations (nan : α) (sq : α → α) (at2 : α → α → α) (k : Kernel3) (P : Nat → Nat → α) (r c : Nat) :
    letI := fieldScalar nan sq at2
    gxAt (makeKernel k) P r c = corr3 (maskX k) P r c ∧ gyAt (makeKernel k) P r c = corr3 (maskY k) P r c ∧
    (∀ i j, maskY (α := α) k i j = maskX k j i) := by
  refine ⟨?_, ?_, fun _ _ => rfl⟩
  · simp only [gxAt, makeGG, makeKernel, corr3, maskX, weight, stencil, Scalar.add, Scalar.mul, Scalar.sub, Scalar.div,
      Scalar.ofInt]
    ring
  · simp only [gyAt, makeGG, makeKernel, corr3, maskY, maskX, weight, stencil, Scalar.add, Scalar.mul, Scalar.sub,
      Scalar.div, Scalar.ofInt]
    ring

/-- **what the kernels compute on an affine image**: for `P(i, j) = a·j + b·i + c0` (any kernel, any position)
    `gx = 2a` and `gy = 2b`; in particular a constant image has zero gradient -/
theorem gradient_of_affine (nan : α) (sq : α → α) (at2 : α → α → α) (k : Kernel3) (a b c0 : α) (r c : Nat) :
    letI := fieldScalar nan sq at2
    gxAt (makeKernel k) (fun i j => a * (j : α) + b * (i : α) + c0) r c = 2 * a ∧
    gyAt (makeKernel k) (fun i j => a * (j : α) + b * (i : α) + c0) r c = 2 * b := by
  have hw := weights_normalised (α := α) k
  simp only [weight] at hw
  -- two pixels apart in a row (a column) the image differs by `2a` (`2b`), whatever the position
  have hx : ∀ x y : α, a * (y + 2) + b * x + c0 - (a * y + b * x + c0) = 2 * a := fun x y => by ring
  have hy : ∀ x y : α, a * y + b * (x + 2) + c0 - (a * y + b * x + c0) = 2 * b := fun x y => by ring
  constructor
  · simp only [gxAt, makeGG, makeKernel, Scalar.add, Scalar.mul, Scalar.sub, Scalar.div, Scalar.ofInt]
    push_cast
    rw [hx, hx, hx, ← add_mul, ← add_mul, hw, one_mul]
  · simp only [gyAt, makeGG, makeKernel, Scalar.add, Scalar.mul, Scalar.sub, Scalar.div, Scalar.ofInt]
    push_cast
    rw [hy, hy, hy, ← add_mul, ← add_mul, hw, one_mul]

end

/-- **magnitude over ℝ**: with `std::sqrt` read as `Real.sqrt`, mode 2 is the Euclidean norm of `(gx, gy)`: non-negative,
    its square is `gx² + gy²`, and it vanishes exactly when both gradients do -/
theorem magnitude_is_norm (nan : ℝ) (at2 : ℝ → ℝ → ℝ) (gx gy : ℝ) :
    letI := fieldScalar nan Real.sqrt at2
    0 ≤ gradMode 2 gx gy ∧ gradMode 2 gx gy * gradMode 2 gx gy = gx * gx + gy * gy ∧
    (gradMode 2 gx gy = 0 ↔ gx = 0 ∧ gy = 0) ∧ gradMode 0 gx gy = gx ∧ gradMode 1 gx gy = gy ∧
    gradMode 3 gx gy = at2 gy gx := by
  have hnn : 0 ≤ gx * gx + gy * gy := add_nonneg (mul_self_nonneg gx) (mul_self_nonneg gy)
  refine ⟨Real.sqrt_nonneg _, Real.mul_self_sqrt hnn, ?_, rfl, rfl, rfl⟩
  show Real.sqrt (gx * gx + gy * gy) = 0 ↔ _
  rw [Real.sqrt_eq_zero hnn, mul_self_add_mul_self_eq_zero]

/-! non-vacuity: the statements are instantiated at ℝ (an ordered field) -/
example : weight (α := ℝ) .scharr 0 + weight .scharr 1 + weight .scharr 2 = 1 := weights_normalised .scharr
example :
    letI := fieldScalar (0 : ℝ) Real.sqrt (fun _ _ => 0)
    gxAt (makeKernel .prewitt) (fun i j => (3 : ℝ) * (j : ℝ) + 5 * (i : ℝ) + 1) 2 4 = 2 * 3 :=
  (gradient_of_affine (0 : ℝ) Real.sqrt (fun _ _ => 0) .prewitt 3 5 1 2 4).1
example :
    letI := fieldScalar (0 : ℝ) Real.sqrt (fun _ _ => 0)
    gradMode 2 (3 : ℝ) 4 * gradMode 2 (3 : ℝ) 4 = 3 * 3 + 4 * 4 :=
  (magnitude_is_norm 0 (fun _ _ => 0) 3 4).2.1

end NanoVerif.Dataset
