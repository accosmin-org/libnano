import NanoVerif.Proofs.ProgramVec
import Mathlib.Tactic.FieldSimp
/-!
  C04 — lemmas about `Model/Program.lean` over an arbitrary linear ordered field: what the normalisations do to the
  feasible set and to the objective, the step-length invariants, the residuals tested against a vector.
  The property theorems are in `Props/C04.lean`.
-/
set_option linter.unusedSectionVars false

namespace NanoVerif.Program
variable {α : Type} [Field α] [LinearOrder α] [IsStrictOrderedRing α]

/-! ### the mathematical program -/

/-- componentwise `≤` of two vectors of the same length -/
def LeV : List α → List α → Prop
  | [], [] => True
  | a :: as, b :: bs => a ≤ b ∧ LeV as bs
  | _, _ => False

def Feasible (P : Prog α) (x : List α) : Prop := mv P.A x = P.b ∧ LeV (mv P.G x) P.h

def IsArgmin (P : Prog α) (x : List α) : Prop := Feasible P x ∧ ∀ y, Feasible P y → objective P x ≤ objective P y

/-- shapes: every row has `n = c.size()` entries, `Q` is empty (LP) or `n × n` -/
structure WF (P : Prog α) : Prop where
  Qrows : ∀ r ∈ P.Q, r.length = P.n
  Qlen : P.Q = [] ∨ P.Q.length = P.n
  Arows : ∀ r ∈ P.A, r.length = P.n
  Grows : ∀ r ∈ P.G, r.length = P.n

structure Convex (P : Prog α) : Prop where
  symm : ∀ a b : List α, a.length = P.n → b.length = P.n → dot a (mv P.Q b) = dot b (mv P.Q a)
  psd : ∀ d : List α, d.length = P.n → 0 ≤ dot d (mv P.Q d)

@[simp] theorem LeV_nil : LeV ([] : List α) [] := trivial
@[simp] theorem LeV_cons (a b : α) (x y : List α) : LeV (a :: x) (b :: y) ↔ a ≤ b ∧ LeV x y := Iff.rfl
@[simp] theorem LeV_nil_cons (b : α) (y : List α) : ¬ LeV ([] : List α) (b :: y) := fun h => h
@[simp] theorem LeV_cons_nil (a : α) (x : List α) : ¬ LeV (a :: x) ([] : List α) := fun h => h

theorem LeV_length : ∀ (x y : List α), LeV x y → x.length = y.length
  | [], [], _ => rfl
  | [], _ :: _, h => absurd h (LeV_nil_cons _ _)
  | _ :: _, [], h => absurd h (LeV_cons_nil _ _)
  | _ :: x, _ :: y, h => congrArg (· + 1) (LeV_length x y h.2)

theorem forall_mem_zipWith {β γ δ : Type} (f : β → γ → δ) (p : δ → Prop) (l : List β) (l' : List γ) :
    (∀ c ∈ List.zipWith f l l', p c) ↔ ∀ q ∈ l.zip l', p (f q.1 q.2) := by
  have e : List.zipWith f l l' = (l.zip l').map (fun q => f q.1 q.2) :=
    (List.map_zip_eq_zipWith (f := fun q => f q.1 q.2)).symm
  rw [e]
  exact List.forall_mem_map

theorem slack_length (P : Prog α) (x : List α) (hh : P.h.length = P.G.length) : (slack P x).length = P.G.length := by
  rw [slack, vsub_length, mv_length, hh, min_self]

theorem forall_mem_slack (P : Prog α) (x : List α) (p : α → Prop) :
    (∀ a ∈ slack P x, p a) ↔ ∀ q ∈ P.G.zip P.h, p (dot q.1 x - q.2) := by
  unfold slack mv vsub
  rw [List.zipWith_map_left, forall_mem_zipWith]

/-! ### division by a positive number -/

theorem vdivs_inj (d : α) (hd : d ≠ 0) (a b : List α) : vdivs a d = vdivs b d ↔ a = b :=
  (List.map_injective_iff.2 fun _ _ h => (div_left_inj' hd).1 h).eq_iff

theorem LeV_vdivs (d : α) (hd : 0 < d) : ∀ (a b : List α), LeV (vdivs a d) (vdivs b d) ↔ LeV a b
  | [], [] => by simp [vdivs]
  | [], _ :: _ => by simp [vdivs]
  | _ :: _, [] => by simp [vdivs]
  | x :: a, y :: b => by
    have ih := LeV_vdivs d hd a b
    unfold vdivs at ih ⊢
    rw [List.map_cons, List.map_cons, LeV_cons, LeV_cons, ih, div_le_div_iff_of_pos_right hd]

theorem vsub_vdivs (d : α) (a b : List α) : vsub (vdivs a d) (vdivs b d) = vdivs (vsub a b) d := by
  unfold vsub vdivs
  rw [List.zipWith_map, List.map_zipWith]
  simp only [sub_div]

theorem normDenom_pos [Sqrt α] (minNorm : α) (h : 0 < minNorm) (A : List (List α)) (b : List α) :
    0 < normDenom minNorm A b :=
  lt_of_lt_of_le h (le_cmax3_first _ _ _)

/-- the strict-feasibility test of the loop uses the NORMALISED inequalities, the default start is computed from the
    caller's: the two agree (rows divided by a common positive number) -/
theorem slack_normalize [Sqrt α] (minNorm : α) (P : Prog α) (x : List α) :
    slack (normalize minNorm P).2 x = vdivs (slack P x) (normDenom minNorm P.G P.h) :=
  (congrArg (vsub · _) (mv_rows_vdivs _ P.G x)).trans (vsub_vdivs _ _ _)

/-! ### the objective -/

theorem objective_eq (P : Prog α) (x : List α) :
    objective P x = (1 / 2) * dot x (mv P.Q x) + dot x P.c := by
  unfold objective
  split
  · rename_i h
    simp [List.isEmpty_iff.1 h, mv]
  · rfl

theorem isEmpty_map {β γ : Type} (f : β → γ) (l : List β) : (l.map f).isEmpty = l.isEmpty := by
  cases l <;> rfl

theorem objective_normalize [Sqrt α] (minNorm : α) (P : Prog α) (x : List α) :
    objective (normalize minNorm P).2 x = objective P x / (normalize minNorm P).1 := by
  rw [objective_eq, objective_eq]
  simp only [normalize, normalizePair]
  rw [mv_rows_vdivs, dot_vdivs_right, dot_vdivs_right]
  ring

theorem mufx_pos [Sqrt α] (minNorm : α) (hmin : 0 < minNorm) (P : Prog α) : 0 < (normalize minNorm P).1 :=
  normDenom_pos minNorm hmin P.Q P.c

theorem update_fx (P : Prog α) (mufx miu : α) (x u v : List α) (st : St α) :
    (update P mufx miu x u v st).fx = objective P x * mufx := rfl

theorem update_eta (P : Prog α) (mufx miu : α) (x u v : List α) (st : St α) :
    (update P mufx miu x u v st).eta = if P.G.isEmpty then st.eta else -(dot u (slack P x)) := rfl

theorem update_rprim (P : Prog α) (mufx miu : α) (x u v : List α) (st : St α) :
    (update P mufx miu x u v st).rprim = if P.A.isEmpty then st.rprim else vsub (mv P.A x) P.b := rfl

/-! ### `maxCoeff` -/

theorem maxLt_iff (v : List α) (c : α) : maxLt v c = true ↔ ∀ a ∈ v, a < c := by
  cases v with
  | nil => simp [maxLt, maxCoeff]
  | cons a as =>
    simp only [maxLt, maxCoeff, decide_eq_true_eq]
    rw [cmax_eq, Cxx.foldl_max_lt_iff, List.forall_mem_cons]

/-! ### step lengths -/

theorem smaxLoop_le_acc : ∀ (u du : List α) (acc : α), smaxLoop acc u du ≤ acc
  | [], _, acc => by simp [smaxLoop]
  | _ :: _, [], acc => by simp [smaxLoop]
  | a :: u, d :: du, acc => by
    rw [smaxLoop]
    split
    · exact le_trans (smaxLoop_le_acc u du _) (by rw [cmin_eq_min]; exact min_le_left _ _)
    · exact smaxLoop_le_acc u du acc

theorem smaxLoop_le : ∀ (u du : List α) (acc : α) (p : α × α), p ∈ u.zip du → p.2 < 0 →
    smaxLoop acc u du ≤ -p.1 / p.2
  | [], _, _, p, h, _ => by simp at h
  | _ :: _, [], _, p, h, _ => by simp at h
  | a :: u, d :: du, acc, p, h, hp => by
    rw [List.zip_cons_cons, List.mem_cons] at h
    rw [smaxLoop]
    rcases h with rfl | h
    · rw [if_pos hp]
      exact le_trans (smaxLoop_le_acc u du _) (by rw [cmin_eq_min]; exact min_le_right _ _)
    · exact smaxLoop_le u du _ p h hp

theorem smaxLoop_pos : ∀ (u du : List α) (acc : α), 0 < acc → (∀ a ∈ u, 0 < a) → 0 < smaxLoop acc u du
  | [], _, acc, h, _ => by simpa [smaxLoop] using h
  | _ :: _, [], acc, h, _ => by simpa [smaxLoop] using h
  | a :: u, d :: du, acc, h, hu => by
    rw [smaxLoop]
    refine smaxLoop_pos u du _ ?_ (fun b hb => hu b (List.mem_cons_of_mem _ hb))
    split
    · rename_i hd
      rw [cmin_eq_min]
      exact lt_min h (div_pos_of_neg_of_neg (neg_neg_of_pos (hu a List.mem_cons_self)) hd)
    · exact h

theorem makeSmax_le (big : α) (u du : List α) (p : α × α) (h : p ∈ u.zip du) (hp : p.2 < 0) :
    makeSmax big u du ≤ -p.1 / p.2 := by
  unfold makeSmax
  rw [cmin_eq_min]
  exact le_trans (min_le_left _ _) (smaxLoop_le u du big p h hp)

theorem makeSmax_le_one (big : α) (u du : List α) : makeSmax big u du ≤ 1 := by
  unfold makeSmax
  rw [cmin_eq_min]
  exact min_le_right _ _

theorem makeSmax_pos (big : α) (hbig : 0 < big) (u du : List α) (hu : ∀ a ∈ u, 0 < a) :
    0 < makeSmax big u du := by
  unfold makeSmax
  rw [cmin_eq_min]
  exact lt_min (smaxLoop_pos u du big hbig hu) one_pos

/-- the ratio test on one multiplier: a step `s ≤ s0·m` with `0 < s0 < 1`, where `m ≤ −a/d` if `d < 0`, keeps
    `a + s d > 0`, since `s (−d) ≤ s0 m (−d) ≤ s0 a < a` -/
theorem ratio_step_pos {a d s s0 m : α} (ha : 0 < a) (hs : 0 ≤ s) (hs0 : 0 < s0) (hs01 : s0 < 1) (hle : s ≤ s0 * m)
    (hm : d < 0 → m ≤ -a / d) : 0 < a + s * d := by
  rcases lt_or_ge d 0 with hd | hd
  · have h1 : -a ≤ m * d := (le_div_iff_of_neg hd).1 (hm hd)
    have h2 := mul_le_mul_of_nonneg_right hle (neg_nonneg.2 (le_of_lt hd))
    have h3 := mul_le_mul_of_nonneg_left h1 (le_of_lt hs0)
    have h4 := mul_lt_mul_of_pos_right hs01 ha
    linarith only [h2, h3, h4]
  · exact add_pos_of_pos_of_nonneg ha (mul_nonneg hs hd)

theorem stage2_spec [Sqrt α] (P : Prog α) (mufx miu alpha beta : α) (x u v dx du dv : List α) (r0 : α) :
    ∀ (k : Nat) (s1 s : α) (st st' : St α),
      stage2 P mufx miu alpha beta x u v dx du dv r0 k s1 st = (some s, st') →
      (∃ stp, st' = update P mufx miu (move x s dx) (move u s du) (move v s dv) stp) ∧
        residual st' ≤ (1 - alpha * s) * r0 ∧ (0 ≤ beta → beta ≤ 1 → 0 ≤ s1 → 0 ≤ s ∧ s ≤ s1)
  | 0, _, _, _, _, h => by simp [stage2] at h
  | k + 1, s1, s, st, st', h => by
    rw [stage2] at h
    split at h
    · rename_i hc
      rw [Prod.mk.injEq, Option.some.injEq] at h
      obtain ⟨rfl, rfl⟩ := h
      exact ⟨⟨st, rfl⟩, hc, fun _ _ hs1 => ⟨hs1, le_refl _⟩⟩
    · obtain ⟨h1, h2, h3⟩ := stage2_spec P mufx miu alpha beta x u v dx du dv r0 k (s1 * beta) s _ st' h
      exact ⟨h1, h2, fun hb0 hb1 hs1 =>
        ⟨(h3 hb0 hb1 (mul_nonneg hs1 hb0)).1, le_trans (h3 hb0 hb1 (mul_nonneg hs1 hb0)).2 (mul_le_of_le_one_right hs1 hb1)⟩⟩

theorem slack_interp (P : Prog α) (x dx : List α) (s1 s2 : α) (hl : x.length = dx.length)
    (h0 : ∀ a ∈ slack P x, a < 0) (h1 : ∀ a ∈ slack P (move x s1 dx), a < 0) (hs2 : 0 ≤ s2) (hs21 : s2 ≤ s1) :
    ∀ a ∈ slack P (move x s2 dx), a < 0 := by
  rw [forall_mem_slack] at h0 h1 ⊢
  intro q hq
  have e0 := h0 q hq
  have e1 := h1 q hq
  rw [dot_move _ _ _ _ hl] at e1 ⊢
  rcases le_or_gt (dot q.1 dx) 0 with ht | ht
  · linarith only [e0, mul_nonpos_of_nonneg_of_nonpos hs2 ht]
  · linarith only [e1, mul_le_mul_of_nonneg_right hs21 (le_of_lt ht)]

/-! ### the residuals tested against a vector (whatever the `if (p > 0)` / `if (m > 0)` guards skip) -/

theorem gradObj_length (P : Prog α) (wf : WF P) (x : List α) : (gradObj P x).length = P.n := by
  unfold gradObj
  split
  · rfl
  · rename_i h
    rw [vadd_length, mv_length, wf.Qlen.resolve_left (fun h0 => h (List.isEmpty_iff.2 h0))]
    exact min_self _

theorem dot_gradObj (P : Prog α) (wf : WF P) (x d : List α) :
    dot (gradObj P x) d = dot (mv P.Q x) d + dot P.c d := by
  unfold gradObj
  split
  · rename_i h
    simp [List.isEmpty_iff.1 h, mv]
  · rename_i h
    rw [dot_vadd_left _ _ _ (by rw [mv_length, wf.Qlen.resolve_left (fun h0 => h (List.isEmpty_iff.2 h0))]; rfl)]

/-- `if M.isEmpty then r else r + Mᵀw`, tested against `d`: the guard only skips a term that vanishes -/
theorem dot_guard_tmv (n : Nat) (M : List (List α)) (hM : ∀ r ∈ M, r.length = n) (r w d : List α) (hr : r.length = n) :
    dot (if M.isEmpty then r else vadd r (tmv n M w)) d = dot r d + dot w (mv M d) := by
  cases M with
  | nil => simp [mv]
  | cons m M =>
    rw [List.isEmpty_cons, if_neg Bool.false_ne_true, dot_vadd_left _ _ _ (by rw [hr, tmv_length n _ w hM]),
      tmv_adjoint' n _ w d hM]

theorem guard_tmv_length (n : Nat) (M : List (List α)) (hM : ∀ r ∈ M, r.length = n) (r w : List α) (hr : r.length = n) :
    (if M.isEmpty then r else vadd r (tmv n M w)).length = n := by
  split
  · exact hr
  · rw [vadd_length, hr, tmv_length n M w hM, min_self]

theorem update_rdual_length (P : Prog α) (wf : WF P) (mufx miu : α) (x u v : List α) (st : St α) :
    (update P mufx miu x u v st).rdual.length = P.n :=
  guard_tmv_length P.n P.G wf.Grows _ u (guard_tmv_length P.n P.A wf.Arows _ v (gradObj_length P wf x))

theorem dot_rdual (P : Prog α) (wf : WF P) (mufx miu : α) (x u v d : List α) (st : St α) :
    dot (update P mufx miu x u v st).rdual d =
      dot (gradObj P x) d + dot v (mv P.A d) + dot u (mv P.G d) :=
  (dot_guard_tmv P.n P.G wf.Grows _ u d (guard_tmv_length P.n P.A wf.Arows _ v (gradObj_length P wf x))).trans
    (congrArg (· + _) (dot_guard_tmv P.n P.A wf.Arows _ v d (gradObj_length P wf x)))

theorem dot_slack_nonpos : ∀ (u g h : List α), (∀ a ∈ u, 0 ≤ a) → LeV g h → dot u (vsub g h) ≤ 0
  | [], _, _, _, _ => by simp
  | _ :: _, [], [], _, _ => by simp [vsub]
  | _ :: _, [], _ :: _, _, hl => absurd hl (LeV_nil_cons _ _)
  | _ :: _, _ :: _, [], _, hl => absurd hl (LeV_cons_nil _ _)
  | a :: u, x :: g, y :: h, hu, hl => by
    have ih := dot_slack_nonpos u g h (fun b hb => hu b (List.mem_cons_of_mem _ hb)) hl.2
    unfold vsub at ih ⊢
    rw [List.zipWith_cons_cons, dot_cons]
    exact add_nonpos (mul_nonpos_of_nonneg_of_nonpos (hu a List.mem_cons_self) (sub_nonpos.2 hl.1)) ih

end NanoVerif.Program
