import NanoVerif.Proofs.C06Fn
import NanoVerif.Proofs.C06Real
/-!
  C06 — every gradient component is written: the gradient the model returns has exactly the dimension of the point (the
  harness pre-fills every gradient buffer with a sentinel and the oracle rejects a component that still carries it).
-/
set_option linter.unusedSectionVars false

namespace NanoVerif.C06
open NanoVerif.Loss NanoVerif.Fn

section field
variable {α : Type} [Field α] [LinearOrder α] [IsStrictOrderedRing α]

theorem dixonGradAux_length : ∀ (x : List α) (i : Nat) (carry : α), (dixonGradAux i carry x).length = x.length
  | [], _, _ => rfl
  | [_], _, _ => rfl
  | a :: b :: r, i, carry => by
    simp only [dixonGradAux, List.length_cons]
    rw [dixonGradAux_length (b :: r)]
    rfl

theorem dixonG_length : ∀ (x : List α), (dixonG x).length = x.length
  | [] => rfl
  | x0 :: r => by simp only [dixonG]; exact dixonGradAux_length (x0 :: r) 1 _

theorem kinksG_length (K : List (List α)) (x : List α) (hK : ∀ r ∈ K, r.length = x.length) :
    (kinksG K x).length = x.length := by
  unfold kinksG
  generalize hg : List.replicate x.length (0 : α) = g
  have hgl : g.length = x.length := by rw [← hg, List.length_replicate]
  clear hg
  induction K generalizing g with
  | nil => exact hgl
  | cons r K ih =>
    have hr := hK r List.mem_cons_self
    refine ih (fun r' hr' => hK r' (List.mem_cons_of_mem _ hr')) _ ?_
    rw [vadd_length _ _ (by rw [map2_length _ _ _ hr, hgl]), map2_length _ _ _ hr]

set_option linter.unusedVariables false
/-- the separable / radial / chained prototypes and the box constraint kinds: the gradient has the dimension of the point,
    for EVERY point -/
theorem gradient_length_unconditional (x : List α) :
    (sphereG x).length = x.length ∧ (axisG x).length = x.length ∧ (schumerG x).length = x.length ∧
    (qingG x).length = x.length ∧ (styblinskiG x).length = x.length ∧ (chungG x).length = x.length ∧
    (sarganG x).length = x.length ∧ (zakharovG x).length = x.length ∧ (rotG 0 x).length = x.length ∧
    (tridG x).length = x.length ∧ (chainedLqG x).length = x.length ∧ (rosenbrockG x).length = x.length ∧
    (dixonG x).length = x.length ∧ (maxqG x).length = x.length ∧
    (∀ (v : α) (d : Nat), (minimumG d x).length = x.length ∧ (maximumG d x).length = x.length) := by
  refine ⟨smul_length _ _, mapIdx_length _ _ _, mapIdx_length _ _ _, mapIdx_length _ _ _, mapIdx_length _ _ _,
    smul_length _ _, smul_length _ _, ?_, rotG_length _ _, ?_, pairGrad_length _ _ _, pairGrad_length _ _ _,
    dixonG_length x, mapIdx_length _ _ _, fun v d => ⟨mapIdx_length _ _ _, mapIdx_length _ _ _⟩⟩
  · unfold zakharovG
    rw [vadd_length _ _ (by rw [smul_length, smul_length, zakBias_length]), smul_length, zakBias_length]
  · unfold tridG
    rw [vadd_length _ _ (by rw [mapIdx_length, pairGrad_length]), pairGrad_length]
set_option linter.unusedVariables true

/-- … the prototypes with construction-time parameters and the coefficient constraint kinds, for parameters of the
    function's shape (`compatible`) -/
theorem gradient_length_shaped (x : List α) :
    (∀ (o : List α), x.length = o.length → (ballG o x).length = x.length) ∧
    (∀ (a : List α) (A : List (List α)), a.length = x.length → A.length = x.length →
      (quadraticG a A x).length = x.length) ∧
    (∀ (P : List (List α)) (q : List α), P.length = x.length → (∀ r ∈ P, r.length = x.length) → q.length = x.length →
      (cquadG P q x).length = x.length) ∧
    (∀ (K : List (List α)), (∀ r ∈ K, r.length = x.length) → (kinksG K x).length = x.length) := by
  refine ⟨?_, ?_, ?_, fun K hK => kinksG_length K x hK⟩
  · intro o ho
    unfold ballG
    rw [smul_length, vsub_length x o ho, ho]
  · intro a A ha hA
    unfold quadraticG
    rw [vadd_length _ _ (by rw [mulVec_length, ha, hA]), mulVec_length, hA]
  · intro P q hP hrows hq
    unfold cquadG
    have hT : (tmulVec x.length P x).length = x.length := tmulVec_length x.length P x hrows
    have h1 : (vadd (mulVec P x) (tmulVec x.length P x)).length = x.length := by
      rw [vadd_length _ _ (by rw [mulVec_length, hT, hP]), hT]
    rw [vadd_length _ _ (by rw [smul_length, h1, hq]), hq]

end field

/-- chained CB3 I / II, exponential, cauchy (real scalars: they evaluate `exp` / `log1p`) -/
theorem gradient_length_real (x : List ℝ) :
    (cb3IG x).length = x.length ∧ (cb3IIG x).length = x.length ∧ (expfnG x).length = x.length ∧
    (Fn.cauchyG x).length = x.length := by
  refine ⟨pairGrad_length _ _ _, ?_, smul_length _ _, by simp [Fn.cauchyG]⟩
  unfold cb3IIG
  simp only
  split
  · exact pairGrad_length _ _ _
  · split <;> exact pairGrad_length _ _ _

end NanoVerif.C06
