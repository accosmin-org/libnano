import NanoVerif.Model.Tune
import Mathlib.Order.Defs.LinearOrder
import Mathlib.Data.List.Perm.Basic
import Mathlib.Data.List.Nodup
import Mathlib.Data.List.Range
/-!
  C13 — proofs about the bookkeeping model of `ml::tune` / `ml::result_t` (`Model/Tune.lean`):

  * `decode` / `slot` are inverse bijections between `[0, k * folds)` and `[0, k) × [0, folds)`;
  * whatever the order in which the pool runs the indices, every (trial, fold) is evaluated exactly once and its
    result lands in its own slot, the slots of the earlier trials staying untouched;
  * `optimum_trial` returns the first arg-min.
-/
namespace NanoVerif.Tune

/-! ### index ↔ (trial, fold) -/

theorem slot_decode (folds i : Nat) : slot folds (decode folds i).1 (decode folds i).2 = i := by
  simp only [decode, slot]
  exact Nat.div_add_mod' i folds

theorem decode_slot (folds t f : Nat) (hf : f < folds) : decode folds (slot folds t f) = (t, f) := by
  have hpos : 0 < folds := by omega
  simp only [decode, slot]
  rw [Nat.mul_comm t folds, Nat.mul_add_div hpos, Nat.mul_add_mod, Nat.div_eq_of_lt hf, Nat.mod_eq_of_lt hf,
    Nat.add_zero]

theorem decode_injective (folds : Nat) : Function.Injective (decode folds) := by
  intro i j h
  calc i = slot folds (decode folds i).1 (decode folds i).2 := (slot_decode folds i).symm
    _ = slot folds (decode folds j).1 (decode folds j).2 := by rw [h]
    _ = j := slot_decode folds j

theorem slot_lt (folds k t f : Nat) (ht : t < k) (hf : f < folds) : slot folds t f < k * folds := by
  have h := Nat.mul_le_mul_right folds (show t + 1 ≤ k from ht)
  rw [Nat.add_mul, Nat.one_mul] at h
  simp only [slot]
  omega

theorem decode_bijective (folds k : Nat) (hf : 0 < folds) :
    (∀ i, i < k * folds →
        (decode folds i).1 < k ∧ (decode folds i).2 < folds ∧ slot folds (decode folds i).1 (decode folds i).2 = i) ∧
    (∀ t f, t < k → f < folds → slot folds t f < k * folds ∧ decode folds (slot folds t f) = (t, f)) := by
  refine ⟨fun i hi => ⟨?_, ?_, slot_decode folds i⟩, fun t f ht hf' => ⟨slot_lt folds k t f ht hf', decode_slot folds t f hf'⟩⟩
  · exact (Nat.div_lt_iff_lt_mul hf).mpr hi
  · exact Nat.mod_lt i hf

theorem slots_disjoint (folds t f t' f' : Nat) (hf : f < folds) (hf' : f' < folds)
    (h : slot folds t f = slot folds t' f') : t = t' ∧ f = f' := by
  have h1 := decode_slot folds t f hf
  rw [h, decode_slot folds t' f' hf'] at h1
  exact ⟨(congrArg Prod.fst h1).symm, (congrArg Prod.snd h1).symm⟩

/-- given that the pool runs every index exactly once (any order), every (trial, fold) is called exactly once -/
theorem tune_calls_once (folds k : Nat) (hf : 0 < folds) (order : List Nat)
    (hperm : order.Perm (List.range (k * folds))) :
    (∀ p ∈ callsOf folds order, p.1 < k ∧ p.2 < folds) ∧
    (∀ t f, t < k → f < folds → (callsOf folds order).count (t, f) = 1) := by
  have hnd : order.Nodup := hperm.nodup_iff.mpr List.nodup_range
  have hmem : ∀ i, i ∈ order ↔ i < k * folds := fun i => by rw [hperm.mem_iff, List.mem_range]
  refine ⟨?_, ?_⟩
  · intro p hp
    obtain ⟨i, hi, rfl⟩ := List.mem_map.mp hp
    have h := (decode_bijective folds k hf).1 i ((hmem i).mp hi)
    exact ⟨h.1, h.2.1⟩
  · intro t f ht hf'
    have h2 := (decode_bijective folds k hf).2 t f ht hf'
    apply List.count_eq_one_of_mem
    · exact List.Nodup.map (decode_injective folds) hnd
    · exact List.mem_map.mpr ⟨slot folds t f, (hmem _).mpr h2.1, h2.2⟩

/-! ### a fold of `List.set` writes at pairwise distinct positions -/

theorem foldl_set_length {β ι : Type} (pos : ι → Nat) (val : ι → β) (order : List ι) (l : List β) :
    (order.foldl (fun l i => l.set (pos i) (val i)) l).length = l.length := by
  induction order generalizing l with
  | nil => rfl
  | cons a rest ih => rw [List.foldl_cons, ih, List.length_set]

theorem foldl_set_getElem?_of_not_mem {β ι : Type} (pos : ι → Nat) (val : ι → β) (order : List ι) (l : List β)
    (j : Nat) (hj : ∀ i ∈ order, pos i ≠ j) :
    (order.foldl (fun l i => l.set (pos i) (val i)) l)[j]? = l[j]? := by
  induction order generalizing l with
  | nil => rfl
  | cons a rest ih =>
    rw [List.foldl_cons, ih _ (fun i hi => hj i (List.mem_cons_of_mem _ hi))]
    exact List.getElem?_set_ne (hj a List.mem_cons_self)

theorem foldl_set_getElem?_of_mem {β ι : Type} (pos : ι → Nat) (val : ι → β) (order : List ι) (l : List β)
    (hinj : ∀ i ∈ order, ∀ i' ∈ order, pos i = pos i' → i = i') (hnd : order.Nodup)
    (i : ι) (hi : i ∈ order) (hlt : pos i < l.length) :
    (order.foldl (fun l i => l.set (pos i) (val i)) l)[pos i]? = some (val i) := by
  induction order generalizing l with
  | nil => cases hi
  | cons a rest ih =>
    obtain ⟨ha, hrest⟩ := List.nodup_cons.mp hnd
    rw [List.foldl_cons]
    rcases List.mem_cons.mp hi with rfl | hi'
    · rw [foldl_set_getElem?_of_not_mem]
      · exact List.getElem?_set_self hlt
      · intro i' hi' heq
        have := hinj i' (List.mem_cons_of_mem _ hi') i List.mem_cons_self heq
        exact ha (this ▸ hi')
    · exact ih _ (fun x hx y hy => hinj x (List.mem_cons_of_mem _ hx) y (List.mem_cons_of_mem _ hy)) hrest hi'
        (by rw [List.length_set]; exact hlt)

/-! ### the batch -/

section batch
variable {σ : Type} (cb : Nat → Nat → Option σ → σ) (closest : Nat → Nat)

def payload (pre : Result σ) (i : Nat) : σ :=
  cb (decode pre.folds i).1 (decode pre.folds i).2 (pre.get? (closest (decode pre.folds i).1) (decode pre.folds i).2)

/-- the thread callbacks only write: index `i` writes its payload at position `old * folds + i` -/
theorem foldl_threadCallback (pre : Result σ) (old : Nat) (order : List Nat) (r : Result σ)
    (hf : r.folds = pre.folds) :
    (order.foldl (threadCallback cb closest pre old) r).folds = pre.folds ∧
    (order.foldl (threadCallback cb closest pre old) r).trials = r.trials ∧
    (order.foldl (threadCallback cb closest pre old) r).slots =
      order.foldl (fun l i => l.set (old * pre.folds + i) (some (payload cb closest pre i))) r.slots := by
  induction order generalizing r with
  | nil => exact ⟨hf, rfl, rfl⟩
  | cons a rest ih =>
    simp only [List.foldl_cons]
    have h := ih (threadCallback cb closest pre old r a) hf
    refine ⟨h.1, h.2.1, ?_⟩
    rw [h.2.2]
    have hpos : slot r.folds (old + (decode pre.folds a).1) (decode pre.folds a).2 = old * pre.folds + a := by
      rw [hf]
      simp only [slot, decode, Nat.add_mul, Nat.add_assoc, Nat.div_add_mod']
    simp only [threadCallback, Result.store, hpos, payload]

theorem runBatch_slots (r0 : Result σ) (k : Nat) (order : List Nat) :
    (runBatch cb closest r0 k order).folds = r0.folds ∧
    (runBatch cb closest r0 k order).trials = r0.trials + k ∧
    (runBatch cb closest r0 k order).slots =
      order.foldl (fun l i => l.set (r0.trials * r0.folds + i) (some (payload cb closest (r0.add k) i)))
        (r0.slots ++ List.replicate (k * r0.folds) none) :=
  foldl_threadCallback cb closest (r0.add k) r0.trials order (r0.add k) rfl

theorem runBatch_wf (r0 : Result σ) (hwf : r0.wf) (k : Nat) (order : List Nat) :
    (runBatch cb closest r0 k order).wf ∧ (runBatch cb closest r0 k order).trials = r0.trials + k ∧
    (runBatch cb closest r0 k order).folds = r0.folds := by
  obtain ⟨h1, h2, h3⟩ := runBatch_slots cb closest r0 k order
  refine ⟨?_, h2, h1⟩
  unfold Result.wf at hwf ⊢
  rw [h1, h2, h3, foldl_set_length, List.length_append, List.length_replicate, hwf, Nat.add_mul]

theorem batch_slots (r0 : Result σ) (hwf : r0.wf) (k : Nat) (order : List Nat)
    (hperm : order.Perm (List.range (k * r0.folds))) :
    ∀ t f, t < k → f < r0.folds →
      (runBatch cb closest r0 k order).get? (r0.trials + t) f = some (cb t f ((r0.add k).get? (closest t) f)) := by
  intro t f ht hf
  obtain ⟨h1, h2, h3⟩ := runBatch_slots cb closest r0 k order
  have hnd : order.Nodup := hperm.nodup_iff.mpr List.nodup_range
  have hmem : slot r0.folds t f ∈ order := by
    rw [hperm.mem_iff, List.mem_range]; exact slot_lt r0.folds k t f ht hf
  have hlen : (r0.slots ++ List.replicate (k * r0.folds) (none : Option σ)).length = (r0.trials + k) * r0.folds := by
    rw [List.length_append, List.length_replicate, hwf, Nat.add_mul]
  have hlt : r0.trials * r0.folds + slot r0.folds t f <
      (r0.slots ++ List.replicate (k * r0.folds) (none : Option σ)).length := by
    have := slot_lt r0.folds k t f ht hf
    rw [hlen, Nat.add_mul]; omega
  have key := foldl_set_getElem?_of_mem (fun i => r0.trials * r0.folds + i)
    (fun i => some (payload cb closest (r0.add k) i)) order _
    (fun i _ i' _ h => Nat.add_left_cancel h) hnd (slot r0.folds t f) hmem hlt
  have hpos : slot r0.folds (r0.trials + t) f = r0.trials * r0.folds + slot r0.folds t f := by
    simp only [slot, Nat.add_mul, Nat.add_assoc]
  have hpay : payload cb closest (r0.add k) (slot r0.folds t f) = cb t f ((r0.add k).get? (closest t) f) := by
    have hd : decode (r0.add k).folds (slot r0.folds t f) = (t, f) := decode_slot r0.folds t f hf
    simp only [payload, hd]
  unfold Result.get?
  rw [h1, h2, h3, if_pos ⟨hf, by omega⟩, hpos]
  rw [key, hpay]
  rfl

theorem batch_keeps_old (r0 : Result σ) (hwf : r0.wf) (k : Nat) (order : List Nat)
    (_hperm : order.Perm (List.range (k * r0.folds))) :
    ∀ t f, t < r0.trials → (runBatch cb closest r0 k order).get? t f = r0.get? t f := by
  intro t f ht
  obtain ⟨h1, h2, h3⟩ := runBatch_slots cb closest r0 k order
  unfold Result.get?
  rw [h1, h2, h3]
  by_cases hf : f < r0.folds
  · have hlt : slot r0.folds t f < r0.trials * r0.folds := slot_lt r0.folds r0.trials t f ht hf
    rw [if_pos ⟨hf, by omega⟩, if_pos ⟨hf, ht⟩, foldl_set_getElem?_of_not_mem _ _ _ _ _ (fun i _ => by omega),
      List.getElem?_append_left (by rw [hwf]; exact hlt)]
  · rw [if_neg (fun h => hf h.1), if_neg (fun h => hf h.1)]

end batch

/-! ### `optimum_trial` -/

section Argmin
variable {α : Type} [LinearOrder α]

def scanStep (acc : Nat × α × Nat) (v : α) : Nat × α × Nat :=
  let (best, bestVal, i) := acc
  if v < bestVal then (i, v, i + 1) else (best, bestVal, i + 1)

theorem argminScan_eq (top : α) (vals : List α) : argminScan top vals = (vals.foldl scanStep (0, top, 0)).1 := rfl

theorem scanStep_mk (b : Nat) (x : α) (n : Nat) (v : α) :
    scanStep (b, x, n) v = if v < x then (n, v, n + 1) else (b, x, n + 1) := rfl

def IsFirstArgmin (l : List α) (b : Nat) (x : α) : Prop :=
  l[b]? = some x ∧ (∀ v ∈ l, x ≤ v) ∧ ∀ j, j < b → ∀ y, l[j]? = some y → x < y

/-- the invariant of the scan: (best index, best value) is the first arg-min of the prefix seen so far -/
theorem scan_inv (rest : List α) : ∀ (pre : List α) (b : Nat) (x : α), IsFirstArgmin pre b x →
    IsFirstArgmin (pre ++ rest) (rest.foldl scanStep (b, x, pre.length)).1
      (rest.foldl scanStep (b, x, pre.length)).2.1 := by
  induction rest with
  | nil => intro pre b x h; simpa using h
  | cons v rest ih =>
    intro pre b x ⟨h1, h2, h3⟩
    have hb : b < pre.length := (List.getElem?_eq_some_iff.mp h1).1
    rw [List.foldl_cons, scanStep_mk, List.append_cons]
    have hlen : (pre ++ [v]).length = pre.length + 1 := by simp
    by_cases hv : v < x
    · rw [if_pos hv, ← hlen]
      refine ih (pre ++ [v]) pre.length v ⟨by simp, ?_, ?_⟩
      · intro w hw
        rcases List.mem_append.mp hw with hw | hw
        · exact le_of_lt (lt_of_lt_of_le hv (h2 w hw))
        · rw [List.mem_singleton.mp hw]
      · intro j hj y hy
        rw [List.getElem?_append_left hj] at hy
        exact lt_of_lt_of_le hv (h2 y (List.mem_of_getElem? hy))
    · rw [if_neg hv, ← hlen]
      refine ih (pre ++ [v]) b x ⟨by rw [List.getElem?_append_left hb]; exact h1, ?_, ?_⟩
      · intro w hw
        rcases List.mem_append.mp hw with hw | hw
        · exact h2 w hw
        · rw [List.mem_singleton.mp hw]; exact not_lt.mp hv
      · intro j hj y hy
        rw [List.getElem?_append_left (by omega)] at hy
        exact h3 j hj y hy

/-- `optimum_trial` returns the FIRST arg-min, provided no value exceeds `top` (= DBL_MAX in the code) -/
theorem optimum_is_argmin {α : Type} [LinearOrder α] (top : α) (values : List α) (hne : values ≠ [])
    (htop : ∀ v ∈ values, v ≤ top) :
    ∃ hb : optimumTrial top values < values.length,
      (∀ j (hj : j < values.length), values[optimumTrial top values] ≤ values[j]) ∧
      (∀ j (hj : j < optimumTrial top values), values[optimumTrial top values] < values[j]) := by
  obtain ⟨v0, rest, rfl⟩ := List.exists_cons_of_ne_nil hne
  have hv0 : v0 ≤ top := htop v0 List.mem_cons_self
  have h0 : scanStep (0, top, 0) v0 = (0, v0, [v0].length) := by
    rw [scanStep_mk]
    by_cases h : v0 < top
    · rw [if_pos h]; rfl
    · rw [if_neg h, le_antisymm hv0 (not_lt.mp h)]; rfl
  have key := scan_inv rest [v0] 0 v0
    ⟨rfl, fun v hv => (List.mem_singleton.mp hv).ge, fun j hj => absurd hj (Nat.not_lt_zero j)⟩
  have hopt : optimumTrial top (v0 :: rest) = (rest.foldl scanStep (0, v0, [v0].length)).1 := by
    unfold optimumTrial
    rw [argminScan_eq, List.foldl_cons, h0]
  rw [← hopt] at key
  obtain ⟨h1, h2, h3⟩ := key
  obtain ⟨hb, hx⟩ := List.getElem?_eq_some_iff.mp h1
  have hx' : (v0 :: rest)[optimumTrial top (v0 :: rest)] = _ := hx
  refine ⟨hb, fun j hj => ?_, fun j hj => ?_⟩
  · rw [hx']
    exact h2 _ (List.getElem_mem hj)
  · rw [hx']
    exact h3 j hj _ (List.getElem?_eq_getElem (hj.trans hb))

theorem scan_fst_lt : ∀ (l : List α) (b : Nat) (x : α) (i : Nat), b < i →
    (l.foldl scanStep (b, x, i)).1 < i + l.length
  | [], _, _, _, h => h
  | v :: rest, b, x, i, h => by
    rw [List.foldl_cons, scanStep_mk, List.length_cons, Nat.add_comm rest.length 1, ← Nat.add_assoc]
    split
    · exact scan_fst_lt rest i v (i + 1) (Nat.lt_succ_self i)
    · exact scan_fst_lt rest b x (i + 1) (Nat.lt_succ_of_lt h)

/-- whatever the values (also above `top`): the scan answers a position of the list -/
theorem argminScan_lt (top : α) : ∀ (vals : List α), vals ≠ [] → argminScan top vals < vals.length
  | [], h => absurd rfl h
  | v :: rest, _ => by
    rw [argminScan_eq, List.foldl_cons, scanStep_mk, List.length_cons, Nat.add_comm rest.length 1]
    split <;> exact scan_fst_lt rest 0 _ 1 Nat.one_pos

theorem argminScan_map {β : Type} (top : α) (g : β → α) (l : List β) (hne : l ≠ []) (htop : ∀ b ∈ l, g b ≤ top) :
    ∃ hb : argminScan top (l.map g) < l.length,
      (∀ j (hj : j < l.length), g l[argminScan top (l.map g)] ≤ g l[j]) ∧
      (∀ j (hj : j < argminScan top (l.map g)), g l[argminScan top (l.map g)] < g (l[j]'(hj.trans hb))) := by
  have h := optimum_is_argmin top (l.map g) (mt List.map_eq_nil_iff.mp hne) (List.forall_mem_map.mpr htop)
  simp only [optimumTrial, List.length_map, List.getElem_map] at h
  exact h

end Argmin

/-! ### non-vacuity -/

example : decode 3 7 = (2, 1) := by decide
example : slot 3 2 1 = 7 := by decide
example : (callsOf 2 [3, 0, 2, 1]).count (1, 0) = 1 := by decide
example : optimumTrial 100 [5, 3, 7, 3] = 1 := by decide
example : optimumTrial 100 [100, 100] = 0 := by decide
example : optimumTrial 100 [100, 99, 99] = 1 := by decide

/-- two folds, one old trial, two new trials run in a scrambled order; the payload records (trial, fold) and what was
    read from the closest old trial -/
example :
    (runBatch (fun t f prev => 100 * (t + 1) + 10 * f + prev.getD 0) (fun _ => 0) ⟨2, 1, [some 1, some 2]⟩ 2
      [3, 0, 2, 1]).slots = [some 1, some 2, some 101, some 112, some 201, some 212] := by decide

example :
    (runBatch (fun t f (_ : Option Nat) => 10 * t + f) (fun _ => 0) (Result.empty 2) 2 [3, 0, 2, 1]).slots
      = [some 0, some 1, some 10, some 11] := by decide

example :
    (runBatch (fun t f (_ : Option Nat) => 10 * t + f) (fun _ => 0) (Result.empty 2) 2 [3, 0, 2, 1]).get? 1 0
      = some 10 := by decide

end NanoVerif.Tune
