import NanoVerif.Proofs.TensorStorageOps
/-!
  C16 — histories of storage operations (`step` / `run` of `Model/TensorStorage.lean`): the OWNERSHIP invariant — every owning
  tensor holds nullptr or the start of a LIVE allocation, and no allocation has two owners — is kept by every operation of
  every history (no double release, no owner ever left dangling, whatever maps do). Core Lean only.
-/
namespace NanoVerif.Tensor.Store
open NanoVerif.Tensor

variable {α : Type}

def Heap.live (h : Heap α) (b : Nat) : Prop := (h.buf b).isSome

structure Inv (st : St α) : Prop where
  /-- an owning tensor's pointer is the start of a live allocation -/
  owner : ∀ (i : Nat) (x : Obj), st.objs[i]? = some x → x.kind = .mem → ∀ b off, x.ptr = some (b, off) → off = 0 ∧ st.heap.live b
  /-- two different owning tensors never hold the same allocation -/
  unique : ∀ (i j : Nat) (x y : Obj), i ≠ j → st.objs[i]? = some x → st.objs[j]? = some y → x.kind = .mem → y.kind = .mem →
    ∀ b o1 o2, x.ptr = some (b, o1) → y.ptr = some (b, o2) → False

theorem live_lt {h : Heap α} {b : Nat} (hl : h.live b) : b < h.length := by
  unfold Heap.live at hl
  obtain ⟨buf, hb⟩ := Option.isSome_iff_exists.mp hl
  exact buf_lt hb

/-! ### liveness through the primitives -/

theorem live_set_some (h : Heap α) (c : Nat) (x : List α) (b : Nat) (hl : h.live b) : Heap.live (h.set c (some x)) b := by
  unfold Heap.live
  by_cases hc : b = c
  · subst hc
    rw [buf_set_same _ _ _ (live_lt hl)]
    rfl
  · rw [buf_set_other _ _ _ _ hc]
    exact hl

theorem live_write {h h' : Heap α} {p : Ptr} {vals : List α} (hw : h.write p vals = some h') (b : Nat) (hl : h.live b) :
    h'.live b := by
  rcases write_cases hw with ⟨_, rfl⟩ | ⟨_, _, _, _, _, _, _, rfl⟩
  · exact hl
  · exact live_set_some _ _ _ _ hl

theorem live_alloc (h : Heap α) (xs : List α) (b : Nat) (hl : h.live b) : (h.alloc xs).1.live b := by
  unfold Heap.live
  rw [buf_alloc_old h xs b (live_lt hl)]
  exact hl

theorem live_free_other (h : Heap α) (p : Ptr) (b : Nat) (hl : h.live b) (hne : p.inBuf b = false) : (h.free p).live b := by
  unfold Heap.live
  rw [buf_free, hne]
  exact hl

theorem alloc_live {h : Heap α} {xs : List α} {b off : Nat} (hp : (h.alloc xs).2 = some (b, off)) :
    off = 0 ∧ h.length ≤ b ∧ (h.alloc xs).1.live b := by
  obtain ⟨hb, h0, hbuf⟩ := alloc_some hp
  exact ⟨h0, Nat.le_of_eq hb.symm, by unfold Heap.live; rw [hbuf]; rfl⟩

theorem live_copyFwd {h h' : Heap α} {dp sp : Ptr} {n : Nat} (hc : h.copyFwd dp sp n = some h') (b : Nat) (hl : h.live b) :
    h'.live b := by
  unfold Heap.copyFwd at hc
  split at hc
  · cases hc; exact hl
  · split at hc
    · split at hc
      · split at hc
        · split at hc
          · cases hc; exact live_set_some _ _ _ _ hl
          · cases hc
        · cases hc
      · obtain ⟨xs, _, hw⟩ := Option.bind_eq_some_iff.mp hc
        exact live_write hw b hl
    · cases hc

/-! ### the invariant under a change of the heap / of one object -/

theorem inv_heap {st : St α} (hinv : Inv st) (h' : Heap α) (hl : ∀ b, st.heap.live b → h'.live b) : Inv ⟨h', st.objs⟩ :=
  ⟨fun i x hx hk b off hp => ⟨(hinv.owner i x hx hk b off hp).1, hl b (hinv.owner i x hx hk b off hp).2⟩, hinv.unique⟩

/-- slot `o` (holding `x`) receives the object `x'`, the heap becomes `h'`: the invariant stays if (1) every allocation that
    was live and is not the one `x` owned is still live, and (2) a new OWNING object points at offset 0 of a live
    allocation that no other slot owns -/
theorem inv_set {st : St α} (hinv : Inv st) (o : Nat) (x x' : Obj) (h' : Heap α) (hx : st.objs[o]? = some x)
    (hlive : ∀ b, st.heap.live b → (x.kind = .mem → x.ptr.inBuf b = false) → h'.live b)
    (hnew : x'.kind = .mem → ∀ b off, x'.ptr = some (b, off) → off = 0 ∧ h'.live b ∧
      ∀ (j : Nat) (y : Obj), j ≠ o → st.objs[j]? = some y → y.kind = .mem → y.ptr.inBuf b = false) :
    Inv ⟨h', st.objs.set o x'⟩ := by
  have ho : o < st.objs.length := (List.getElem?_eq_some_iff.mp hx).1
  have hget : ∀ i z, (st.objs.set o x')[i]? = some z → (i = o ∧ z = x') ∨ (i ≠ o ∧ st.objs[i]? = some z) := by
    intro i z hz
    by_cases hio : i = o
    · subst hio
      rw [List.getElem?_set_self ho] at hz
      exact Or.inl ⟨rfl, (Option.some.inj hz).symm⟩
    · rw [List.getElem?_set_ne (Ne.symm hio)] at hz
      exact Or.inr ⟨hio, hz⟩
  have hother : ∀ i z, i ≠ o → st.objs[i]? = some z → z.kind = .mem → ∀ b off, z.ptr = some (b, off) →
      (x.kind = .mem → x.ptr.inBuf b = false) := fun i z hio hz hk b off hp hxk =>
    (inBuf_false_iff _ _).mpr fun o2 hxp => hinv.unique i o z x hio hz hx hk hxk b off o2 hp hxp
  have hcl : ∀ j w, j ≠ o → st.objs[j]? = some w → w.kind = .mem → x'.kind = .mem → ∀ b o1 o2,
      x'.ptr = some (b, o1) → w.ptr = some (b, o2) → False := fun j w hjo hw hkw hk b o1 o2 hp hpw =>
    (inBuf_false_iff _ _).mp ((hnew hk b o1 hp).2.2 j w hjo hw hkw) o2 hpw
  constructor
  · intro i z hz hk b off hp
    rcases hget i z hz with ⟨_, hzx⟩ | ⟨hio, hz'⟩
    · subst hzx
      exact ⟨(hnew hk b off hp).1, (hnew hk b off hp).2.1⟩
    · obtain ⟨h0, hl⟩ := hinv.owner i z hz' hk b off hp
      exact ⟨h0, hlive b hl (hother i z hio hz' hk b off hp)⟩
  · intro i j z w hij hz hw hkz hkw b o1 o2 hpz hpw
    rcases hget i z hz with ⟨hio, hzx⟩ | ⟨hio, hz'⟩
    · rcases hget j w hw with ⟨hjo, _⟩ | ⟨hjo, hw'⟩
      · exact hij (hio.trans hjo.symm)
      · subst hzx
        exact hcl j w hjo hw' hkw hkz b o1 o2 hpz hpw
    · rcases hget j w hw with ⟨hjo, hwx⟩ | ⟨hjo, hw'⟩
      · subst hwx
        exact hcl i z hio hz' hkz hkw b o2 o1 hpw hpz
      · exact hinv.unique i j z w hij hz' hw' hkz hkw b o1 o2 hpz hpw

theorem fresh_unowned {st : St α} (hinv : Inv st) (b : Nat) (hb : st.heap.length ≤ b) :
    ∀ (j : Nat) (y : Obj), st.objs[j]? = some y → y.kind = .mem → y.ptr.inBuf b = false :=
  fun j y hy hk => (inBuf_false_iff _ _).mpr fun off hp => by
    have := live_lt (hinv.owner j y hy hk b off hp).2
    omega

theorem own_unowned {st : St α} (hinv : Inv st) (o : Nat) (x : Obj) (hx : st.objs[o]? = some x) (hk : x.kind = .mem)
    (b off : Nat) (hp : x.ptr = some (b, off)) :
    ∀ (j : Nat) (y : Obj), j ≠ o → st.objs[j]? = some y → y.kind = .mem → y.ptr.inBuf b = false :=
  fun j y hjo hy hky => (inBuf_false_iff _ _).mpr fun o2 hyp => hinv.unique j o y x hjo hy hx hky hk b o2 off hyp hp

theorem live_dropObj (h : Heap α) (x : Obj) (b : Nat) (hl : h.live b) (hne : x.kind = .mem → x.ptr.inBuf b = false) :
    (dropObj h x).live b := by
  unfold dropObj
  by_cases hk : x.kind = .mem
  · rw [if_pos hk]
    exact live_free_other h x.ptr b hl (hne hk)
  · rw [if_neg hk]; exact hl

theorem dropObj_length (h : Heap α) (x : Obj) : (dropObj h x).length = h.length := by
  unfold dropObj
  split
  · exact free_length h x.ptr
  · rfl

theorem dropObj_mem (h : Heap α) {x : Obj} (hk : x.kind = .mem) : dropObj h x = h.free x.ptr := by
  unfold dropObj
  rw [if_pos hk]

/-- the slot keeps its allocation, if it owns one at all, and no allocation is released -/
theorem inv_keep {st : St α} (hinv : Inv st) {o : Nat} {x x' : Obj} {h' : Heap α} (hx : st.objs[o]? = some x)
    (hp : x'.kind = .mem → x.kind = .mem ∧ x'.ptr = x.ptr) (hlive : ∀ b, st.heap.live b → h'.live b) :
    Inv ⟨h', st.objs.set o x'⟩ := by
  apply inv_set hinv o x x' h' hx (fun b hl _ => hlive b hl)
  intro hk b off hpb
  obtain ⟨hkx, hpx⟩ := hp hk
  rw [hpx] at hpb
  obtain ⟨h0, hl⟩ := hinv.owner o x hx hkx b off hpb
  exact ⟨h0, hlive b hl, own_unowned hinv o x hx hkx b off hpb⟩

/-- the object of the slot is destroyed; its replacement owns nothing or an allocation that did not exist before -/
theorem inv_fresh {st : St α} (hinv : Inv st) {o : Nat} {x x' : Obj} {h' : Heap α} (hx : st.objs[o]? = some x)
    (hlive : ∀ b, st.heap.live b → (x.kind = .mem → x.ptr.inBuf b = false) → h'.live b)
    (hnew : x'.kind = .mem → ∀ b off, x'.ptr = some (b, off) → off = 0 ∧ st.heap.length ≤ b ∧ h'.live b) :
    Inv ⟨h', st.objs.set o x'⟩ := by
  apply inv_set hinv o x x' h' hx hlive
  intro hk b off hpb
  obtain ⟨h0, hb, hl⟩ := hnew hk b off hpb
  exact ⟨h0, hl, fun j y _ hy hky => fresh_unowned hinv b hb j y hy hky⟩

theorem inv_realloc {st : St α} (hinv : Inv st) {o : Nat} {x : Obj} (hx : st.objs[o]? = some x) (hk : x.kind = .mem)
    (xs : List α) (dims : List Nat) :
    Inv ⟨((st.heap.free x.ptr).alloc xs).1, st.objs.set o ⟨.mem, ((st.heap.free x.ptr).alloc xs).2, dims⟩⟩ := by
  apply inv_fresh hinv hx
  · exact fun b hl hne => live_alloc _ xs b (live_free_other st.heap x.ptr b hl (hne hk))
  · intro _ b off hp
    have := alloc_live hp
    rwa [free_length] at this

theorem inv_memResize (junk : α) {st : St α} (hinv : Inv st) {o : Nat} {x : Obj} (hx : st.objs[o]? = some x)
    (hk : x.kind = .mem) (dims : List Nat) :
    Inv ⟨(memResize junk st.heap x dims).1, st.objs.set o (memResize junk st.heap x dims).2⟩ := by
  unfold memResize
  split
  · exact inv_keep hinv hx (fun _ => ⟨hk, rfl⟩) (fun _ hl => hl)
  · exact inv_realloc hinv hx hk _ dims

/-- `objs[o].emplace(source)` for any kind of slot: the invariant stays (the old object is destroyed, an owning result lives
    in a fresh allocation, a map owns nothing) -/
theorem inv_construct {st : St α} (hinv : Inv st) (o : Nat) (x v : Obj) (r : Heap α × Obj) (hx : st.objs[o]? = some x)
    (hc : construct (dropObj st.heap x) x.kind v = some r) : Inv ⟨r.1, st.objs.set o r.2⟩ := by
  have hview : ∀ k, k ≠ .mem → x.kind ≠ .mem → Inv ⟨dropObj st.heap x, st.objs.set o (viewOf k v)⟩ :=
    fun k hk hxk => inv_fresh hinv hx (fun b hl hne => live_dropObj st.heap x b hl hne) (fun hk' => absurd hk' hk)
  unfold construct at hc
  cases hk : x.kind with
  | mem =>
    rw [hk] at hc
    obtain ⟨xs, _, h1, h2⟩ := memCopy_some (o := r.2) hc
    rw [h1, h2, dropObj_mem _ hk]
    exact inv_realloc hinv hx hk xs v.dims
  | map =>
    rw [hk] at hc
    simp only at hc
    split at hc
    · cases hc
    · cases hc
      exact hview .map (by decide) (by rw [hk]; decide)
  | cmap =>
    rw [hk] at hc
    cases hc
    exact hview .cmap (by decide) (by rw [hk]; decide)

/-- assignment to an owning tensor (`owning = owning`, `owning = map`): the invariant stays -/
theorem inv_assign_mem {st : St α} (hinv : Inv st) (o : Nat) (x src : Obj) (r : Heap α × Obj) (hx : st.objs[o]? = some x)
    (hk : x.kind = .mem)
    (hr : (if src.kind = .mem then memAssignMem st.heap x src else memAssignView st.heap x src) = some r) :
    Inv ⟨r.1, st.objs.set o r.2⟩ := by
  split at hr
  · unfold memAssignMem at hr
    simp only at hr
    split at hr
    · obtain ⟨xs, _, h', hw, hr⟩ := by simpa only [Option.bind_eq_bind, Option.bind_eq_some_iff, Option.pure_def] using hr
      cases hr
      exact inv_keep hinv hx (fun _ => ⟨hk, rfl⟩) (fun b hl => live_write hw b hl)
    · obtain ⟨xs, _, hr⟩ := by simpa only [Option.bind_eq_bind, Option.bind_eq_some_iff, Option.pure_def] using hr
      cases hr
      exact inv_realloc hinv hx hk xs src.dims
  · obtain ⟨xs, _, h1, h2⟩ := memAssignView_some (o := r.2) hr
    rw [h1, h2]
    apply inv_fresh hinv hx
    · exact fun b hl hne => live_free_other _ x.ptr b (live_alloc st.heap xs b hl) (hne hk)
    · intro _ b off hp
      obtain ⟨h0, hb, hl⟩ := alloc_live hp
      refine ⟨h0, hb, live_free_other _ x.ptr b hl ?_⟩
      -- the fresh allocation is not the one released
      exact (inBuf_false_iff _ _).mpr fun o2 hxp => by
        have := live_lt (hinv.owner o x hx hk b o2 hxp).2
        omega

theorem inv_assignObj {st st' : St α} (hinv : Inv st) (o : Nat) (x src : Obj) (hx : st.objs[o]? = some x)
    (ha : assignObj st o x src = some st') : Inv st' := by
  unfold assignObj at ha
  cases hk : x.kind with
  | mem =>
    rw [hk] at ha
    simp only at ha
    by_cases hs : src.kind = .mem
    · rw [if_pos hs] at ha
      obtain ⟨r, hr, ha⟩ := Option.bind_eq_some_iff.mp ha
      cases ha
      exact inv_assign_mem hinv o x src r hx hk (by rw [if_pos hs]; exact hr)
    · rw [if_neg hs] at ha
      obtain ⟨r, hr, ha⟩ := Option.bind_eq_some_iff.mp ha
      cases ha
      exact inv_assign_mem hinv o x src r hx hk (by rw [if_neg hs]; exact hr)
  | map =>
    rw [hk] at ha
    obtain ⟨h', hm, ha⟩ := Option.bind_eq_some_iff.mp ha
    cases ha
    exact inv_heap hinv h' (fun b hl => live_copyFwd hm b hl)
  | cmap =>
    rw [hk] at ha
    cases ha

/-! ### moves of owning tensors -/

/-- ownership transported along a renumbering `π` of the slots (heap unchanged): every owner of the new list holds the
    allocation of the owner in slot `π i` of the old list, and `π` identifies no two slots -/
theorem inv_reindex {st : St α} (hinv : Inv st) {objs' : List Obj} (π : Nat → Nat) (hinj : ∀ i j, π i = π j → i = j)
    (hown : ∀ i z, objs'[i]? = some z → z.kind = .mem → ∀ b off, z.ptr = some (b, off) →
      ∃ w, st.objs[π i]? = some w ∧ w.kind = .mem ∧ w.ptr = some (b, off)) : Inv ⟨st.heap, objs'⟩ := by
  constructor
  · intro i z hz hk b off hp
    obtain ⟨w, hw, hkw, hpw⟩ := hown i z hz hk b off hp
    exact hinv.owner (π i) w hw hkw b off hpw
  · intro i j z w hij hz hw hkz hkw b o1 o2 hpz hpw
    obtain ⟨z', hz', hkz', hpz'⟩ := hown i z hz hkz b o1 hpz
    obtain ⟨w', hw', hkw', hpw'⟩ := hown j w hw hkw b o2 hpw
    exact hinv.unique (π i) (π j) z' w' (fun e => hij (hinj i j e)) hz' hw' hkz' hkw' b o1 o2 hpz' hpw'

def swapSlot (o s i : Nat) : Nat := if i = o then s else if i = s then o else i

theorem swapSlot_swapSlot (o s i : Nat) : swapSlot o s (swapSlot o s i) = i := by
  unfold swapSlot
  by_cases h1 : i = o
  · rw [if_pos h1]
    by_cases h2 : s = o
    · rw [if_pos h2, h2, h1]
    · rw [if_neg h2, if_pos rfl, h1]
  · rw [if_neg h1]
    by_cases h2 : i = s
    · rw [if_pos h2, if_pos rfl, h2]
    · rw [if_neg h2, if_neg h1, if_neg h2]

/-- two owners exchange their allocations (whatever dims they are given) -/
theorem inv_swap {st : St α} (hinv : Inv st) {o s : Nat} {x y : Obj} (hx : st.objs[o]? = some x) (hy : st.objs[s]? = some y)
    (hkx : x.kind = .mem) (hky : y.kind = .mem) (dx dy : List Nat) :
    Inv ⟨st.heap, (st.objs.set s ⟨.mem, x.ptr, dx⟩).set o ⟨.mem, y.ptr, dy⟩⟩ := by
  have ho : o < st.objs.length := (List.getElem?_eq_some_iff.mp hx).1
  have hs : s < st.objs.length := (List.getElem?_eq_some_iff.mp hy).1
  apply inv_reindex hinv (swapSlot o s)
    (fun i j h => by rw [← swapSlot_swapSlot o s i, h, swapSlot_swapSlot])
  intro i z hz hk b off hp
  unfold swapSlot
  by_cases hio : i = o
  · subst hio
    rw [List.getElem?_set_self (by rw [List.length_set]; exact ho)] at hz
    cases hz
    exact ⟨y, by rw [if_pos rfl]; exact hy, hky, hp⟩
  · rw [List.getElem?_set_ne (Ne.symm hio)] at hz
    by_cases his : i = s
    · subst his
      rw [List.getElem?_set_self hs] at hz
      cases hz
      exact ⟨x, by rw [if_neg hio, if_pos rfl]; exact hx, hkx, hp⟩
    · rw [List.getElem?_set_ne (Ne.symm his)] at hz
      exact ⟨z, by rw [if_neg hio, if_neg his]; exact hz, hk, hp⟩

theorem inv_moveCtor {st : St α} (hinv : Inv st) (o s : Nat) (x y : Obj) (hx : st.objs[o]? = some x)
    (hy : st.objs[s]? = some y) (hkx : x.kind = .mem) (hky : y.kind = .mem) (hos : o ≠ s) :
    Inv ⟨dropObj st.heap x, (st.objs.set s (memMoveCtor y).2).set o (memMoveCtor y).1⟩ := by
  -- the destination is destroyed first; then the source hands its allocation over and takes the null pointer
  have h1 : Inv ⟨dropObj st.heap x, st.objs.set o ⟨.mem, none, x.dims⟩⟩ :=
    inv_fresh hinv hx (fun b hl hne => live_dropObj st.heap x b hl hne) (fun _ b off hp => by cases hp)
  have h2 := inv_swap h1 (List.getElem?_set_self (List.getElem?_eq_some_iff.mp hx).1)
    (by rw [List.getElem?_set_ne hos]; exact hy) rfl hky y.dims y.dims
  rw [List.set_comm _ _ hos, List.set_set] at h2
  exact h2

theorem inv_moveAssign {st : St α} (hinv : Inv st) (o s : Nat) (x y : Obj) (hx : st.objs[o]? = some x)
    (hy : st.objs[s]? = some y) (hkx : x.kind = .mem) (hky : y.kind = .mem) :
    Inv ⟨st.heap, (st.objs.set s (memMoveAssign x y).2).set o (memMoveAssign x y).1⟩ :=
  inv_swap hinv hx hy hkx hky y.dims y.dims

/-! ### every operation, every history -/

theorem inv_init (objs : List Obj) (hp : ∀ (i : Nat) (x : Obj), objs[i]? = some x → x.ptr = none) :
    Inv (⟨[], objs⟩ : St α) := by
  constructor
  · intro i x hx _ b off hpx
    rw [hp i x hx] at hpx; cases hpx
  · intro i j x y _ hx _ _ _ b o1 o2 hpx _
    rw [hp i x hx] at hpx; cases hpx

theorem live_objWrite {h h' : Heap α} {x : Obj} {vals : List α} (hw : x.write h vals = some h') (b : Nat) (hl : h.live b) :
    h'.live b :=
  live_write (Obj.write_some hw).2.2 b hl

theorem step_inv (junk : α) {st st' : St α} (hinv : Inv st) (op : Op α) (hs : step junk st op = some st') : Inv st' := by
  cases op
  all_goals simp only [step, Option.bind_eq_bind, Option.pure_def, Option.bind_eq_some_iff, Option.some.injEq] at hs
  case drop o =>
    obtain ⟨x, hx, rfl⟩ := hs
    exact inv_fresh hinv hx (fun b hl hne => live_dropObj st.heap x b hl hne) (fun _ b off hp => by cases hp)
  case new o dims =>
    obtain ⟨x, hx, hs⟩ := hs
    by_cases hk : x.kind = .mem
    · rw [if_neg (fun hne => hne hk)] at hs
      cases hs
      unfold memNew
      rw [dropObj_mem _ hk]
      exact inv_realloc hinv hx hk _ dims
    · rw [if_pos hk] at hs
      cases hs
  case fill o vals =>
    obtain ⟨x, hx, h', hw, rfl⟩ := hs
    exact inv_heap hinv h' (live_objWrite hw)
  case ctor o s =>
    obtain ⟨x, hx, y, _, r, hc, rfl⟩ := hs
    exact inv_construct hinv o x y r hx hc
  case moveCtor o s =>
    obtain ⟨x, hx, y, hy, hs⟩ := hs
    split at hs
    · rename_i hk
      split at hs
      · cases hs
      · cases hs
        exact inv_moveCtor hinv o s x y hx hy hk.1 hk.2 ‹_›
    · obtain ⟨r, hc, hs⟩ := Option.bind_eq_some_iff.mp hs
      cases hs
      exact inv_construct hinv o x y r hx hc
  case assign o s =>
    obtain ⟨x, hx, y, _, hs⟩ := hs
    exact inv_assignObj hinv o x y hx hs
  case moveAssign o s =>
    obtain ⟨x, hx, y, hy, hs⟩ := hs
    split at hs
    · rename_i hk
      cases hs
      exact inv_moveAssign hinv o s x y hx hy hk.1 hk.2
    · split at hs
      · cases hs
        exact inv_keep hinv hx (fun hk => by cases hk) (fun _ hl => hl)
      · exact inv_assignObj hinv o x y hx hs
  case resize o dims =>
    obtain ⟨x, hx, hs⟩ := hs
    by_cases hk : x.kind = .mem
    · rw [if_neg (fun hne => hne hk)] at hs
      cases hs
      exact inv_memResize junk hinv hx hk dims
    · rw [if_pos hk] at hs
      cases hs
  case expr o dims vals =>
    obtain ⟨x, hx, r, hr, rfl⟩ := hs
    unfold assignExpr at hr
    split at hr
    · -- an owner: `resize`, then element-wise writes
      rename_i hk
      obtain ⟨h', hw, rfl⟩ := Option.map_eq_some_iff.mp hr
      exact inv_heap (inv_memResize junk hinv hx hk dims) h' (live_objWrite hw)
    · obtain ⟨h', hw, rfl⟩ := Option.map_eq_some_iff.mp hr
      exact inv_keep hinv hx (fun hk => ⟨hk, rfl⟩) (live_objWrite hw)
  case slice o s c b e | reshape o s c sizes | sub o s c pre =>
    obtain ⟨x, hx, _, _, v, _, r, hc, rfl⟩ := hs
    exact inv_construct hinv o x v r hx hc
  case raw o s off dims =>
    obtain ⟨x, hx, y, _, hs⟩ := hs
    split at hs
    · cases hs
    · obtain ⟨r, hc, hs⟩ := Option.bind_eq_some_iff.mp hs
      cases hs
      exact inv_construct hinv o x _ r hx hc

/-- EVERY history keeps the ownership invariant: whatever sequence of constructions, conversions, assignments, moves,
    resizes, views and writes a program performs, as long as no step faults, no allocation is ever owned twice or released
    while an owning tensor still holds it -/
theorem run_inv (junk : α) : ∀ (ops : List (Op α)) (st st' : St α), Inv st → run junk st ops = some st' → Inv st'
  | [], st, st', hinv, hr => by
    cases hr
    exact hinv
  | op :: ops, st, st', hinv, hr => by
    obtain ⟨st1, hs, hr⟩ := Option.bind_eq_some_iff.mp hr
    exact run_inv junk ops st1 st' (step_inv junk hinv op hs) hr

end NanoVerif.Tensor.Store
